/-
Root of the library: the property modules `Props/Cxx.lean`.  Every module under `Model/` and `Lemmas/` is reached through
them.  The modules under `Driver/` belong to the executable `pvdriver` (root `Main.lean`, built by `lake build pvdriver`);
the library reaches only those a theorem speaks of (`Driver/DpOracle.lean` with what it imports, for C03).
What each lemma module is for: DESIGN.md 12.14.
-/
import ProfiVerif.Props.C01
import ProfiVerif.Props.C02
import ProfiVerif.Props.C03
import ProfiVerif.Props.C03Stack
import ProfiVerif.Props.C04
import ProfiVerif.Props.C04Stack
import ProfiVerif.Props.C05
import ProfiVerif.Props.C05Stack
import ProfiVerif.Props.C06
import ProfiVerif.Props.C07
import ProfiVerif.Props.C08
import ProfiVerif.Props.C08Stack
import ProfiVerif.Props.C09
import ProfiVerif.Props.C10
import ProfiVerif.Props.C11
import ProfiVerif.Props.C12
import ProfiVerif.Props.C13
import ProfiVerif.Props.C14
import ProfiVerif.Props.C14Stack
import ProfiVerif.Props.C15
import ProfiVerif.Props.C16
import ProfiVerif.Props.C17
import ProfiVerif.Props.C18
import ProfiVerif.Props.C18Stack
import ProfiVerif.Props.C19
import ProfiVerif.Props.C20
