/-
Lemmas about the abstract ring (`Model/AbstractRing.lean`): token uniqueness, the agreement
invariant, ascending rotation, admission of a listener by the GAP sweep.
The abstract ring is an idealisation (see the header of the model file); the station views in it
are real `TokenRing` models changed only through the modelled API, and the GAP cursor is the real
`nextGapPoll`, so these proofs rest on the LAS / neighbour lemmas (`Lemmas/Cyclic.lean`, `Neighbours`, `RingPass`,
where `ViewOk` is) and on the sweep lemmas of `Lemmas/Gap.lean`.
-/
import ProfiVerif.Model.AbstractRing
import ProfiVerif.Lemmas.RingPass
import ProfiVerif.Lemmas.Gap

namespace PV
namespace AbstractRing
open TokenRing

/-- At most one station holds the token. -/
def Unique (s : Net) : Prop :=
  ∀ x y nx ny, s.node x = some nx → s.node y = some ny → nx.mode = .hold → ny.mode = .hold → x = y

theorem pass_eq (s : Net) (h : Nat) (nh : Node) (e : s.node h = some nh) (hm : nh.mode = .hold) :
    pass s h = passTo s h nh.ring.ns := by
  unfold pass; rw [e]; simp [hm]

theorem passTo_node (s : Net) (h n x : Nat) :
    (passTo s h n).node x = (s.node x).map (passNode h n (accepted s h n) x) := rfl

theorem passTo_other (s : Net) (h n x : Nat) (nx : Node) (ex : s.node x = some nx) (c1 : x ≠ h) (c2 : x ≠ n) :
    (passTo s h n).node x = some { nx with ring := nx.ring.witness h n } := by
  rw [passTo_node, ex]; simp only [Option.map_some]; unfold passNode; rw [if_neg c1, if_neg c2]

theorem passTo_sender (s : Net) (h n : Nat) (nh : Node) (e : s.node h = some nh) :
    (passTo s h n).node h =
      some { nh with ring := nh.ring.witness h n, mode := if accepted s h n then .idle else nh.mode } := by
  rw [passTo_node, e]; simp only [Option.map_some]; unfold passNode; rw [if_pos rfl]

theorem passTo_target_ps (s : Net) (h n : Nat) (nn : Node) (e : s.node n = some nn) (c : n ≠ h)
    (hi : nn.mode = .idle) (hps : nn.ring.ps = h) :
    (passTo s h n).node n = some { nn with mode := .hold, pend := none } := by
  rw [passTo_node, e]; simp only [Option.map_some]; unfold passNode
  rw [if_neg c, if_pos rfl, hi]; simp only; rw [if_pos hps]

theorem passTo_target_pend (s : Net) (h n : Nat) (nn : Node) (e : s.node n = some nn) (c : n ≠ h)
    (hi : nn.mode = .idle) (hps : nn.ring.ps ≠ h) (hp : nn.pend = some h) :
    (passTo s h n).node n = some { nn with mode := .hold, ring := nn.ring.witness h n, pend := none } := by
  rw [passTo_node, e]; simp only [Option.map_some]; unfold passNode
  rw [if_neg c, if_pos rfl, hi]; simp only; rw [if_neg hps, if_pos hp]

theorem passTo_target_new (s : Net) (h n : Nat) (nn : Node) (e : s.node n = some nn) (c : n ≠ h)
    (hi : nn.mode = .idle) (hps : nn.ring.ps ≠ h) (hp : nn.pend ≠ some h) :
    (passTo s h n).node n = some { nn with pend := some h } := by
  rw [passTo_node, e]; simp only [Option.map_some]; unfold passNode
  rw [if_neg c, if_pos rfl, hi]; simp only; rw [if_neg hps, if_neg hp]

theorem passTo_other_mode (s : Net) (h n x : Nat) (nx' : Node) (c1 : x ≠ h) (c2 : x ≠ n)
    (e' : (passTo s h n).node x = some nx') : ∃ nx, s.node x = some nx ∧ nx'.mode = nx.mode := by
  rw [passTo_node] at e'
  obtain ⟨nx, ex, rfl⟩ := Option.map_eq_some_iff.mp e'
  refine ⟨nx, ex, ?_⟩
  unfold passNode
  rw [if_neg c1, if_neg c2]

theorem passTo_none (s : Net) (h n x : Nat) : (passTo s h n).node x = none ↔ s.node x = none := by
  rw [passTo_node]; cases s.node x <;> simp

theorem passNode_gap (h n : Nat) (acc : Bool) (x : Nat) (nx : Node) : (passNode h n acc x nx).gap = nx.gap := by
  unfold passNode
  -- every arm is `nx` or a `{ nx with … }` that does not name `gap`
  split
  · rfl
  · split
    · split
      · split
        · rfl
        · split <;> rfl
      · rfl
      · rfl
    · rfl

theorem mode_idle {m : Mode} (hl : m ≠ .listen) (hh : m ≠ .hold) : m = .idle := by
  cases m with
  | idle => rfl
  | listen => exact absurd rfl hl
  | hold => exact absurd rfl hh

/-- Who can hold the token after the telegram `h → n`. -/
theorem passNode_hold (h n : Nat) (acc : Bool) (x : Nat) (nx : Node) (hh : (passNode h n acc x nx).mode = .hold) :
    (x = h ∧ acc = false ∧ nx.mode = .hold) ∨ (x ≠ h ∧ nx.mode = .hold) ∨ (x ≠ h ∧ accepts h n x nx = true) := by
  unfold passNode at hh
  by_cases hx : x = h
  · rw [if_pos hx] at hh
    left
    cases acc with
    | true => simp at hh
    | false => exact ⟨hx, rfl, by simpa using hh⟩
  · rw [if_neg hx] at hh
    right
    by_cases hn : x = n
    · subst hn
      rw [if_pos rfl] at hh
      cases hm : nx.mode with
      | hold => exact Or.inl ⟨hx, rfl⟩
      | listen => rw [hm] at hh; simp at hh
      | idle =>
        right
        rw [hm] at hh
        simp only at hh
        refine ⟨hx, ?_⟩
        unfold accepts
        by_cases h1 : nx.ring.ps = h
        · simp [hx, hm, h1]
        · rw [if_neg h1] at hh
          by_cases h2 : nx.pend = some h
          · simp [hx, hm, h2]
          · rw [if_neg h2] at hh; simp at hh
    · rw [if_neg hn] at hh
      exact Or.inl ⟨hx, hh⟩

theorem accepts_eq (h n x : Nat) (nx : Node) (ha : accepts h n x nx = true) : x = n := by
  unfold accepts at ha
  simp only [Bool.and_eq_true, decide_eq_true_eq] at ha
  exact ha.1.1.1

theorem unique_passTo (s : Net) (h n : Nat) (nh : Node) (e : s.node h = some nh) (hm : nh.mode = .hold)
    (hu : Unique s) : Unique (passTo s h n) := by
  intro x y nx' ny' ex ey hx hy
  rw [passTo_node] at ex ey
  obtain ⟨nx, e1, rfl⟩ := Option.map_eq_some_iff.mp ex
  obtain ⟨ny, e2, rfl⟩ := Option.map_eq_some_iff.mp ey
  have a := passNode_hold _ _ _ _ _ hx
  have b := passNode_hold _ _ _ _ _ hy
  have old : ∀ z nz, s.node z = some nz → nz.mode = .hold → z = h := fun z nz ez hz => hu z h nz nh ez e hz hm
  have accd : ∀ z nz, s.node z = some nz → accepts h n z nz = true → accepted s h n = true := by
    intro z nz ez hz
    have : z = n := accepts_eq _ _ _ _ hz
    subst this
    unfold accepted; rw [ez]; exact hz
  rcases a with ⟨rfl, a1, _⟩ | ⟨a1, a2⟩ | ⟨a1, a2⟩
  · rcases b with ⟨rfl, _, _⟩ | ⟨b1, b2⟩ | ⟨b1, b2⟩
    · rfl
    · exact absurd (old y ny e2 b2) b1
    · rw [accd y ny e2 b2] at a1; cases a1
  · exact absurd (old x nx e1 a2) a1
  · rcases b with ⟨rfl, b1, _⟩ | ⟨b1, b2⟩ | ⟨b1, b2⟩
    · rw [accd x nx e1 a2] at b1; cases b1
    · exact absurd (old y ny e2 b2) b1
    · rw [accepts_eq _ _ _ _ a2, accepts_eq _ _ _ _ b2]

theorem unique_of_hold_sub (s s' : Net) (hu : Unique s)
    (hsub : ∀ x nx', s'.node x = some nx' → nx'.mode = .hold → ∃ nx, s.node x = some nx ∧ nx.mode = .hold) :
    Unique s' := by
  intro x y nx' ny' ex ey hx hy
  obtain ⟨nx, e1, h1⟩ := hsub x nx' ex hx
  obtain ⟨ny, e2, h2⟩ := hsub y ny' ey hy
  exact hu x y nx ny e1 e2 h1 h2

theorem unique_set (s : Net) (h : Nat) (n' : Option Node) (hu : Unique s)
    (hn : ∀ nx', n' = some nx' → nx'.mode = .hold → ∃ nx, s.node h = some nx ∧ nx.mode = .hold) :
    Unique { s with node := fun x => if x = h then n' else s.node x } := by
  apply unique_of_hold_sub s _ hu
  intro x nx' ex hx
  simp only at ex
  by_cases hxh : x = h
  · rw [if_pos hxh] at ex
    rw [hxh]
    exact hn nx' ex hx
  · rw [if_neg hxh] at ex
    exact ⟨nx', ex, hx⟩

theorem gapPollNode_mode_hold (h a : Nat) (resp : Bool) (x : Nat) (nx : Node)
    (hh : (gapPollNode h a resp x nx).mode = .hold) : nx.mode = .hold := by
  unfold gapPollNode at hh
  split at hh
  · exact hh
  · split at hh
    · cases hh
    · exact hh

theorem unique_gapPoll (s : Net) (h : Nat) (hu : Unique s) : Unique (gapPoll s h) := by
  unfold gapPoll
  split
  · rename_i nh e
    split
    · split
      · apply unique_of_hold_sub s _ hu
        intro x nx' ex hx
        simp only at ex
        obtain ⟨nx, e1, rfl⟩ := Option.map_eq_some_iff.mp ex
        exact ⟨nx, e1, gapPollNode_mode_hold _ _ _ _ _ hx⟩
      · exact unique_set s h _ hu fun nx' e' hx => by cases e'; exact ⟨nh, e, hx⟩
      · exact hu
    · exact hu
  · exact hu

theorem unique_dropNs (s : Net) (h : Nat) (hu : Unique s) : Unique (dropNs s h) := by
  unfold dropNs
  split
  · rename_i nh e
    split
    · exact unique_set s h _ hu fun nx' e' hx => by cases e'; exact ⟨nh, e, hx⟩
    · exact hu
  · exact hu

theorem unique_leave (s : Net) (a : Nat) (hu : Unique s) : Unique (leave s a) :=
  unique_set s a none hu fun _ e' => nomatch e'

theorem unique_join (s : Net) (a : Nat) (hu : Unique s) : Unique (join s a) :=
  unique_set s a (some _) hu fun nx' e' hx => by cases e'; cases hx

theorem unique_claim (s : Net) (a : Nat) (hno : ∀ x nx, s.node x = some nx → nx.mode ≠ .hold) :
    Unique (claim s a) := by
  unfold claim
  split
  · intro x y nx' ny' ex ey hx hy
    simp only at ex ey
    by_cases hxa : x = a
    · by_cases hya : y = a
      · rw [hxa, hya]
      · rw [if_neg hya] at ey; exact absurd hy (hno y ny' ey)
    · rw [if_neg hxa] at ex; exact absurd hx (hno x nx' ex)
  · intro x y nx ny ex ey hx _
    exact absurd hx (hno x nx ex)

theorem unique_step (s s' : Net) (hu : Unique s) (st : Step s s') : Unique s' := by
  cases st with
  | pass h nh e hm => rw [pass_eq s h nh e hm]; exact unique_passTo s h _ nh e hm hu
  | gapPoll h nh e hm => exact unique_gapPoll s h hu
  | dropNs h nh e hm _ _ => exact unique_dropNs s h hu
  | leave a na e _ => exact unique_leave s a hu
  | join a e => exact unique_join s a hu
  | claim a na e hno => exact unique_claim s a hno

theorem unique_reach (s0 s : Net) (hu : Unique s0) (hr : Reach s0 s) : Unique s := by
  induction hr with
  | refl => exact hu
  | step s s' _ st ih => exact unique_step s s' ih st


/-- **Agreement**: the stations in the ring (ActiveIdle or holding) are exactly `M`, each has a
valid LAS equal to `M` with NS/PS derived from it, and `h` — a member — is the one token holder. -/
structure Agreed (s : Net) (M : List Nat) (h : Nat) : Prop where
  ring : IsRing M
  hmem : h ∈ M
  members : ∀ x, x ∈ M ↔ ∃ nx, s.node x = some nx ∧ nx.mode ≠ .listen
  view : ∀ x nx, s.node x = some nx → nx.mode ≠ .listen → ViewOk M x nx.ring ∧ nx.pend = none
  holder : ∀ x nx, s.node x = some nx → (nx.mode = .hold ↔ x = h)

theorem agreed_holder_node (s : Net) (M : List Nat) (h : Nat) (ag : Agreed s M h) :
    ∃ nh, s.node h = some nh ∧ nh.mode = .hold ∧ nh.ring.ns = cycSucc h M := by
  obtain ⟨nh, e, hm⟩ := (ag.members h).mp ag.hmem
  exact ⟨nh, e, (ag.holder h nh e).mpr rfl, (viewOk_ns M ag.ring h nh.ring (ag.view h nh e hm).1).1⟩

theorem agreed_nsOf (s : Net) (M : List Nat) (h : Nat) (ag : Agreed s M h) : nsOf s h = cycSucc h M := by
  obtain ⟨nh, e, _, hns⟩ := agreed_holder_node s M h ag
  unfold nsOf; rw [e]; exact hns

theorem agreed_of_nodes (s : Net) (M : List Nat) (hd : Nat) (hM : IsRing M) (hhd : hd ∈ M)
    (f : ∀ x, x ∈ M → ∃ nx, s.node x = some nx ∧ nx.mode ≠ .listen ∧ (nx.mode = .hold ↔ x = hd) ∧
      ViewOk M x nx.ring ∧ nx.pend = none)
    (g : ∀ x, x ∉ M → ∀ nx, s.node x = some nx → nx.mode = .listen) : Agreed s M hd := by
  refine ⟨hM, hhd, fun x => ⟨fun hx => ?_, fun ⟨nx, ex, hm⟩ => ?_⟩, fun x nx ex hm => ?_, fun x nx ex => ?_⟩
  · obtain ⟨nx, ex, hm, _⟩ := f x hx; exact ⟨nx, ex, hm⟩
  · by_cases hx : x ∈ M
    · exact hx
    · exact absurd (g x hx nx ex) hm
  · by_cases hx : x ∈ M
    · obtain ⟨nx', ex', _, _, v, p⟩ := f x hx
      rw [ex] at ex'; cases ex'; exact ⟨v, p⟩
    · exact absurd (g x hx nx ex) hm
  · by_cases hx : x ∈ M
    · obtain ⟨nx', ex', _, hh, _⟩ := f x hx
      rw [ex] at ex'; cases ex'; exact hh
    · have := g x hx nx ex
      constructor
      · intro hc; rw [this] at hc; cases hc
      · intro hc; exact absurd (hc ▸ hhd) hx


theorem agreed_pass_eq (s : Net) (M : List Nat) (h : Nat) (ag : Agreed s M h) :
    pass s h = passTo s h (cycSucc h M) := by
  obtain ⟨nh, e, hm, hns⟩ := agreed_holder_node s M h ag
  rw [pass_eq s h nh e hm, hns]

theorem agreed_idle (s : Net) (M : List Nat) (h x : Nat) (nx : Node) (ag : Agreed s M h) (ex : s.node x = some nx)
    (hm : nx.mode ≠ .listen) (hx : x ≠ h) : nx.mode = .idle :=
  mode_idle hm fun hc => hx ((ag.holder x nx ex).mp hc)

theorem agreed_outside (s : Net) (M : List Nat) (h x : Nat) (nx : Node) (ag : Agreed s M h) (hx : x ∉ M)
    (ex : s.node x = some nx) : nx.mode = .listen :=
  Decidable.byContradiction fun hm => hx ((ag.members x).mpr ⟨nx, ex, hm⟩)

theorem agreed_succ_node (s : Net) (M : List Nat) (h : Nat) (ag : Agreed s M h) (c : cycSucc h M ≠ h) :
    ∃ nn, s.node (cycSucc h M) = some nn ∧ nn.mode = .idle ∧ nn.ring.ps = h := by
  obtain ⟨nn, e, hm⟩ := (ag.members _).mp (cycSucc_mem h M ag.hmem)
  refine ⟨nn, e, agreed_idle s M h _ nn ag e hm c, ?_⟩
  rw [(viewOk_ns M ag.ring _ nn.ring (ag.view _ nn e hm).1).2]
  exact cycPred_cycSucc h M ag.hmem

theorem agreed_accepted (s : Net) (M : List Nat) (h : Nat) (ag : Agreed s M h) :
    accepted s h (cycSucc h M) = decide (cycSucc h M ≠ h) := by
  unfold accepted
  -- `accepts` asks: addressee ≠ sender (the case split), ActiveIdle, PS = sender (both: `agreed_succ_node`)
  by_cases c : cycSucc h M = h
  · obtain ⟨nh, e, _⟩ := agreed_holder_node s M h ag
    rw [c, e]
    simp [accepts]
  · obtain ⟨nn, e, hidle, hps⟩ := agreed_succ_node s M h ag c
    rw [e]
    simp [accepts, c, hidle, hps]

/-- **Agreement is inductive under token passing**, and the token goes to the cyclic successor: the
sender and every bystander witness a pass that leaves a view of `M` as it is, the successor takes the
token from its PS without witnessing. -/
theorem agreed_pass (s : Net) (M : List Nat) (h : Nat) (ag : Agreed s M h) :
    Agreed (pass s h) M (cycSucc h M) := by
  have hn := cycSucc_mem h M ag.hmem
  have hacc := agreed_accepted s M h ag
  rw [agreed_pass_eq s M h ag]
  apply agreed_of_nodes _ M _ ag.ring hn
  · intro x hx
    obtain ⟨nx, ex, hm⟩ := (ag.members x).mp hx
    have v := ag.view x nx ex hm
    by_cases c1 : x = h
    · subst c1
      have hhold : nx.mode = .hold := (ag.holder x nx ex).mpr rfl
      refine ⟨_, passTo_sender s x _ nx ex, ?_, ?_, viewOk_witness M ag.ring x x nx.ring ag.hmem v.1, v.2⟩
      · rw [hacc, hhold]; split <;> simp
      · rw [hacc, hhold]
        by_cases c : cycSucc x M = x
        · simp [c]
        · simp [c, Ne.symm c]
    · by_cases c2 : x = cycSucc h M
      · obtain ⟨nn, en, hidle, hps⟩ := agreed_succ_node s M h ag (c2 ▸ c1)
        rw [← c2] at en ⊢
        rw [ex] at en
        cases en
        exact ⟨_, passTo_target_ps s h x nx ex c1 hidle hps, by simp, by simp, v.1, rfl⟩
      · refine ⟨_, passTo_other s h _ x nx ex c1 c2, hm, ?_, viewOk_witness M ag.ring x h nx.ring ag.hmem v.1, v.2⟩
        rw [agreed_idle s M h x nx ag ex hm c1]
        simp [c2]
  · intro x hx nx' ex'
    have c1 : x ≠ h := fun c => hx (c ▸ ag.hmem)
    have c2 : x ≠ cycSucc h M := fun c => hx (c ▸ hn)
    obtain ⟨nx, ex, hm⟩ := passTo_other_mode s h _ x nx' c1 c2 ex'
    rw [hm]
    exact agreed_outside s M h x nx ag hx ex


/-- **A rotation**: whatever holds of state and holder, makes the holder's NS its cyclic successor in `M` and is
kept by the holder's pass, holds after `k` passes; the token is then at the `(i+k)`-th member and the telegrams
on the bus were `M[i+j] → M[i+j+1]`. -/
theorem rotate_ind (M : List Nat) (hM : IsRing M) (I : Net → Nat → Prop)
    (hns : ∀ s h, I s h → nsOf s h = cycSucc h M) (hpass : ∀ s h, I s h → I (pass s h) (cycSucc h M)) (k : Nat) :
    ∀ (s : Net) (i : Nat), I s (nth M i) →
    I (rotate s (nth M i) k).1 (nth M (i + k)) ∧ (rotate s (nth M i) k).2.1 = nth M (i + k) ∧
    (rotate s (nth M i) k).2.2 = (List.range k).map (fun j => (nth M (i + j), nth M (i + j + 1))) := by
  induction k with
  | zero => intro s i h; exact ⟨h, rfl, rfl⟩
  | succ k ih =>
    intro s i h
    have hn : nsOf s (nth M i) = nth M (i + 1) := by
      rw [hns s _ h]; exact cycSucc_nth M hM.ne hM.asc i
    have h' : I (pass s (nth M i)) (nth M (i + 1)) := by
      have := hpass s _ h
      rwa [cycSucc_nth M hM.ne hM.asc i] at this
    have := ih (pass s (nth M i)) (i + 1) h'
    simp only [rotate, hn]
    have e : i + 1 + k = i + (k + 1) := by omega
    rw [e] at this
    refine ⟨this.1, this.2.1, ?_⟩
    rw [this.2.2, List.range_succ_eq_map, List.map_cons, List.map_map]
    congr 1
    apply List.map_congr_left
    intro j _
    simp only [Function.comp, Nat.succ_eq_add_one]
    have e1 : i + 1 + j = i + (j + 1) := by omega
    rw [e1]

theorem agreed_rotate (M : List Nat) (k : Nat) (s : Net) (i : Nat) (ag : Agreed s M (nth M i)) :
    Agreed (rotate s (nth M i) k).1 M (nth M (i + k)) ∧ (rotate s (nth M i) k).2.1 = nth M (i + k) ∧
    (rotate s (nth M i) k).2.2 = (List.range k).map (fun j => (nth M (i + j), nth M (i + j + 1))) :=
  rotate_ind M ag.ring (fun s h => Agreed s M h) (fun s h => agreed_nsOf s M h) (fun s h => agreed_pass s M h) k s i ag


/-- `a` is a listener (not in the ring) that has learned the ring `M` and is ready. -/
structure ReadyListener (s : Net) (M : List Nat) (a : Nat) : Prop where
  notMem : a ∉ M
  node : ∃ na, s.node a = some na ∧ na.mode = .listen ∧ ViewOk M a na.ring

/-- What stays fixed while the token circulates and `h` sweeps its GAP: the ring agrees on `M`
(holder `hd`), `a` is a ready listener, the addresses in `absent` are not on the bus, the GAP cursor
of `h` is `g`, HSA is `H`. -/
structure SweepInv (s : Net) (M : List Nat) (hd h a : Nat) (absent : List Nat) (g : Option Nat) (H : Nat) : Prop where
  agreed : Agreed s M hd
  listener : ReadyListener s M a
  absent : ∀ b ∈ absent, s.node b = none
  gap : ∀ nh, s.node h = some nh → nh.gap = g
  hsa : s.hsa = H

theorem sweepInv_pass (s : Net) (M : List Nat) (hd h a : Nat) (absent : List Nat) (g : Option Nat) (H : Nat)
    (inv : SweepInv s M hd h a absent g H) : SweepInv (pass s hd) M (cycSucc hd M) h a absent g H := by
  have ag := inv.agreed
  refine ⟨agreed_pass s M hd ag, ⟨inv.listener.notMem, ?_⟩, ?_, ?_, ?_⟩
  all_goals rw [agreed_pass_eq s M hd ag]
  · obtain ⟨na, ea, hl, v⟩ := inv.listener.node
    have c1 : a ≠ hd := fun e => inv.listener.notMem (e ▸ ag.hmem)
    have c2 : a ≠ cycSucc hd M := fun e => inv.listener.notMem (e ▸ cycSucc_mem hd M ag.hmem)
    exact ⟨_, passTo_other s hd _ a na ea c1 c2, hl, viewOk_witness M ag.ring a hd na.ring ag.hmem v⟩
  · exact fun b hb => (passTo_none s hd _ b).mpr (inv.absent b hb)
  · intro nh' e'
    rw [passTo_node] at e'
    obtain ⟨nh, e, rfl⟩ := Option.map_eq_some_iff.mp e'
    rw [passNode_gap]
    exact inv.gap nh e
  · exact inv.hsa

theorem sweepInv_rotate (M : List Nat) (h a : Nat) (absent : List Nat) (g : Option Nat) (H : Nat) (k : Nat)
    (s : Net) (i : Nat) (inv : SweepInv s M (nth M i) h a absent g H) :
    SweepInv (rotate s (nth M i) k).1 M (nth M (i + k)) h a absent g H :=
  (rotate_ind M inv.agreed.ring (fun s hd => SweepInv s M hd h a absent g H)
    (fun s hd inv => agreed_nsOf s M hd inv.agreed) (fun s hd => sweepInv_pass s M hd h a absent g H) k s i inv).1

/-- `Agreed` reads mode, ring view and `pend` of each node, nothing else: a step that only moves a GAP cursor keeps it. -/
theorem agreed_congr (s s' : Net) (M : List Nat) (h : Nat) (ag : Agreed s M h)
    (hc : ∀ x, (s'.node x = none ∧ s.node x = none) ∨
      ∃ nx nx', s.node x = some nx ∧ s'.node x = some nx' ∧ nx'.mode = nx.mode ∧ nx'.ring = nx.ring ∧ nx'.pend = nx.pend) :
    Agreed s' M h := by
  refine ⟨ag.ring, ag.hmem, fun x => ?_, fun x nx' ex' hm' => ?_, fun x nx' ex' => ?_⟩
  · rw [ag.members x]
    rcases hc x with ⟨e', e⟩ | ⟨nx, nx', e, e', hm, _, _⟩
    · rw [e, e']
    · rw [e, e']
      constructor
      · rintro ⟨n, en, hn⟩; cases en; exact ⟨nx', rfl, hm ▸ hn⟩
      · rintro ⟨n, en, hn⟩; cases en; exact ⟨nx, rfl, hm ▸ hn⟩
  · rcases hc x with ⟨e', e⟩ | ⟨nx, nx'', e, e', hm, hr, hp⟩
    · rw [e'] at ex'; cases ex'
    · rw [e'] at ex'; cases ex'
      have := ag.view x nx e (hm ▸ hm')
      rw [hr, hp]; exact this
  · rcases hc x with ⟨e', e⟩ | ⟨nx, nx'', e, e', hm, hr, hp⟩
    · rw [e'] at ex'; cases ex'
    · rw [e'] at ex'; cases ex'
      rw [hm]; exact ag.holder x nx e

theorem sweep_gapPoll_eq (s : Net) (M : List Nat) (h a b : Nat) (absent : List Nat) (g : Option Nat) (H : Nat)
    (inv : SweepInv s M h h a absent g H) (hp : nextGapPoll h (cycSucc h M) H (g.getD h) = .poll b) :
    gapPoll s h = { s with node := fun x => (s.node x).map (gapPollNode h b (responds s h b) x) } := by
  obtain ⟨nh, e, hmode, hns⟩ := agreed_holder_node s M h inv.agreed
  unfold gapPoll
  rw [e]
  simp only [hmode, if_true, hns, inv.hsa, inv.gap nh e, hp]

theorem sweepInv_gapPoll_absent (s : Net) (M : List Nat) (h a b : Nat) (absent : List Nat) (g : Option Nat) (H : Nat)
    (inv : SweepInv s M h h a absent g H) (hb : s.node b = none)
    (hp : nextGapPoll h (cycSucc h M) H (g.getD h) = .poll b) :
    SweepInv (gapPoll s h) M h h a absent (some b) H := by
  obtain ⟨nh, e, hmode, hns⟩ := agreed_holder_node s M h inv.agreed
  have hg := inv.gap nh e
  have hne : b ≠ h := fun c => by rw [c, e] at hb; cases hb
  have hresp : responds s h b = false := by unfold responds; rw [hb]
  have hnode : ∀ x, (gapPoll s h).node x = (s.node x).map (gapPollNode h b false x) := by
    intro x
    rw [sweep_gapPoll_eq s M h a b absent g H inv hp, hresp]
  have hother : ∀ x nx, x ≠ h → s.node x = some nx → (gapPoll s h).node x = some nx := by
    intro x nx hx ex
    rw [hnode, ex]
    simp only [Option.map_some, Option.some.injEq]
    unfold gapPollNode
    rw [if_neg hx]
    have : ¬ (x = b ∧ nx.mode = .listen ∧ nx.ring.readyForRing = true) := fun c => by
      rw [c.1, hb] at ex; cases ex
    rw [if_neg this]
  have hh : (gapPoll s h).node h = some { nh with gap := some b } := by
    rw [hnode, e]
    simp only [Option.map_some, Option.some.injEq]
    unfold gapPollNode
    rw [if_pos rfl]; rfl
  have hhsa : (gapPoll s h).hsa = s.hsa := by
    rw [sweep_gapPoll_eq s M h a b absent g H inv hp]
  refine ⟨?_, ⟨inv.listener.notMem, ?_⟩, fun c hc => ?_, fun nh' e' => ?_, hhsa.trans inv.hsa⟩
  · apply agreed_congr s _ M h inv.agreed
    intro x
    by_cases hx : x = h
    · subst hx
      exact Or.inr ⟨nh, _, e, hh, rfl, rfl, rfl⟩
    · cases ex : s.node x with
      | none => left; rw [hnode, ex]; exact ⟨rfl, rfl⟩
      | some nx => exact Or.inr ⟨nx, nx, rfl, hother x nx hx ex, rfl, rfl, rfl⟩
  · obtain ⟨na, ea, hl, v⟩ := inv.listener.node
    have c1 : a ≠ h := fun c => inv.listener.notMem (c ▸ inv.agreed.hmem)
    exact ⟨na, hother a na c1 ea, hl, v⟩
  · rw [hnode, inv.absent c hc]; rfl
  · rw [hh] at e'; cases e'; rfl


/-- The schedule of a GAP sweep: `k` token visits at `h`; on each visit `h` polls one GAP address,
then the token goes once round the ring (`len` passes) and is back at `h`. -/
def visits (s : Net) (h len : Nat) : Nat → Net
  | 0 => s
  | k + 1 => visits (rotate (gapPoll s h) h len).1 h len k

theorem sweepInv_absent_mono (s : Net) (M : List Nat) (hd h a : Nat) (l l' : List Nat) (g : Option Nat) (H : Nat)
    (inv : SweepInv s M hd h a l g H) (hsub : ∀ b ∈ l', b ∈ l) : SweepInv s M hd h a l' g H :=
  ⟨inv.agreed, inv.listener, fun b hb => inv.absent b (hsub b hb), inv.gap, inv.hsa⟩


/-- The poll that finds `a` and the pass that follows it, node by node, computed once: `h` and `a` before (both with a view
of `M`), `h` after the poll, and `h`, `a` and every other node after the pass.  `gapPoll_admits` and `admitted_state` read
their parts off it. -/
theorem admit_nodes (s : Net) (M : List Nat) (h a : Nat) (absent : List Nat) (g : Option Nat) (H : Nat)
    (inv : SweepInv s M h h a absent g H) (hbt : Between h (cycSucc h M) a) (ha : a < 128)
    (hp : nextGapPoll h (cycSucc h M) H (g.getD h) = .poll a) :
    ∃ nh na r', s.node h = some nh ∧ s.node a = some na ∧ ViewOk M a na.ring ∧ ViewOk M h nh.ring ∧ nh.pend = none ∧
      nh.ring.setNextStation a = some r' ∧ nh.mode = .hold ∧
      (gapPoll s h).node h = some { nh with gap := some a, ring := r' } ∧
      (pass (gapPoll s h) h).node h = some { nh with gap := some a, ring := r'.witness h a, mode := .idle } ∧
      (pass (gapPoll s h) h).node a = some { na with mode := .hold, pend := none } ∧
      ∀ x, x ≠ h → x ≠ a →
        (pass (gapPoll s h) h).node x = (s.node x).map fun nx => { nx with ring := nx.ring.witness h a } := by
  obtain ⟨nh, e, hmode, hns⟩ := agreed_holder_node s M h inv.agreed
  have hv := inv.agreed.view h nh e (by rw [hmode]; simp)
  obtain ⟨na, ea, hl, v⟩ := inv.listener.node
  have hne : a ≠ h := fun c => inv.listener.notMem (c ▸ inv.agreed.hmem)
  have hps : na.ring.ps = h := by
    rw [(viewOk_ns M inv.agreed.ring a na.ring v).2]
    exact cycPred_of_between h a M inv.agreed.hmem hbt
  have hready : na.ring.readyForRing = true := by simp [readyForRing, v.valid]
  have hresp : responds s h a = true := by
    unfold responds; rw [ea]; simp [hl, hready, hps]
  have hnode : ∀ x, (gapPoll s h).node x = (s.node x).map (gapPollNode h a true x) := by
    intro x
    rw [sweep_gapPoll_eq s M h a a absent g H inv hp, hresp]
  obtain ⟨r', hr'⟩ := setNextStation_isSome nh.ring a ha
  have hns' : r'.ns = a := setNextStation_ns nh.ring r' a hr' (by rw [hv.1.ts]; exact hne)
  have hh : (gapPoll s h).node h = some { nh with gap := some a, ring := r' } := by
    rw [hnode, e]
    simp only [Option.map_some, Option.some.injEq]
    unfold gapPollNode
    rw [if_pos rfl, hr']; rfl
  have haa : (gapPoll s h).node a = some { na with mode := .idle, pend := none } := by
    rw [hnode, ea]
    simp only [Option.map_some, Option.some.injEq]
    unfold gapPollNode
    rw [if_neg hne, if_pos ⟨rfl, hl, hready⟩]
  have hoth : ∀ x, x ≠ h → x ≠ a → (gapPoll s h).node x = s.node x := by
    intro x c1 c2
    rw [hnode]
    cases ex : s.node x with
    | none => rfl
    | some nx =>
      simp only [Option.map_some, Option.some.injEq]
      unfold gapPollNode
      rw [if_neg c1, if_neg (fun c => c2 c.1)]
  -- after the poll `a` is ActiveIdle (`haa`) with `h` as PS: it takes the token at the first attempt
  have hacc : accepted (gapPoll s h) h a = true := by
    unfold accepted; rw [haa]; unfold accepts; simp [hne, hps]
  have hpass : pass (gapPoll s h) h = passTo (gapPoll s h) h a := by
    rw [pass_eq _ h _ hh hmode]
    show passTo (gapPoll s h) h r'.ns = _
    rw [hns']
  refine ⟨nh, na, r', e, ea, v, hv.1, hv.2, hr', hmode, hh, ?_, ?_, ?_⟩
  · rw [hpass, passTo_sender _ h a _ hh, hacc]; rfl
  · rw [hpass, passTo_target_ps _ h a _ haa hne rfl hps]
  · intro x c1 c2
    rw [hpass]
    cases ex : s.node x with
    | none =>
      have : (gapPoll s h).node x = none := by rw [hoth x c1 c2, ex]
      rw [(passTo_none _ h a x).mpr this]; rfl
    | some nx =>
      have : (gapPoll s h).node x = some nx := by rw [hoth x c1 c2, ex]
      rw [passTo_other _ h a x nx this c1 c2]; rfl


/-- The poll that finds the ready listener `a` in the GAP of its predecessor `h`, followed by `h`'s
token pass: `h` adopts `a` as NS (`set_next_station`), `a` enters the ring (ActiveIdle) and takes the
token from its PS. -/
theorem gapPoll_admits (s : Net) (M : List Nat) (h a : Nat) (absent : List Nat) (g : Option Nat) (H : Nat)
    (inv : SweepInv s M h h a absent g H) (hbt : Between h (cycSucc h M) a) (ha : a < 128)
    (hp : nextGapPoll h (cycSucc h M) H (g.getD h) = .poll a) :
    (∃ nh, (pass (gapPoll s h) h).node h = some nh ∧ nh.mode = .idle ∧ nh.ring.ns = a) ∧
    (∃ na, (pass (gapPoll s h) h).node a = some na ∧ na.mode = .hold ∧ ViewOk M a na.ring) ∧
    (∃ nh, (gapPoll s h).node h = some nh ∧ nh.mode = .hold ∧ nh.ring.ns = a) := by
  obtain ⟨nh, na, r', _, _, va, vh, _, hr', hmode, nodeG, nodeH, nodeA, _⟩ :=
    admit_nodes s M h a absent g H inv hbt ha hp
  have hne : a ≠ nh.ring.ts := by
    rw [vh.ts]
    exact fun c => inv.listener.notMem (c ▸ inv.agreed.hmem)
  refine ⟨⟨_, nodeH, rfl, ?_⟩, ⟨_, nodeA, rfl, va⟩, ⟨_, nodeG, hmode, setNextStation_ns nh.ring r' a hr' hne⟩⟩
  have := setNextStation_witness_ns nh.ring r' a hr' hne
  rwa [vh.ts] at this

/-- The ring right after the admission of `a` by `h`: `a` holds the token, `h` already knows
`M' = M ∪ {a}`, everybody else (including `a`) still knows `M`. -/
structure Admitted (s : Net) (M M' : List Nat) (h a : Nat) : Prop where
  ring : IsRing M
  ring' : IsRing M'
  mem' : ∀ x, x ∈ M' ↔ x = a ∨ x ∈ M
  hmem : h ∈ M
  notMem : a ∉ M
  between : Between h (cycSucc h M) a
  members : ∀ x, x ∈ M' ↔ ∃ nx, s.node x = some nx ∧ nx.mode ≠ .listen
  holder : ∀ x nx, s.node x = some nx → (nx.mode = .hold ↔ x = a)
  view : ∀ x nx, s.node x = some nx → nx.mode ≠ .listen →
    nx.pend = none ∧ (if x = h then ViewOk M' x nx.ring else ViewOk M x nx.ring)

theorem admitted_state (s : Net) (M M' : List Nat) (h a : Nat) (absent : List Nat) (g : Option Nat) (H : Nat)
    (inv : SweepInv s M h h a absent g H) (hbt : Between h (cycSucc h M) a)
    (hp : nextGapPoll h (cycSucc h M) H (g.getD h) = .poll a)
    (hM' : IsRing M') (hmem' : ∀ x, x ∈ M' ↔ x = a ∨ x ∈ M) :
    Admitted (pass (gapPoll s h) h) M M' h a := by
  have ag := inv.agreed
  have haM' : a ∈ M' := (hmem' a).mpr (Or.inl rfl)
  have ha125 : a ≤ 125 := hM'.bound a haM'
  have hh125 : h ≤ 125 := ag.ring.bound h ag.hmem
  have hne : a ≠ h := fun c => inv.listener.notMem (c ▸ ag.hmem)
  obtain ⟨nh, na, r', e, ea, va, vh, hpend, hr', _, _, nodeH, nodeA, nodeO⟩ :=
    admit_nodes s M h a absent g H inv hbt (by omega) hp
  refine ⟨ag.ring, hM', hmem', ag.hmem, inv.listener.notMem, hbt, fun x => ?_, fun x nx' ex' => ?_,
    fun x nx' ex' hm' => ?_⟩
  · by_cases c1 : x = h
    · subst c1
      rw [nodeH]
      constructor
      · intro _; exact ⟨_, rfl, by simp⟩
      · intro _; exact (hmem' x).mpr (Or.inr ag.hmem)
    · by_cases c2 : x = a
      · subst c2
        rw [nodeA]
        constructor
        · intro _; exact ⟨_, rfl, by simp⟩
        · intro _; exact haM'
      · rw [nodeO x c1 c2, hmem', ag.members x]
        constructor
        · rintro (hx | ⟨nx, ex, hm⟩)
          · exact absurd hx c2
          · exact ⟨{ nx with ring := nx.ring.witness h a }, by rw [ex]; rfl, hm⟩
        · rintro ⟨nx', ex', hm'⟩
          right
          obtain ⟨nx, ex, rfl⟩ := Option.map_eq_some_iff.mp ex'
          exact ⟨nx, ex, hm'⟩
  · by_cases c1 : x = h
    · subst c1
      rw [nodeH] at ex'; injection ex' with ex'; subst ex'
      constructor
      · intro hc; cases hc
      · intro hc; exact absurd hc.symm hne
    · by_cases c2 : x = a
      · subst c2
        rw [nodeA] at ex'; injection ex' with ex'; subst ex'
        simp
      · rw [nodeO x c1 c2] at ex'
        obtain ⟨nx, ex, rfl⟩ := Option.map_eq_some_iff.mp ex'
        simp only
        rw [ag.holder x nx ex]
        constructor
        · intro hc; exact absurd hc c1
        · intro hc; exact absurd hc c2
  · by_cases c1 : x = h
    · subst c1
      rw [nodeH] at ex'; injection ex' with ex'; subst ex'
      rw [if_pos rfl]
      refine ⟨hpend, ?_⟩
      have v1 := viewOk_setNext M M' x a nh.ring r' vh ag.hmem hbt hmem' hr'
      have hfree : Gapless M' x a :=
        (((cycSucc_gapless x M).2.left hbt).cons_right hbt.1).mono fun y hy => List.mem_cons.mpr ((hmem' y).mp hy)
      exact viewOk_witness_gen M' M' x x a r' v1 hh125 ha125 hfree
        (fun y => ⟨Or.inr, fun hy => hy.elim (fun c => c ▸ (hmem' x).mpr (Or.inr ag.hmem)) id⟩)
    · rw [if_neg c1]
      by_cases c2 : x = a
      · subst c2
        rw [nodeA] at ex'; injection ex' with ex'; subst ex'
        exact ⟨rfl, va⟩
      · rw [nodeO x c1 c2] at ex'
        obtain ⟨nx, ex, rfl⟩ := Option.map_eq_some_iff.mp ex'
        have v := ag.view x nx ex hm'
        refine ⟨v.2, ?_⟩
        exact viewOk_witness_gen M M x h a nx.ring v.1 hh125 ha125 ((cycSucc_gapless h M).2.left hbt)
          (fun y => ⟨Or.inr, fun hy => hy.elim (fun c => c ▸ ag.hmem) id⟩)

/-- The new member `a` passes to its NS, the old NS of `h`: a station that witnesses this pass knows `M' = M ∪ {a}`
afterwards, whether it knew `M` (the pass enters `a`) or `M'` already (the pass changes nothing). -/
theorem viewOk_newcomer_pass (M M' : List Nat) (h a x : Nat) (r : TokenRing) (hM' : IsRing M') (hM : IsRing M)
    (hh : h ∈ M) (hbt : Between h (cycSucc h M) a) (hmem' : ∀ y, y ∈ M' ↔ y = a ∨ y ∈ M)
    (v : ViewOk M x r ∨ ViewOk M' x r) : ViewOk M' x (r.witness a (cycSucc h M)) := by
  have ha125 : a ≤ 125 := hM'.bound a ((hmem' a).mpr (Or.inl rfl))
  have hn125 : cycSucc h M ≤ 125 := hM.bound _ (cycSucc_mem h M hh)
  rcases v with v | v
  · exact viewOk_witness_gen M M' x a _ r v ha125 hn125 ((cycSucc_gapless h M).2.right hbt) hmem'
  · have hfree : Gapless M' a (cycSucc h M) :=
      ((cycSucc_gapless h M).2.right hbt).cons_left.mono fun y hy => List.mem_cons.mpr ((hmem' y).mp hy)
    exact viewOk_witness_gen M' M' x a _ r v ha125 hn125 hfree
      (fun y => ⟨Or.inr, fun hy => hy.elim (fun c => c ▸ (hmem' a).mpr (Or.inl rfl)) id⟩)

/-- **The enlarged ring agrees.**  From the state right after the admission, the new member's own
token pass to its NS (= the old NS of `h`) makes every station's LAS `M ∪ {a}`: if that NS is `h`
itself (two-station ring) `h` already knows `a` as its PS and accepts at once; otherwise the NS sees
an unknown sender, waits for the repetition, and accepts the second pass. -/
theorem admitted_agrees (s : Net) (M M' : List Nat) (h a : Nat) (ad : Admitted s M M' h a) :
    (cycSucc h M = h → Agreed (pass s a) M' h) ∧
    (cycSucc h M ≠ h → Agreed (pass (pass s a) a) M' (cycSucc h M)) := by
  have haM' : a ∈ M' := (ad.mem' a).mpr (Or.inl rfl)
  have hhM' : h ∈ M' := (ad.mem' h).mpr (Or.inr ad.hmem)
  have hne : a ≠ h := fun c => ad.notMem (c ▸ ad.hmem)
  have hnM : cycSucc h M ∈ M := cycSucc_mem h M ad.hmem
  have hnM' : cycSucc h M ∈ M' := (ad.mem' _).mpr (Or.inr hnM)
  have hna : cycSucc h M ≠ a := fun c => ad.notMem (c ▸ hnM)
  obtain ⟨na, ea, hma⟩ := (ad.members a).mp haM'
  have hhold : na.mode = .hold := (ad.holder a na ea).mpr rfl
  have va := ad.view a na ea hma
  rw [if_neg hne] at va
  have hnsa : na.ring.ns = cycSucc h M := by
    rw [(viewOk_ns M ad.ring a _ va.2).1]; exact cycSucc_of_between h a M ad.hmem ad.between
  have hpass : pass s a = passTo s a (cycSucc h M) := by rw [pass_eq s a na ea hhold, hnsa]
  have idle : ∀ x nx, s.node x = some nx → nx.mode ≠ .listen → x ≠ a → nx.mode = .idle :=
    fun x nx ex hm hx => mode_idle hm fun hc => hx ((ad.holder x nx ex).mp hc)
  have outside : ∀ x, x ∉ M' → ∀ nx, s.node x = some nx → nx.mode = .listen :=
    fun x hx nx ex => Decidable.byContradiction fun hm => hx ((ad.members x).mpr ⟨nx, ex, hm⟩)
  have van := fun x r v => viewOk_newcomer_pass M M' h a x r ad.ring' ad.ring ad.hmem ad.between ad.mem' v
  have oldview : ∀ x nx, s.node x = some nx → nx.mode ≠ .listen → ViewOk M x nx.ring ∨ ViewOk M' x nx.ring := by
    intro x nx ex hm
    have := (ad.view x nx ex hm).2
    by_cases c : x = h
    · rw [if_pos c] at this; exact Or.inr this
    · rw [if_neg c] at this; exact Or.inl this
  constructor
  · -- two-station case: the old NS of `h` is `h` itself
    intro hc
    obtain ⟨nh, eh, hmh⟩ := (ad.members h).mp hhM'
    have hidle := idle h nh eh hmh hne.symm
    have vh := ad.view h nh eh hmh
    rw [if_pos rfl] at vh
    have hps : nh.ring.ps = a := by
      rw [(viewOk_ns M' ad.ring' h _ vh.2).2]
      have := cycPred_cycSucc a M' haM'
      rwa [cycSucc_enlarged M M' h a ad.hmem ad.between ad.mem', hc] at this
    have hacc : accepted s a h = true := by
      unfold accepted; rw [eh]; unfold accepts; simp [hne.symm, hidle, hps]
    rw [hpass, hc]
    rw [hc] at van
    apply agreed_of_nodes _ M' h ad.ring' hhM'
    · intro x hx
      by_cases c1 : x = a
      · subst c1
        refine ⟨_, passTo_sender s x h na ea, ?_, ?_, van x _ (Or.inl va.2), va.1⟩
        · rw [hacc]; simp
        · rw [hacc]; simp only [if_true]
          constructor
          · intro c; cases c
          · intro c; exact absurd c hne
      · by_cases c2 : x = h
        · subst c2
          exact ⟨_, passTo_target_ps s a x nh eh hne.symm hidle hps, by simp, by simp, vh.2, rfl⟩
        · obtain ⟨nx, ex, hm⟩ := (ad.members x).mp hx
          refine ⟨_, passTo_other s a h x nx ex c1 c2, hm, ?_, van x _ (oldview x nx ex hm), (ad.view x nx ex hm).1⟩
          rw [idle x nx ex hm c1]
          constructor
          · intro c; cases c
          · intro c; exact absurd c c2
    · intro x hx nx' ex'
      have c1 : x ≠ a := fun c => hx (c ▸ haM')
      have c2 : x ≠ h := fun c => hx (c ▸ hhM')
      obtain ⟨nx, ex, hm⟩ := passTo_other_mode s a h x nx' c1 c2 ex'
      rw [hm]
      exact outside x hx nx ex
  · -- general case: the NS `n` of the new member does not know it yet
    intro hc
    obtain ⟨nn, en, hmn⟩ := (ad.members _).mp hnM'
    have hidle := idle _ nn en hmn hna
    have vn := ad.view _ nn en hmn
    rw [if_neg hc] at vn
    have hpsn : nn.ring.ps = h := by
      rw [(viewOk_ns M ad.ring _ _ vn.2).2]; exact cycPred_cycSucc h M ad.hmem
    have hpsn' : nn.ring.ps ≠ a := by rw [hpsn]; exact hne.symm
    have hpend' : nn.pend ≠ some a := by rw [vn.1]; simp
    have hacc1 : accepted s a (cycSucc h M) = false := by
      unfold accepted; rw [en]; unfold accepts; simp [hpsn', vn.1]
    -- first pass `a → n`: `n` has PS = `h`, so it only notes `a` in `pend` (`n3n`); `a` stays holder (`n3a`), now with a
    -- view of `M'` (`va3`)
    have n3a := passTo_sender s a (cycSucc h M) na ea
    rw [hacc1] at n3a
    have n3n := passTo_target_new s a _ nn en hna hidle hpsn' hpend'
    have va3 : ViewOk M' a (na.ring.witness a (cycSucc h M)) := van a _ (Or.inl va.2)
    have hpass2 : pass (passTo s a (cycSucc h M)) a = passTo (passTo s a (cycSucc h M)) a (cycSucc h M) := by
      rw [pass_eq _ a _ n3a (by simpa using hhold)]
      show passTo _ a (na.ring.witness a (cycSucc h M)).ns = _
      rw [(viewOk_ns M' ad.ring' a _ va3).1, cycSucc_enlarged M M' h a ad.hmem ad.between ad.mem']
    -- second pass: `n` finds `a` in `pend`, accepts and witnesses the pass
    have hacc2 : accepted (passTo s a (cycSucc h M)) a (cycSucc h M) = true := by
      unfold accepted; rw [n3n]; unfold accepts; simp [hna, hidle]
    rw [hpass, hpass2]
    apply agreed_of_nodes _ M' _ ad.ring' hnM'
    · intro x hx
      by_cases c1 : x = a
      · subst c1
        refine ⟨_, passTo_sender _ x _ _ n3a, ?_, ?_, van x _ (Or.inr va3), va.1⟩
        · rw [hacc2]; simp
        · rw [hacc2]; simp only [if_true]
          constructor
          · intro c; cases c
          · intro c; exact absurd c.symm hna
      · by_cases c2 : x = cycSucc h M
        · rw [c2]
          refine ⟨_, passTo_target_pend _ a _ _ n3n hna hidle hpsn' rfl, by simp, by simp, ?_, rfl⟩
          exact van _ _ (Or.inl vn.2)
        · obtain ⟨nx, ex, hm⟩ := (ad.members x).mp hx
          have e3 := passTo_other s a _ x nx ex c1 c2
          refine ⟨_, passTo_other _ a _ x _ e3 c1 c2, hm, ?_, ?_, (ad.view x nx ex hm).1⟩
          · show nx.mode = .hold ↔ _
            rw [idle x nx ex hm c1]
            constructor
            · intro c; cases c
            · intro c; exact absurd c c2
          · exact van x _ (Or.inr (van x _ (oldview x nx ex hm)))
    · intro x hx nx' ex'
      have c1 : x ≠ a := fun c => hx (c ▸ haM')
      have c2 : x ≠ cycSucc h M := fun c => hx (c ▸ hnM')
      obtain ⟨nx1, ex1, hm1⟩ := passTo_other_mode _ a _ x nx' c1 c2 ex'
      obtain ⟨nx, ex, hm⟩ := passTo_other_mode s a _ x nx1 c1 c2 ex1
      rw [hm1, hm]
      exact outside x hx nx ex


/-- The sweep schedule reaches the poll of `a` with everything still in place: if the sweep of `h`'s
GAP (as `sweepFrom` = iterated real `next_gap_poll`) from the current cursor reaches the ready listener
`a` after the addresses `pre`, and no station is present at those, then after `|pre|` token visits at
`h` (one poll each, one full rotation in between) the next poll is that of `a`. -/
theorem sweep_reaches (M : List Nat) (h a H : Nat) (hH : H ≤ 126) (post : List Nat) :
    ∀ (pre : List Nat) (fuel : Nat) (s : Net) (g : Option Nat), SweepInv s M h h a pre g H → g.getD h < H →
      sweepFrom h (cycSucc h M) H fuel (g.getD h) = pre ++ a :: post →
      ∃ g', SweepInv (visits s h M.length pre.length) M h h a [] g' H ∧
        nextGapPoll h (cycSucc h M) H (g'.getD h) = .poll a ∧ Between h (cycSucc h M) a ∧ a < H := by
  intro pre
  induction pre with
  | nil =>
    intro fuel s g inv hcur hsw
    obtain ⟨f, -, hn, hin, -⟩ := sweepFrom_eq_cons _ _ _ _ _ _ _ hH hcur hsw
    have hb := (inGap_iff _ _ _ _).mp hin
    exact ⟨g, inv, hn, hb.2, hb.1⟩
  | cons b pre' ih =>
    intro fuel s g inv hcur hsw
    obtain ⟨f, -, hn, hin, hsw2⟩ := sweepFrom_eq_cons _ _ _ _ _ _ _ hH hcur hsw
    have inv1 := sweepInv_gapPoll_absent s M h a b (b :: pre') g H inv (inv.absent b (by simp)) hn
    -- one rotation brings the token back to `h`
    obtain ⟨i, _, hi⟩ := mem_nth M h inv.agreed.hmem
    rw [← hi] at inv1
    have inv2 := sweepInv_rotate M (nth M i) a (b :: pre') (some b) H M.length _ i inv1
    rw [nth_add_length, hi] at inv2
    have inv3 := sweepInv_absent_mono _ M h h a (b :: pre') pre' (some b) H inv2 (fun c hc => by simp [hc])
    exact ih f _ (some b) inv3 hin.1 hsw2

end AbstractRing
end PV
