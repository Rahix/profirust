/-
Application scheduling order (C15): the index `next_application` walks along the callback log.
`walk n j log = some j'` says: starting with `next_application = j`, every callback of `log` goes to the application
whose turn it is, and the turn ends at `j'`.  The turn moves to the cyclic successor `(i+1) % n` after application `i`
DECLINED; it STAYS at `i` after `i` sent a telegram (it is asked again after its reply/time-out, or at once if the
telegram expected no reply) and over the reply / time-out delivered to `i`.
-/
import ProfiVerif.Lemmas.StationTrace

namespace PV

/-- The application a callback goes to. -/
def AppCall.app : AppCall → Nat
  | .transmit i _ _ => i
  | .reply i _ _ => i
  | .timeout i _ => i

/-- Whose turn it is after callback `r` (with `n` applications). -/
def nextIdx (n : Nat) : AppCall → Nat
  | .transmit i _ .decline => (i + 1) % n
  | .transmit i _ (.send ..) => i
  | .reply i _ _ => i
  | .timeout i _ => i

/-- Follow the turn along a callback log; `none` if some callback goes to the wrong application. -/
def walk (n : Nat) : Nat → List AppCall → Option Nat
  | j, [] => some j
  | j, r :: rest => if r.app = j then walk n (nextIdx n r) rest else none

theorem walk_append (n : Nat) : ∀ (l1 l2 : List AppCall) (j k : Nat), walk n j l1 = some k →
    walk n j (l1 ++ l2) = walk n k l2 := by
  intro l1
  induction l1 with
  | nil => intro l2 j k h; simp only [walk, Option.some.injEq] at h; subst h; rfl
  | cons r rest ih =>
    intro l2 j k h
    simp only [walk, List.cons_append] at h ⊢
    by_cases hr : r.app = j
    · rw [if_pos hr] at h ⊢; exact ih l2 _ k h
    · rw [if_neg hr] at h; cases h

theorem walk_append_inv (n : Nat) : ∀ (l1 l2 : List AppCall) (j m : Nat), walk n j (l1 ++ l2) = some m →
    ∃ k, walk n j l1 = some k ∧ walk n k l2 = some m := by
  intro l1
  induction l1 with
  | nil => intro l2 j m h; exact ⟨j, rfl, h⟩
  | cons r rest ih =>
    intro l2 j m h
    simp only [walk, List.cons_append] at h ⊢
    by_cases hr : r.app = j
    · rw [if_pos hr] at h ⊢; exact ih l2 _ m h
    · rw [if_neg hr] at h; cases h

theorem ws_nextApp (s : Station) (now : Int) : (waitSyncPause s now).1.nextApp = s.nextApp := by
  rw [StationGap.sync_stamped]; rfl

theorem cs_nextApp (s : Station) (now : Int) : (checkSlotExpired s now).1.nextApp = s.nextApp := by
  rw [StationGap.slot_stamped]; rfl

/-- The states in which `do_use_token` leaves the station when it ends the token hold
(`transition_pass_token` + `do_pass_token` in the same poll): waiting for the synchronisation pause in
`PassToken`, GAP poll sent, token sent to itself (alone in the ring: a new visit starts at once), or
token sent to NS. -/
def Passed (s : Station) (now : Int) : Prop :=
  s.st = .passToken true .first ∨ (∃ a, s.st = .awaitStatus a) ∨ s.st = .useToken ⟨now, none⟩ false ∨
    s.st = .checkTokenPass .first

theorem passNow_keeps {c c' : Ctx} {d : UseData} {fcd : Bool} {now : Int} (hst : c.s.st = .useToken d fcd)
    (h : passNow c now = .ok c') :
    c'.calls = c.calls ∧ c'.apps = c.apps ∧ c'.s.nextApp = c.s.nextApp ∧ Passed c'.s now := by
  rw [passNow_eq now hst] at h
  obtain ⟨⟨hq, -, hpost⟩, hk⟩ := doPassToken_eff _ c' now true .first rfl h
  refine ⟨hq.calls, hq.apps, hk, ?_⟩
  rcases hpost with ⟨h1, -, -⟩ | ⟨-, h1, -⟩ | ⟨-, h1 | h1, -⟩
  · exact .inl h1
  · exact .inr (.inl h1)
  · exact .inr (.inr (.inl h1))
  · exact .inr (.inr (.inr h1))

theorem walk_declines (n : Nat) (hp : Bool) : ∀ (m j : Nat), j < n →
    walk n j (declines hp (cyc n j m)) = some ((j + m) % n) := by
  intro m
  induction m with
  | zero => intro j hj; simp [cyc, declines, walk, Nat.mod_eq_of_lt hj]
  | succ m ih =>
    intro j hj
    rw [cyc_succ_left, Nat.mod_eq_of_lt hj]
    simp only [declines, List.map_cons, walk, AppCall.app, nextIdx, if_true]
    have := ih ((j + 1) % n) (Nat.mod_lt _ (by omega))
    rw [Nat.mod_add_mod, show j + 1 + m = j + (m + 1) by omega] at this
    exact this

theorem AppLoop.follows_turn {now : Int} {hp : Bool} {k : Nat} {c : Ctx} {d : UseData} {fcd : Bool} {m : Nat} {b : Bool} {c1 : Ctx}
    (hm : AppLoop now hp k c d fcd m b c1) :
    ∃ new, c1.calls = c.calls ++ new ∧ walk c.apps.length c.s.nextApp new = some c1.s.nextApp ∧
      c1.apps.length = c.apps.length := by
  cases b with
  | false =>
    obtain ⟨e1, -, -, -⟩ := hm.quiet rfl
    refine ⟨_, e1, ?_, hm.len⟩
    cases m with
    | zero => simp [cyc, declines, walk, hm.next]
    | succ m =>
      have hlt := hm.lt (.inl (Nat.succ_pos m))
      rw [walk_declines _ _ _ _ hlt, hm.next_mod hlt]
  | true =>
    have hlt := hm.lt (.inr rfl)
    obtain ⟨hd, pdu, bytes, e1, -, -⟩ := hm.sent rfl
    refine ⟨_, by rw [e1, List.append_assoc], ?_, hm.len⟩
    rw [walk_append _ _ _ _ _ (walk_declines _ hp m _ hlt), hm.next_mod hlt]
    simp [walk, AppCall.app, nextIdx]

def WalkPost (c c' : Ctx) : Prop :=
  ∃ new, c'.calls = c.calls ++ new ∧ walk c.apps.length c.s.nextApp new = some c'.s.nextApp ∧
    c'.apps.length = c.apps.length

theorem doUseToken_walk {c c' : Ctx} {now : Int} {d : UseData} {fcd : Bool} (h : doUseToken c now = .ok c')
    (hst : c.s.st = .useToken d fcd) : WalkPost c c' := by
  have hs := doUseToken_step now hst
  rw [h] at hs
  -- `held c now d` has the callbacks, scripts and turn of `c`
  cases hs with
  | wait _ => exact ⟨[], (List.append_nil _).symm, rfl, rfl⟩
  | pass _ _ _ hp =>
    obtain ⟨e1, e2, e3, -⟩ := passNow_keeps (c := held c now d) hst hp
    exact ⟨[], by rw [e1]; exact (List.append_nil _).symm, by rw [e3]; rfl, by rw [e2]; rfl⟩
  | go _ _ hgo =>
    have hg := useTokenGo_step (held c now d) now d (!decide (now < holdEnd c.s d))
    rw [hgo] at hg
    cases hg with
    | cycle hm => exact hm.follows_turn
    | pass hm hp =>
      obtain ⟨new, e1, hw, hl⟩ := hm.follows_turn
      obtain ⟨f1, f2, f3, -⟩ := passNow_keeps (hm.quiet rfl).2.2.1 hp
      exact ⟨new, f1.trans e1, by rw [f3]; exact hw, by rw [f2]; exact hl⟩

theorem doAwaitDataResponse_walk {c c' : Ctx} {now : Int} {a : Nat} {d : UseData}
    (h : doAwaitDataResponse c now = .ok c') (hst : c.s.st = .awaitData a d) : WalkPost c c' := by
  have hs := doAwaitDataResponse_step now hst
  rw [h] at hs
  cases hs with
  | waits _ _ _ => exact ⟨[], (List.append_nil _).symm, rfl, rfl⟩
  | timeout _ _ _ hu =>
    obtain ⟨new, hc, hw, hl⟩ := doUseToken_walk hu rfl
    refine ⟨.timeout c.s.nextApp a :: new, by rw [hc]; exact List.append_assoc .., ?_, hl⟩
    simp only [walk, AppCall.app, nextIdx, if_true]
    exact hw
  | reply _ _ _ => exact ⟨[.reply c.s.nextApp a _], rfl, by simp [walk, AppCall.app, nextIdx, markRx, markBusActivity], rfl⟩
  | backOff _ _ _ => exact ⟨[], (List.append_nil _).symm, rfl, rfl⟩

/-- The station holds the token for its applications: `UseToken` (between message cycles) or `AwaitDataResponse`
(inside one). -/
def AppHolding (s : Station) : Prop := (∃ d fcd, s.st = .useToken d fcd) ∨ (∃ a d, s.st = .awaitData a d)

theorem holding_wake (s : Station) (h : AppHolding s) : s.wake = s := by
  unfold Station.wake
  rcases h with ⟨d, fcd, h⟩ | ⟨a, d, h⟩ <;> rw [h]

/-- One whole poll that starts in `UseToken` / `AwaitDataResponse` (any bytes, any time, any scripts):
its callbacks follow the turn from `next_application` before the poll to `next_application` after it. -/
theorem poll_walk (s : Station) (apps : Apps) (now : Int) (phy : Bool) (rx : Bytes) (c' : Ctx)
    (hh : AppHolding s) (h : s.poll apps now phy rx = .ok c') :
    walk apps.length s.nextApp c'.calls = some c'.s.nextApp ∧ c'.apps.length = apps.length := by
  have fin : ∀ lba pb, WalkPost { s := { s with lastBusActivity := lba, pendingBytes := pb }, apps := apps, rx := rx } c' →
      walk apps.length s.nextApp c'.calls = some c'.s.nextApp ∧ c'.apps.length = apps.length := by
    rintro lba pb ⟨new, hc, hw, hl⟩
    rw [hc]
    exact ⟨hw, hl⟩
  have hne : s.st ≠ .offline ∧ s.st ≠ .passiveIdle := by
    rcases hh with ⟨d, fcd, hst⟩ | ⟨a, d, hst⟩ <;> rw [hst] <;> exact ⟨nofun, nofun⟩
  rcases StationGap.poll_cases s apps now phy rx c' hne.1 hne.2 h with rfl | hd
  · exact ⟨rfl, rfl⟩
  · rw [checkBusActivity_eq] at hd
    rcases hh with ⟨d, fcd, hst⟩ | ⟨a, d, hst⟩
    · rw [dispatch_useToken now hst] at hd
      exact fin _ _ (doUseToken_walk hd hst)
    · rw [dispatch_awaitData now hst] at hd
      exact fin _ _ (doAwaitDataResponse_walk hd hst)

end PV
