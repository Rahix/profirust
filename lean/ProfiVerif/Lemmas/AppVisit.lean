/-
Turn bookkeeping of one token visit (C15): which applications have declined since the token
was received (`first_app` … `next_application`, cyclically), that nobody who declined is asked again in
the same visit, and why a token hold ends — per handler step (`TurnPost`), per poll (`poll_turn`), and as an
invariant along the polls of a visit (`VInv`, `visit_step`, `HoldRun`, `visit_run`, namespace `PV.C15`).
-/
import ProfiVerif.Lemmas.AppOrder

namespace PV

/-- The applications that declined, in log order. -/
def declinesOf : List AppCall → List Nat
  | [] => []
  | .transmit i _ .decline :: rest => i :: declinesOf rest
  | .transmit _ _ (.send ..) :: rest => declinesOf rest
  | .reply .. :: rest => declinesOf rest
  | .timeout .. :: rest => declinesOf rest

theorem declinesOf_append : ∀ (l1 l2 : List AppCall), declinesOf (l1 ++ l2) = declinesOf l1 ++ declinesOf l2 := by
  intro l1
  induction l1 with
  | nil => intro l2; rfl
  | cons r rest ih =>
    intro l2
    cases r with
    | transmit i hp ans => cases ans <;> simp [declinesOf, ih]
    | reply i a t => simp [declinesOf, ih]
    | timeout i a => simp [declinesOf, ih]

theorem mem_cyc (n f : Nat) : ∀ m x, x ∈ cyc n f m ↔ ∃ t, t < m ∧ x = (f + t) % n := by
  intro m
  induction m with
  | zero => intro x; simp [cyc]
  | succ m ih =>
    intro x
    simp only [cyc, List.mem_append, List.mem_singleton, ih]
    constructor
    · rintro (⟨t, ht, hx⟩ | hx)
      · exact ⟨t, by omega, hx⟩
      · exact ⟨m, by omega, hx⟩
    · rintro ⟨t, ht, hx⟩
      by_cases h : t = m
      · subst h; exact .inr hx
      · exact .inl ⟨t, by omega, hx⟩

theorem mod_lt2 (x n : Nat) (hx : x < 2 * n) : x % n = if x < n then x else x - n := by
  by_cases h : x < n
  · rw [if_pos h]; exact Nat.mod_eq_of_lt h
  · rw [if_neg h]
    have e : x = (x - n) + n := by omega
    rw [e, Nat.add_mod_right, Nat.mod_eq_of_lt (by omega)]
    omega

theorem cyc_inj (n f a b : Nat) (hf : f < n) (ha : a < n) (hb : b < n) (h : (f + a) % n = (f + b) % n) : a = b := by
  rw [mod_lt2 (f + a) n (by omega), mod_lt2 (f + b) n (by omega)] at h
  split at h <;> split at h <;> omega

theorem cyc_nodup (n f : Nat) (hf : f < n) : ∀ m, m ≤ n → (cyc n f m).Nodup := by
  intro m
  induction m with
  | zero => intro _; simp [cyc]
  | succ m ih =>
    intro hm
    simp only [cyc]
    rw [List.nodup_append]
    refine ⟨ih (by omega), by simp, ?_⟩
    intro x hx y hy
    simp only [List.mem_singleton] at hy
    subst hy
    obtain ⟨t, ht, hx⟩ := (mem_cyc n f m x).mp hx
    intro he
    rw [hx] at he
    have := cyc_inj n f t m hf (by omega) (by omega) he
    omega

theorem cyc_full (n f i : Nat) (hf : f < n) (hi : i < n) : i ∈ cyc n f n := by
  rw [mem_cyc]
  by_cases h : f ≤ i
  · exact ⟨i - f, by omega, by rw [show f + (i - f) = i by omega, Nat.mod_eq_of_lt hi]⟩
  · refine ⟨i + n - f, by omega, ?_⟩
    rw [show f + (i + n - f) = i + n by omega, Nat.add_mod_right, Nat.mod_eq_of_lt hi]

theorem cyc_back (n f m : Nat) (hf : f < n) (h0 : 0 < m) (hm : m ≤ n) (h : (f + m) % n = f) : m = n := by
  rw [mod_lt2 (f + m) n (by omega)] at h
  split at h <;> omega

theorem cyc_round (n f : Nat) (hf : f < n) : (f + n) % n = f := by
  rw [Nat.add_mod_right, Nat.mod_eq_of_lt hf]

/-- Turn bookkeeping of a token visit: `fa` = `first_app` of the visit's `UseTokenData`, `j` =
`next_application`, `D` = the applications that declined in this visit so far, in order.  Either nobody
declined yet, or the decliners are `first_app` and its cyclic successors — fewer than all — and the turn
is at the next successor. -/
def VTurn (n : Nat) (fa : Option Nat) (j : Nat) (D : List Nat) : Prop :=
  match fa with
  | none => D = []
  | some f => ∃ m, 0 < m ∧ m < n ∧ f < n ∧ D = cyc n f m ∧ j = (f + m) % n

theorem vturn_notin {n : Nat} {fa : Option Nat} {j : Nat} {D : List Nat} (h : VTurn n fa j D) : j ∉ D := by
  cases fa with
  | none => simp only [VTurn] at h; rw [h]; simp
  | some f =>
    obtain ⟨m, h0, hm, hf, hD, hj⟩ := h
    rw [hD, mem_cyc]
    rintro ⟨t, ht, he⟩
    rw [hj] at he
    have := cyc_inj n f m t hf hm (by omega) he
    omega

theorem vturn_nodup {n : Nat} {fa : Option Nat} {j : Nat} {D : List Nat} (h : VTurn n fa j D) : D.Nodup := by
  cases fa with
  | none => simp only [VTurn] at h; rw [h]; simp
  | some f =>
    obtain ⟨m, h0, hm, hf, hD, hj⟩ := h
    rw [hD]; exact cyc_nodup n f hf m (by omega)

theorem vturn_length {n : Nat} {fa : Option Nat} {j : Nat} {D : List Nat} (h : VTurn n fa j D) (hn : 0 < n) : D.length < n := by
  cases fa with
  | none => simp only [VTurn] at h; rw [h]; exact hn
  | some f =>
    obtain ⟨m, h0, hm, hf, hD, hj⟩ := h
    rw [hD, cyc_length]; exact hm

/-- Every `transmit_telegram` of the log goes to an application that has not declined before — neither
in `D` (earlier in the visit) nor earlier in this log. -/
def askFresh : List Nat → List AppCall → Prop
  | _, [] => True
  | D, .transmit i _ .decline :: rest => i ∉ D ∧ askFresh (D ++ [i]) rest
  | D, .transmit i _ (.send ..) :: rest => i ∉ D ∧ askFresh D rest
  | D, .reply .. :: rest => askFresh D rest
  | D, .timeout .. :: rest => askFresh D rest

theorem askFresh_append : ∀ (l1 l2 : List AppCall) (D : List Nat), askFresh D l1 → askFresh (D ++ declinesOf l1) l2 →
    askFresh D (l1 ++ l2) := by
  intro l1
  induction l1 with
  | nil => intro l2 D _ h; simpa [declinesOf] using h
  | cons r rest ih =>
    intro l2 D h1 h2
    cases r with
    | transmit i hp ans =>
      cases ans with
      | decline =>
        simp only [askFresh, List.cons_append] at h1 ⊢
        refine ⟨h1.1, ih l2 _ h1.2 ?_⟩
        simpa [declinesOf] using h2
      | send hd pdu =>
        simp only [askFresh, List.cons_append] at h1 ⊢
        exact ⟨h1.1, ih l2 _ h1.2 (by simpa [declinesOf] using h2)⟩
    | reply i a t =>
      simp only [askFresh, List.cons_append] at h1 ⊢
      exact ih l2 _ h1 (by simpa [declinesOf] using h2)
    | timeout i a =>
      simp only [askFresh, List.cons_append] at h1 ⊢
      exact ih l2 _ h1 (by simpa [declinesOf] using h2)

theorem askFresh_notin : ∀ (l : List AppCall) (D : List Nat), askFresh D l → ∀ x ∈ D, ∀ hp ans, AppCall.transmit x hp ans ∉ l := by
  intro l
  induction l with
  | nil => intro D _ x _ hp ans h; cases h
  | cons r rest ih =>
    intro D h x hx hp ans hmem
    cases r with
    | transmit i hp' ans' =>
      cases ans' with
      | decline =>
        simp only [askFresh] at h
        rcases List.mem_cons.mp hmem with he | hmem
        · cases he; exact h.1 hx
        · exact ih _ h.2 x (by simp [hx]) hp ans hmem
      | send hd pdu =>
        simp only [askFresh] at h
        rcases List.mem_cons.mp hmem with he | hmem
        · cases he; exact h.1 hx
        · exact ih _ h.2 x hx hp ans hmem
    | reply i a t =>
      simp only [askFresh] at h
      rcases List.mem_cons.mp hmem with he | hmem
      · cases he
      · exact ih _ h x hx hp ans hmem
    | timeout i a =>
      simp only [askFresh] at h
      rcases List.mem_cons.mp hmem with he | hmem
      · cases he
      · exact ih _ h x hx hp ans hmem

theorem askFresh_decline : ∀ (pre : List AppCall) (D : List Nat) (l post : List AppCall) (i : Nat) (hp : Bool),
    askFresh D l → l = pre ++ .transmit i hp .decline :: post → ∀ hp' ans, AppCall.transmit i hp' ans ∉ post := by
  intro pre
  induction pre with
  | nil =>
    intro D l post i hp h he hp' ans
    subst he
    simp only [List.nil_append, askFresh] at h
    exact askFresh_notin post _ h.2 i (by simp) hp' ans
  | cons r rest ih =>
    intro D l post i hp h he hp' ans
    subst he
    cases r with
    | transmit i' hp'' ans' =>
      cases ans' with
      | decline => simp only [List.cons_append, askFresh] at h; exact ih _ _ post i hp h.2 rfl hp' ans
      | send hd pdu => simp only [List.cons_append, askFresh] at h; exact ih _ _ post i hp h.2 rfl hp' ans
    | reply i' a t => simp only [List.cons_append, askFresh] at h; exact ih _ _ post i hp h rfl hp' ans
    | timeout i' a => simp only [List.cons_append, askFresh] at h; exact ih _ _ post i hp h rfl hp' ans

theorem cyc_append (n f a : Nat) : ∀ m, cyc n f a ++ cyc n ((f + a) % n) m = cyc n f (a + m) := by
  intro m
  induction m with
  | zero => simp [cyc]
  | succ m ih => rw [cyc, ← List.append_assoc, ih, Nat.mod_add_mod, Nat.add_assoc]; rfl

/-- As long as the turn has not come back to `f`, fewer than a full round has been made. -/
theorem cyc_bound (n f a T : Nat) (hf : f < n) (ha : a < n) (h : ∀ t, 0 < t → t < T → (f + a + t) % n ≠ f) :
    a + T ≤ n := by
  apply Nat.le_of_not_lt
  intro hlt
  exact h (n - a) (by omega) (by omega) (by rw [show f + a + (n - a) = f + n by omega]; exact cyc_round n f hf)

theorem declinesOf_declines (hp : Bool) (l : List Nat) : declinesOf (declines hp l) = l := by
  induction l with
  | nil => rfl
  | cons i l ih => simp only [declines, List.map_cons, declinesOf] at ih ⊢; rw [ih]

theorem askFresh_declines (hp : Bool) : ∀ (l D : List Nat), (D ++ l).Nodup → askFresh D (declines hp l)
  | [], _, _ => trivial
  | i :: l, D, h => by
    refine ⟨fun hi => (List.nodup_append.mp h).2.2 i hi i (by simp) rfl, askFresh_declines hp l (D ++ [i]) (by simpa using h)⟩

/-- The arithmetic of one pass through the application loop that started at turn `j`, `a` applications from
`first_app = f` having declined before: `m` more declines stay within one round, and a loop that ended without
a transmission has completed the round. -/
theorem turn_core (n f a m k j : Nat) (b : Bool) (hf : f < n) (ha : a < n) (hj : j = (f + a) % n)
    (hns : ∀ t, 0 < t → (t < m ∨ (t = m ∧ b = true)) → (j + t) % n ≠ f) :
    a + m ≤ n ∧ (b = true → a + m < n) ∧
    (b = false → (m = k ∨ (0 < m ∧ (j + m) % n = f)) → n ≤ a + k → a + m = n) := by
  have hidx : ∀ t, (j + t) % n = (f + a + t) % n := fun t => by rw [hj, Nat.mod_add_mod]
  have h1 : a + m ≤ n := cyc_bound n f a m hf ha fun t h0 h1 => by rw [← hidx]; exact hns t h0 (.inl h1)
  refine ⟨h1, ?_, ?_⟩
  · intro hb
    have := cyc_bound n f a (m + 1) hf ha fun t h0 h1 => by
      rw [← hidx]
      exact hns t h0 (by rcases Nat.lt_or_ge t m with h | h; exact .inl h; exact .inr ⟨by omega, hb⟩)
    omega
  · intro _ hstop hk
    rcases hstop with rfl | ⟨h0, hs⟩
    · omega
    · rw [hidx, Nat.add_assoc] at hs
      exact cyc_back n f (a + m) hf (by omega) h1 hs

/-- `apps_transmit_telegram` with the visit's turn bookkeeping: every application asked has not declined
in this visit; if something is sent the bookkeeping carries on; if nobody sends, there are no
applications or now EVERY application has declined exactly once in this visit (one full round from
`first_app`). -/
theorem appsTransmit_turn {now : Int} {hp : Bool} {n k m : Nat} {c c1 : Ctx} {b : Bool} {d : UseData} {fcd : Bool}
    {D : List Nat} (hm : AppLoop now hp k c d fcd m b c1) (hlen : c.apps.length = n)
    (hv : VTurn n d.firstApp c.s.nextApp D) (hk : n ≤ D.length + k) :
    ∃ new, c1.calls = c.calls ++ new ∧ askFresh D new ∧
      (b = true → ∃ d', (c1.s.st = .useToken d' fcd ∨ ∃ a, c1.s.st = .awaitData a d') ∧
          VTurn n d'.firstApp c1.s.nextApp (D ++ declinesOf new)) ∧
      (b = false → n = 0 ∨ ∃ f, f < n ∧ D ++ declinesOf new = cyc n f n) := by
  by_cases hask : 0 < m ∨ b = true
  · have hlt : c.s.nextApp < n := hlen ▸ hm.lt hask
    -- `f`, `a`: `first_app` and the number of decliners before this loop (none yet: `f` is the turn itself)
    obtain ⟨f, a, hf, ha, hD, hj, hfirst, hfa⟩ : ∃ f a, f < n ∧ a < n ∧ D = cyc n f a ∧ c.s.nextApp = (f + a) % n ∧
        d.firstApp.getD c.s.nextApp = f ∧
        (visitAfter d c.s.nextApp m).firstApp = if a + m = 0 then none else some f := by
      cases hfa : d.firstApp with
      | none =>
        rw [hfa] at hv
        refine ⟨c.s.nextApp, 0, hlt, by omega, hv, (Nat.mod_eq_of_lt hlt).symm, rfl, ?_⟩
        cases m <;> simp [visitAfter, hfa]
      | some f =>
        rw [hfa] at hv
        obtain ⟨a, h0, han, hfn, hD, hj⟩ := hv
        refine ⟨f, a, hfn, han, hD, hj, rfl, ?_⟩
        cases m <;> simp [visitAfter, hfa] <;> omega
    obtain ⟨hle, hbt, hbf⟩ := turn_core n f a m k c.s.nextApp b hf ha hj (by rw [← hfirst, ← hlen]; exact hm.nostop)
    have hE : D ++ cyc n c.s.nextApp m = cyc n f (a + m) := by rw [hD, hj, cyc_append]
    have hnx : c1.s.nextApp = (f + (a + m)) % n := by
      rw [hm.next_mod (hlen ▸ hlt), hlen, hj, Nat.mod_add_mod, Nat.add_assoc]
    have hfresh : askFresh D (declines hp (cyc n c.s.nextApp m)) :=
      askFresh_declines hp _ D (by rw [hE]; exact cyc_nodup n f hf _ hle)
    cases b with
    | false =>
      obtain ⟨e1, -, -, e4⟩ := hm.quiet rfl
      rw [hlen] at e1 e4
      refine ⟨_, e1, hfresh, (by intro hb; cases hb), fun _ => .inr ⟨f, hf, ?_⟩⟩
      rw [declinesOf_declines, hE, hbf rfl (by rw [← hfirst]; exact e4) (by rw [hD, cyc_length] at hk; exact hk)]
    | true =>
      obtain ⟨hd, pdu, bytes, e1, -, e3⟩ := hm.sent rfl
      rw [hlen] at e1
      have hv' : VTurn n (visitAfter d c.s.nextApp m).firstApp c1.s.nextApp (cyc n f (a + m)) := by
        rw [hfa]
        by_cases h0 : a + m = 0
        · rw [if_pos h0, h0]; rfl
        · rw [if_neg h0]; exact ⟨a + m, by omega, hbt rfl, hf, rfl, hnx⟩
      refine ⟨_, by rw [e1, List.append_assoc], ?_, fun _ => ⟨visitAfter d c.s.nextApp m, ?_, ?_⟩, (by intro hb; cases hb)⟩
      · refine askFresh_append _ _ D hfresh ⟨?_, trivial⟩
        rw [declinesOf_declines, hE]
        exact vturn_notin hv'
      · rcases e3 with ⟨-, e3⟩ | ⟨a8, -, e3⟩
        · exact .inl e3
        · exact .inr ⟨_, e3⟩
      · rw [declinesOf_append, declinesOf_declines, ← List.append_assoc, hE]
        simpa [declinesOf] using hv'
  · -- nobody was asked: the loop had no iterations left
    have hm0 : m = 0 := by omega
    have hb : b = false := by cases b <;> simp_all
    subst hm0; subst hb
    obtain ⟨e1, -, -, e4⟩ := hm.quiet rfl
    rw [hlen] at e1
    refine ⟨_, e1, trivial, (by intro hb; cases hb), fun _ => ?_⟩
    by_cases hn : n = 0
    · exact .inl hn
    · have := vturn_length hv (by omega)
      rcases e4 with e4 | ⟨e4, -⟩ <;> omega

/-- Outcome of a token-visit step under the turn bookkeeping (`D` = decliners of the visit so far, `over`
= the hold time is over): every application asked is one that has not declined in this visit, and
* nothing happened (waiting for the synchronisation pause / the reply / the own transmission), or
* the visit continues (`UseToken` with `first_cycle_done`, or `AwaitDataResponse`) and the bookkeeping
  carries on with the new decliners, or
* an inadmissible telegram arrived while awaiting a reply: back-off to `ActiveIdle`, or
* the token hold was ended — and then the hold time is over, or there are no applications, or every
  application has declined exactly once in this visit (one full round from `first_app`). -/
def TurnPost (n : Nat) (D : List Nat) (c c' : Ctx) (now : Int) (over : Prop) : Prop :=
  ∃ new, c'.calls = c.calls ++ new ∧ askFresh D new ∧
   ((new = [] ∧ c'.s.st = c.s.st ∧ c'.s.nextApp = c.s.nextApp) ∨
    (∃ d', (c'.s.st = .useToken d' true ∨ ∃ a, c'.s.st = .awaitData a d') ∧
        VTurn n d'.firstApp c'.s.nextApp (D ++ declinesOf new)) ∨
    (c'.s.st = .activeIdle none none 0) ∨
    (Passed c'.s now ∧ (over ∨ n = 0 ∨ ∃ f, f < n ∧ D ++ declinesOf new = cyc n f n)))

theorem TurnPost.lift {n : Nat} {D : List Nat} {c0 c c' : Ctx} {now : Int} {over over' : Prop}
    (e1 : c0.calls = c.calls) (e2 : c0.s.st = c.s.st) (e3 : c0.s.nextApp = c.s.nextApp) (ho : over → over')
    (h : TurnPost n D c0 c' now over) : TurnPost n D c c' now over' := by
  obtain ⟨new, hc, hf, hcase⟩ := h
  refine ⟨new, by rw [hc, e1], hf, ?_⟩
  rcases hcase with ⟨h1, h2, h3⟩ | h | h | ⟨h1, h2 | h2⟩
  · exact .inl ⟨h1, h2.trans e2, h3.trans e3⟩
  · exact .inr (.inl h)
  · exact .inr (.inr (.inl h))
  · exact .inr (.inr (.inr ⟨h1, .inl (ho h2)⟩))
  · exact .inr (.inr (.inr ⟨h1, .inr h2⟩))

theorem doUseToken_turn {n : Nat} {D : List Nat} {c c' : Ctx} {now : Int} {d : UseData} {fcd : Bool}
    (h : doUseToken c now = .ok c') (hst : c.s.st = .useToken d fcd) (hlen : c.apps.length = n)
    (hv : VTurn n d.firstApp c.s.nextApp D) :
    TurnPost n D c c' now (¬ now < (holdUpdate c.s d).endTokenHoldTime) := by
  have hs := doUseToken_step now hst
  rw [h] at hs
  -- `held c now d` has the callbacks, scripts, FDL state and turn of `c`
  cases hs with
  | wait _ => exact ⟨[], (List.append_nil _).symm, trivial, .inl ⟨rfl, rfl, rfl⟩⟩
  | pass _ hover _ hp =>
    obtain ⟨e1, -, -, hps⟩ := passNow_keeps (c := held c now d) hst hp
    exact ⟨[], by rw [e1]; exact (List.append_nil _).symm, trivial, .inr (.inr (.inr ⟨hps, .inl hover⟩))⟩
  | go _ _ hgo =>
    have hg := useTokenGo_step (held c now d) now d (!decide (now < holdEnd c.s d))
    rw [hgo] at hg
    cases hg with
    | cycle hm =>
      obtain ⟨new, e1, hf, hbt, -⟩ := appsTransmit_turn hm hlen hv (hlen ▸ Nat.le_add_left _ _)
      exact ⟨new, e1, hf, .inr (.inl (hbt rfl))⟩
    | pass hm hp =>
      obtain ⟨new, e1, hf, -, hbf⟩ := appsTransmit_turn hm hlen hv (hlen ▸ Nat.le_add_left _ _)
      obtain ⟨f1, -, -, hps⟩ := passNow_keeps (hm.quiet rfl).2.2.1 hp
      exact ⟨new, f1.trans e1, hf, .inr (.inr (.inr ⟨hps, .inr (hbf rfl)⟩))⟩

theorem doAwaitDataResponse_turn {n : Nat} {D : List Nat} {c c' : Ctx} {now : Int} {a : Nat} {d : UseData}
    (h : doAwaitDataResponse c now = .ok c') (hst : c.s.st = .awaitData a d) (hlen : c.apps.length = n)
    (hv : VTurn n d.firstApp c.s.nextApp D) :
    TurnPost n D c c' now (¬ now < (holdUpdate c.s d).endTokenHoldTime) := by
  have hs := doAwaitDataResponse_step now hst
  rw [h] at hs
  cases hs with
  | waits _ _ _ => exact ⟨[], (List.append_nil _).symm, trivial, .inl ⟨rfl, rfl, rfl⟩⟩
  | reply _ _ _ =>
    exact ⟨[.reply c.s.nextApp a _], rfl, trivial, .inr (.inl ⟨d, .inl rfl, by rw [declinesOf, declinesOf, List.append_nil]; exact hv⟩)⟩
  | backOff _ _ _ => exact ⟨[], (List.append_nil _).symm, trivial, .inr (.inr (.inl rfl))⟩
  | timeout _ _ _ hu =>
    -- the visit goes on in `UseToken(d, true)` after the time-out, which is no decline
    obtain ⟨new, hc, hf, hcase⟩ := doUseToken_turn hu rfl hlen hv
    have hover : ¬ now < (holdUpdate { (StationGap.stamped c.s now) with st := .useToken d true } d).endTokenHoldTime →
        ¬ now < (holdUpdate c.s d).endTokenHoldTime := fun ho => by
      rwa [hold_end_congr { (StationGap.stamped c.s now) with st := .useToken d true } c.s d rfl rfl rfl rfl] at ho
    refine ⟨.timeout c.s.nextApp a :: new, by rw [hc]; exact List.append_assoc .., hf, ?_⟩
    rcases hcase with ⟨h1, h2, h3⟩ | h' | h1 | ⟨h1, h2 | h2⟩
    · subst h1
      exact .inr (.inl ⟨d, .inl h2, by rw [h3, declinesOf, declinesOf, List.append_nil]; exact hv⟩)
    · exact .inr (.inl h')
    · exact .inr (.inr (.inl h1))
    · exact .inr (.inr (.inr ⟨h1, .inl (hover h2)⟩))
    · exact .inr (.inr (.inr ⟨h1, .inr h2⟩))

/-- The `UseTokenData` of the current token visit, if the station is in one. -/
def visitData (s : Station) : Option UseData :=
  match s.st with
  | .useToken d _ => some d
  | .awaitData _ d => some d
  | _ => none

theorem visitData_cases {s : Station} {d : UseData} (h : visitData s = some d) :
    (∃ fcd, s.st = .useToken d fcd) ∨ (∃ a, s.st = .awaitData a d) := by
  unfold visitData at h
  cases hst : s.st <;> rw [hst] at h <;> simp at h
  · subst h; exact .inl ⟨_, rfl⟩
  · subst h; exact .inr ⟨_, rfl⟩

theorem visitData_holding {s : Station} {d : UseData} (h : visitData s = some d) : AppHolding s := by
  rcases visitData_cases h with ⟨fcd, h⟩ | ⟨a, h⟩
  · exact .inl ⟨d, fcd, h⟩
  · exact .inr ⟨a, d, h⟩

theorem poll_turn (s : Station) (apps : Apps) (now : Int) (phy : Bool) (rx : Bytes) (c' : Ctx) (d : UseData)
    (D : List Nat) (hd : visitData s = some d) (hv : VTurn apps.length d.firstApp s.nextApp D)
    (h : s.poll apps now phy rx = .ok c') :
    TurnPost apps.length D { s := s, apps := apps, rx := rx } c' now (¬ now < (holdUpdate s d).endTokenHoldTime) := by
  -- `check_for_bus_activity` moves the stamp and the pending-byte count only
  have fin : ∀ lba pb,
      TurnPost apps.length D { s := { s with lastBusActivity := lba, pendingBytes := pb }, apps := apps, rx := rx } c' now
        (¬ now < (holdUpdate { s with lastBusActivity := lba, pendingBytes := pb } d).endTokenHoldTime) →
      TurnPost apps.length D { s := s, apps := apps, rx := rx } c' now (¬ now < (holdUpdate s d).endTokenHoldTime) := by
    intro lba pb
    refine TurnPost.lift rfl rfl rfl fun ho => ?_
    rwa [hold_end_congr { s with lastBusActivity := lba, pendingBytes := pb } s d rfl rfl rfl rfl] at ho
  have hne : s.st ≠ .offline ∧ s.st ≠ .passiveIdle := by
    rcases visitData_cases hd with ⟨fcd, hst⟩ | ⟨a, hst⟩ <;> rw [hst] <;> exact ⟨nofun, nofun⟩
  rcases StationGap.poll_cases s apps now phy rx c' hne.1 hne.2 h with rfl | hdis
  · exact ⟨[], rfl, trivial, .inl ⟨rfl, rfl, rfl⟩⟩
  · rw [checkBusActivity_eq] at hdis
    rcases visitData_cases hd with ⟨fcd, hst⟩ | ⟨a, hst⟩
    · rw [dispatch_useToken now hst] at hdis
      exact fin _ _ (doUseToken_turn hdis hst rfl hv)
    · rw [dispatch_awaitData now hst] at hdis
      exact fin _ _ (doAwaitDataResponse_turn hdis hst rfl hv)

end PV

namespace PV.C15
open PV PV.C05

/-- Visit invariant: the station is inside a token visit whose `first_app` / `next_application`
bookkeeping matches the list `D` of applications that declined in this visit so far. -/
def VInv (n : Nat) (s : Station) (D : List Nat) : Prop :=
  ∃ d, visitData s = some d ∧ VTurn n d.firstApp s.nextApp D

/-- The token hold continues over a call that made the callbacks `l`: afterwards the station is in
`UseToken` with `first_cycle_done`, or in `AwaitDataResponse`, or nothing happened at all. -/
def Continues (w w' : World) (l : List AppCall) : Prop :=
  (∃ d, w'.s.st = .useToken d true) ∨ (∃ a d, w'.s.st = .awaitData a d) ∨ (w'.s.st = w.s.st ∧ l = [])

/-- Why `do_use_token` may end a token hold at time `now`, `Dl` being the applications that declined in
the visit (this poll included). -/
def EndReason (w : World) (now : Int) (Dl : List Nat) : Prop :=
  (∃ d, visitData w.s = some d ∧ ¬ now < (holdUpdate w.s d).endTokenHoldTime) ∨ w.apps.length = 0 ∨
  (∃ f, f < w.apps.length ∧ Dl = cyc w.apps.length f w.apps.length)

theorem visit_step (w w' : World) (now : Int) (phy : Bool) (arr : Bytes) (l : List AppCall) (D : List Nat)
    (hi : VInv w.apps.length w.s D) (hs : w.stepLog (.poll now phy arr) = some (w', l)) :
    askFresh D l ∧ w'.apps.length = w.apps.length ∧
    (Continues w w' l → VInv w'.apps.length w'.s (D ++ declinesOf l)) ∧
    (¬ Continues w w' l → w'.s.st = .activeIdle none none 0 ∨ EndReason w now (D ++ declinesOf l)) := by
  obtain ⟨d, hd, hv⟩ := hi
  obtain ⟨c, hc, rfl, rfl⟩ := stepLog_poll hs
  have hlen := (poll_frame _ _ _ _ _ _ hc).2
  obtain ⟨new, hcalls, hf, hcase⟩ := poll_turn _ _ _ _ _ _ d D hd hv hc
  simp only [List.nil_append] at hcalls
  rw [hcalls]
  refine ⟨hf, hlen, ?_, ?_⟩
  · intro hcont
    show VInv c.apps.length c.s (D ++ declinesOf new)
    rw [hlen]
    rcases hcase with ⟨h1, h2, h3⟩ | ⟨d', hs', hv'⟩ | h1 | ⟨hp, -⟩
    · subst h1
      refine ⟨d, ?_, by simpa [declinesOf, h3] using hv⟩
      simp only at h2
      unfold visitData at hd ⊢; rw [h2]; exact hd
    · refine ⟨d', ?_, hv'⟩
      rcases hs' with h | ⟨a, h⟩ <;> (unfold visitData; rw [h])
    · exfalso
      rcases hcont with ⟨d', h⟩ | ⟨a, d', h⟩ | ⟨h, -⟩
      · simp only at h; rw [h1] at h; cases h
      · simp only at h; rw [h1] at h; cases h
      · simp only at h
        rcases visitData_cases hd with ⟨fcd, h'⟩ | ⟨a, h'⟩ <;> rw [h1, h'] at h <;> cases h
    · rcases hcont with ⟨d', h⟩ | ⟨a, d', h⟩ | ⟨h, hl⟩
      · exfalso; simp only at h
        rcases hp with h' | ⟨a, h'⟩ | h' | h' <;> rw [h'] at h <;> cases h
      · exfalso; simp only at h
        rcases hp with h' | ⟨a', h'⟩ | h' | h' <;> rw [h'] at h <;> cases h
      · simp only at h
        subst hl
        rcases hp with h' | ⟨a, h'⟩ | h' | h'
        · exfalso; rcases visitData_cases hd with ⟨fcd, h''⟩ | ⟨a, h''⟩ <;> rw [h', h''] at h <;> cases h
        · exfalso; rcases visitData_cases hd with ⟨fcd, h''⟩ | ⟨a', h''⟩ <;> rw [h', h''] at h <;> cases h
        · have hd' : visitData c.s = some d := by unfold visitData at hd ⊢; rw [h]; exact hd
          have hdn : d = ⟨now, none⟩ := by
            unfold visitData at hd'; rw [h'] at hd'; simp at hd'; exact hd'.symm
          subst hdn
          have hD : D = [] := hv
          subst hD
          exact ⟨_, hd', rfl⟩
        · exfalso; rcases visitData_cases hd with ⟨fcd, h''⟩ | ⟨a', h''⟩ <;> rw [h', h''] at h <;> cases h
  · intro hnc
    rcases hcase with ⟨h1, h2, h3⟩ | ⟨d', hs', hv'⟩ | h1 | ⟨hp, hr⟩
    · exact absurd (.inr (.inr ⟨h2, h1⟩)) hnc
    · exfalso
      rcases hs' with h | ⟨a, h⟩
      · exact hnc (.inl ⟨d', h⟩)
      · exact hnc (.inr (.inl ⟨a, d', h⟩))
    · exact .inl h1
    · right
      rcases hr with h | h | h
      · exact .inl ⟨d, hd, h⟩
      · exact .inr (.inl h)
      · exact .inr (.inr h)

/-- A call sequence during which the token hold continues: polls only, each of them `Continues`. -/
def HoldRun : World → List ApiCall → Prop
  | _, [] => True
  | w, a :: rest => (∃ now phy arr, a = .poll now phy arr) ∧
      ∀ w1 l, w.stepLog a = some (w1, l) → Continues w w1 l ∧ HoldRun w1 rest

theorem visit_run (calls : List ApiCall) (w w' : World) (log : List AppCall) (D : List Nat)
    (hi : VInv w.apps.length w.s D) (hrun : HoldRun w calls) (h : w.runLog calls = some (w', log)) :
    askFresh D log ∧ w'.apps.length = w.apps.length ∧ VInv w'.apps.length w'.s (D ++ declinesOf log) := by
  have := runLog_lift
    (fun w1 lg => askFresh D lg ∧ w1.apps.length = w.apps.length ∧ VInv w1.apps.length w1.s (D ++ declinesOf lg)) HoldRun
    (fun w1 a rest w2 l lg hg hi1 hs => by
      obtain ⟨⟨now, phy, arr, ha⟩, hrest⟩ := hg
      subst ha
      obtain ⟨hcont, hrun2⟩ := hrest w2 l hs
      obtain ⟨hf, hl, hinv, -⟩ := visit_step w1 w2 now phy arr l _ hi1.2.2 hs
      exact ⟨⟨askFresh_append _ _ _ hi1.1 hf, hl.trans hi1.2.1, by simpa [declinesOf_append] using hinv hcont⟩, hrun2⟩)
    calls w w' [] log hrun ⟨trivial, rfl, by simpa [declinesOf] using hi⟩ h
  simpa using this

end PV.C15
