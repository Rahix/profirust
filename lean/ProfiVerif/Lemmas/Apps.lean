/-
The live list and the DP scanner for C18 (property theorems: `Props/C18.lean`).  `App ε` is the part in which `LiveList`
and `DpScanner` differ (their `receive_reply`, the "lost" event constructor, which events count as appearance /
disappearance), `App.Spec` the facts about `receive_reply` the proofs need.  `Op`, `Ghost`, `gstep`, `grun`: histories of
callbacks as the FDL station may deliver them (the C15 contract is built into `gstep`: an operation the contract forbids
is `refused`), with ghost observations (last probe, per-address bit changes, taken events, how long the population has
been stable).  The invariants `Struct`, `Track`, `Ev` come with `init` / `step` lemmas and are lifted over histories.
At the end the two instances: `llApp` (live list) and `scApp` (DP scanner) with their `Spec`s.
-/
import ProfiVerif.Model.Scanner

namespace PV.Apps

theorem getD_set (l : List Bool) (a w : Nat) (v : Bool) :
    (l.set a v).getD w false = if a = w ∧ a < l.length then v else l.getD w false := by
  simp only [List.getD_eq_getElem?_getD, List.getElem?_set]
  by_cases h : a = w
  · subst h
    by_cases h2 : a < l.length
    · simp [h2]
    · simp [h2]
  · simp [h]

theorem lt_of_getElem? {l : List Bool} {a : Nat} {v : Bool} (h : l[a]? = some v) : a < l.length := by
  rcases Nat.lt_or_ge a l.length with h1 | h1
  · exact h1
  · rw [List.getElem?_eq_none h1] at h; cases h

theorem set_self (l : List Bool) (a : Nat) (v : Bool) (h : l[a]? = some v) : l.set a v = l := by
  apply List.ext_getElem?
  intro i
  rw [List.getElem?_set]
  by_cases hi : a = i
  · subst hi
    rw [h]; simp [lt_of_getElem? h]
  · simp [hi]

theorem getD_of_getElem? (l : List Bool) (a : Nat) (v : Bool) (h : l[a]? = some v) : l.getD a false = v := by
  simp [List.getD_eq_getElem?_getD, h]

/-- Alternation of a newest-first list of Booleans whose *oldest* element is `true`
(`true` = appeared, `false` = disappeared). -/
def alt : List Bool → Bool
  | [] => true
  | [b] => b
  | b :: c :: r => (b != c) && alt (c :: r)

theorem alt_tail (b : Bool) (l : List Bool) (h : alt (b :: l) = true) : alt l = true := by
  cases l with
  | nil => rfl
  | cons c r => simp [alt] at h; exact h.2

theorem alt_push (v : Bool) (l : List Bool) (h : alt l = true) (hv : v ≠ l.headD false) : alt (v :: l) = true := by
  cases l with
  | nil => cases v <;> simp_all [alt]
  | cons c r => simp_all [alt]

/-- What distinguishes the two applications. -/
structure App (ε : Type) where
  /-- `receive_reply` -/
  reply : Sweep ε → Nat → Telegram → Outcome (Sweep ε)
  /-- constructor of the event `handle_timeout` emits -/
  lost : Nat → ε
  /-- events that report a change: `(address, appeared?)`; `none` for `PeripheralRequery` -/
  kind : ε → Option (Nat × Bool)
  /-- replies that make an unknown station known -/
  accepts : Telegram → Bool
  /-- the station bit after a reply, given the bit before -/
  bit : Bool → Telegram → Bool
  /-- replies of the stated population (environment hypothesis of `events_alternate`) -/
  good : Telegram → Bool

/-- The facts about `receive_reply` the generic proofs use. -/
structure App.Spec {ε : Type} (A : App ε) : Prop where
  kind_lost : ∀ a, A.kind (A.lost a) = some (a, false)
  reply_ok : ∀ (s : Sweep ε) (a : Nat) (t : Telegram) (old : Bool), s.stations[a]? = some old →
    ∃ e, A.reply s a t = .ok { s with done := true, pending := e, stations := s.stations.set a (A.bit old t) }
      ∧ (A.good t = true → e.bind A.kind = if A.bit old t ≠ old then some (a, A.bit old t) else none)
  bit_of_accepts : ∀ (old : Bool) (t : Telegram), A.accepts t = true → A.bit old t = true
  reply_panic : ∀ (s : Sweep ε) (a : Nat) (t : Telegram), s.stations[a]? = none → A.reply s a t = .panic

theorem timeout_ok {ε : Type} (lost : Nat → ε) (s : Sweep ε) (a : Nat) (old : Bool) (h : s.stations[a]? = some old) :
    s.handleTimeout lost a =
      .ok { s with done := true, pending := if old then some (lost a) else s.pending, stations := s.stations.set a false } := by
  unfold Sweep.handleTimeout
  cases old with
  | true => simp [h]
  | false => simp [h, set_self _ _ _ h]

theorem timeout_panic {ε : Type} (lost : Nat → ε) (s : Sweep ε) (a : Nat) (h : s.stations[a]? = none) :
    s.handleTimeout lost a = .panic := by
  unfold Sweep.handleTimeout; simp [h]

inductive Op
  | tx
  | reply (a : Nat) (t : Telegram)
  | timeout (a : Nat)
  | take

inductive Res (α : Type)
  | ok (a : α)
  | panic
  | refused

/-- What the FDL station may hand to `receive_reply(addr = a, …)`: a short confirmation, or a data
telegram with a *response* function code, SA = `a` and DA = own address (`do_await_data_response`). -/
def replyAllowed (own a : Nat) : Telegram → Bool
  | .sc => true
  | .data h _ => h.sa.toNat == a && h.da.toNat == own &&
      (match h.fc with | .response _ _ => true | .request _ _ => false)
  | .token _ _ => false

/-- The change (if any) the pending event reports for address `w`. -/
def pendFor {ε : Type} (A : App ε) (w : Nat) (s : Sweep ε) : List Bool :=
  match s.pending.bind A.kind with
  | some (a, b) => if a = w then [b] else []
  | none => []

/-- Model state plus ghost observations.  `R` (a parameter of `gstep`) is the population the
history is compared with; the per-address observations are functions of the address. -/
structure Ghost (ε : Type) where
  s : Sweep ε
  /-- address a reply is outstanding from (the contract automaton) -/
  out : Option Nat
  /-- callbacks (`receive_reply` / `handle_timeout`) delivered so far -/
  n : Nat
  /-- last probed address, and whether its callback has been delivered -/
  lastProbe : Option (Nat × Bool)
  /-- the last `transmit_telegram` returned `None` (or none was made yet) -/
  idle : Bool
  /-- a callback was delivered and `take_last_event` has not been called since -/
  dirty : Bool
  /-- sticky: `take_last_event` was called between any two callbacks -/
  collected : Bool
  /-- sticky: every reply so far was `A.good` -/
  goodReplies : Bool
  /-- sticky: after every reply so far the station bit was `A.accepts` of that reply -/
  noStale : Bool
  /-- number of most recent callbacks that agree with the population `R` -/
  stable : Nat
  /-- per address: callbacks delivered since the last callback for it -/
  age : Nat → Option Nat
  /-- per address: did its last callback report an accepted reply? -/
  beh : Nat → Option Bool
  /-- per address: changes reported by the events taken so far, newest first -/
  evs : Nat → List Bool
  /-- per address: actual changes of its station bit, newest first -/
  chg : Nat → List Bool

def Ghost.init {ε : Type} : Ghost ε :=
  { s := Sweep.init, out := none, n := 0, lastProbe := none, idle := true, dirty := false,
    collected := true, goodReplies := true, noStale := true, stable := 0,
    age := fun _ => none, beh := fun _ => none, evs := fun _ => [], chg := fun _ => [] }

/-- Ghost update of a delivered callback for address `a`: `s'` new model state, `c` = it was an
accepted reply, `gd` = the telegram was `good`, `ns` = it was not a non-accepted reply of a known station. -/
def Ghost.afterCallback {ε : Type} (g : Ghost ε) (R : Nat → Bool) (a : Nat) (s' : Sweep ε) (c gd ns : Bool) : Ghost ε :=
  { s := s', out := none, n := g.n + 1,
    lastProbe := g.lastProbe.map fun p => (p.1, true),
    idle := g.idle,
    dirty := true,
    collected := g.collected && !g.dirty,
    goodReplies := g.goodReplies && gd,
    noStale := g.noStale && ns,
    stable := if c = R a then g.stable + 1 else 0,
    age := fun w => if a = w then some 0 else (g.age w).map (· + 1),
    beh := fun w => if a = w then some c else g.beh w,
    evs := g.evs,
    chg := fun w => if g.s.stations.getD w false = s'.stations.getD w false then g.chg w
           else s'.stations.getD w false :: g.chg w }

def gstep {ε : Type} (A : App ε) (own : Nat) (R : Nat → Bool) (g : Ghost ε) : Op → Res (Ghost ε)
  | .tx =>
    match g.s.transmit with
    | (s', some q) => .ok { g with s := s', out := some q, lastProbe := some (q, false), idle := false }
    | (s', none) => .ok { g with s := s', out := none, idle := true }
  | .take =>
    .ok { g with s := g.s.takeLastEvent.1, dirty := false, evs := fun w => pendFor A w g.s ++ g.evs w }
  | .reply a t =>
    if g.out ≠ some a ∨ replyAllowed own a t = false then .refused else
    match A.reply g.s a t with
    | .panic => .panic
    | .ok s' =>
      .ok (g.afterCallback R a s' (A.accepts t) (A.good t) (A.bit (g.s.stations.getD a false) t == A.accepts t))
  | .timeout a =>
    if g.out ≠ some a then .refused else
    match g.s.handleTimeout A.lost a with
    | .panic => .panic
    | .ok s' => .ok (g.afterCallback R a s' false true true)

def grun {ε : Type} (A : App ε) (own : Nat) (R : Nat → Bool) (g : Ghost ε) : List Op → Res (Ghost ε)
  | [] => .ok g
  | op :: ops =>
    match gstep A own R g op with
    | .ok g' => grun A own R g' ops
    | .panic => .panic
    | .refused => .refused

theorem grun_preserves {ε : Type} {A : App ε} {own : Nat} {R : Nat → Bool} (P : Ghost ε → Prop)
    (hstep : ∀ g op g', P g → gstep A own R g op = .ok g' → P g') (ops : List Op) :
    ∀ (g0 g : Ghost ε), P g0 → grun A own R g0 ops = .ok g → P g := by
  induction ops with
  | nil => intro g0 g h0 h; simp only [grun] at h; cases h; exact h0
  | cons op ops ih =>
    intro g0 g h0 h
    simp only [grun] at h
    cases hs : gstep A own R g0 op with
    | ok g1 => rw [hs] at h; exact ih g1 g (hstep g0 op g1 h0 hs) h
    | panic => rw [hs] at h; cases h
    | refused => rw [hs] at h; cases h

/-- Cursor and contract automaton against the count `n` of delivered callbacks.  One callback per address, in order: before
the callback of the address under the cursor (`done = false`) the cursor is `n % 126` (`cur_n`), after it one behind
(`cur_d`).  `lp_*`: the last probe against `out`, cursor, `done` and `idle`, by whether its callback was delivered —
what `C18.probe_range` / `one_probe_per_visit` read. -/
structure Struct {ε : Type} (g : Ghost ε) : Prop where
  len : g.s.stations.length = 128
  cur : g.s.cursor ≤ 125
  cur_n : g.s.done = false → g.s.cursor = g.n % 126
  cur_d : g.s.done = true → 1 ≤ g.n ∧ (g.s.cursor + 1) % 126 = g.n % 126
  out_p : ∀ a, g.out = some a → g.lastProbe = some (a, false)
  lp_none : g.lastProbe = none → g.n = 0 ∧ g.s.done = false ∧ g.idle = true
  lp_open : ∀ p, g.lastProbe = some (p, false) → g.s.cursor = p ∧ g.s.done = false ∧ g.idle = false
  lp_ans : ∀ p, g.lastProbe = some (p, true) → g.out = none ∧
    (g.idle = true → g.s.cursor = (p + 1) % 126 ∧ g.s.done = false ∧ p ≤ 125) ∧
    (g.idle = false → g.s.cursor = p ∧ g.s.done = true)
  clean : g.dirty = false → g.s.pending = none
  bits_hi : ∀ a, 126 ≤ a → g.s.stations.getD a false = false

theorem struct_init {ε : Type} : Struct (Ghost.init : Ghost ε) where
  len := by simp [Ghost.init, Sweep.init]
  cur := by simp [Ghost.init, Sweep.init]
  cur_n := by simp [Ghost.init, Sweep.init]
  cur_d := by simp [Ghost.init, Sweep.init]
  out_p := by simp [Ghost.init]
  lp_none := by simp [Ghost.init, Sweep.init]
  lp_open := by simp [Ghost.init]
  lp_ans := by simp [Ghost.init]
  clean := by simp [Ghost.init, Sweep.init]
  bits_hi := by
    intro a _
    show (List.replicate 128 false).getD a false = false
    rw [List.getD_eq_getElem?_getD, List.getElem?_replicate]
    split <;> rfl

theorem Struct.out_bit {ε : Type} {g : Ghost ε} (h : Struct g) {a : Nat} (ho : g.out = some a) :
    a = g.s.cursor ∧ g.s.done = false ∧ a ≤ 125 ∧ ∃ old, g.s.stations[a]? = some old := by
  have h1 := h.lp_open a (h.out_p a ho)
  have h2 := h.cur
  refine ⟨h1.1.symm, h1.2.1, by omega, ?_⟩
  have : a < g.s.stations.length := by rw [h.len]; omega
  exact ⟨g.s.stations[a], by simp [this]⟩

theorem reply_admissible {ε : Type} {g : Ghost ε} {own a : Nat} {t : Telegram}
    (hc : ¬ (g.out ≠ some a ∨ replyAllowed own a t = false)) : g.out = some a ∧ replyAllowed own a t = true := by
  refine ⟨Decidable.of_not_not fun h' => hc (.inl h'), ?_⟩
  cases hr : replyAllowed own a t with
  | true => rfl
  | false => exact absurd (.inr hr) hc

/-- **A callback, forward.**  While a reply from `a` is outstanding the station array has a bit `old` for `a`, and
both callbacks the contract allows for `a` are regular: `receive_reply` with an allowed telegram and `handle_timeout`
return the state `Spec.reply_ok` / `timeout_ok` say, and the history makes the step `afterCallback` of it. -/
theorem gstep_callback {ε : Type} {A : App ε} (hS : A.Spec) {own : Nat} {R : Nat → Bool} {g : Ghost ε}
    (hI : Struct g) {a : Nat} (ho : g.out = some a) :
    ∃ old, g.s.stations[a]? = some old ∧
      (∀ t, replyAllowed own a t = true → ∃ e,
        A.reply g.s a t = .ok { g.s with done := true, pending := e, stations := g.s.stations.set a (A.bit old t) } ∧
        (A.good t = true → e.bind A.kind = if A.bit old t ≠ old then some (a, A.bit old t) else none) ∧
        gstep A own R g (.reply a t) =
          .ok (g.afterCallback R a { g.s with done := true, pending := e, stations := g.s.stations.set a (A.bit old t) }
            (A.accepts t) (A.good t) (A.bit old t == A.accepts t))) ∧
      g.s.handleTimeout A.lost a =
        .ok { g.s with done := true, pending := if old then some (A.lost a) else g.s.pending,
                       stations := g.s.stations.set a false } ∧
      gstep A own R g (.timeout a) =
        .ok (g.afterCallback R a { g.s with done := true, pending := if old then some (A.lost a) else g.s.pending,
                                            stations := g.s.stations.set a false } false true true) := by
  obtain ⟨_, _, _, old, hold⟩ := hI.out_bit ho
  have hto := timeout_ok A.lost g.s a old hold
  refine ⟨old, hold, fun t hal => ?_, hto, ?_⟩
  · obtain ⟨e, he, hk⟩ := hS.reply_ok g.s a t old hold
    have hnr : ¬ (g.out ≠ some a ∨ replyAllowed own a t = false) := by
      rintro (hc | hc)
      · exact hc ho
      · rw [hal] at hc; cases hc
    exact ⟨e, he, hk, by simp only [gstep, if_neg hnr, he, getD_of_getElem? _ _ _ hold]⟩
  · have hnr : ¬ (g.out ≠ some a) := fun hc => hc ho
    simp only [gstep, if_neg hnr, hto]

/-- Case analysis of one step, done once: to establish `P` of the successor state it suffices to
treat the two `transmit_telegram` branches, `take_last_event`, and one *generic* callback. -/
theorem gstep_elim {ε : Type} {A : App ε} (hS : A.Spec) {own : Nat} {R : Nat → Bool} {g : Ghost ε}
    (hI : Struct g) (P : Ghost ε → Prop)
    (htx1 : g.s.done = false →
      P { g with out := some g.s.cursor, lastProbe := some (g.s.cursor, false), idle := false })
    (htx2 : g.s.done = true →
      P { g with s := { g.s with done := false, cursor := if g.s.cursor < 125 then g.s.cursor + 1 else 0 },
                 out := none, idle := true })
    (htake : P { g with s := { g.s with pending := none }, dirty := false,
                        evs := fun w => pendFor A w g.s ++ g.evs w })
    (hcb : ∀ (a : Nat) (old nb c gd ns : Bool) (e : Option ε), g.out = some a → g.s.stations[a]? = some old →
      (ns = true → nb = c) →
      (gd = true → g.s.pending = none → e.bind A.kind = if nb ≠ old then some (a, nb) else none) →
      P (g.afterCallback R a { g.s with done := true, pending := e, stations := g.s.stations.set a nb } c gd ns))
    (op : Op) (g' : Ghost ε) (h : gstep A own R g op = .ok g') : P g' := by
  cases op with
  | tx =>
    by_cases hd : g.s.done = true
    · simp [gstep, Sweep.transmit, hd] at h; subst h; exact htx2 hd
    · have hd' : g.s.done = false := by simpa using hd
      simp [gstep, Sweep.transmit, hd'] at h; subst h
      exact htx1 hd'
  | take =>
    simp [gstep, Sweep.takeLastEvent] at h; subst h; exact htake
  | reply a t =>
    by_cases hc : g.out ≠ some a ∨ replyAllowed own a t = false
    · simp [gstep, hc] at h
    · obtain ⟨ho, hal⟩ := reply_admissible hc
      obtain ⟨old, hold, hrep, -, -⟩ := gstep_callback hS (own := own) (R := R) hI ho
      obtain ⟨e, -, hk, hgs⟩ := hrep t hal
      rw [hgs] at h
      cases h
      exact hcb a old (A.bit old t) (A.accepts t) (A.good t) (A.bit old t == A.accepts t) e ho hold
        (fun h => by simpa using h) (fun hg _ => hk hg)
  | timeout a =>
    by_cases hc : g.out ≠ some a
    · simp [gstep, hc] at h
    · have ho : g.out = some a := Decidable.of_not_not hc
      obtain ⟨old, hold, -, -, hgs⟩ := gstep_callback hS (own := own) (R := R) hI ho
      rw [hgs] at h
      cases h
      apply hcb a old false false true true _ ho hold
      · intro _; rfl
      · intro _ hp
        cases old with
        | true => simp [hS.kind_lost]
        | false => simp [hp]

theorem gstep_no_panic {ε : Type} {A : App ε} (hS : A.Spec) {own : Nat} {R : Nat → Bool} {g : Ghost ε}
    (hI : Struct g) (op : Op) : gstep A own R g op ≠ .panic := by
  cases op with
  | tx =>
    simp only [gstep]
    split <;> simp
  | take => simp [gstep]
  | reply a t =>
    by_cases hc : g.out ≠ some a ∨ replyAllowed own a t = false
    · simp [gstep, hc]
    · obtain ⟨ho, hal⟩ := reply_admissible hc
      obtain ⟨old, -, hrep, -, -⟩ := gstep_callback hS (own := own) (R := R) hI ho
      obtain ⟨e, -, -, hgs⟩ := hrep t hal
      rw [hgs]; exact fun h => by cases h
  | timeout a =>
    by_cases hc : g.out ≠ some a
    · simp [gstep, hc]
    · obtain ⟨old, -, -, -, hgs⟩ := gstep_callback hS (own := own) (R := R) hI (Decidable.of_not_not hc)
      rw [hgs]; exact fun h => by cases h

theorem struct_step {ε : Type} {A : App ε} (hS : A.Spec) {own : Nat} {R : Nat → Bool} {g : Ghost ε}
    (hI : Struct g) (op : Op) (g' : Ghost ε) (h : gstep A own R g op = .ok g') : Struct g' := by
  refine gstep_elim hS hI Struct ?_ ?_ ?_ ?_ op g' h
  · intro hd
    have hn := hI.cur_n hd
    exact {
      len := hI.len, cur := hI.cur, cur_n := hI.cur_n, cur_d := hI.cur_d
      out_p := by intro a h; simp only [Option.some.injEq] at h; subst h; rfl
      lp_none := by intro h; cases h
      lp_open := by
        intro p h
        simp only [Option.some.injEq, Prod.mk.injEq, and_true] at h
        exact ⟨h, hd, rfl⟩
      lp_ans := by intro p h; simp at h
      clean := hI.clean, bits_hi := hI.bits_hi }
  · intro hd
    have hc := hI.cur
    have hn := hI.cur_d hd
    exact {
      len := hI.len
      cur := by show (if g.s.cursor < 125 then g.s.cursor + 1 else 0) ≤ 125; split <;> omega
      cur_n := by
        intro _
        show (if g.s.cursor < 125 then g.s.cursor + 1 else 0) = g.n % 126
        split <;> omega
      cur_d := by intro h; cases h
      out_p := by intro a h; cases h
      lp_none := by
        intro hl
        have := (hI.lp_none hl).2.1
        rw [hd] at this; cases this
      lp_open := by
        intro p hl
        have := (hI.lp_open p hl).2.1
        rw [hd] at this; cases this
      lp_ans := by
        intro p hl
        have h3 := hI.lp_ans p hl
        refine ⟨rfl, ?_, ?_⟩
        · intro _
          by_cases hid : g.idle = true
          · have := (h3.2.1 hid).2.1
            rw [hd] at this; cases this
          · have hid' : g.idle = false := by simpa using hid
            have h4 := (h3.2.2 hid').1
            refine ⟨?_, rfl, ?_⟩
            · show (if g.s.cursor < 125 then g.s.cursor + 1 else 0) = (p + 1) % 126
              split <;> omega
            · omega
        · intro h; cases h
      clean := hI.clean, bits_hi := hI.bits_hi }
  · exact {
      len := hI.len, cur := hI.cur, cur_n := hI.cur_n, cur_d := hI.cur_d, out_p := hI.out_p
      lp_none := hI.lp_none, lp_open := hI.lp_open, lp_ans := hI.lp_ans
      clean := by intro _; rfl
      bits_hi := hI.bits_hi }
  · intro a old nb c gd ns e ho hold _ _
    obtain ⟨hac, hd, ha, _⟩ := hI.out_bit ho
    have hn := hI.cur_n hd
    have hlp := hI.out_p a ho
    have hidle := (hI.lp_open a hlp).2.2
    exact {
      len := by simp [Ghost.afterCallback, hI.len]
      cur := hI.cur
      cur_n := by intro h; cases h
      cur_d := by
        intro _
        show 1 ≤ g.n + 1 ∧ (g.s.cursor + 1) % 126 = (g.n + 1) % 126
        omega
      out_p := by intro a h; cases h
      lp_none := by
        simp only [Ghost.afterCallback, hlp]; intro h; cases h
      lp_open := by
        simp only [Ghost.afterCallback, hlp]; intro p h; simp at h
      lp_ans := by
        simp only [Ghost.afterCallback, hlp]
        intro p h
        simp only [Option.map_some, Option.some.injEq, Prod.mk.injEq, and_true] at h
        subst h
        refine ⟨trivial, ?_, ?_⟩
        · intro h; rw [hidle] at h; cases h
        · intro _; exact ⟨hac.symm, trivial⟩
      clean := by intro h; cases h
      bits_hi := by
        intro b hb
        show (g.s.stations.set a nb).getD b false = false
        rw [getD_set]
        have : ¬ (a = b ∧ a < g.s.stations.length) := by omega
        rw [if_neg this]
        exact hI.bits_hi b hb }

/-! ## The station bits track the callbacks; coverage of a sweep -/

/-- `age w = some j`: the last callback for `w` was `j` callbacks ago; the sweep is cyclic, so `j < 126` and `w` is where the
cursor stood then (`age_form`), and `w` has had one as soon as `n > w` (`age_some`).  A callback among the
last `stable` ones agreed with `R` (`fresh`), and without stale bits the station bit is what it reported (`bit`):
together `C18.list_tracks`. -/
structure Track {ε : Type} (R : Nat → Bool) (g : Ghost ε) : Prop where
  bit : g.noStale = true → ∀ w, g.s.stations.getD w false = (g.beh w == some true)
  age_form : ∀ w j, g.age w = some j → j < 126 ∧ j < g.n ∧ (w + j + 1) % 126 = g.n % 126 ∧ w ≤ 125
  age_some : ∀ w, w ≤ 125 → w < g.n → g.age w ≠ none
  fresh : ∀ w j, g.age w = some j → j < g.stable → g.beh w = some (R w)
  stable_le : g.stable ≤ g.n

theorem track_init {ε : Type} (R : Nat → Bool) : Track R (Ghost.init : Ghost ε) where
  bit := by
    intro _ w
    show (List.replicate 128 false).getD w false = _
    rw [List.getD_eq_getElem?_getD, List.getElem?_replicate]
    simp [Ghost.init]
    split <;> rfl
  age_form := by simp [Ghost.init]
  age_some := by simp [Ghost.init]
  fresh := by simp [Ghost.init]
  stable_le := by simp [Ghost.init]

theorem track_step {ε : Type} {A : App ε} (hS : A.Spec) {own : Nat} {R : Nat → Bool} {g : Ghost ε}
    (hI : Struct g) (hT : Track R g) (op : Op) (g' : Ghost ε) (h : gstep A own R g op = .ok g') : Track R g' := by
  refine gstep_elim hS hI (Track R) ?_ ?_ ?_ ?_ op g' h
  · intro _
    exact { bit := hT.bit, age_form := hT.age_form, age_some := hT.age_some, fresh := hT.fresh, stable_le := hT.stable_le }
  · intro _
    exact { bit := hT.bit, age_form := hT.age_form, age_some := hT.age_some, fresh := hT.fresh, stable_le := hT.stable_le }
  · exact { bit := hT.bit, age_form := hT.age_form, age_some := hT.age_some, fresh := hT.fresh, stable_le := hT.stable_le }
  · intro a old nb c gd ns e ho hold hns _
    obtain ⟨hac, hd, ha, _⟩ := hI.out_bit ho
    have hn := hI.cur_n hd
    have hlen : a < g.s.stations.length := lt_of_getElem? hold
    exact {
      bit := by
        intro hst w
        simp only [Ghost.afterCallback, Bool.and_eq_true] at hst
        show (g.s.stations.set a nb).getD w false = ((if a = w then some c else g.beh w) == some true)
        rw [getD_set]
        by_cases hw : a = w
        · subst hw
          rw [if_pos ⟨rfl, hlen⟩, if_pos rfl, hns hst.2]
          cases c <;> rfl
        · rw [if_neg (by intro h; exact hw h.1), if_neg hw]
          exact hT.bit hst.1 w
      age_form := by
        intro w j hj
        simp only [Ghost.afterCallback] at hj ⊢
        by_cases hw : a = w
        · rw [if_pos hw] at hj
          simp only [Option.some.injEq] at hj
          subst hj; subst hw
          omega
        · rw [if_neg hw] at hj
          cases hage : g.age w with
          | none => rw [hage] at hj; simp at hj
          | some j0 =>
            rw [hage] at hj
            simp only [Option.map_some, Option.some.injEq] at hj
            have := hT.age_form w j0 hage
            omega
      age_some := by
        intro w hw1 hw2
        simp only [Ghost.afterCallback] at hw2 ⊢
        by_cases hw : a = w
        · rw [if_pos hw]; simp
        · rw [if_neg hw]
          have : w < g.n := by omega
          have := hT.age_some w hw1 this
          cases hage : g.age w with
          | none => exact absurd hage this
          | some j0 => simp
      fresh := by
        intro w j hj hjs
        simp only [Ghost.afterCallback] at hj hjs ⊢
        by_cases hw : a = w
        · rw [if_pos hw] at hj ⊢
          simp only [Option.some.injEq] at hj
          subst hj
          by_cases hc : c = R a
          · rw [hc, hw]
          · rw [if_neg hc] at hjs; omega
        · rw [if_neg hw] at hj ⊢
          cases hage : g.age w with
          | none => rw [hage] at hj; simp at hj
          | some j0 =>
            rw [hage] at hj
            simp only [Option.map_some, Option.some.injEq] at hj
            by_cases hc : c = R a
            · rw [if_pos hc] at hjs
              exact hT.fresh w j0 hage (by omega)
            · rw [if_neg hc] at hjs; omega
      stable_le := by
        show (if c = R a then g.stable + 1 else 0) ≤ g.n + 1
        have := hT.stable_le
        split <;> omega }

/-! ## Events report exactly the changes of the station bits -/

/-- `chg w` are the changes of the station bit of `w`, which alternate by construction (`head`, `altc`); with events
collected after every callback and good replies, the events taken plus the pending one report exactly them (`log`). -/
structure Ev {ε : Type} (A : App ε) (g : Ghost ε) : Prop where
  log : g.collected = true → g.goodReplies = true → ∀ w, pendFor A w g.s ++ g.evs w = g.chg w
  head : ∀ w, g.s.stations.getD w false = (g.chg w).headD false
  altc : ∀ w, alt (g.chg w) = true

theorem ev_init {ε : Type} (A : App ε) : Ev A (Ghost.init : Ghost ε) where
  log := by intro _ _ w; simp [Ghost.init, Sweep.init, pendFor]
  head := by
    intro w
    show (List.replicate 128 false).getD w false = _
    rw [List.getD_eq_getElem?_getD, List.getElem?_replicate]
    simp [Ghost.init]
    split <;> rfl
  altc := by intro w; simp [Ghost.init, alt]

theorem ev_step {ε : Type} {A : App ε} (hS : A.Spec) {own : Nat} {R : Nat → Bool} {g : Ghost ε}
    (hI : Struct g) (hE : Ev A g) (op : Op) (g' : Ghost ε) (h : gstep A own R g op = .ok g') : Ev A g' := by
  refine gstep_elim hS hI (Ev A) ?_ ?_ ?_ ?_ op g' h
  · intro _
    exact { log := hE.log, head := hE.head, altc := hE.altc }
  · intro _
    exact { log := hE.log, head := hE.head, altc := hE.altc }
  · exact {
      log := by
        intro hc hg w
        have := hE.log hc hg w
        simpa [pendFor] using this
      head := hE.head, altc := hE.altc }
  · intro a old nb c gd ns e ho hold _ hev
    have hlen : a < g.s.stations.length := lt_of_getElem? hold
    have hbit : g.s.stations.getD a false = old := getD_of_getElem? _ _ _ hold
    exact {
      log := by
        intro hc hg w
        simp only [Ghost.afterCallback, Bool.and_eq_true, Bool.not_eq_true'] at hc hg
        have hp : g.s.pending = none := hI.clean hc.2
        have h0 := hE.log hc.1 hg.1 w
        have hev' := hev hg.2 hp
        simp only [pendFor, hp, Option.bind_none, List.nil_append] at h0
        show pendFor A w { g.s with done := true, pending := e, stations := g.s.stations.set a nb } ++ g.evs w =
          if g.s.stations.getD w false = (g.s.stations.set a nb).getD w false then g.chg w
          else (g.s.stations.set a nb).getD w false :: g.chg w
        by_cases hw : a = w
        · subst hw
          have hb1 : (g.s.stations.set a nb).getD a false = nb := by rw [getD_set]; simp [hlen]
          rw [hb1, hbit]
          by_cases hnb : nb = old
          · subst hnb; simp [pendFor, hev', h0]
          · have h2 : ¬ old = nb := fun h => hnb h.symm
            simp [pendFor, hev', hnb, h2, h0]
        · have hb1 : (g.s.stations.set a nb).getD w false = g.s.stations.getD w false := by
            rw [getD_set]; simp [hw]
          rw [hb1]
          by_cases hnb : nb = old
          · subst hnb; simp [pendFor, hev', h0]
          · simp [pendFor, hev', hnb, hw, h0]
      head := by
        intro w
        show (g.s.stations.set a nb).getD w false =
          (if g.s.stations.getD w false = (g.s.stations.set a nb).getD w false then g.chg w
           else (g.s.stations.set a nb).getD w false :: g.chg w).headD false
        split
        · rename_i heq; rw [← heq]; exact hE.head w
        · rfl
      altc := by
        intro w
        show alt (if g.s.stations.getD w false = (g.s.stations.set a nb).getD w false then g.chg w
           else (g.s.stations.set a nb).getD w false :: g.chg w) = true
        split
        · exact hE.altc w
        · rename_i hne
          apply alt_push _ _ (hE.altc w)
          rw [← hE.head w]
          exact fun h => hne h.symm }

structure Inv {ε : Type} (A : App ε) (R : Nat → Bool) (g : Ghost ε) : Prop where
  st : Struct g
  tr : Track R g
  ev : Ev A g

theorem inv_init {ε : Type} (A : App ε) (R : Nat → Bool) : Inv A R (Ghost.init : Ghost ε) :=
  ⟨struct_init, track_init R, ev_init A⟩

theorem inv_step {ε : Type} {A : App ε} (hS : A.Spec) {own : Nat} {R : Nat → Bool} {g g' : Ghost ε} (hI : Inv A R g)
    (op : Op) (h : gstep A own R g op = .ok g') : Inv A R g' :=
  ⟨struct_step hS hI.st op g' h, track_step hS hI.st hI.tr op g' h, ev_step hS hI.st hI.ev op g' h⟩

theorem inv_run {ε : Type} {A : App ε} (hS : A.Spec) (own : Nat) (R : Nat → Bool) (ops : List Op) :
    ∀ (g : Ghost ε), Inv A R g →
      grun A own R g ops ≠ .panic ∧ ∀ g', grun A own R g ops = .ok g' → Inv A R g' := by
  induction ops with
  | nil =>
    intro g hI
    simp only [grun]
    exact ⟨(by intro h; cases h), (by intro g' h; cases h; exact hI)⟩
  | cons op ops ih =>
    intro g hI
    simp only [grun]
    cases hs : gstep A own R g op with
    | ok g1 => exact ih g1 (inv_step hS hI op hs)
    | panic => exact absurd hs (gstep_no_panic hS hI.st op)
    | refused => exact ⟨(by intro h; cases h), (by intro g' h; cases h)⟩

/-- A reply of the stated population to an FDL status request: a data telegram with a response
function code (in particular *not* a short confirmation). -/
def isResponse : Telegram → Bool
  | .data h _ => (match h.fc with | .response _ _ => true | .request _ _ => false)
  | .token _ _ => false
  | .sc => false

def llApp : App StationEvent where
  reply := LiveList.receiveReply
  lost := .lost
  kind := fun e => match e with
    | .discovered a _ => some (a, true)
    | .lost a => some (a, false)
  accepts := fun _ => true
  bit := fun _ _ => true
  good := isResponse

theorem llApp_spec : llApp.Spec where
  kind_lost := by intro a; rfl
  bit_of_accepts := by intro _ _ _; rfl
  reply_ok := by
    intro s a t old hold
    cases old with
    | false =>
      refine ⟨_, by simp only [llApp, LiveList.receiveReply, hold]; rfl, ?_⟩
      intro hg
      cases t with
      | data h pdu =>
        cases hfc : h.fc with
        | response st stat => simp [llApp, hfc]
        | request _ _ => simp [llApp, isResponse, hfc] at hg
      | token _ _ => simp [llApp, isResponse] at hg
      | sc => simp [llApp, isResponse] at hg
    | true =>
      refine ⟨none, ?_, by simp [llApp]⟩
      simp only [llApp, LiveList.receiveReply, hold, set_self _ _ _ hold]
  reply_panic := by
    intro s a t h
    simp [llApp, LiveList.receiveReply, h]

theorem parse_no_panic (t : Telegram) : parseDiagResponse t ≠ .panic := by
  cases t with
  | data h pdu =>
    unfold parseDiagResponse
    simp only
    split
    · simp
    · split
      · simp
      · split
        · simp
        · rename_i h6
          rw [if_neg (by omega)]
          simp
  | token _ _ => simp [parseDiagResponse]
  | sc => simp [parseDiagResponse]

def scAccepts (t : Telegram) : Bool :=
  match parseDiagResponse t with
  | .ok (some _) => true
  | _ => false

def scApp : App DpScanEvent where
  reply := Scanner.receiveReply
  lost := .lost
  kind := fun e => match e with
    | .found d => some (d.address, true)
    | .requery _ => none
    | .lost a => some (a, false)
  accepts := scAccepts
  bit := fun _ t => scAccepts t
  good := fun _ => true

theorem scApp_spec : scApp.Spec where
  kind_lost := by intro a; rfl
  bit_of_accepts := by intro _ _ h; exact h
  reply_ok := by
    intro s a t old hold
    cases hp : parseDiagResponse t with
    | panic => exact absurd hp (parse_no_panic t)
    | ok r =>
      cases r with
      | none =>
        have hacc : scAccepts t = false := by simp [scAccepts, hp]
        cases old with
        | true =>
          refine ⟨some (.lost a), ?_, by simp [scApp, hacc]⟩
          simp only [scApp, Scanner.receiveReply, hold, hp, hacc]
          rfl
        | false =>
          refine ⟨none, ?_, by simp [scApp, hacc]⟩
          simp only [scApp, Scanner.receiveReply, hold, hp, hacc, set_self _ _ _ hold]
          rfl
      | some d =>
        have hacc : scAccepts t = true := by simp [scAccepts, hp]
        cases old with
        | true =>
          refine ⟨some (.requery ⟨a, d.ident, d.master⟩), ?_, by simp [scApp, hacc]⟩
          simp only [scApp, Scanner.receiveReply, hold, hp, hacc, set_self _ _ _ hold]
          rfl
        | false =>
          refine ⟨some (.found ⟨a, d.ident, d.master⟩), ?_, by simp [scApp, hacc]⟩
          simp only [scApp, Scanner.receiveReply, hold, hp, hacc]
          rfl
  reply_panic := by
    intro s a t h
    simp [scApp, Scanner.receiveReply, h]

end PV.Apps
