/-
A station awaiting the reply to its GAP request — in `ClaimToken(ScanAwait)` during the claim sweep or in
`AwaitStatusResponse` as token holder: one dispatch with an incomplete reply, with a complete non-admitting reply and
with an admitting reply; an idle station on a quiet bus.  (Props/C06; the station-level facts about the reply are those of C12)
-/
import ProfiVerif.Lemmas.ColdStartSolo

namespace PV
open StationGap TokenRing

/-- The station awaits the status reply of address `a`. -/
def AwaitSt (st : FState) (a : Nat) : Prop := st = .claimToken (.scanAwait a) ∨ st = .awaitStatus a

/-- The state after the reply has been consumed. -/
def afterAwait : FState → FState
  | .awaitStatus _ => .passToken false .first
  | _ => .claimToken .scan

theorem AwaitSt.awake {st : FState} {a : Nat} (h : AwaitSt st a) : st ≠ .offline ∧ st ≠ .passiveIdle := by
  rcases h with h | h <;> rw [h] <;> simp

theorem AwaitSt.gapne {s : Station} {apps : Apps} {a : Nat} (hinv : Inv s apps) (h : AwaitSt s.st a) :
    s.gap = .doPoll a ∧ a ≠ s.p.address := by
  rcases h with h | h
  · exact hinv.await2 a h
  · exact hinv.await1 a h

theorem await_dispatch_partial (c : Ctx) (now l : Int) (a : Nat) (rx' : Bytes) (ret : Bool) (hst : AwaitSt c.s.st a)
    (hl : c.s.lastBusActivity = some l) (hg : c.s.gap = .doPoll a) (hne : a ≠ c.s.p.address)
    (hrx : receiveTelegram c.rx = .done rx' [] ret) (hw : now ≤ l + (c.s.p.slotTime : Nat)) :
    dispatch c now = .ok { c with rx := rx' } := by
  have hex : ¬ StationGap.SlotExpired c.s now := by rw [slotExpired_some hl]; omega
  rcases hst with hst | hst
  · rw [dispatch_claimToken now hst, C12.claim_await_waits c now 1 a rx' ret hst hne hg hrx hex, stamped_of_last hl]
  · rw [dispatch_awaitStatus now hst, C12.await_status_waits c now a rx' ret hst hne hg hrx hex, stamped_of_last hl]

theorem await_dispatch_reply (c : Ctx) (now : Int) (a : Nat) (rx' : Bytes) (t : Telegram) (fl ret : Bool)
    (rest : List (Telegram × Bool)) (state : ResponseState) (status : ResponseStatus) (hst : AwaitSt c.s.st a)
    (hg : c.s.gap = .doPoll a) (hne : a ≠ c.s.p.address) (hrx : receiveTelegram c.rx = .done rx' ((t, fl) :: rest) ret)
    (hr : replyOf c.s.p.address a t = some (state, status)) (hna : ¬ Admits state status) :
    dispatch c now = .ok { c with rx := rx', s := { (markRx c.s now) with st := afterAwait c.s.st } } := by
  rcases hst with hst | hst
  · rw [dispatch_claimToken now hst, C12.claim_await_reply c now 1 a rx' t fl ret rest state status hst hne hg hrx hr,
      if_neg hna, hst]
    rfl
  · rw [dispatch_awaitStatus now hst, C12.await_status_reply c now a rx' t fl ret rest state status hst hne hg hrx hr,
      if_neg hna, hst]
    rfl

theorem await_dispatch_admit (c : Ctx) (now : Int) (a : Nat) (rx' : Bytes) (t : Telegram) (fl ret : Bool)
    (rest : List (Telegram × Bool)) (state : ResponseState) (hst : AwaitSt c.s.st a)
    (hg : c.s.gap = .doPoll a) (hne : a ≠ c.s.p.address) (hrx : receiveTelegram c.rx = .done rx' ((t, fl) :: rest) ret)
    (hr : replyOf c.s.p.address a t = some (state, .ok)) (hstate : state = .masterWithoutToken ∨ state = .masterInRing)
    (ha : a < 128) (hts : c.s.ring.ts = c.s.p.address) (hts' : c.s.p.address < 128) :
    ∃ r, c.s.ring.setNextStation a = some r ∧ r.ns = a ∧ r.ts = c.s.ring.ts ∧ r.las = c.s.ring.las ∧ r.isActive a = true ∧
      dispatch c now = .ok { c with rx := rx', s := { (markRx c.s now) with ring := r, st := afterAwait c.s.st } } := by
  rcases hst with hst | hst
  · obtain ⟨r, h1, h2, h3, h4, h5, h6⟩ :=
      C12.ready_master_becomes_ns_claim c now 1 a rx' t fl ret rest state hst hne hg hrx hr hstate ha hts hts'
    refine ⟨r, h1, h2, h3, h4, h5, ?_⟩
    unfold dispatch
    simp only [hst]
    exact h6
  · obtain ⟨r, h1, h2, h3, h4, h5, h6⟩ :=
      C12.ready_master_becomes_ns c now a rx' t fl ret rest state hst hne hg hrx hr hstate ha hts hts'
    refine ⟨r, h1, h2, h3, h4, h5, ?_⟩
    unfold dispatch
    simp only [hst]
    exact h6

theorem idle_dispatch_recv (c : Ctx) (now l : Int) (np : Option Nat) (coll : Nat) (hst : c.s.st = .activeIdle none np coll)
    (hl : c.s.lastBusActivity = some l) (hle : l ≤ now) (hw : now < l + (c.s.p.tokenLostTimeout : Nat))
    (rx' : Bytes) (calls : List (Telegram × Bool)) (ret : Bool) (hrx : receiveAll c.rx = .done rx' calls ret) :
    dispatch c now = foldTelegrams (idleF now) { c with rx := rx' } calls := by
  unfold dispatch
  simp only [hst]
  rw [doActiveIdle_recv hst (handleLost_quiet c now l hl (by show ¬ (now - l).natAbs ≥ c.s.p.tokenLostTimeout; omega)) hst]
  simp only [hrx]
  rfl

theorem idle_dispatch_quiet (c : Ctx) (now l : Int) (np : Option Nat) (coll : Nat) (hst : c.s.st = .activeIdle none np coll)
    (hrx : c.rx = []) (hl : c.s.lastBusActivity = some l) (hw : now < l + (c.s.p.tokenLostTimeout : Nat)) (hlt : l < now) :
    dispatch c now = .ok c := by
  rw [idle_dispatch_recv c now l np coll hst hl (Int.le_of_lt hlt) hw [] [] false (by rw [hrx]; exact receiveAll_nil)]
  simp only [foldTelegrams]
  cases c
  simp only at hrx
  subst hrx
  rfl

theorem await_noop {cfg : Cfg} {n : Net} {x : Nat} {st : NetStation} {l : Int} (h : Solo cfg n x st l) (hok : cfg.Ok) (a : Nat)
    (hst : AwaitSt st.s.st a) (hg : st.s.gap = .doPoll a) (now : Int) (hown : n.bus.seen.getD x 0 < now)
    (hw : now ≤ l + (cfg.slot : Nat)) :
    ∃ n', n.poll x now = (n', [], some (.ok { s := st.s, apps := st.apps, rx := [] })) ∧ Solo cfg n' x st l ∧
      n'.bus = { n.bus with seen := n.bus.seen.set x now } ∧ n'.stations = n.stations :=
  solo_noop h hok.rate now hown hst.awake.1 hst.awake.2 (fun _ =>
    await_dispatch_partial _ now l a [] false hst h.stamp hg (AwaitSt.gapne h.inv hst).2 receiveTelegram_nil
      (by rw [h.slot]; exact hw))

theorem lone_idle_noop {cfg : Cfg} {n : Net} {x : Nat} {st : NetStation} {l : Int} (h : Solo cfg n x st l) (hok : cfg.Ok)
    (np : Option Nat) (coll : Nat) (hst : st.s.st = .activeIdle none np coll) (now : Int) (hown : n.bus.seen.getD x 0 < now)
    (hw : now < l + (st.s.p.tokenLostTimeout : Nat)) :
    ∃ n' c, n.poll x now = (n', [], some (.ok c)) ∧ c.tx = none ∧ Solo cfg n' x st l ∧
      n'.bus = { n.bus with seen := n.bus.seen.set x now } ∧ n'.stations = n.stations := by
  obtain ⟨n', hp, hS, hbus, hset⟩ := solo_noop h hok.rate now hown (by rw [hst]; simp) (by rw [hst]; simp)
    (fun hlt => idle_dispatch_quiet _ now l np coll hst rfl h.stamp hw hlt)
  exact ⟨n', _, hp, rfl, hS, hbus, hset⟩

theorem lone_idle_wait {cfg : Cfg} {n : Net} {x : Nat} {st : NetStation} {l : Int} (h : Solo cfg n x st l) (hok : cfg.Ok)
    (np : Option Nat) (coll : Nat) (hst : st.s.st = .activeIdle none np coll) (now : Int) (hown : n.bus.seen.getD x 0 < now)
    (hw : now < l + (st.s.p.tokenLostTimeout : Nat)) :
    ∃ n' c, n.poll x now = (n', [], some (.ok c)) ∧ c.tx = none ∧ Solo cfg n' x st l ∧ n'.bus.seen.getD x 0 = now := by
  obtain ⟨n', c, hp, htx, hS, hbus, -⟩ := lone_idle_noop h hok np coll hst now hown hw
  exact ⟨n', c, hp, htx, hS, by rw [hbus]; exact seen_set_self _ _ _ h.xs⟩

end PV
