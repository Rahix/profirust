/-
The poll of a station that receives, relative to the log (`Rcv` of `Lemmas/BusLog`), for both timed rings and the cold
start.  A listener waits a time `W` after its stamp (its token-lost time-out, or its slot time); its condition is the
deadline "the next character is due by stamp + `W`" (`nextArr … ≤ l + W`).  `receive_all_telegrams` makes of buffer +
delivery nothing, or a `Batch` (`Rcv.batch`).  Nothing: the deadline is carried over (`nextArr_carry`: it counts from
`now` if a character is new, else it is the old one and has not passed).  A batch: the next character is due within the
sender's longest silence `G` plus one character time of `now` (`nextArr_batch`, `Batch.due`).  `Rcv.fragment` and
`Batch.rcv` are the station's place in the log afterwards.
-/
import ProfiVerif.Lemmas.BusLog

namespace PV

theorem nextArr_carry (cfg : Cfg) (hr : 0 < cfg.rate) {H seen now l W : Int} {rs : List Transmission} {pend : Nat}
    (hsn : seen ≤ now) (hnowH : now ≤ H)
    (hhead : ∀ t rest, rs = t :: rest → cvis cfg t now < t.bytes.length ∧ ∀ t' ∈ rest, cvis cfg t' now = 0)
    (hstart : ∀ t rest, rs = t :: rest → t.start ≤ now) (hpend : pend ≤ (arrived cfg rs seen).length)
    (hW : ((cfg.ce 0 : Nat) : Int) ≤ W) (hdue : nextArr cfg H rs seen ≤ l + W) :
    (pend < (arrived cfg rs now).length ∨ now ≤ l + W) ∧
    nextArr cfg H rs now ≤ (if pend < (arrived cfg rs now).length then now else l) + W := by
  by_cases hnew : pend < (arrived cfg rs now).length
  · rw [if_pos hnew]
    refine ⟨.inl hnew, ?_⟩
    cases rs with
    | nil => simp [arrived] at hnew
    | cons t rest =>
      have := nextArr_after cfg hr H t rest now (hhead t rest rfl).1 (hstart t rest rfl)
      omega
  · rw [if_neg hnew]
    obtain ⟨e, hlt⟩ := nextArr_still cfg hr H rs seen now hsn hnowH hhead (by omega)
    exact ⟨.inr (by omega), by rw [e]; exact hdue⟩

theorem nextArr_batch (cfg : Cfg) (hr : 0 < cfg.rate) {H now : Int} {G : Nat} {rs : List Transmission} {k : Nat}
    (hne : rs ≠ []) (hpos : ∀ t ∈ rs, 0 < t.bytes.length)
    (hfull : ∀ t ∈ rs.take k, cvis cfg t now = t.bytes.length)
    (hhead : ∀ t r, rs.drop k = t :: r → cvis cfg t now < t.bytes.length) (hstart : ∀ t ∈ rs, t.start ≤ now)
    (hH : ∀ t, rs.getLast? = some t → H ≤ cEnd cfg t + (G : Nat)) :
    nextArr cfg H (rs.drop k) now ≤ now + (G : Nat) + ((cfg.ce 0 : Nat) : Int) := by
  cases hdr : rs.drop k with
  | nil =>
    have hrsk : rs.take k = rs := take_of_drop_nil rs k hdr
    obtain ⟨tl, htl⟩ : ∃ tl, rs.getLast? = some tl := by
      cases hg : rs.getLast? with
      | none => exact absurd (List.getLast?_eq_none_iff.1 hg) hne
      | some tl => exact ⟨tl, rfl⟩
    have hmem : tl ∈ rs := List.mem_of_getLast? htl
    have := cEnd_le_of_full cfg tl now (hpos tl hmem) (hfull tl (by rw [hrsk]; exact hmem))
    have := hH tl htl
    show H + _ ≤ _
    omega
  | cons t rest =>
    have := nextArr_after cfg hr H t rest now (hhead t rest hdr)
      (hstart t (List.mem_of_mem_drop (i := k) (by rw [hdr]; exact List.mem_cons_self ..)))
    omega

section
variable {cfg : Cfg} {b : Bus} {j : Nat} {st : NetStation} {dn rs : List Transmission} {l : Int}

/-- A poll that hears at least one complete telegram: `receive_all_telegrams` makes of buffer + delivery the batch `d` — the
telegrams of the `k ≥ 1` first transmissions of `rs`, complete at `now`; only the last can be flagged last, and is if
nothing is left — and leaves what has arrived of the rest, whose head is incomplete; more bytes are there than were
accounted for. -/
structure Batch (cfg : Cfg) (st : NetStation) (now : Int) (rs : List Transmission) (k : Nat)
    (d : List (Telegram × Bool)) (ret : Bool) : Prop where
  new : st.s.pendingBytes < (arrived cfg rs now).length
  recv : receiveAll (arrived cfg rs now) = .done (arrived cfg (rs.drop k) now) d ret
  ne : d ≠ []
  pos : 1 ≤ k
  tel : d.map Prod.fst = (rs.take k).map telOf
  flags : ∀ x ∈ d.dropLast, x.2 = false
  full : ∀ t ∈ rs.take k, cvis cfg t now = t.bytes.length
  head : ∀ t r, rs.drop k = t :: r → cvis cfg t now < t.bytes.length
  lastFlag : rs.drop k = [] → ∃ pre t, d = pre ++ [(t, true)]

theorem Rcv.batch (h : Rcv cfg b j st dn rs l) (hr : 0 < cfg.rate) (hc : CChained cfg rs)
    (hw : ∀ t ∈ rs, t.bytes = (telOf t).wire ∧ (telOf t).Valid ∧ 0 < t.bytes.length) {now : Int}
    (hsn : b.seen.getD j 0 ≤ now) :
    (∃ ret, receiveAll (arrived cfg rs now) = .done (arrived cfg rs now) [] ret ∧
      ∀ t rest, rs = t :: rest → cvis cfg t now < t.bytes.length ∧ ∀ t' ∈ rest, cvis cfg t' now = 0) ∨
    ∃ k d ret, Batch cfg st now rs k d ret := by
  obtain ⟨k, b', d, ret, hrec, hk, hdm, hfl, hfull, rfl, hhead, hnil, hlastflag, hd0⟩ := consume cfg hr telOf rs now hc hw
  by_cases hdn : d = []
  · obtain rfl := hd0 hdn
    subst hdn
    exact .inl ⟨ret, hrec, fun t rest hrs => ⟨(hhead t rest hrs).1, (hhead t rest hrs).2.2⟩⟩
  · have hk1 : 1 ≤ k := by
      cases k with
      | zero =>
        simp only [List.take_zero, List.map_nil, List.map_eq_nil_iff] at hdm
        exact absurd hdm hdn
      | succ k => omega
    -- the head of `rs` was incomplete at the last poll and is complete now
    have hnew : st.s.pendingBytes < (arrived cfg rs now).length := by
      have h5 := h.pend
      cases rs with
      | nil => simp only [List.length_nil] at hk; omega
      | cons t0 rest =>
        have hf0 := hfull t0 (by
          cases k with
          | zero => omega
          | succ k' => rw [List.take_succ_cons]; exact List.mem_cons_self ..)
        have hlt0 := h.head t0 rest rfl
        rw [arrived_length] at h5 ⊢
        rw [arrivedLen_cons] at h5 ⊢
        have := arrivedLen_mono cfg rest _ now hsn
        omega
    exact .inr ⟨k, d, ret, hnew, hrec, hdn, hk1, hdm, hfl, hfull, fun t r hdr => (hhead t r hdr).1,
      fun hdr => hlastflag hdn (hnil hdr)⟩

theorem Rcv.fragment (h : Rcv cfg b j st dn rs l) (hW : Wire cfg b) (hjl : j < b.seen.length) {now : Int}
    (hsn : b.seen.getD j 0 ≤ now) (hl : l < now)
    (hhead : ∀ t rest, rs = t :: rest → cvis cfg t now < t.bytes.length) :
    Rcv cfg { b with seen := b.seen.set j now } j
      (upSt st { s := checkBusActivity st.s now (arrived cfg rs now).length, apps := st.apps, rx := arrived cfg rs now })
      dn rs (if st.s.pendingBytes < (arrived cfg rs now).length then now else l) := by
  have r := h.advance hW hjl hsn (k := 0)
    (c := { s := checkBusActivity st.s now (arrived cfg rs now).length, apps := st.apps, rx := arrived cfg rs now })
    (fun t ht => by cases ht) hhead rfl
    (checkBA_pending_le st.s now _ (Nat.le_trans h.pend (arrived_length_le cfg rs hsn)))
    (checkBA_stamp_if st.s now l _ h.stamp hl)
  simpa only [List.take_zero, List.append_nil, List.drop_zero] using r

section
variable {now : Int} {k : Nat} {d : List (Telegram × Bool)} {ret : Bool}

theorem Batch.rcv (hB : Batch cfg st now rs k d ret) (h : Rcv cfg b j st dn rs l) (hW : Wire cfg b) (hjl : j < b.seen.length)
    (hsn : b.seen.getD j 0 ≤ now) {c : Ctx} (hrx : c.rx = arrived cfg (rs.drop k) now) (hpb : c.s.pendingBytes = 0)
    (hst : c.s.lastBusActivity = some now) :
    Rcv cfg { b with seen := b.seen.set j now } j (upSt st c) (dn ++ rs.take k) (rs.drop k) now :=
  h.advance hW hjl hsn hB.full hB.head hrx (by rw [hpb]; exact Nat.zero_le _) hst

theorem Batch.rsne (hB : Batch cfg st now rs k d ret) : rs ≠ [] := by
  intro e
  have := hB.tel
  rw [e, List.take_nil, List.map_nil, List.map_eq_nil_iff] at this
  exact hB.ne this

theorem Batch.due (hB : Batch cfg st now rs k d ret) (hr : 0 < cfg.rate) {H : Int} {G : Nat}
    (hpos : ∀ t ∈ rs, 0 < t.bytes.length) (hstart : ∀ t ∈ rs, t.start ≤ now)
    (hH : ∀ t, rs.getLast? = some t → H ≤ cEnd cfg t + (G : Nat)) :
    nextArr cfg H (rs.drop k) now ≤ now + (G : Nat) + ((cfg.ce 0 : Nat) : Int) :=
  nextArr_batch cfg hr hB.rsne hpos hB.full hB.head hstart hH

end
end
end PV
