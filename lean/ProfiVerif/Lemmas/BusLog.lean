/-
The log of the bus of `Model/Net.lean` and a station's place in it.  Character times (`cEnd`, `tEnd`, `nextArr`), the
telegram a transmission carries (`telOf`), poll schedules (`SchedN`, `SchedXT`), `Net.poll` read backwards (`Net.poll_bus`)
and for a station that has everything and an empty buffer (`Net.polled`, `Net.poll_upToDate`).  `Wire` is the fault-free
log; `Rcv` says that station `j` has consumed `dn` and holds in its buffer exactly what has arrived of `rs` (up to date:
`rs = []`).  Four facts carry `Rcv` through a run: another station is polled (`Rcv.other`) or transmits (`Rcv.snoc`), the
station itself is polled (`Rcv.deliver`, `Rcv.poll`) and has consumed a prefix of `rs` (`Rcv.advance`).  The listener
conditions of the ring and of the cold start are `Rcv` plus a deadline for the next character.
-/
import ProfiVerif.Lemmas.TimedRingStream
import ProfiVerif.Lemmas.TimedRingListen

namespace PV
open StationGap TokenRing

theorem take_of_drop_nil {α : Type} (l : List α) (k : Nat) (h : l.drop k = []) : l.take k = l :=
  List.take_of_length_le (List.drop_eq_nil_iff.1 h)

theorem cycSucc_single (a : Nat) : cycSucc a [a] = a := cycSucc_alone a [a] fun _ h => List.mem_singleton.mp h

theorem checkBA_pending_le (s : Station) (now : Int) (n : Nat) (h : s.pendingBytes ≤ n) :
    (checkBusActivity s now n).pendingBytes ≤ n := by
  unfold checkBusActivity
  split
  · exact Nat.le_refl _
  · exact h

theorem checkBA_noted (s : Station) (now l : Int) (n : Nat) (hl : s.lastBusActivity = some l) (hlt : l < now) :
    checkBusActivity s now n =
      { s with lastBusActivity := some (if s.pendingBytes < n then now else l), pendingBytes := max s.pendingBytes n } := by
  rw [checkBusActivity_eq, hl]
  by_cases h : s.pendingBytes < n
  · rw [if_pos h, if_pos h]
    simp only [Option.getD_some]
    rw [Int.max_eq_right (Int.le_of_lt hlt)]
  · rw [if_neg h, if_neg h]

theorem checkBA_stamp_if (s : Station) (now l : Int) (n : Nat) (hl : s.lastBusActivity = some l) (hlt : l < now) :
    (checkBusActivity s now n).lastBusActivity = some (if s.pendingBytes < n then now else l) := by
  rw [checkBA_noted s now l n hl hlt]

/-- The telegram a transmission carries.  Total for convenience: bytes that do not decode give `.sc`; the log conditions
say `t.bytes = (telOf t).wire` of every transmission (`TxKind.wire`, `LoneLogR.tel`), so the default is never met. -/
def telOf (t : Transmission) : Telegram :=
  match deserialize t.bytes with
  | .accept tg _ => tg
  | _ => .sc

theorem telOf_wire (t : Transmission) (tg : Telegram) (hv : tg.Valid) (h : t.bytes = tg.wire) : telOf t = tg := by
  unfold telOf
  have := decode_wire tg hv []
  rw [List.append_nil, ← h] at this
  rw [this]

theorem telOf_token (t : Transmission) (a : Nat) (M : List Nat) (h : t.bytes = tokenBytes (cycSucc a M) a) :
    telOf t = tokTel M a :=
  telOf_wire t _ trivial (by rw [tokTel_wire]; exact h)

theorem telOf_req (t : Transmission) (g a : Nat) (hg : g < 128) (ha : a < 128) (h : t.bytes = statusRequestBytes g a) :
    telOf t = reqTel g a :=
  telOf_wire t _ (reqTel_valid g a hg ha) (by rw [reqTel_wire]; exact h)

/-- End of a transmission on the bus (`Bus.txEnd`), in terms of the configuration constants. -/
def cEnd (cfg : Cfg) (t : Transmission) : Int := t.start + ((cfg.ce (t.bytes.length - 1) : Nat) : Int)

theorem cEnd_le_of_full (cfg : Cfg) (t : Transmission) (now : Int) (hpos : 0 < t.bytes.length)
    (hfull : cvis cfg t now = t.bytes.length) : cEnd cfg t ≤ now := by
  have := (cvis_spec cfg t now (t.bytes.length - 1) (by omega)).1 (by omega)
  unfold cEnd
  exact this

/-- Predicted end of a transmission (what the sender stamps). -/
def tEnd (cfg : Cfg) (t : Transmission) : Int := t.start + ((bitsToTime cfg.rate (11 * t.bytes.length) : Nat) : Int)

theorem tEnd_cEnd (cfg : Cfg) (hr : 0 < cfg.rate) (t : Transmission) (hn : 0 < t.bytes.length) :
    tEnd cfg t ≤ cEnd cfg t ∧ cEnd cfg t ≤ tEnd cfg t + 1 := by
  unfold tEnd cEnd Cfg.ce bitsToTime
  have e : 11 * (t.bytes.length - 1 + 1) * 1000000 = 11 * t.bytes.length * 1000000 := by
    have : t.bytes.length - 1 + 1 = t.bytes.length := by omega
    rw [this]
  rw [e]
  have h1 := Cfg.floor_le_ceil cfg.rate (11 * t.bytes.length * 1000000) hr
  have h2 := Cfg.ceil_le_floor_succ cfg.rate (11 * t.bytes.length * 1000000) hr
  omega

theorem arrived_append (cfg : Cfg) (r1 r2 : List Transmission) (a : Int) :
    arrived cfg (r1 ++ r2) a = arrived cfg r1 a ++ arrived cfg r2 a := by simp [arrived]

theorem arrived_single (cfg : Cfg) (t : Transmission) (a : Int) : arrived cfg [t] a = t.bytes.take (cvis cfg t a) := by
  unfold arrived
  simp only [List.map_cons, List.map_nil, List.flatten_cons, List.flatten_nil, List.append_nil]

theorem arrived_length (cfg : Cfg) (rs : List Transmission) (a : Int) : (arrived cfg rs a).length = arrivedLen cfg rs a := by
  induction rs with
  | nil => rfl
  | cons t rs ih =>
    rw [arrived_cons, arrivedLen_cons, List.length_append, ih, List.length_take]
    have := cvis_le cfg t a
    omega

theorem arrivedLen_mono (cfg : Cfg) (rs : List Transmission) (a a' : Int) (h : a ≤ a') :
    arrivedLen cfg rs a ≤ arrivedLen cfg rs a' := by
  induction rs with
  | nil => exact Nat.le_refl _
  | cons t rs ih =>
    rw [arrivedLen_cons, arrivedLen_cons]
    have := cvis_mono cfg t a a' h
    omega

theorem arrived_length_le (cfg : Cfg) (rs : List Transmission) {a a' : Int} (h : a ≤ a') :
    (arrived cfg rs a).length ≤ (arrived cfg rs a').length := by
  rw [arrived_length, arrived_length]; exact arrivedLen_mono cfg rs a a' h

theorem consume_one (cfg : Cfg) (t : Transmission) (now : Int) (hw : t.bytes = (telOf t).wire ∧ (telOf t).Valid) :
    (cvis cfg t now < t.bytes.length ∧ ∃ ret, receiveAll (arrived cfg [t] now) = .done (arrived cfg [t] now) [] ret) ∨
    (cvis cfg t now = t.bytes.length ∧ ∃ ret, receiveAll (arrived cfg [t] now) = .done [] [(telOf t, true)] ret) := by
  obtain ⟨hb, hv⟩ := hw
  have hV := cvis_le cfg t now
  rw [arrived_single]
  rcases Nat.lt_or_ge (cvis cfg t now) t.bytes.length with h | h
  · refine .inl ⟨h, false, ?_⟩
    rw [hb] at h ⊢
    exact (receiveAll_one _ hv _).1 h
  · have e : cvis cfg t now = t.bytes.length := by omega
    refine .inr ⟨e, true, ?_⟩
    rw [e, List.take_length, hb]
    exact (receiveAll_one _ hv 0).2

theorem receive_one (cfg : Cfg) (t : Transmission) (now : Int) (hw : t.bytes = (telOf t).wire ∧ (telOf t).Valid) :
    (cvis cfg t now < t.bytes.length ∧ receiveTelegram (arrived cfg [t] now) = .done (arrived cfg [t] now) [] false) ∨
    (cvis cfg t now = t.bytes.length ∧ receiveTelegram (arrived cfg [t] now) = .done [] [(telOf t, true)] true) := by
  obtain ⟨hb, hv⟩ := hw
  have hV := cvis_le cfg t now
  have hlen : (arrived cfg [t] now).length = cvis cfg t now := by rw [arrived_single, List.length_take]; omega
  obtain ⟨hpart, hfull⟩ := receiveTelegram_stream (telOf t) [] (arrived cfg [t] now) (t.bytes.drop (cvis cfg t now))
    (by rw [arrived_single, List.take_append_drop, hb]; simp [streamOf]) hv
  rcases Nat.lt_or_ge (cvis cfg t now) t.bytes.length with h | h
  · exact .inl ⟨h, hpart (by rw [hlen, ← hb]; exact h)⟩
  · obtain ⟨b2, hrec, hb2⟩ := hfull (by rw [hlen, ← hb]; exact h)
    have hb2' : b2 = [] := List.eq_nil_of_length_eq_zero (by
      have := congrArg List.length hb2
      simp only [streamOf, List.map_nil, List.flatten_nil, List.length_nil, List.length_append] at this
      omega)
    subst hb2'
    exact .inr ⟨by omega, hrec⟩

theorem rs_end_after (cfg : Cfg) (rs : List Transmission) (seen : Int) (hc : CChained cfg rs)
    (hpos : ∀ t ∈ rs, 0 < t.bytes.length)
    (hhead : ∀ t rest, rs = t :: rest → cvis cfg t seen < t.bytes.length) : ∀ t ∈ rs, seen < cEnd cfg t := by
  intro t ht
  cases rs with
  | nil => cases ht
  | cons t0 rest =>
    have h0 := cvis_lt_full cfg t0 seen (hpos t0 (List.mem_cons_self ..)) (hhead t0 rest rfl)
    rcases List.mem_cons.1 ht with rfl | ht
    · exact h0
    · have := (List.pairwise_cons.1 hc).1 t ht
      unfold cEnd
      omega

/-- Arrival time of the next character station `j` has not received yet: of the first not completely
delivered transmission, or — if it has everything — not before the next transmission, which starts by `H`. -/
def nextArr (cfg : Cfg) (H : Int) (rs : List Transmission) (seen : Int) : Int :=
  match rs with
  | [] => H + ((cfg.ce 0 : Nat) : Int)
  | t :: _ => t.start + ((cfg.ce (cvis cfg t seen) : Nat) : Int)

theorem nextArr_horizon_le (cfg : Cfg) {H H' : Int} (h : H' ≤ H) (rs : List Transmission) (a : Int) :
    nextArr cfg H' rs a ≤ nextArr cfg H rs a := by
  unfold nextArr
  cases rs with
  | nil => simp only; omega
  | cons t r => exact Int.le_refl _

theorem nextArr_after (cfg : Cfg) (hr : 0 < cfg.rate) (H : Int) (t : Transmission) (rest : List Transmission) (now : Int)
    (hlt : cvis cfg t now < t.bytes.length) (hstart : t.start ≤ now) :
    nextArr cfg H (t :: rest) now ≤ now + ((cfg.ce 0 : Nat) : Int) := by
  unfold nextArr
  simp only
  by_cases h0 : cvis cfg t now = 0
  · rw [h0]; omega
  · have hk : cvis cfg t now - 1 < t.bytes.length := by omega
    have h1 := (cvis_spec cfg t now _ hk).1 (by omega)
    have h2 := cfg.ce_step hr (cvis cfg t now - 1)
    have e1 : cvis cfg t now - 1 + 1 = cvis cfg t now := by omega
    rw [e1] at h2
    omega

theorem cvis_still (cfg : Cfg) (t : Transmission) (rest : List Transmission) (seen now : Int) (hsn : seen ≤ now)
    (hlt : cvis cfg t now < t.bytes.length) (hz : ∀ t' ∈ rest, cvis cfg t' now = 0)
    (hlen : (arrived cfg (t :: rest) now).length ≤ (arrived cfg (t :: rest) seen).length) :
    cvis cfg t now = cvis cfg t seen ∧ now < t.start + ((cfg.ce (cvis cfg t seen) : Nat) : Int) := by
  have hmono := cvis_mono cfg t seen now hsn
  have hz0 : ∀ t' ∈ rest, cvis cfg t' seen = 0 := fun t' ht' => by
    have := cvis_mono cfg t' seen now hsn; have := hz t' ht'; omega
  rw [arrived_cons, arrived_nil_of_zero cfg rest now hz, arrived_cons, arrived_nil_of_zero cfg rest seen hz0,
    List.append_nil, List.append_nil, List.length_take, List.length_take] at hlen
  have e : cvis cfg t now = cvis cfg t seen := by omega
  refine ⟨e, ?_⟩
  have := (cvis_spec cfg t now (cvis cfg t seen) (by omega)).2
  omega

theorem nextArr_still (cfg : Cfg) (hr : 0 < cfg.rate) (H : Int) (rs : List Transmission) (seen now : Int) (hsn : seen ≤ now)
    (hH : now ≤ H)
    (hhead : ∀ t rest, rs = t :: rest → cvis cfg t now < t.bytes.length ∧ ∀ t' ∈ rest, cvis cfg t' now = 0)
    (hlen : (arrived cfg rs now).length ≤ (arrived cfg rs seen).length) :
    nextArr cfg H rs now = nextArr cfg H rs seen ∧ now < nextArr cfg H rs seen := by
  cases rs with
  | nil =>
    have := cfg.ce_pos hr 0
    exact ⟨rfl, by unfold nextArr; simp only; omega⟩
  | cons t rest =>
    obtain ⟨hlt, hz⟩ := hhead t rest rfl
    obtain ⟨e, hnext⟩ := cvis_still cfg t rest seen now hsn hlt hz hlen
    unfold nextArr
    simp only
    rw [e]
    exact ⟨rfl, hnext⟩

theorem Net.poll_bus (n : Net) (i : Nat) (now : Int) (n' : Net) (inc : Bytes) (c : Ctx)
    (h : n.poll i now = (n', inc, some (.ok c))) :
    n'.bus = (match c.tx with
      | some b => (n.bus.deliver i now).1.send i now b
      | none => (n.bus.deliver i now).1) ∧
    ∃ st, n.stations[i]? = some st ∧ n'.stations = n.stations.set i (upSt st c) ∧
      st.s.poll st.apps now ((n.bus.deliver i now).1.transmitting i now)
        (if st.online then st.rx ++ (n.bus.deliver i now).2 else st.rx) = .ok c := by
  unfold Net.poll at h
  rcases hd : n.bus.deliver i now with ⟨bus, incoming⟩
  rw [hd] at h
  simp only at h
  cases hs : n.stations[i]? with
  | none => rw [hs] at h; simp only at h; cases h
  | some st =>
    rw [hs] at h
    simp only at h
    split at h
    · cases h
    · split at h
      · rename_i m hr
        simp only [Prod.mk.injEq, Option.some.injEq] at h
        obtain ⟨-, -, h3⟩ := h
        rw [hr] at h3; cases h3
      · rename_i c0 hr
        simp only [Prod.mk.injEq, Option.some.injEq] at h
        obtain ⟨h1, -, h3⟩ := h
        rw [hr] at h3
        cases h3
        rw [← h1]
        exact ⟨rfl, st, rfl, rfl, hr⟩

theorem Net.poll_params (n : Net) (i : Nat) (now : Int) (n' : Net) (inc : Bytes) (c : Ctx) (st : NetStation)
    (h : n.poll i now = (n', inc, some (.ok c))) (hg : n.stations[i]? = some st) : c.s.p = st.s.p := by
  obtain ⟨-, st0, hst0, -, hpoll0⟩ := Net.poll_bus n i now n' inc c h
  rw [hg] at hst0; cases hst0
  exact (poll_frame _ _ _ _ _ c hpoll0).1

/-- The net after station `x` (record `sx`), having received nothing, was polled at `now` with result `c`. -/
def Net.polled (n : Net) (x : Nat) (now : Int) (sx : NetStation) (c : Ctx) : Net :=
  { bus := (match c.tx with
      | some b => Bus.send { n.bus with seen := n.bus.seen.set x now } x now b
      | none => { n.bus with seen := n.bus.seen.set x now }),
    stations := n.stations.set x (upSt sx c) }

theorem Net.polled_len (n : Net) (x : Nat) (now : Int) (sx : NetStation) (c : Ctx) :
    (n.polled x now sx c).stations.length = n.stations.length := List.length_set ..

theorem Net.polled_seen (n : Net) (x : Nat) (now : Int) (sx : NetStation) (c : Ctx) :
    (n.polled x now sx c).bus.seen = n.bus.seen.set x now := by
  unfold Net.polled; cases c.tx <;> rfl

theorem Net.poll_upToDate (n : Net) (x : Nat) (now : Int) (st : NetStation) (c : Ctx) (hr : 0 < n.bus.rate)
    (hcor : n.bus.corrupt = []) (hg : n.stations[x]? = some st) (hal : st.dead = false) (hon : st.online = true)
    (hrx : st.rx = []) (hdone : ∀ o ∈ n.bus.txs, o.sender = x ∨ o.dropped = true ∨ n.bus.txEnd o ≤ n.bus.seen.getD x 0)
    (hp : st.s.poll st.apps now (n.bus.transmitting x now) [] = .ok c) :
    n.poll x now = (n.polled x now st c, [], some (.ok c)) :=
  Net.poll_eq n x now st _ [] c hg hal hon
    (by
      have := Bus.deliver_split n.bus hr hcor x now n.bus.txs [] (by simp) hdone (fun _ _ _ ht => by cases ht)
        List.Pairwise.nil (fun _ ht => by cases ht)
      simpa using this)
    (by rw [transmitting_seen, hrx]; exact hp)

/-- The schedule: events `(station, time)` in time order, every station's own poll times strictly increasing,
at every event no station unpolled for more than `P`. -/
def SchedN (P : Nat) : Net → Int → List (Nat × Int) → Prop
  | _, _, [] => True
  | n, tl, (i, now) :: rest =>
    i < n.stations.length ∧ tl ≤ now ∧ n.bus.seen.getD i 0 < now ∧
    (∀ j, j < n.stations.length → now ≤ n.bus.seen.getD j 0 + (P : Nat)) ∧ SchedN P (n.poll i now).1 now rest

theorem SchedN.of_poll {P : Nat} {n n' : Net} {i : Nat} {now : Int} {evs : List (Nat × Int)} {inc : Bytes} {r : Option Res}
    (h : SchedN P (n.poll i now).1 now evs) (hp : n.poll i now = (n', inc, r)) : SchedN P n' now evs := by
  rw [hp] at h
  exact h

/-- The same as a condition on poll times only (`seen`: last poll times, `N`: number of stations). -/
def SchedNT (P N : Nat) : List Int → Int → List (Nat × Int) → Prop
  | _, _, [] => True
  | seen, tl, (i, now) :: rest =>
    i < N ∧ tl ≤ now ∧ seen.getD i 0 < now ∧ (∀ j, j < N → now ≤ seen.getD j 0 + (P : Nat)) ∧
    SchedNT P N (seen.set i now) now rest

theorem schedN_of_times (P : Nat) : ∀ (evs : List (Nat × Int)) (n : Net) (tl : Int),
    SchedNT P n.stations.length n.bus.seen tl evs → SchedN P n tl evs := by
  intro evs
  induction evs with
  | nil => intro _ _ _; trivial
  | cons ev rest ih =>
    intro n tl h
    obtain ⟨i, now⟩ := ev
    obtain ⟨h1, h2, h3, h4, h5⟩ := h
    exact ⟨h1, h2, h3, h4, ih _ now (by rw [Net.poll_seenN, Net.poll_len]; exact h5)⟩

/-- Executable form of the schedule condition `SchedNT` (for concrete poll lists). -/
def schedNTb (P N : Nat) : List Int → Int → List (Nat × Int) → Bool
  | _, _, [] => true
  | seen, tl, (i, now) :: rest =>
    decide (i < N) && decide (tl ≤ now) && decide (seen.getD i 0 < now) &&
    (List.range N).all (fun j => decide (now ≤ seen.getD j 0 + (P : Nat))) &&
    schedNTb P N (seen.set i now) now rest

theorem schedNT_of_b (P N : Nat) : ∀ (evs : List (Nat × Int)) (seen : List Int) (tl : Int),
    schedNTb P N seen tl evs = true → SchedNT P N seen tl evs := by
  intro evs
  induction evs with
  | nil => intro _ _ _; trivial
  | cons ev rest ih =>
    intro seen tl h
    obtain ⟨i, now⟩ := ev
    simp only [schedNTb, Bool.and_eq_true, decide_eq_true_eq, List.all_eq_true, List.mem_range] at h
    obtain ⟨⟨⟨⟨h1, h2⟩, h3⟩, h4⟩, h5⟩ := h
    exact ⟨h1, h2, h3, h4, ih _ _ h5⟩

/-- Poll times of the survivor: increasing, gaps at most `P`. -/
def SchedXT (P : Nat) : Int → List Int → Prop
  | _, [] => True
  | prev, now :: rest => prev < now ∧ now ≤ prev + (P : Int) ∧ SchedXT P now rest

def SoloRun (x : Nat) : Net → List Int → Prop
  | _, [] => True
  | n, now :: rest => ∃ n' inc c, n.poll x now = (n', inc, some (.ok c)) ∧ SoloRun x n' rest

/-- A live station that satisfies the station invariant is polled regularly whatever the bus delivers (C05). -/
theorem solo_regular (x : Nat) : ∀ (evs : List Int) (n : Net) (st : NetStation), n.stations[x]? = some st → st.dead = false →
    st.online = true → Inv st.s st.apps → SoloRun x n evs := by
  intro evs
  induction evs with
  | nil => intro _ _ _ _ _ _; trivial
  | cons now rest ih =>
    intro n st hst hal hon hinv
    have hxl : x < n.stations.length := by
      rcases Nat.lt_or_ge x n.stations.length with h | h
      · exact h
      · rw [List.getElem?_eq_none_iff.2 h] at hst; cases hst
    rcases hd : n.bus.deliver x now with ⟨bus, inc⟩
    obtain ⟨c, hc, hinv', -⟩ := pollInner_good { s := st.s, apps := st.apps, rx := st.rx ++ inc } now
      (bus.transmitting x now) hinv rfl
    have hp := Net.poll_eq n x now st bus inc c hst hal hon hd hc
    exact ⟨_, inc, c, hp, ih _ { st with s := c.s, apps := c.apps, rx := c.rx } (List.getElem?_set_self hxl) hal hon hinv'⟩

theorem Bus.transmitting_ended {cfg : Cfg} {b : Bus} {i : Nat} {now : Int} (hrate : b.rate = cfg.rate)
    (h : ∀ t ∈ b.txs, t.sender = i → cEnd cfg t ≤ now) : b.transmitting i now = false :=
  Bus.transmitting_over b i now fun t ht hs => by
    unfold Bus.txEnd
    rw [byteEnd_cfg b cfg hrate]
    exact h t ht hs

/-- The fault-free log: what `Bus.deliver` needs to hand over every character unchanged and in order (`Wire.deliver`) —
nothing corrupted, dropped, overlapping or empty.  The log conditions of both rings and of the cold start (`BusOk` apart)
give it: `LogOk.wire`, `Solo.wire`, `LoneLogR.wire`. -/
structure Wire (cfg : Cfg) (b : Bus) : Prop where
  rate : b.rate = cfg.rate
  corrupt : b.corrupt = []
  chained : CChained cfg b.txs
  live : ∀ t ∈ b.txs, t.dropped = false
  pos : ∀ t ∈ b.txs, 0 < t.bytes.length

theorem Wire.seen {cfg : Cfg} {b : Bus} (h : Wire cfg b) (sn : List Int) : Wire cfg { b with seen := sn } :=
  ⟨h.rate, h.corrupt, h.chained, h.live, h.pos⟩

theorem Wire.txEnd {cfg : Cfg} {b : Bus} (h : Wire cfg b) (t : Transmission) : b.txEnd t = cEnd cfg t :=
  Bus.txEnd_cfg b cfg h.rate t

theorem Wire.busChained {cfg : Cfg} {b : Bus} (h : Wire cfg b) : b.Chained b.txs := by
  unfold Bus.Chained
  refine (show CChained cfg b.txs from h.chained).imp ?_
  intro o t hot
  rw [h.txEnd]; exact hot

theorem Wire.phy {cfg : Cfg} {b : Bus} (h : Wire cfg b) {j : Nat} {now : Int}
    (hown : ∀ o ∈ b.txs, o.sender = j → cEnd cfg o ≤ now) : b.transmitting j now = false :=
  Bus.transmitting_ended h.rate hown

/-- A transmission that starts when everything in the log is over keeps the log fault-free.  Last conjunct: what
holds of every old entry and of the new one holds of all. -/
theorem Wire.send {cfg : Cfg} {b : Bus} (h : Wire cfg b) (hr : 0 < cfg.rate) (hdrops : b.drops = []) (i : Nat) (now : Int)
    (bytes : Bytes) (hbl : 0 < bytes.length) (hends : ∀ o ∈ b.txs, cEnd cfg o ≤ now) :
    Wire cfg (b.send i now bytes) ∧ (b.send i now bytes).drops = [] ∧ (b.send i now bytes).seen = b.seen ∧
    (b.send i now bytes).txs = (b.txs.filter fun t => decide (b.txEnd t + 100000 > now)) ++
      [({ start := now, sender := i, bytes := bytes, dropped := false } : Transmission)] ∧
    ∀ K : Transmission → Prop, (∀ t ∈ b.txs, K t) → K { start := now, sender := i, bytes := bytes, dropped := false } →
      ∀ t ∈ (b.send i now bytes).txs, K t := by
  obtain ⟨htxs, hrate, hseen, hcor, hdr⟩ := Bus.send_txs b i now bytes hdrops (by rw [h.rate]; exact hr)
  have hmem : ∀ o ∈ (b.send i now bytes).txs, o ∈ b.txs ∨ o = { start := now, sender := i, bytes := bytes, dropped := false } := by
    intro o ho
    rw [htxs] at ho
    rcases List.mem_append.1 ho with ho | ho
    · exact .inl (List.mem_filter.1 ho).1
    · exact .inr (List.mem_singleton.1 ho)
  have hall : ∀ K : Transmission → Prop, (∀ t ∈ b.txs, K t) → K { start := now, sender := i, bytes := bytes, dropped := false } →
      ∀ t ∈ (b.send i now bytes).txs, K t := by
    intro K hK hnew t ht
    rcases hmem t ht with ht | rfl
    · exact hK t ht
    · exact hnew
  refine ⟨⟨hrate.trans h.rate, hcor.trans h.corrupt, ?_, hall _ h.live rfl, hall _ h.pos hbl⟩, hdr, hseen, htxs, hall⟩
  rw [htxs]
  unfold CChained
  rw [List.pairwise_append]
  refine ⟨List.Pairwise.sublist List.filter_sublist h.chained, List.pairwise_singleton _ _, ?_⟩
  intro o ho t ht
  rw [List.mem_singleton.1 ht]
  exact hends o (List.mem_filter.1 ho).1

theorem Wire.deliver {cfg : Cfg} {b : Bus} (hW : Wire cfg b) (hr : 0 < cfg.rate) (j : Nat) (now : Int)
    (dn rs : List Transmission) (h1 : b.txs = dn ++ rs) (h2 : ∀ o ∈ dn, o.sender = j ∨ cEnd cfg o ≤ b.seen.getD j 0)
    (hoth : ∀ t ∈ rs, t.sender ≠ j) (hsn : b.seen.getD j 0 ≤ now) :
    ∃ inc, b.deliver j now = ({ b with seen := b.seen.set j now }, inc) ∧
      arrived cfg rs (b.seen.getD j 0) ++ inc = arrived cfg rs now := by
  have hcrs : CChained cfg rs := by have := hW.chained; rw [h1] at this; exact (List.pairwise_append.1 this).2.1
  refine ⟨_, Bus.deliver_chained b (by rw [hW.rate]; exact hr) hW.corrupt j now hW.busChained hW.live, ?_⟩
  rw [h1, List.map_append, List.flatten_append,
    seg_done cfg b hW.rate j _ now hsn dn (fun o ho =>
      (h2 o ho).imp id (fun hh => ⟨hW.pos o (by rw [h1]; exact List.mem_append_left _ ho), hh⟩)),
    List.nil_append]
  exact arrived_extend cfg hr b hW.rate j _ now hsn rs hcrs
    (fun t ht => hW.pos t (by rw [h1]; exact List.mem_append_right _ ht)) hoth

/-- Station `j` (record `st`, stamp `l`) relative to the log: `dn` is over for it (its own, or delivered
completely), `rs` are other stations' transmissions it has not consumed; its buffer holds exactly what has arrived of
`rs`, whose head is incomplete. -/
structure Rcv (cfg : Cfg) (b : Bus) (j : Nat) (st : NetStation) (dn rs : List Transmission) (l : Int) : Prop where
  log : b.txs = dn ++ rs
  done : ∀ o ∈ dn, o.sender = j ∨ cEnd cfg o ≤ b.seen.getD j 0
  rx : st.rx = arrived cfg rs (b.seen.getD j 0)
  pend : st.s.pendingBytes ≤ (arrived cfg rs (b.seen.getD j 0)).length
  head : ∀ t rest, rs = t :: rest → cvis cfg t (b.seen.getD j 0) < t.bytes.length
  stamp : st.s.lastBusActivity = some l

section
variable {cfg : Cfg} {b : Bus} {j : Nat} {st : NetStation} {dn rs : List Transmission} {l : Int}

theorem Rcv.chained (h : Rcv cfg b j st dn rs l) (hW : Wire cfg b) : CChained cfg rs := by
  have := hW.chained
  rw [h.log] at this
  exact (List.pairwise_append.1 this).2.1

theorem Rcv.pos (h : Rcv cfg b j st dn rs l) (hW : Wire cfg b) : ∀ t ∈ rs, 0 < t.bytes.length :=
  fun t ht => hW.pos t (by rw [h.log]; exact List.mem_append_right _ ht)

theorem Rcv.ends_after (h : Rcv cfg b j st dn rs l) (hW : Wire cfg b) : ∀ t ∈ rs, b.seen.getD j 0 < cEnd cfg t :=
  rs_end_after cfg rs _ (h.chained hW) (h.pos hW) h.head

theorem Rcv.other (h : Rcv cfg b j st dn rs l) (i : Nat) (now : Int) (hij : i ≠ j) :
    Rcv cfg { b with seen := b.seen.set i now } j st dn rs l := by
  have e : ({ b with seen := b.seen.set i now } : Bus).seen.getD j 0 = b.seen.getD j 0 := seen_set_other b i j now hij
  exact ⟨h.log, by rw [e]; exact h.done, by rw [e]; exact h.rx, by rw [e]; exact h.pend,
    by rw [e]; exact h.head, h.stamp⟩

/-- Another station `x` transmits at `q` (not before `j`'s last poll, which is less than 100 ms old if `j` lags): nothing
`j` has not consumed is forgotten by the bus, nothing of the new transmission has arrived; the next character does not
come later than before (`nextArr`; the new horizon is arbitrary, it is read only when `rs` is empty). -/
theorem Rcv.snoc (h : Rcv cfg b j st dn rs l) (hW : Wire cfg b) (hr : 0 < cfg.rate) {b' : Bus} (x : Nat)
    (q : Int) (bytes : Bytes) (hbl : 0 < bytes.length) (hsj : b.seen.getD j 0 ≤ q)
    (hP : rs ≠ [] → q ≤ b.seen.getD j 0 + 100000)
    (htx' : b'.txs = (b.txs ++ [({ start := q, sender := x, bytes := bytes, dropped := false } : Transmission)]).filter
      fun t => decide (b.txEnd t + 100000 > q))
    (hseen : b'.seen = b.seen) :
    Rcv cfg b' j st (dn.filter fun t => decide (b.txEnd t + 100000 > q))
      (rs ++ [{ start := q, sender := x, bytes := bytes, dropped := false }]) l ∧
    ∀ H H' : Int, q ≤ H →
      nextArr cfg H' (rs ++ [({ start := q, sender := x, bytes := bytes, dropped := false } : Transmission)]) (b.seen.getD j 0) ≤
        nextArr cfg H rs (b.seen.getD j 0) := by
  have hafter := h.ends_after hW
  have hc0 := cfg.ce_pos hr 0
  have hkeep : rs.filter (fun t => decide (b.txEnd t + 100000 > q)) = rs := by
    rw [List.filter_eq_self]
    intro t ht
    have := hafter t ht
    have := hP (List.ne_nil_of_mem ht)
    rw [hW.txEnd]
    simp only [decide_eq_true_eq]
    omega
  have hkeep' : decide (b.txEnd ({ start := q, sender := x, bytes := bytes, dropped := false } : Transmission) + 100000 > q) = true := by
    rw [hW.txEnd]
    unfold cEnd
    simp only [decide_eq_true_eq]
    omega
  have hv0 : cvis cfg ({ start := q, sender := x, bytes := bytes, dropped := false } : Transmission) (b.seen.getD j 0) = 0 := by
    apply cvis_zero
    simp only
    omega
  have harr : arrived cfg (rs ++ [({ start := q, sender := x, bytes := bytes, dropped := false } : Transmission)]) (b.seen.getD j 0) =
      arrived cfg rs (b.seen.getD j 0) := by
    rw [arrived_append]
    unfold arrived
    simp only [List.map_cons, List.map_nil, List.flatten_cons, List.flatten_nil, hv0, List.take_zero, List.append_nil]
  refine ⟨⟨?_, ?_, ?_, ?_, ?_, h.stamp⟩, ?_⟩
  · rw [htx', h.log, List.filter_append, List.filter_append, hkeep]
    simp only [List.filter_cons, hkeep', if_true, List.filter_nil, List.append_assoc]
  · rw [hseen]; exact fun o ho => h.done o (List.mem_filter.1 ho).1
  · rw [hseen, harr]; exact h.rx
  · rw [hseen, harr]; exact h.pend
  · rw [hseen]
    intro t rest hrs
    cases rs with
    | nil =>
      simp only [List.nil_append, List.cons.injEq] at hrs
      obtain ⟨rfl, -⟩ := hrs
      rw [hv0]; exact hbl
    | cons t0 r0 =>
      simp only [List.cons_append, List.cons.injEq] at hrs
      obtain ⟨rfl, -⟩ := hrs
      exact h.head _ _ rfl
  · intro H H' hqH
    unfold nextArr
    cases rs with
    | nil => simp only [List.nil_append, hv0]; omega
    | cons t r => exact Int.le_refl _

theorem Rcv.deliver (h : Rcv cfg b j st dn rs l) (hW : Wire cfg b) (hr : 0 < cfg.rate) (hoth : ∀ t ∈ rs, t.sender ≠ j)
    (now : Int) (hsn : b.seen.getD j 0 ≤ now) :
    ∃ inc, b.deliver j now = ({ b with seen := b.seen.set j now }, inc) ∧ st.rx ++ inc = arrived cfg rs now := by
  rw [h.rx]
  exact hW.deliver hr j now dn rs h.log h.done hoth hsn

theorem Rcv.poll (h : Rcv cfg b j st dn rs l) (hW : Wire cfg b) (hr : 0 < cfg.rate) (hoth : ∀ t ∈ rs, t.sender ≠ j)
    (now : Int) (hown : ∀ o ∈ b.txs, o.sender = j → cEnd cfg o ≤ now) (hl : l < now) (hsn : b.seen.getD j 0 ≤ now)
    (hinv : Inv st.s st.apps) (hon : st.s.online = true) (hno : st.s.st ≠ .offline) (hnp : st.s.st ≠ .passiveIdle) :
    ∃ inc s1, b.deliver j now = ({ b with seen := b.seen.set j now }, inc) ∧
      st.s.poll st.apps now (Bus.transmitting { b with seen := b.seen.set j now } j now) (st.rx ++ inc) =
        dispatch { s := s1, apps := st.apps, rx := arrived cfg rs now } now ∧
      (∀ c, dispatch { s := s1, apps := st.apps, rx := arrived cfg rs now } now = .ok c → Inv c.s c.apps) ∧
      s1.st = st.s.st ∧ s1.p = st.s.p ∧ s1.ring = st.s.ring ∧ s1.online = true ∧ s1.gap = st.s.gap ∧
      s1.lastBusActivity = some (if st.s.pendingBytes < (arrived cfg rs now).length then now else l) ∧
      s1.pendingBytes ≤ (arrived cfg rs now).length := by
  obtain ⟨inc, hdv, hcat⟩ := h.deliver hW hr hoth now hsn
  have hpend := Nat.le_trans h.pend (arrived_length_le cfg rs hsn)
  have hpd := poll_dispatch st.s st.apps now (arrived cfg rs now) hon hno hnp (late_of_some h.stamp hl)
  rw [checkBA_noted st.s now l _ h.stamp hl] at hpd
  refine ⟨inc, _, hdv, ?_, fun c hc => (poll_ok_inv hinv (hpd.trans hc)).1, rfl, rfl, rfl, hon, rfl, rfl,
    Nat.max_le.2 ⟨hpend, Nat.le_refl _⟩⟩
  rw [transmitting_seen, hW.phy hown, hcat]
  exact hpd

theorem Rcv.advance (h : Rcv cfg b j st dn rs l) (hW : Wire cfg b) (hjl : j < b.seen.length) {now : Int}
    (hsn : b.seen.getD j 0 ≤ now) {c : Ctx} {k : Nat} {l' : Int}
    (hfull : ∀ t ∈ rs.take k, cvis cfg t now = t.bytes.length)
    (hhead : ∀ t rest, rs.drop k = t :: rest → cvis cfg t now < t.bytes.length)
    (hrx : c.rx = arrived cfg (rs.drop k) now) (hpend : c.s.pendingBytes ≤ (arrived cfg (rs.drop k) now).length)
    (hstamp : c.s.lastBusActivity = some l') :
    Rcv cfg { b with seen := b.seen.set j now } j (upSt st c) (dn ++ rs.take k) (rs.drop k) l' := by
  refine ⟨by rw [List.append_assoc, List.take_append_drop]; exact h.log, ?_, ?_, ?_, ?_, hstamp⟩
  all_goals simp only
  all_goals rw [seen_set_self b j now hjl]
  · intro o ho
    rcases List.mem_append.1 ho with ho | ho
    · exact (h.done o ho).imp id (fun hh => by omega)
    · exact .inr (cEnd_le_of_full cfg o now (h.pos hW o (List.mem_of_mem_take ho)) (hfull o ho))
  · exact hrx
  · exact hpend
  · exact hhead

end

end PV
