/-
Helper lemmas about bytes and words: "bit `k` is set" in the spellings that occur — the code tests it with a mask
(`x &&& 2^k ≠ 0`), the specifications say `x / 2^k % 2 = 1` — and finite facts lifted from a kernel-evaluated table
over all 256 bytes.
-/
namespace PV

theorem forall_u8 (p : UInt8 → Bool)
    (h : (List.range 256).all (fun n => p (UInt8.ofNat n)) = true) (b : UInt8) : p b = true := by
  rw [List.all_eq_true] at h
  have := h b.toNat (by simp [List.mem_range]; exact b.toNat_lt)
  simpa using this

theorem addr_or_and (a : UInt8) (h : a < 128) : (a ||| 128) &&& ~~~128 = a := by
  have := forall_u8 (fun a => decide (a < 128 → (a ||| 128) &&& ~~~128 = a)) (by decide +kernel) a
  simp only [decide_eq_true_eq] at this
  exact this h

theorem addr_or_bit (a : UInt8) : ((a ||| 128) &&& 128 = 0) = False := by
  have := forall_u8 (fun a => decide (¬ (a ||| 128) &&& 128 = 0)) (by decide +kernel) a
  simpa using this

theorem and_two_pow (x k : Nat) : x &&& 2 ^ k = if x.testBit k then 2 ^ k else 0 := by
  apply Nat.eq_of_testBit_eq
  intro i
  rw [Nat.testBit_and, Nat.testBit_two_pow]
  by_cases hki : k = i
  · subst hki
    cases h : x.testBit k
    · simp
    · simp [Nat.testBit_two_pow_self]
  · cases h : x.testBit k
    · simp [hki]
    · simp [hki]

theorem and_two_pow_ne_zero (x k : Nat) : x &&& 2 ^ k ≠ 0 ↔ x / 2 ^ k % 2 = 1 := by
  have hp : 0 < 2 ^ k := Nat.pow_pos (by decide)
  have hb : x.testBit k = true ↔ x / 2 ^ k % 2 = 1 := by
    rw [Nat.testBit_eq_decide_div_mod_eq, decide_eq_true_eq]
  rw [and_two_pow, ← hb]
  cases x.testBit k
  · simp
  · simp only [if_true, ne_eq, iff_true]; omega

theorem u8_mask (x : UInt8) (k : Nat) (hk : k < 8) :
    x &&& UInt8.ofNat (2 ^ k) ≠ 0 ↔ x.toNat / 2 ^ k % 2 = 1 := by
  have h2 : (UInt8.ofNat (2 ^ k)).toNat = 2 ^ k := by
    rw [UInt8.toNat_ofNat']; exact Nat.mod_eq_of_lt (Nat.pow_lt_pow_right (by decide) hk)
  rw [Ne, ← UInt8.toNat_inj, UInt8.toNat_and, h2, UInt8.toNat_zero]
  exact and_two_pow_ne_zero _ _

theorem u16_mask (x : UInt16) (k : Nat) (hk : k < 16) :
    x &&& UInt16.ofNat (2 ^ k) ≠ 0 ↔ x.toNat / 2 ^ k % 2 = 1 := by
  have h2 : (UInt16.ofNat (2 ^ k)).toNat = 2 ^ k := by
    rw [UInt16.toNat_ofNat']; exact Nat.mod_eq_of_lt (Nat.pow_lt_pow_right (by decide) hk)
  rw [Ne, ← UInt16.toNat_inj, UInt16.toNat_and, h2, UInt16.toNat_zero]
  exact and_two_pow_ne_zero _ _

/-- The same for a clear bit (the form `C03.flag_tests_arith` compares with the bytes of a diagnostics reply). -/
theorem and_pow_zero_iff (f : UInt16) (k : Nat) (hk : k < 16) :
    f &&& UInt16.ofNat (2 ^ k) = 0 ↔ f.toNat / 2 ^ k % 2 = 0 := by
  have h := u16_mask f k hk
  have h2 : f.toNat / 2 ^ k % 2 < 2 := Nat.mod_lt _ (by decide)
  constructor
  · intro e; exact Decidable.byContradiction fun hne => h.mpr (by omega) e
  · intro e; exact Decidable.byContradiction fun hne => by have := h.mp hne; omega

theorem addr_nobit (a : UInt8) (h : a < 128) : a &&& 128 = 0 := by
  have ha : a.toNat < 128 := by simpa [UInt8.lt_iff_toNat_lt] using h
  refine Decidable.byContradiction fun hne => ?_
  have := (u8_mask a 7 (by decide)).mp hne
  omega

theorem ofNat_toNat_le (n : Nat) (h : n ≤ 255) : (UInt8.ofNat n).toNat = n := by
  simp [UInt8.toNat_ofNat']; omega

end PV
