/-
The codec round trip (C09): what `serialize` writes is `frameSpec` (`serialize_ok`), and the decoder's accept
condition (`decode_accept_iff`, `Lemmas/Frame.lean`) holds of it (`decode_frame`); the token and the short confirmation
decode back too (`decode_token`, `decode_sc`: the decoder unfolded on their three bytes and one byte).  Property theorems:
Props/C09.lean.
-/
import ProfiVerif.Lemmas.Bytes
import ProfiVerif.Lemmas.Frame
namespace PV

theorem fc_roundtrip (fc : FunctionCode) : FunctionCode.fromByte fc.toByte = .ok fc := by
  cases fc with
  | request fcb req => cases fcb <;> cases req <;> rfl
  | response st stat => cases st <;> cases stat <;> rfl

theorem frame?_body (sd : UInt8) (h : Header) (pdu rest : Bytes) (hda : h.da < 128) (hsa : h.sa < 128) :
    frame? (sd :: (h.body pdu ++ [checksum (h.body pdu), ED] ++ rest)) (pdu.length + h.saps) =
      some (.data h pdu) := by
  obtain ⟨da, sa, dsap, ssap, fc⟩ := h
  simp only at hda hsa
  have h1 := addr_nobit da hda
  have h2 := addr_nobit sa hsa
  -- `frame?` reads back field by field what `Header.body` wrote: bit 7 of DA / SA says that a SAP byte follows and is
  -- masked off again (`addr_or_bit`, `addr_or_and`; `addr_nobit` where there is none)
  cases dsap <;> cases ssap <;>
    simp [frame?, sapCount, headerOf, hasDsapBit, hasSsapBit, Header.body, Header.saps, optByte, fc_roundtrip,
      addr_or_and, addr_or_bit, h1, h2, hda, hsa, List.getD_eq_getElem?_getD]

theorem body_length (h : Header) (pdu : Bytes) : (h.body pdu).length = pdu.length + h.saps + 3 := by
  obtain ⟨da, sa, dsap, ssap, fc⟩ := h
  cases dsap <;> cases ssap <;> simp [Header.body, Header.saps, optByte] <;> omega

theorem serialize_ok (h : Header) (pdu : Bytes) (hl : h.lengthByte pdu.length ≤ 249) :
    h.serialize pdu = .ok (frameSpec h pdu) := by
  unfold Header.serialize frameSpec
  simp only [Header.lengthByte] at hl ⊢
  obtain ⟨n, hn⟩ : ∃ n, pdu.length + h.saps = n := ⟨_, rfl⟩
  simp only [hn] at hl ⊢
  by_cases h3 : n = 0
  · subst h3; simp
  · by_cases h11 : n = 8
    · subst h11; simp
    · have e1 : ¬ (n + 3 = 3) := by omega
      have e2 : ¬ (n + 3 = 11) := by omega
      simp only [e1, e2, if_false]
      rw [if_neg (by omega), if_neg (by omega), if_neg (by omega)]

theorem frame_length (h : Header) (pdu : Bytes) : (frameSpec h pdu).length = h.telegramLen pdu.length := by
  have hb := body_length h pdu
  unfold frameSpec Header.telegramLen
  simp only [Header.lengthByte] at hb ⊢
  obtain ⟨n, hn⟩ : ∃ n, pdu.length + h.saps = n := ⟨_, rfl⟩
  simp only [hn] at hb ⊢
  by_cases h3 : n = 0
  · subst h3; simp [hb]
  · by_cases h11 : n = 8
    · subst h11; simp [hb]
    · have e1 : ¬ (n + 3 = 3) := by omega
      have e2 : ¬ (n + 3 = 11) := by omega
      simp only [e1, e2, if_false, false_or]
      simp [hb]

theorem decode_frame (h : Header) (pdu rest : Bytes)
    (hda : h.da < 128) (hsa : h.sa < 128) (hl : h.lengthByte pdu.length ≤ 249) :
    deserialize (frameSpec h pdu ++ rest) = .accept (.data h pdu) (frameSpec h pdu).length := by
  have hb := body_length h pdu
  have hr := fun sd => frame?_body sd h pdu rest hda hsa
  rw [decode_accept_iff, frame_length]
  -- the three layouts by payload length `n`: SD1 (`n = 0`), SD3 (`n = 8`), else SD2; in each the announced length is the
  -- frame's, and what is judged is `h.body pdu`, checksum, ED (`frame?_body`)
  unfold frameSpec Header.telegramLen
  simp only [Header.lengthByte] at hl hb ⊢
  obtain ⟨n, hn⟩ : ∃ n, pdu.length + h.saps = n := ⟨_, rfl⟩
  simp only [hn] at hl hb hr ⊢
  by_cases h3 : n = 0
  · subst h3
    refine ⟨announced_sd1 (by simp) (by simp), by simp [hb]; omega, ?_⟩
    rw [telegram?_sd1 _ (by simp)]
    simpa using hr SD1
  by_cases h11 : n = 8
  · subst h11
    refine ⟨announced_sd3 (by simp) (by simp), by simp [hb]; omega, ?_⟩
    rw [telegram?_sd3 _ (by simp)]
    simpa using hr SD3
  have e1 : ¬ (n + 3 = 3) := by omega
  have e2 : ¬ (n + 3 = 11) := by omega
  have hle : (UInt8.ofNat (n + 3)).toNat = n + 3 := ofNat_toNat_le _ (by omega)
  simp only [e1, e2, if_false, false_or]
  generalize UInt8.ofNat (n + 3) = l1 at hle
  have hlt : ¬ (l1 < 3) := by rw [UInt8.lt_iff_toNat_lt, hle]; simp
  refine ⟨?_, by simp [hb]; omega, ?_⟩
  · rw [announced_sd2 (by simp) (by simp), if_neg (by simp [hb]; omega), if_pos ⟨by simp, by simpa using hlt, by simp⟩]
    simp [hle]
  · rw [telegram?_sd2 _ (by simp)]
    simpa [show n + 3 + 6 - 9 = n by omega] using hr SD2

theorem decode_token (da sa : UInt8) (rest : Bytes) :
    deserialize (sendToken da sa ++ rest) = .accept (.token da sa) (sendToken da sa).length := by
  simp [sendToken, deserialize, deserializeToken, SD4, SC]

theorem decode_sc (rest : Bytes) : deserialize (sendSc ++ rest) = .accept .sc sendSc.length := by
  simp [sendSc, deserialize, SC]

end PV
