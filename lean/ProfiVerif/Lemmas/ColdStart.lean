/-
Cold start of the ring on a silent bus, phase (a1): every station listens until the token-lost time-out of
the first one runs out.  One poll of a listening station with any batch (`listen_poll_batch`), the invariant `CS0` of
the silent phase and a poll under it before the polled station's time-out (`cs0_wait`); the poll that claims and the run
up to it are `cold_start_claim_step` / `cold_start_first_claim` in `Props/C06.lean`.
-/
import ProfiVerif.Lemmas.BusLog

namespace PV
open StationGap TokenRing

theorem Bus.deliver_allOwn (b : Bus) (i : Nat) (now : Int) (h : ∀ t ∈ b.txs, t.sender = i) :
    b.deliver i now = ({ b with seen := b.seen.set i now }, []) := by
  unfold Bus.deliver
  simp only
  rw [Bus.foldl_skip _ _ b.txs.zipIdx fun x hx a => by
    simp only [h x.1 (List.fst_mem_of_mem_zipIdx hx), true_or, if_true]]
  rfl

theorem Bus.transmitting_allOwn (cfg : Cfg) (b : Bus) (i : Nat) (l now : Int) (hrate : b.rate = cfg.rate)
    (h0 : ∀ o ∈ b.txs, cEnd cfg o ≤ l + 1) (hl : l < now) : b.transmitting i now = false :=
  Bus.transmitting_ended hrate (fun o ho _ => by have := h0 o ho; omega)

theorem Bus.deliver_nil (b : Bus) (i : Nat) (now : Int) (h : b.txs = []) :
    b.deliver i now = ({ b with seen := b.seen.set i now }, []) :=
  Bus.deliver_allOwn b i now (by rw [h]; intro t ht; cases ht)

theorem Bus.transmitting_nil (b : Bus) (i : Nat) (now : Int) (h : b.txs = []) : b.transmitting i now = false :=
  Bus.transmitting_ended (cfg := ⟨b.rate, 0, 0⟩) rfl (by rw [h]; intro t ht; cases ht)

theorem listen_poll_batch (s : Station) (apps : Apps) (now : Int) (rx rx' : Bytes) (calls : List (Telegram × Bool)) (ret : Bool)
    (coll : Nat) (l : Int) (hon : s.online = true) (hst : s.st = .listenToken none coll) (hl : s.lastBusActivity = some l)
    (hlt : l < now) (hne : s.pendingBytes < rx.length ∨ now < l + (s.p.tokenLostTimeout : Nat)) (hto : 0 < s.p.tokenLostTimeout)
    (hrx : receiveAll rx = .done rx' calls ret) :
    s.poll apps now false rx =
      foldTelegrams (listenTelegram now) { s := checkBusActivity s now rx.length, apps := apps, rx := rx' } calls :=
  listen_poll_recv s apps now rx rx' calls ret coll hon hst (late_of_some hl hlt) hto (hne.imp id fun h => ⟨l, hl, h⟩) hrx

theorem listen_poll_quiet (s : Station) (apps : Apps) (now l : Int) (coll : Nat) (hon : s.online = true)
    (hst : s.st = .listenToken none coll) (hl : s.lastBusActivity = some l) (hlt : l < now)
    (hw : now < l + (s.p.tokenLostTimeout : Nat)) :
    s.poll apps now false [] = .ok { s := s, apps := apps, rx := [] } := by
  rw [listen_poll_batch s apps now [] [] [] false coll l hon hst hl hlt (.inr hw) (by omega) receiveAll_nil]
  simp only [List.length_nil, checkBus_nil, foldTelegrams]

structure Listening (st : NetStation) (l : Int) : Prop where
  online : st.online = true
  alive : st.dead = false
  inv : Inv st.s st.apps
  son : st.s.online = true
  rx : st.rx = []
  lis : ∃ coll, st.s.st = .listenToken none coll
  stamp : st.s.lastBusActivity = some l

/-- **Silent cold start**: nothing has been transmitted yet; every station listens, with stamp `lst j` not later
than its last poll. -/
structure CS0 (n : Net) (lst : Nat → Int) : Prop where
  txs : n.bus.txs = []
  seenlen : n.bus.seen.length = n.stations.length
  st : ∀ j, j < n.stations.length → ∃ st, n.stations[j]? = some st ∧ Listening st (lst j) ∧
    lst j ≤ n.bus.seen.getD j 0

theorem cs0_wait {n : Net} {lst : Nat → Int} (h : CS0 n lst) (j : Nat) (hj : j < n.stations.length) (now : Int)
    (hown : n.bus.seen.getD j 0 < now) (st : NetStation) (hst : n.stations[j]? = some st)
    (hw : now < lst j + (st.s.p.tokenLostTimeout : Nat)) :
    ∃ n' c, n.poll j now = (n', [], some (.ok c)) ∧ c.tx = none ∧ CS0 n' lst ∧ n'.stations = n.stations := by
  obtain ⟨st', hst', hL, hls⟩ := h.st j hj
  rw [hst] at hst'
  cases hst'
  obtain ⟨coll, hs⟩ := hL.lis
  have hjs : j < n.bus.seen.length := by rw [h.seenlen]; exact hj
  have hp := listen_poll_quiet st.s st.apps now (lst j) coll hL.son hs hL.stamp (by omega) hw
  have hp' : st.s.poll st.apps now (Bus.transmitting { n.bus with seen := n.bus.seen.set j now } j now)
      (st.rx ++ []) = .ok { s := st.s, apps := st.apps, rx := [] } := by
    rw [transmitting_seen, hL.rx, Bus.transmitting_nil _ _ _ h.txs]; exact hp
  have hpe := Net.poll_eq n j now st _ [] _ hst hL.alive hL.online (Bus.deliver_nil n.bus j now h.txs) hp'
  have hsame : ({ st with s := st.s, apps := st.apps, rx := [] } : NetStation) = st := by rw [← hL.rx]
  simp only at hpe
  rw [hsame] at hpe
  have hset : n.stations.set j st = n.stations := by
    apply List.ext_getElem?
    intro k
    by_cases hk : k = j
    · subst hk; rw [List.getElem?_set_self hj, hst]
    · rw [List.getElem?_set_ne (Ne.symm hk)]
  rw [hset] at hpe
  refine ⟨_, _, hpe, rfl, ⟨h.txs, by simp [h.seenlen], ?_⟩, rfl⟩
  intro k hk
  obtain ⟨stk, hstk, hLk, hlk⟩ := h.st k hk
  refine ⟨stk, hstk, hLk, ?_⟩
  simp only
  by_cases hkj : k = j
  · subst hkj; rw [seen_set_self _ _ _ hjs]; omega
  · rw [seen_set_other _ _ _ _ (Ne.symm hkj)]; exact hlk

end PV
