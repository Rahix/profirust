/-
Cold start of two stations, chained: from both stations listening on a silent bus through the first claim, the
second token and the GAP sweep up to the first answered GAP request (reply "not ready" received).
-/
import ProfiVerif.Lemmas.ColdStartLink

namespace PV
open StationGap TokenRing

/-- **A fresh listener is not ready before the third token**: the LAS passes through discovery and verification. -/
theorem witnessK_notReady (aL : Nat) (haL : aL ≤ 125) (r : TokenRing) (hr : r.las = .uninitialized) (k : Nat) (hk : k ≤ 2) :
    (witnessK aL k r).readyForRing = false := by
  have h1 : (r.witness aL aL).las = .discovery := by
    rw [witness_uninitialized r aL aL hr haL haL, if_pos (Nat.le_refl _)]
  have h2 : ((r.witness aL aL).witness aL aL).las = .verification := by
    rw [witness_discovery _ aL aL h1 haL haL, if_pos (Nat.le_refl _)]
  match k, hk with
  | 0, _ => unfold witnessK TokenRing.readyForRing; simp [hr]
  | 1, _ => unfold witnessK witnessK TokenRing.readyForRing; simp [h1]
  | 2, _ => unfold witnessK witnessK witnessK TokenRing.readyForRing; simp [h2]

/-- **Run of claimant and listener up to the first answered GAP request**: as `DuoRun`; when the claimant sends the
GAP request to the listener's address the run goes on as `RplRun` (request registered, pause, reply "not ready",
reply received no later than `2·ce 5 + bits 33 + 3P` after the request). -/
def DuoRun2 (cfg : Cfg) (x y aL aH : Nat) (B : Int) : Net → List (Nat × Int) → Prop
  | _, [] => True
  | n, (i, now) :: rest =>
    ∃ n' inc c, n.poll i now = (n', inc, some (.ok c)) ∧
      ((i = y ∧ c.tx = none ∧ DuoRun2 cfg x y aL aH B n' rest) ∨
       (i = x ∧ now ≤ B ∧
          ((c.s.st = .useToken ⟨now, none⟩ false ∧ c.tx = some (selfToken aL)) ∨
           (c.tx = some (statusRequestBytes aH aL) ∧
              RplRun cfg x y aL aH .masterNotReady (now + 2 * ((cfg.ce 5 : Nat) : Int) + (cfg.b33 : Nat) + 3 * (cfg.P : Nat)) n' rest) ∨
           (DuoTx aL aH c ∧ DuoRun2 cfg x y aL aH B n' rest))))

theorem duo_run2 {cfg : Cfg} (hok : cfg.Ok) (hP100 : cfg.P ≤ 100000) (G : Nat) (hG : cfg.slot + 3 * cfg.P ≤ G) (x y : Nat)
    (r0 : TokenRing) (hr0 : r0.las = .uninitialized) (B : Int) (aL hsa : Nat) (sty0 : NetStation) :
    ∀ (evs : List (Nat × Int)) (n : Net) (stx sty : NetStation) (l : Int) (stage : SStage) (hd : List Telegram) (tl : Int),
    Duo cfg G n x y stx sty l stage r0 hd tl → n.stations.length = 2 → stx.s.p.address = aL → stx.s.p.hsa = hsa →
    sty.s.p.address = sty0.s.p.address →
    max (n.bus.seen.getD x 0) (l + ((stage.wait cfg : Nat) : Int)) + ((stage.rest cfg aL hsa : Nat) : Int) ≤ B →
    SchedN cfg.P n tl evs → DuoRun2 cfg x y aL sty0.s.p.address B n evs := by
  intro evs
  induction evs with
  | nil => intro _ _ _ _ _ _ _ _ _ _ _ _ _ _; trivial
  | cons ev rest ih =>
    intro n stx sty l stage hd tl d hN haL hhsa haH hB hs
    obtain ⟨i, now⟩ := ev
    obtain ⟨hi, htl, hown, hgap, hrest⟩ := hs
    subst haL hhsa
    obtain ⟨n', inc, c, hp, hN', hcase⟩ := duo_step d hok hP100 hG hN B hB hi htl hown hgap
    replace hrest := hrest.of_poll hp
    refine ⟨n', inc, c, hp, ?_⟩
    rcases hcase with ⟨rfl, htx, sty', hd', d', haH', hB'⟩ | ⟨rfl, rfl, hnB, hc⟩
    · exact .inl ⟨rfl, htx, ih n' stx sty' l stage hd' now d' hN' rfl rfl (haH'.trans haH) hB' hrest⟩
    · refine .inr ⟨rfl, hnB, ?_⟩
      rcases hc with h1 | h2 | ⟨htx, stage', l', d', e1, e2, hB'⟩
      · exact .inl h1
      · -- the listener has heard at most two tokens when it registers the request: it reports "not ready"
        obtain ⟨dn, rs, lY, coll, hq0, hcnt⟩ :=
          duo_request_hq0 d hok hP100 B hB now htl hown (hgap i d.solo.xl) (hgap y d.yl) n' c hp h2
        have hpeq : c.s.p = stx.s.p := Net.poll_params n i now n' [] c stx hp d.solo.gx
        have hnr : (hearAll stx.s.p.address (hd ++ rs.map telOf) r0).readyForRing = false := by
          rw [hearAll_count]
          exact witnessK_notReady _ (by have := d.aL_lt; omega) r0 hr0 _ hcnt
        refine .inr (.inl ⟨by rw [← haH]; exact h2, ?_⟩)
        exact reply_run hok G hG i y now r0 (hd ++ rs.map telOf) stx.s.p.address sty0.s.p.address .masterNotReady
          (fun s hs => listenReport_notReady s _ (by rw [hs]; exact hnr)) rest n' (upSt stx c) sty
          coll now (.inl ⟨hd, dn, rs, lY, hq0, rfl⟩) hN' (by show c.s.p.address = _; rw [hpeq]) haH hrest
      · exact .inr (.inr ⟨by rw [← haH]; exact htx,
          ih n' (upSt stx c) sty l' stage' hd now d' hN' e1 e2 haH hB' hrest⟩)


/-- **Cold start of two stations up to the first answered GAP request** (`T`, `lim`, `D` as in `TwoRun`). -/
def TwoRun2 (cfg : Cfg) (x y aL aH : Nat) (T lim : Int) (D : Nat) : Net → List (Nat × Int) → Prop
  | _, [] => True
  | n, (i, now) :: rest =>
    ∃ n' inc c, n.poll i now = (n', inc, some (.ok c)) ∧
      ((c.tx = none ∧ (i = x → now < T) ∧ TwoRun2 cfg x y aL aH T lim D n' rest) ∨
       (i = x ∧ T ≤ now ∧ now ≤ lim ∧ c.tx = some (selfToken aL) ∧ c.s.st = .claimToken .secondToken ∧
          DuoRun2 cfg x y aL aH (now + (D : Int)) n' rest))

theorem two_cold_start2 {cfg : Cfg} (hok : cfg.Ok) (hP100 : cfg.P ≤ 100000) (G : Nat) (hG : cfg.slot + 3 * cfg.P ≤ G)
    (x y : Nat) (stx sty : NetStation) (lx ly : Int)
    (hGy : G + cfg.ce 0 + 2 ≤ sty.s.p.tokenLostTimeout) (hne : stx.s.p.address ≠ sty.s.p.address)
    (hsync : cfg.b33 < stx.s.p.tokenLostTimeout) (hr0 : sty.s.ring.las = .uninitialized)
    (hv : RingView [stx.s.p.address] stx.s.p.address stx.s.ring.claimToken)
    (hstag : lx + (stx.s.p.tokenLostTimeout : Nat) + (cfg.P : Nat) + ((cfg.ce 0 : Nat) : Int) < ly + (sty.s.p.tokenLostTimeout : Nat)) :
    ∀ (evs : List (Nat × Int)) (n : Net) (tl : Int), CS2 cfg n x y stx sty lx ly → n.stations.length = 2 →
    n.bus.seen.getD x 0 < lx + (stx.s.p.tokenLostTimeout : Nat) → n.bus.seen.getD y 0 ≤ tl → SchedN cfg.P n tl evs →
    TwoRun2 cfg x y stx.s.p.address sty.s.p.address (lx + (stx.s.p.tokenLostTimeout : Nat))
      (lx + (stx.s.p.tokenLostTimeout : Nat) + (cfg.P : Nat)) (cfg.formTime stx.s.p.hsa) n evs := by
  intro evs
  induction evs with
  | nil => intro _ _ _ _ _ _ _; trivial
  | cons ev rest ih =>
    intro n tl h hN hsx hsy hs
    obtain ⟨i, now⟩ := ev
    obtain ⟨hi, htl, hown, hgap, hrest⟩ := hs
    obtain ⟨n', inc, c, hp, hN', hcase⟩ := cs2_step h hok G hG hGy hne hsync hv hstag hN hsx hsy hi htl hown hgap
    replace hrest := hrest.of_poll hp
    refine ⟨n', inc, c, hp, ?_⟩
    rcases hcase with ⟨htx, hiw, h', hsx', hsy'⟩ | ⟨rfl, hT, hlim, htx, hcs, d, e1, e2, hB⟩
    · exact .inl ⟨htx, hiw, ih n' now h' hN' hsx' hsy' hrest⟩
    · exact .inr ⟨rfl, hT, hlim, htx, hcs, duo_run2 hok hP100 G hG i y sty.s.ring hr0 (now + (cfg.formTime stx.s.p.hsa : Nat))
        stx.s.p.address stx.s.p.hsa sty rest n' (upSt stx c) sty (now + (cfg.b33 : Nat)) .c2 [] now d hN' e1 e2 rfl hB hrest⟩

end PV
