/-
Cold start of two stations, phases (a2)–(a3) until the claimant polls the listener's address: the claimant forms
its ring alone (second claim token, GAP requests), the listener overhears it with arbitrary lag (`Duo`, `duo_run`).
In front of it the silent phase of the two (`CS2`) and the claim (`duo_init`); `two_cold_start` chains them (`TwoRun`).
-/
import ProfiVerif.Lemmas.ListenNet
import ProfiVerif.Lemmas.ColdStartSolo

namespace PV
open StationGap TokenRing

theorem LLOk.send {cfg : Cfg} {G aL me x : Nat} {b b' : Bus} {H H' : Int} {j : Nat} {st : NetStation} {r0 : TokenRing}
    {hd : List Telegram} (h : LLOk cfg G aL b H j st r0 hd) (hlog : LoneLog cfg aL me x b) (hr : 0 < cfg.rate) (haL : aL < 126)
    (q : Int) (bytes : Bytes) (hbl : 0 < bytes.length) (hq2 : q ≤ H) (hsj : b.seen.getD j 0 ≤ q)
    (hP : q ≤ b.seen.getD j 0 + (cfg.P : Nat)) (hP100 : cfg.P ≤ 100000)
    (htx' : b'.txs = (b.txs ++ [({ start := q, sender := x, bytes := bytes, dropped := false } : Transmission)]).filter
      fun t => decide (b.txEnd t + 100000 > q))
    (hseen : b'.seen = b.seen) : LLOk cfg G aL b' H' j st r0 hd := by
  obtain ⟨dn, rs, l, coll, hX⟩ := LLOkX.ofLLOk h
  exact (hX.send hlog.toR hr q bytes hbl hq2 hsj hP hP100 htx' hseen).toLLOk

theorem LLOk.mono {cfg : Cfg} {G aL : Nat} {b : Bus} {H H' : Int} {j : Nat} {st : NetStation} {r0 : TokenRing}
    {hd : List Telegram} (h : LLOk cfg G aL b H j st r0 hd) (hH : H' ≤ H) : LLOk cfg G aL b H' j st r0 hd := by
  obtain ⟨dn, rs, l, coll, hX⟩ := LLOkX.ofLLOk h
  exact (hX.mono hH).toLLOk

theorem LLOk.other {cfg : Cfg} {G aL : Nat} {b : Bus} {H : Int} {j : Nat} {st : NetStation} {r0 : TokenRing}
    {hd : List Telegram} (h : LLOk cfg G aL b H j st r0 hd) (i : Nat) (now : Int) (hij : i ≠ j) :
    LLOk cfg G aL { b with seen := b.seen.set i now } H j st r0 hd := by
  obtain ⟨dn, rs, l, coll, hX⟩ := LLOkX.ofLLOk h
  exact (hX.other i now hij).toLLOk

/-- Tokens the claimant will still send before its sweep: the second claim token in stage `c2`. -/
def SStage.toks : SStage → Nat
  | .c2 => 1
  | _ => 0

theorem countTok_append (a b : List Telegram) : countTok (a ++ b) = countTok a + countTok b := by
  unfold countTok; rw [List.filter_append, List.length_append]

/-- The stage with a token still to be sent (`c2`) is never entered again. -/
theorem SStage.toks_le {s s' : Station} {stage stage' : SStage} (h : stage.ok s) (h' : stage'.ok s')
    (hk : s'.st = .claimToken .secondToken → s.st = .claimToken .secondToken) : stage'.toks ≤ stage.toks := by
  cases stage' with
  | c2 =>
    have h2 := hk h'
    cases stage with
    | c2 => exact Nat.le_refl _
    | scan cur => simp only [SStage.ok] at h; rw [h.1] at h2; cases h2
    | await a => simp only [SStage.ok] at h; rw [h.1] at h2; cases h2
    | done => simp only [SStage.ok] at h; rw [h.1] at h2; cases h2
    | pass => simp only [SStage.ok] at h; rw [h] at h2; cases h2
  | scan cur => exact Nat.zero_le _
  | await a => exact Nat.zero_le _
  | done => exact Nat.zero_le _
  | pass => exact Nat.zero_le _

theorem SStage.toks_zero {s' : Station} {stage' : SStage} (h' : stage'.ok s') (hk : s'.st ≠ .claimToken .secondToken) :
    stage'.toks = 0 := by
  cases stage' with
  | c2 => exact absurd h' hk
  | scan cur => rfl
  | await a => rfl
  | done => rfl
  | pass => rfl

theorem SStage.toks_c2 {s : Station} {stage : SStage} (h : stage.ok s) (hk : s.st = .claimToken .secondToken) :
    stage.toks = 1 := by
  cases stage with
  | c2 => rfl
  | scan cur => simp only [SStage.ok] at h; rw [h.1] at hk; cases hk
  | await a => simp only [SStage.ok] at h; rw [h.1] at hk; cases hk
  | done => simp only [SStage.ok] at h; rw [h.1] at hk; cases hk
  | pass => simp only [SStage.ok] at h; rw [h] at hk; cases hk

/-- **Claimant and listener** (`x` forms its ring alone in stage `stage`, `y` listens): the claimant's side is
`Solo`, the log is a `LoneLog` not addressing the listener, the listener satisfies `LLOkX` — at most two tokens heard,
on the bus or still to come — with the horizon `Φ = max(last poll of x, stamp + wait) + slack`, which lies at most `G`
after the end of the last transmission. -/
structure Duo (cfg : Cfg) (G : Nat) (n : Net) (x y : Nat) (stx sty : NetStation) (l : Int) (stage : SStage)
    (r0 : TokenRing) (hd : List Telegram) (tl : Int) : Prop where
  solo : Solo cfg n x stx l
  stg : stage.ok stx.s
  view : RingView [stx.s.p.address] stx.s.p.address stx.s.ring
  lone : LoneLog cfg stx.s.p.address sty.s.p.address x n.bus
  gy : n.stations[y]? = some sty
  yx : y ≠ x
  ys : y < n.bus.seen.length
  yl : y < n.stations.length
  lisX : ∃ dn rs lY coll, LLOkX cfg G stx.s.p.address n.bus
      (max (n.bus.seen.getD x 0) (l + ((stage.wait cfg : Nat) : Int)) + ((stage.slack cfg : Nat) : Int)) y sty r0 hd none
      dn rs lY coll ∧ countTok (hd ++ rs.map telOf) + stage.toks ≤ 2
  hor : ∀ t, n.bus.txs.getLast? = some t →
    max (n.bus.seen.getD x 0) (l + ((stage.wait cfg : Nat) : Int)) + ((stage.slack cfg : Nat) : Int) ≤ cEnd cfg t + (G : Nat)
  starts : ∀ t ∈ n.bus.txs, t.start ≤ tl
  seens : n.bus.seen.getD x 0 ≤ tl ∧ n.bus.seen.getD y 0 ≤ tl
  py : sty.s.p.rate = cfg.rate ∧ sty.s.p.slotBits = cfg.slotBits
  pbx : stx.s.pendingBytes = 0

theorem Duo.lis {cfg : Cfg} {G : Nat} {n : Net} {x y : Nat} {stx sty : NetStation} {l : Int} {stage : SStage}
    {r0 : TokenRing} {hd : List Telegram} {tl : Int} (d : Duo cfg G n x y stx sty l stage r0 hd tl) :
    LLOk cfg G stx.s.p.address n.bus
      (max (n.bus.seen.getD x 0) (l + ((stage.wait cfg : Nat) : Int)) + ((stage.slack cfg : Nat) : Int)) y sty r0 hd := by
  obtain ⟨dn, rs, lY, coll, h, -⟩ := d.lisX
  exact h.toLLOk

theorem SStage.slack_ge (cfg : Cfg) (stage : SStage) : cfg.P ≤ stage.slack cfg := by
  cases stage <;> simp only [SStage.slack] <;> omega

theorem SStage.wait_slack_le (cfg : Cfg) (hok : cfg.Ok) (stage : SStage) :
    stage.wait cfg + stage.slack cfg ≤ cfg.slot + 3 * cfg.P := by
  have := hok.margin
  cases stage <;> simp only [SStage.wait, SStage.slack] <;> omega

theorem Duo.aL_lt {cfg : Cfg} {G : Nat} {n : Net} {x y : Nat} {stx sty : NetStation} {l : Int} {stage : SStage}
    {r0 : TokenRing} {hd : List Telegram} {tl : Int} (d : Duo cfg G n x y stx sty l stage r0 hd tl) :
    stx.s.p.address < 126 := by
  have := d.solo.inv.addr; have := d.solo.inv.hsa; omega

theorem duo_listen {cfg : Cfg} {G : Nat} {n : Net} {x y : Nat} {stx sty : NetStation} {l : Int} {stage : SStage}
    {r0 : TokenRing} {hd : List Telegram} {tl : Int} (d : Duo cfg G n x y stx sty l stage r0 hd tl) (hok : cfg.Ok)
    (now : Int) (htl : tl ≤ now) (hown : n.bus.seen.getD y 0 < now) (hgx : now ≤ n.bus.seen.getD x 0 + (cfg.P : Nat)) :
    ∃ n' inc c hd', n.poll y now = (n', inc, some (.ok c)) ∧ c.tx = none ∧
      Duo cfg G n' x y stx (upSt sty c) l stage r0 hd' now := by
  have hsl := SStage.slack_ge cfg stage
  obtain ⟨dn, rs, lY, coll, hX, hcnt⟩ := d.lisX
  have htxs : n.bus.txs = dn ++ rs := hX.rcv.log
  obtain ⟨inc, c, hdv, hpoll, htx, hp, hres⟩ := llisten_stepR hX d.lone.toR hok.rate d.aL_lt d.yx d.ys now hown
    (by omega) (fun t ht => Int.le_trans (d.starts t ht) htl) d.hor
  obtain ⟨hd', hL'⟩ : ∃ hd', ∃ dn' rs' lY' coll', LLOkX cfg G stx.s.p.address { n.bus with seen := n.bus.seen.set y now }
      (max (n.bus.seen.getD x 0) (l + ((stage.wait cfg : Nat) : Int)) + ((stage.slack cfg : Nat) : Int)) y (upSt sty c) r0 hd' none
      dn' rs' lY' coll' ∧ countTok (hd' ++ rs'.map telOf) + stage.toks ≤ 2 := by
    rcases hres with hX' | ⟨k, dl, hk1, hdm, hfl, hlastd, hX'⟩
    · exact ⟨hd, dn, rs, _, coll, hX', hcnt⟩
    · have hnone : lastReg sty.s.p.address dl = none :=
        lastReg_none (by have := d.aL_lt; omega) dl (rs.take k) hdm (fun t ht =>
          d.lone.tel d.aL_lt t (by rw [htxs]; exact List.mem_append_right _ (List.mem_of_mem_take ht)))
      rw [hnone] at hX'
      refine ⟨_, _, _, _, _, hX', ?_⟩
      have : (hd ++ dl.map Prod.fst) ++ (rs.drop k).map telOf = hd ++ rs.map telOf := by
        rw [hdm, List.append_assoc, ← List.map_append, List.take_append_drop]
      rw [this]; exact hcnt
  obtain ⟨hon, hal, -⟩ := hX
  have hpoll' : sty.s.poll sty.apps now (Bus.transmitting { n.bus with seen := n.bus.seen.set y now } y now) (sty.rx ++ inc) = .ok c := by
    rw [transmitting_seen]; exact hpoll
  have hpe := Net.poll_eq n y now sty _ inc c d.gy hal hon hdv hpoll'
  rw [htx] at hpe
  have hxy : x ≠ y := Ne.symm d.yx
  have hsx : ({ n.bus with seen := n.bus.seen.set y now } : Bus).seen.getD x 0 = n.bus.seen.getD x 0 :=
    seen_set_other n.bus y x now d.yx
  refine ⟨_, inc, c, hd', hpe, htx, ?_⟩
  have hs := d.solo
  refine ⟨hs.otherPoll y now (upSt sty c) d.yx rfl rfl,
    d.stg, d.view, ?_, List.getElem?_set_self d.yl, d.yx, by simp only [List.length_set]; exact d.ys,
    by simp only [List.length_set]; exact d.yl, ?_, ?_, fun t ht => Int.le_trans (d.starts t ht) htl, ?_,
    by show c.s.p.rate = _ ∧ c.s.p.slotBits = _; rw [hp]; exact d.py, d.pbx⟩
  · have : (upSt sty c).s.p.address = sty.s.p.address := by show c.s.p.address = _; rw [hp]
    rw [this]
    exact d.lone.seen _
  · simp only; rw [hsx]; exact hL'
  · simp only; rw [hsx]; exact d.hor
  · simp only
    rw [hsx, seen_set_self _ _ _ d.ys]
    exact ⟨Int.le_trans d.seens.1 htl, Int.le_refl _⟩

/-- The claimant has transmitted `b` in its poll at `now`.  The new horizon `H'` is arbitrary: with `b` not yet consumed
the listener's deadline is the next arrival, not the horizon (`nextArr`). -/
theorem duo_tx {cfg : Cfg} {G : Nat} {n : Net} {x y : Nat} {stx sty : NetStation} {l : Int} {stage : SStage}
    {r0 : TokenRing} {hd : List Telegram} {tl : Int} (d : Duo cfg G n x y stx sty l stage r0 hd tl) (hok : cfg.Ok)
    (hP100 : cfg.P ≤ 100000) {now : Int} (htl : tl ≤ now) (hown : n.bus.seen.getD x 0 < now)
    (hgy : now ≤ n.bus.seen.getD y 0 + (cfg.P : Nat)) {c : Ctx} {n' : Net} (hn' : n' = n.polled x now stx c)
    (hp : n.poll x now = (n', [], some (.ok c))) {b : Bytes} (hb : c.tx = some b)
    (hkind : b = tokenBytes stx.s.p.address stx.s.p.address ∨ ∃ g, g < 126 ∧ b = statusRequestBytes g stx.s.p.address)
    (H H' : Int) (hH : now ≤ H) :
    l + ((cfg.b33 : Nat) : Int) < now ∧
    n'.stations[y]? = some sty ∧ y < n'.stations.length ∧ y < n'.bus.seen.length ∧
    n'.bus.seen.getD x 0 = now ∧ n'.bus.seen.getD y 0 = n.bus.seen.getD y 0 ∧
    LoneLogR cfg stx.s.p.address x n'.bus ∧
    n'.bus.txs.getLast? = some { start := now, sender := x, bytes := b, dropped := false } ∧
    (∀ K : Transmission → Prop, (∀ t ∈ n.bus.txs, K t) → K { start := now, sender := x, bytes := b, dropped := false } →
      ∀ t ∈ n'.bus.txs, K t) ∧
    ∀ dn rs lY coll, LLOkX cfg G stx.s.p.address n.bus H y sty r0 hd none dn rs lY coll →
      LLOkX cfg G stx.s.p.address n'.bus H' y sty r0 hd none
        (dn.filter fun t => decide (({ n.bus with seen := n.bus.seen.set x now } : Bus).txEnd t + 100000 > now))
        (rs ++ [{ start := now, sender := x, bytes := b, dropped := false }]) lY coll := by
  have hr := hok.rate
  have hs := d.solo
  have hxy : x ≠ y := Ne.symm d.yx
  have hbus : n'.bus = Bus.send { n.bus with seen := n.bus.seen.set x now } x now b := by
    rw [hn']; unfold Net.polled; rw [hb]
  have hset : n'.stations = n.stations.set x (upSt stx c) := by rw [hn']; rfl
  have hsy : ({ n.bus with seen := n.bus.seen.set x now } : Bus).seen.getD y 0 = n.bus.seen.getD y 0 :=
    seen_set_other n.bus x y now hxy
  have hlt := (hs.sent_facts hp hb).1
  have hends : ∀ o ∈ n.bus.txs, cEnd cfg o ≤ now := hs.ended (Int.le_of_lt hown) (by omega)
  obtain ⟨hR', e4, e1, hall⟩ := (d.lone.seen (n.bus.seen.set x now)).toR.send hr hs.drops now b hends hkind
  have hblen : 0 < b.length := loneKind_pos hkind
  refine ⟨hlt, by rw [hset, List.getElem?_set_ne hxy]; exact d.gy, by rw [hset, List.length_set]; exact d.yl,
    by rw [hbus, e4]; simp only [List.length_set]; exact d.ys,
    by rw [hbus, e4]; exact seen_set_self _ _ _ hs.xs, by rw [hbus, e4]; exact hsy, by rw [hbus]; exact hR',
    by rw [hbus, e1, List.getLast?_concat], by rw [hbus]; exact hall, ?_⟩
  intro dn rs lY coll hX
  rw [hbus]
  exact LLOkX.send (hX.other x now hxy) (d.lone.seen _).toR hr now b hblen hH
    (by rw [hsy]; exact Int.le_trans d.seens.2 htl) (by rw [hsy]; exact hgy) hP100
    (by rw [Bus.send_spec { n.bus with seen := n.bus.seen.set x now } x now b hs.drops]) e4

/-- Outcome of a poll of the claimant while the listener listens: the one-station ring stands; or the claimant has
just sent its GAP request to the listener's address; or the invariant goes on in the next stage. -/
def DuoOut (cfg : Cfg) (G : Nat) (x y : Nat) (stx sty : NetStation) (r0 : TokenRing) (hd : List Telegram) (B : Int)
    (n' : Net) (c : Ctx) (now : Int) : Prop :=
  (c.s.st = .useToken ⟨now, none⟩ false ∧ c.tx = some (selfToken stx.s.p.address)) ∨
  (c.tx = some (statusRequestBytes sty.s.p.address stx.s.p.address)) ∨
  (∃ (stage' : SStage) (l' : Int), Duo cfg G n' x y (upSt stx c) sty l' stage' r0 hd now ∧
    (c.tx = none ∨ c.tx = some (selfToken stx.s.p.address) ∨
      ∃ a, a ≠ stx.s.p.address ∧ a ≠ sty.s.p.address ∧ c.tx = some (statusRequestBytes a stx.s.p.address)) ∧
    max now (l' + ((stage'.wait cfg : Nat) : Int)) + ((stage'.rest cfg stx.s.p.address stx.s.p.hsa : Nat) : Int) ≤ B)

theorem duo_claimant {cfg : Cfg} {G : Nat} {n : Net} {x y : Nat} {stx sty : NetStation} {l : Int} {stage : SStage}
    {r0 : TokenRing} {hd : List Telegram} {tl : Int} (d : Duo cfg G n x y stx sty l stage r0 hd tl) (hok : cfg.Ok)
    (hP100 : cfg.P ≤ 100000) (hG : cfg.slot + 3 * cfg.P ≤ G) (B : Int)
    (hB : max (n.bus.seen.getD x 0) (l + ((stage.wait cfg : Nat) : Int)) +
      ((stage.rest cfg stx.s.p.address stx.s.p.hsa : Nat) : Int) ≤ B)
    (now : Int) (htl : tl ≤ now) (hown : n.bus.seen.getD x 0 < now) (hgx : now ≤ n.bus.seen.getD x 0 + (cfg.P : Nat))
    (hgy : now ≤ n.bus.seen.getD y 0 + (cfg.P : Nat)) :
    ∃ n' c, n.poll x now = (n', [], some (.ok c)) ∧ now ≤ B ∧ DuoOut cfg G x y stx sty r0 hd B n' c now := by
  have hr := hok.rate
  have hs := d.solo
  have hsl := SStage.slack_ge cfg stage
  have hrg := SStage.rest_ge cfg stx.s.p.address stx.s.p.hsa stage
  obtain ⟨dnL, rsL, lYL, collL, hXL, hcntL⟩ := d.lisX
  have htxsL : n.bus.txs = dnL ++ rsL := hXL.rcv.log
  obtain ⟨c, hp, hnow, hout⟩ := form_step hs hok stage d.stg d.view B now hown hgx hB
  obtain ⟨n', hn'⟩ : ∃ n', n' = n.polled x now stx c := ⟨_, rfl⟩
  rw [← hn'] at hp hout
  have hseen : n'.bus.seen.getD x 0 = now := by rw [hn']; exact hs.polled_seen now c
  refine ⟨n', c, hp, by omega, ?_⟩
  have hbus : n'.bus = (match c.tx with
      | some b => Bus.send { n.bus with seen := n.bus.seen.set x now } x now b
      | none => { n.bus with seen := n.bus.seen.set x now }) := by rw [hn']; rfl
  have hset : n'.stations = n.stations.set x (upSt stx c) := by rw [hn']; rfl
  have hxy : x ≠ y := Ne.symm d.yx
  have hsy : ({ n.bus with seen := n.bus.seen.set x now } : Bus).seen.getD y 0 = n.bus.seen.getD y 0 :=
    seen_set_other n.bus x y now hxy
  unfold FormOut at hout
  rcases hout with ⟨a1, a2, -⟩ | ⟨stage', l', hS, hs', hv', hp', htxi, hB', hΦ, hnl, hk2, htok, hpbq⟩
  · exact .inl ⟨a1, a2⟩
  have haddr : (upSt stx c).s.p.address = stx.s.p.address := by show c.s.p.address = _; rw [hp']
  have hhsa : (upSt stx c).s.p.hsa = stx.s.p.hsa := by show c.s.p.hsa = _; rw [hp']
  have hgy' : n'.stations[y]? = some sty := by rw [hset, List.getElem?_set_ne hxy]; exact d.gy
  have hlen' : n'.stations.length = n.stations.length := by rw [hset, List.length_set]
  by_cases htx : c.tx = none
  · obtain ⟨hl', hΦ'⟩ := hΦ htx
    rw [htx] at hbus
    simp only at hbus
    refine .inr (.inr ⟨stage', l', ?_, .inl htx, by rw [haddr, hhsa] at *; exact hB'⟩)
    refine ⟨hS, hs', by rw [haddr]; exact hv', ?_, hgy', d.yx, by rw [hbus]; simp only [List.length_set]; exact d.ys,
      by rw [hlen']; exact d.yl, ?_, ?_, ?_, ?_, d.py, by show c.s.pendingBytes = 0; rw [hpbq]; exact d.pbx⟩
    · rw [haddr, hbus]
      exact d.lone.seen _
    · refine ⟨dnL, rsL, lYL, collL, ?_, ?_⟩
      · rw [haddr, hseen]
        have h1 := hXL.other x now hxy
        rw [hbus]
        exact h1.mono hΦ'
      · have := SStage.toks_le d.stg hs' (fun hh => (hk2 hh).1)
        omega
    · rw [hseen, hbus]
      intro t ht
      exact Int.le_trans hΦ' (d.hor t ht)
    · rw [hbus]; exact fun t ht => Int.le_trans (d.starts t ht) htl
    · rw [hseen, hbus, hsy]
      exact ⟨Int.le_refl _, Int.le_trans d.seens.2 htl⟩
  · have hnl' := hnl htx
    obtain ⟨b, hb⟩ : ∃ b, c.tx = some b := by
      cases hc : c.tx with
      | none => exact absurd hc htx
      | some b => exact ⟨b, rfl⟩
    by_cases hpolled : b = statusRequestBytes sty.s.p.address stx.s.p.address
    · exact .inr (.inl (by rw [hb, hpolled]))
    have hbkind : b = tokenBytes stx.s.p.address stx.s.p.address ∨
        ∃ g, g < 126 ∧ g ≠ sty.s.p.address ∧ b = statusRequestBytes g stx.s.p.address := by
      rcases htxi with h0 | h0 | ⟨a, h1, h2, h3, -⟩
      · exact absurd h0 htx
      · rw [hb] at h0; exact .inl (Option.some.inj h0)
      · rw [hb] at h3
        have hb' := Option.some.inj h3
        refine .inr ⟨a, by have := hs.inv.hsa; omega, ?_, hb'⟩
        intro e; rw [e] at hb'; exact hpolled hb'
    have hblen : 0 < b.length := loneKind_pos (hbkind.imp id fun ⟨g, h1, _, h3⟩ => ⟨g, h1, h3⟩)
    obtain ⟨hlt, -, -, hys', hsx', hsy', hlogR, hlast, hall, hlis⟩ := duo_tx d hok hP100 htl hown hgy hn' hp hb
      (hbkind.imp id (fun ⟨g, h1, _, h3⟩ => ⟨g, h1, h3⟩))
      (max (n.bus.seen.getD x 0) (l + ((stage.wait cfg : Nat) : Int)) + ((stage.slack cfg : Nat) : Int))
      (max now (l' + ((stage'.wait cfg : Nat) : Int)) + ((stage'.slack cfg : Nat) : Int)) (by omega)
    -- the stamp of the new record is the predicted end of the new transmission
    have hmark : l' = now + ((bitsToTime cfg.rate (11 * b.length) : Nat) : Int) :=
      Option.some.inj (hS.stamp.symm.trans (hs.sent_facts hp hb).2)
    have hte := tEnd_cEnd cfg hr { start := now, sender := x, bytes := b, dropped := false } hblen
    unfold tEnd cEnd at hte
    simp only at hte
    have hws := SStage.wait_slack_le cfg hok stage'
    refine .inr (.inr ⟨stage', l', ?_, ?_, by rw [haddr, hhsa] at *; exact hB'⟩)
    · refine ⟨hS, hs', by rw [haddr]; exact hv', ?_, hgy', d.yx, hys', by rw [hlen']; exact d.yl, ?_, ?_,
        hall _ (fun t ht => Int.le_trans (d.starts t ht) htl) (Int.le_refl _),
        by rw [hsx', hsy']; exact ⟨Int.le_refl _, Int.le_trans d.seens.2 htl⟩, d.py,
        by show c.s.pendingBytes = 0; rw [hpbq]; exact d.pbx⟩
      · rw [haddr]
        exact ⟨hlogR.rate, hlogR.corrupt, hlogR.chained, hlogR.live, hlogR.own, hall _ d.lone.kinds hbkind⟩
      · refine ⟨_, _, lYL, collL, by rw [haddr, hseen]; exact hlis dnL rsL lYL collL hXL, ?_⟩
        -- a token now on the bus is the second claim token, which was still to come
        have hne2 : c.s.st ≠ .claimToken .secondToken := fun hh => by
          have := (hk2 hh).2; rw [hb] at this; cases this
        have ht0 := SStage.toks_zero hs' hne2
        rw [ht0, List.map_append, ← List.append_assoc, countTok_append]
        rcases hbkind with e | ⟨g, hg1, -, e⟩
        · have et : telOf ({ start := now, sender := x, bytes := b, dropped := false } : Transmission) =
              tokTel [stx.s.p.address] stx.s.p.address :=
            telOf_token _ _ [stx.s.p.address] (by rw [cycSucc_single]; exact e)
          have h1t := SStage.toks_c2 d.stg (htok (by rw [hb, e]; rfl))
          have : countTok [telOf ({ start := now, sender := x, bytes := b, dropped := false } : Transmission)] = 1 := by
            rw [et]; rfl
          simp only [List.map_cons, List.map_nil]
          omega
        · have haL := d.aL_lt
          have et : telOf ({ start := now, sender := x, bytes := b, dropped := false } : Transmission) =
              reqTel g stx.s.p.address := telOf_req _ g _ (by omega) (by omega) e
          have : countTok [telOf ({ start := now, sender := x, bytes := b, dropped := false } : Transmission)] = 0 := by
            rw [et]; rfl
          simp only [List.map_cons, List.map_nil]
          omega
      · -- the new horizon: the stamp `l'` is the predicted end, `≤ cEnd`, so `Φ ≤ cEnd + wait + slack ≤ cEnd + Tslot + 3P`
        -- (`wait_slack_le`) `≤ cEnd + G` (`hG`)
        rw [hseen, hlast]
        intro t ht
        cases ht
        unfold cEnd
        simp only
        push_cast at hws
        omega
    · rcases htxi with h0 | h0 | ⟨a, h1, h2, h3, -⟩
      · exact .inl h0
      · exact .inr (.inl h0)
      · refine .inr (.inr ⟨a, h1, ?_, h3⟩)
        intro e
        rw [hb, e] at h3
        exact hpolled (Option.some.inj h3)

/-- What the claimant may transmit before it polls the listener's address. -/
def DuoTx (aL aH : Nat) (c : Ctx) : Prop :=
  c.tx = none ∨ c.tx = some (selfToken aL) ∨ ∃ a, a ≠ aL ∧ a ≠ aH ∧ c.tx = some (statusRequestBytes a aL)

/-- **Run of claimant `x` (address `aL`) and listener `y` (address `aH`)**: every poll returns regularly; the
listener never transmits; the claimant transmits only self-addressed tokens and GAP requests to third addresses,
each poll of it no later than `B`, until it either completes its one-station ring or sends the GAP request to the
listener's address (where this description ends). -/
def DuoRun (x y aL aH : Nat) (B : Int) : Net → List (Nat × Int) → Prop
  | _, [] => True
  | n, (i, now) :: rest =>
    ∃ n' inc c, n.poll i now = (n', inc, some (.ok c)) ∧
      ((i = y ∧ c.tx = none ∧ DuoRun x y aL aH B n' rest) ∨
       (i = x ∧ now ≤ B ∧
          ((c.s.st = .useToken ⟨now, none⟩ false ∧ c.tx = some (selfToken aL)) ∨
           c.tx = some (statusRequestBytes aH aL) ∨
           (DuoTx aL aH c ∧ DuoRun x y aL aH B n' rest))))

/-- One event of the schedule while the claimant forms its ring and the listener listens: `duo_listen` or
`duo_claimant`, with what the next event needs. -/
theorem duo_step {cfg : Cfg} {G : Nat} {n : Net} {x y : Nat} {stx sty : NetStation} {l : Int} {stage : SStage}
    {r0 : TokenRing} {hd : List Telegram} {tl : Int} (d : Duo cfg G n x y stx sty l stage r0 hd tl) (hok : cfg.Ok)
    (hP100 : cfg.P ≤ 100000) (hG : cfg.slot + 3 * cfg.P ≤ G) (hN : n.stations.length = 2) (B : Int)
    (hB : max (n.bus.seen.getD x 0) (l + ((stage.wait cfg : Nat) : Int)) +
      ((stage.rest cfg stx.s.p.address stx.s.p.hsa : Nat) : Int) ≤ B)
    {i : Nat} {now : Int} (hi : i < n.stations.length) (htl : tl ≤ now) (hown : n.bus.seen.getD i 0 < now)
    (hgap : ∀ j, j < n.stations.length → now ≤ n.bus.seen.getD j 0 + (cfg.P : Nat)) :
    ∃ n' inc c, n.poll i now = (n', inc, some (.ok c)) ∧ n'.stations.length = 2 ∧
      ((i = y ∧ c.tx = none ∧ ∃ sty' hd', Duo cfg G n' x y stx sty' l stage r0 hd' now ∧
          sty'.s.p.address = sty.s.p.address ∧
          max (n'.bus.seen.getD x 0) (l + ((stage.wait cfg : Nat) : Int)) +
            ((stage.rest cfg stx.s.p.address stx.s.p.hsa : Nat) : Int) ≤ B) ∨
       (i = x ∧ inc = [] ∧ now ≤ B ∧
         ((c.s.st = .useToken ⟨now, none⟩ false ∧ c.tx = some (selfToken stx.s.p.address)) ∨
          c.tx = some (statusRequestBytes sty.s.p.address stx.s.p.address) ∨
          (DuoTx stx.s.p.address sty.s.p.address c ∧ ∃ stage' l', Duo cfg G n' x y (upSt stx c) sty l' stage' r0 hd now ∧
             (upSt stx c).s.p.address = stx.s.p.address ∧ (upSt stx c).s.p.hsa = stx.s.p.hsa ∧
             max (n'.bus.seen.getD x 0) (l' + ((stage'.wait cfg : Nat) : Int)) +
               ((stage'.rest cfg stx.s.p.address stx.s.p.hsa : Nat) : Int) ≤ B)))) := by
  have hgx := hgap x d.solo.xl
  have hgy := hgap y d.yl
  have hixy : i = x ∨ i = y := by have := d.yx; have := d.solo.xl; have := d.yl; omega
  rcases hixy with rfl | rfl
  · obtain ⟨n', c, hp, hnB, hout⟩ := duo_claimant d hok hP100 hG B hB now htl hown hgx hgy
    refine ⟨n', [], c, hp, (Net.poll_len_of hp).trans hN, .inr ⟨rfl, rfl, hnB, ?_⟩⟩
    rcases hout with h1 | h2 | ⟨stage', l', d', htx, hB'⟩
    · exact .inl h1
    · exact .inr (.inl h2)
    · have hpeq := Net.poll_params n i now n' [] c stx hp d.solo.gx
      refine .inr (.inr ⟨htx, stage', l', d', by show c.s.p.address = _; rw [hpeq], by show c.s.p.hsa = _; rw [hpeq], ?_⟩)
      rw [Net.poll_seen_of hp, seen_set_self _ _ _ d.solo.xs]
      exact hB'
  · obtain ⟨n', inc, c, hd', hp, htx, d'⟩ := duo_listen d hok now htl hown hgx
    refine ⟨n', inc, c, hp, (Net.poll_len_of hp).trans hN, .inl ⟨rfl, htx, upSt sty c, hd', d', ?_, ?_⟩⟩
    · show c.s.p.address = _
      rw [Net.poll_params n i now n' inc c sty hp d.gy]
    · rw [Net.poll_seen_of hp, seen_set_other _ _ _ _ d.yx]
      exact hB

theorem duo_run {cfg : Cfg} (hok : cfg.Ok) (hP100 : cfg.P ≤ 100000) (G : Nat) (hG : cfg.slot + 3 * cfg.P ≤ G) (x y : Nat)
    (r0 : TokenRing) (B : Int) (aL hsa : Nat) (sty0 : NetStation) :
    ∀ (evs : List (Nat × Int)) (n : Net) (stx sty : NetStation) (l : Int) (stage : SStage) (hd : List Telegram) (tl : Int),
    Duo cfg G n x y stx sty l stage r0 hd tl → n.stations.length = 2 → stx.s.p.address = aL → stx.s.p.hsa = hsa →
    sty.s.p.address = sty0.s.p.address →
    max (n.bus.seen.getD x 0) (l + ((stage.wait cfg : Nat) : Int)) + ((stage.rest cfg aL hsa : Nat) : Int) ≤ B →
    SchedN cfg.P n tl evs → DuoRun x y aL sty0.s.p.address B n evs := by
  intro evs
  induction evs with
  | nil => intro _ _ _ _ _ _ _ _ _ _ _ _ _ _; trivial
  | cons ev rest ih =>
    intro n stx sty l stage hd tl d hN haL hhsa haH hB hs
    obtain ⟨i, now⟩ := ev
    obtain ⟨hi, htl, hown, hgap, hrest⟩ := hs
    subst haL hhsa
    obtain ⟨n', inc, c, hp, hN', hcase⟩ := duo_step d hok hP100 hG hN B hB hi htl hown hgap
    replace hrest := hrest.of_poll hp
    refine ⟨n', inc, c, hp, ?_⟩
    rcases hcase with ⟨rfl, htx, sty', hd', d', haH', hB'⟩ | ⟨rfl, -, hnB, hc⟩
    · exact .inl ⟨rfl, htx, ih n' stx sty' l stage hd' now d' hN' rfl rfl (haH'.trans haH) hB' hrest⟩
    · refine .inr ⟨rfl, hnB, ?_⟩
      rcases hc with h1 | h2 | ⟨htx, stage', l', d', e1, e2, hB'⟩
      · exact .inl h1
      · exact .inr (.inl (by rw [← haH]; exact h2))
      · exact .inr (.inr ⟨by rw [← haH]; exact htx,
          ih n' (upSt stx c) sty l' stage' hd now d' hN' e1 e2 haH hB' hrest⟩)

/-- **Two stations listening on a silent bus**: nothing transmitted; `x` (stamp `lx`) and `y` (stamp `ly`) in
`ListenToken` with empty buffers. -/
structure CS2 (cfg : Cfg) (n : Net) (x y : Nat) (stx sty : NetStation) (lx ly : Int) : Prop where
  solo : Solo cfg n x stx lx
  lisx : ∃ coll, stx.s.st = .listenToken none coll
  empty : n.bus.txs = []
  corrupt : n.bus.corrupt = []
  gy : n.stations[y]? = some sty
  yx : y ≠ x
  ys : y < n.bus.seen.length
  yl : y < n.stations.length
  lisy : Listening sty ly
  lys : ly ≤ n.bus.seen.getD y 0
  pby : sty.s.pendingBytes = 0
  py : sty.s.p.rate = cfg.rate ∧ sty.s.p.slotBits = cfg.slotBits
  pbx : stx.s.pendingBytes = 0

theorem duo_init {cfg : Cfg} {n : Net} {x y : Nat} {stx sty : NetStation} {lx ly : Int} (h : CS2 cfg n x y stx sty lx ly)
    (hok : cfg.Ok) (G : Nat) (hG : cfg.slot + 3 * cfg.P ≤ G) (hGy : G + cfg.ce 0 + 2 ≤ sty.s.p.tokenLostTimeout)
    (hne : stx.s.p.address ≠ sty.s.p.address) (now : Int) (hown : n.bus.seen.getD x 0 < now)
    (hsy : n.bus.seen.getD y 0 ≤ now)
    (hexp : lx + (stx.s.p.tokenLostTimeout : Nat) ≤ now) (hsync : cfg.b33 < stx.s.p.tokenLostTimeout)
    (hv : RingView [stx.s.p.address] stx.s.p.address stx.s.ring.claimToken)
    (hstag : now + ((cfg.ce 0 : Nat) : Int) < ly + (sty.s.p.tokenLostTimeout : Nat)) :
    ∃ n' c, n.poll x now = (n', [], some (.ok c)) ∧ c.tx = some (selfToken stx.s.p.address) ∧
      c.s.st = .claimToken .secondToken ∧ c.s.p = stx.s.p ∧
      Duo cfg G n' x y (upSt stx c) sty (now + (cfg.b33 : Nat)) .c2 sty.s.ring [] now := by
  have hr := hok.rate
  have hmar := hok.margin
  have hc2 := cfg.ce2 hr
  have hc0 := cfg.ce_pos hr 0
  have hs := h.solo
  obtain ⟨coll, hst⟩ := h.lisx
  obtain ⟨c, hp, htx, hS', hs2, hv', hp', hpbc⟩ := lone_listen_claim hs hok coll hst now hown hexp hsync hv
  obtain ⟨n', hn'⟩ : ∃ n', n' = n.polled x now stx c := ⟨_, rfl⟩
  rw [← hn'] at hp hS'
  have hseen : n'.bus.seen.getD x 0 = now := by rw [hn']; exact hs.polled_seen now c
  have hbus : n'.bus = Bus.send { n.bus with seen := n.bus.seen.set x now } x now (selfToken stx.s.p.address) := by
    rw [hn']; unfold Net.polled; rw [htx]
  have hset : n'.stations = n.stations.set x (upSt stx c) := by rw [hn']; rfl
  have hxy : x ≠ y := Ne.symm h.yx
  have hemp : ∀ t, t ∈ ({ n.bus with seen := n.bus.seen.set x now } : Bus).txs → False := fun t ht => by
    have ht' : t ∈ n.bus.txs := ht
    rw [h.empty] at ht'
    cases ht'
  obtain ⟨hW', -, e4, e1, hall⟩ := (hs.wire.seen (n.bus.seen.set x now)).send hr hs.drops x now (selfToken stx.s.p.address)
    (show 0 < 3 by omega) (fun o ho => (hemp o ho).elim)
  rw [← hbus] at hW' e4 e1 hall
  have htxs : n'.bus.txs = [{ start := now, sender := x, bytes := selfToken stx.s.p.address, dropped := false }] := by
    rw [e1]
    show (n.bus.txs.filter _) ++ _ = _
    rw [h.empty]
    rfl
  have haddr : (upSt stx c).s.p.address = stx.s.p.address := by show c.s.p.address = _; rw [hp']
  have hsyy : n'.bus.seen.getD y 0 = n.bus.seen.getD y 0 := by rw [e4]; exact seen_set_other _ _ _ _ hxy
  -- the listener has everything of the empty log; the claim token is the first transmission it lags behind
  have hRy : Rcv cfg { n.bus with seen := n.bus.seen.set x now } y sty [] [] ly :=
    ⟨h.empty, (fun o ho => by cases ho), h.lisy.rx, (by rw [h.pby]; exact Nat.zero_le _), (fun t rest e => by cases e), h.lisy.stamp⟩
  obtain ⟨r, hn⟩ := hRy.snoc (hs.wire.seen _) hr (b' := n'.bus) x now (selfToken stx.s.p.address) (show 0 < 3 by omega)
    (by show (n.bus.seen.set x now).getD y 0 ≤ now; rw [seen_set_other _ _ _ _ hxy]; exact hsy) (fun hne => absurd rfl hne)
    (by rw [hbus, Bus.send_spec { n.bus with seen := n.bus.seen.set x now } x now _ hs.drops]) e4
  have hnext := hn now now (Int.le_refl _)
  refine ⟨n', c, hp, htx, hs2, hp', hS', hs2, by rw [haddr]; exact hv', ?_, by rw [hset, List.getElem?_set_ne hxy]; exact h.gy,
    h.yx, by rw [e4]; simp only [List.length_set]; exact h.ys, by rw [hset, List.length_set]; exact h.yl, ?_, ?_,
    hall _ (fun t ht => (hemp t ht).elim) (Int.le_refl _), by rw [hseen, hsyy]; exact ⟨Int.le_refl _, hsy⟩, h.py,
    by show c.s.pendingBytes = 0; rw [hpbc]; exact h.pbx⟩
  · rw [haddr]
    exact ⟨hW'.rate, hW'.corrupt, hW'.chained, hW'.live, hall _ (fun t ht => (hemp t ht).elim) rfl,
      hall _ (fun t ht => (hemp t ht).elim) (.inl rfl)⟩
  · rw [haddr]
    obtain ⟨cy, hcy⟩ := h.lisy.lis
    refine ⟨_, _, ly, cy, ⟨h.lisy.online, h.lisy.alive, h.lisy.inv, h.lisy.son, hne, hGy, rfl, r.log, (fun o ho => by cases ho),
      r.rx, r.pend, r.head, r.stamp, by rw [hsyy]; exact h.lys, hcy, ?_⟩, ?_⟩
    · rw [e4]
      exact Int.lt_of_le_of_lt hnext hstag
    · have et : telOf ({ start := now, sender := x, bytes := selfToken stx.s.p.address, dropped := false } : Transmission) =
          tokTel [stx.s.p.address] stx.s.p.address :=
        telOf_token _ _ [stx.s.p.address] (by rw [cycSucc_single]; rfl)
      simp only [List.nil_append, List.map_cons, List.map_nil]
      rw [et]
      exact Nat.le_refl 2
  · intro t ht
    rw [htxs, List.getLast?_singleton] at ht
    cases ht
    rw [hseen]
    show _ ≤ now + ((cfg.ce 2 : Nat) : Int) + (G : Nat)
    simp only [SStage.wait, SStage.slack]
    push_cast
    omega

theorem cs2_wait_x {cfg : Cfg} {n : Net} {x y : Nat} {stx sty : NetStation} {lx ly : Int} (h : CS2 cfg n x y stx sty lx ly)
    (hok : cfg.Ok) (now : Int) (hown : n.bus.seen.getD x 0 < now) (hw : now < lx + (stx.s.p.tokenLostTimeout : Nat)) :
    ∃ n' c, n.poll x now = (n', [], some (.ok c)) ∧ c.tx = none ∧ CS2 cfg n' x y stx sty lx ly ∧
      n'.bus.seen = n.bus.seen.set x now := by
  obtain ⟨coll, hst⟩ := h.lisx
  obtain ⟨n', c, hp, htx, hS', hbus, hset⟩ := lone_listen_noop h.solo hok coll hst now hown hw
  have hxy : x ≠ y := Ne.symm h.yx
  refine ⟨n', c, hp, htx, ⟨hS', h.lisx, by rw [hbus]; exact h.empty, by rw [hbus]; exact h.corrupt, by rw [hset]; exact h.gy,
    h.yx, by rw [hbus]; simp only [List.length_set]; exact h.ys, by rw [hset]; exact h.yl, h.lisy,
    by rw [hbus]; simp only; rw [seen_set_other _ _ _ _ hxy]; exact h.lys, h.pby, h.py, h.pbx⟩, by rw [hbus]⟩

theorem cs2_wait_y {cfg : Cfg} {n : Net} {x y : Nat} {stx sty : NetStation} {lx ly : Int} (h : CS2 cfg n x y stx sty lx ly)
    (now : Int) (hown : n.bus.seen.getD y 0 < now) (hw : now < ly + (sty.s.p.tokenLostTimeout : Nat)) :
    ∃ n' c, n.poll y now = (n', [], some (.ok c)) ∧ c.tx = none ∧ CS2 cfg n' x y stx sty lx ly ∧
      n'.bus.seen = n.bus.seen.set y now := by
  obtain ⟨coll, hs⟩ := h.lisy.lis
  have hp := listen_poll_quiet sty.s sty.apps now ly coll h.lisy.son hs h.lisy.stamp (by have := h.lys; omega) hw
  have hp' : sty.s.poll sty.apps now (Bus.transmitting { n.bus with seen := n.bus.seen.set y now } y now)
      (sty.rx ++ []) = .ok { s := sty.s, apps := sty.apps, rx := [] } := by
    rw [transmitting_seen, h.lisy.rx, Bus.transmitting_nil _ _ _ h.empty]; exact hp
  have hpe := Net.poll_eq n y now sty _ [] _ h.gy h.lisy.alive h.lisy.online (Bus.deliver_nil n.bus y now h.empty) hp'
  have hsame : ({ sty with s := sty.s, apps := sty.apps, rx := [] } : NetStation) = sty := by rw [← h.lisy.rx]
  simp only at hpe
  rw [hsame] at hpe
  have hs0 := h.solo
  refine ⟨_, _, hpe, rfl, ⟨hs0.otherPoll y now sty h.yx rfl rfl,
    h.lisx, h.empty, h.corrupt, List.getElem?_set_self h.yl, h.yx, by simp only [List.length_set]; exact h.ys,
    by simp only [List.length_set]; exact h.yl, h.lisy, by simp only; rw [seen_set_self _ _ _ h.ys]; have := h.lys; omega,
    h.pby, h.py, h.pbx⟩, rfl⟩

/-- **Cold start of two stations up to the poll of the listener's address** (`T` = instant at which `x`'s time-out
runs out, `lim` = latest time of its claim, `D` = formation budget). -/
def TwoRun (x y aL aH : Nat) (T lim : Int) (D : Nat) : Net → List (Nat × Int) → Prop
  | _, [] => True
  | n, (i, now) :: rest =>
    ∃ n' inc c, n.poll i now = (n', inc, some (.ok c)) ∧
      ((c.tx = none ∧ (i = x → now < T) ∧ TwoRun x y aL aH T lim D n' rest) ∨
       (i = x ∧ T ≤ now ∧ now ≤ lim ∧ c.tx = some (selfToken aL) ∧ c.s.st = .claimToken .secondToken ∧
          DuoRun x y aL aH (now + (D : Int)) n' rest))

/-- One event of the schedule while both stations listen: nothing happens, or `x` claims (`duo_init`) and the
formation budget `formTime` starts. -/
theorem cs2_step {cfg : Cfg} {n : Net} {x y : Nat} {stx sty : NetStation} {lx ly : Int} (h : CS2 cfg n x y stx sty lx ly)
    (hok : cfg.Ok) (G : Nat) (hG : cfg.slot + 3 * cfg.P ≤ G) (hGy : G + cfg.ce 0 + 2 ≤ sty.s.p.tokenLostTimeout)
    (hne : stx.s.p.address ≠ sty.s.p.address) (hsync : cfg.b33 < stx.s.p.tokenLostTimeout)
    (hv : RingView [stx.s.p.address] stx.s.p.address stx.s.ring.claimToken)
    (hstag : lx + (stx.s.p.tokenLostTimeout : Nat) + (cfg.P : Nat) + ((cfg.ce 0 : Nat) : Int) < ly + (sty.s.p.tokenLostTimeout : Nat))
    (hN : n.stations.length = 2) (hsx : n.bus.seen.getD x 0 < lx + (stx.s.p.tokenLostTimeout : Nat)) {tl : Int}
    (hsy : n.bus.seen.getD y 0 ≤ tl) {i : Nat} {now : Int} (hi : i < n.stations.length) (htl : tl ≤ now)
    (hown : n.bus.seen.getD i 0 < now) (hgap : ∀ j, j < n.stations.length → now ≤ n.bus.seen.getD j 0 + (cfg.P : Nat)) :
    ∃ n' inc c, n.poll i now = (n', inc, some (.ok c)) ∧ n'.stations.length = 2 ∧
      ((c.tx = none ∧ (i = x → now < lx + (stx.s.p.tokenLostTimeout : Nat)) ∧ CS2 cfg n' x y stx sty lx ly ∧
          n'.bus.seen.getD x 0 < lx + (stx.s.p.tokenLostTimeout : Nat) ∧ n'.bus.seen.getD y 0 ≤ now) ∨
       (i = x ∧ lx + (stx.s.p.tokenLostTimeout : Nat) ≤ now ∧ now ≤ lx + (stx.s.p.tokenLostTimeout : Nat) + (cfg.P : Nat) ∧
          c.tx = some (selfToken stx.s.p.address) ∧ c.s.st = .claimToken .secondToken ∧
          Duo cfg G n' x y (upSt stx c) sty (now + (cfg.b33 : Nat)) .c2 sty.s.ring [] now ∧
          (upSt stx c).s.p.address = stx.s.p.address ∧ (upSt stx c).s.p.hsa = stx.s.p.hsa ∧
          max (n'.bus.seen.getD x 0) (now + (cfg.b33 : Nat) + ((SStage.c2.wait cfg : Nat) : Int)) +
            ((SStage.c2.rest cfg stx.s.p.address stx.s.p.hsa : Nat) : Int) ≤ now + (cfg.formTime stx.s.p.hsa : Nat))) := by
  have hgx := hgap x h.solo.xl
  have hgy := hgap y h.yl
  have hixy : i = x ∨ i = y := by have := h.yx; have := h.solo.xl; have := h.yl; omega
  have hc0 := cfg.ce_pos hok.rate 0
  rcases hixy with rfl | rfl
  · by_cases hw : now < lx + (stx.s.p.tokenLostTimeout : Nat)
    · obtain ⟨n', c, hp, htx, h', hseen⟩ := cs2_wait_x h hok now hown hw
      refine ⟨n', [], c, hp, (Net.poll_len_of hp).trans hN, .inl ⟨htx, fun _ => hw, h', ?_, ?_⟩⟩
      · rw [hseen, seen_set_self _ _ _ h.solo.xs]; exact hw
      · rw [hseen, seen_set_other _ _ _ _ (Ne.symm h.yx)]; omega
    · obtain ⟨n', c, hp, htx, hcs, hp', d⟩ := duo_init h hok G hG hGy hne now hown (by omega) (by omega) hsync hv (by omega)
      have hseen : n'.bus.seen.getD i 0 = now := by rw [Net.poll_seen_of hp, seen_set_self _ _ _ h.solo.xs]
      refine ⟨n', [], c, hp, (Net.poll_len_of hp).trans hN, .inr ⟨rfl, by omega, by omega, htx, hcs, d, by show c.s.p.address = _; rw [hp'],
        by show c.s.p.hsa = _; rw [hp'], ?_⟩⟩
      rw [hseen]
      simp only [SStage.wait, SStage.rest, remGap_self _ _ h.solo.inv.addr]
      unfold Cfg.formTime
      push_cast
      omega
  · have hw : now < ly + (sty.s.p.tokenLostTimeout : Nat) := by omega
    obtain ⟨n', c, hp, htx, h', hseen⟩ := cs2_wait_y h now hown hw
    refine ⟨n', [], c, hp, (Net.poll_len_of hp).trans hN, .inl ⟨htx, fun e => absurd e h.yx, h', ?_, ?_⟩⟩
    · rw [hseen, seen_set_other _ _ _ _ h.yx]; exact hsx
    · rw [hseen, seen_set_self _ _ _ h.ys]; exact Int.le_refl _

theorem two_cold_start {cfg : Cfg} (hok : cfg.Ok) (hP100 : cfg.P ≤ 100000) (G : Nat) (hG : cfg.slot + 3 * cfg.P ≤ G)
    (x y : Nat) (stx sty : NetStation) (lx ly : Int)
    (hGy : G + cfg.ce 0 + 2 ≤ sty.s.p.tokenLostTimeout) (hne : stx.s.p.address ≠ sty.s.p.address)
    (hsync : cfg.b33 < stx.s.p.tokenLostTimeout)
    (hv : RingView [stx.s.p.address] stx.s.p.address stx.s.ring.claimToken)
    (hstag : lx + (stx.s.p.tokenLostTimeout : Nat) + (cfg.P : Nat) + ((cfg.ce 0 : Nat) : Int) < ly + (sty.s.p.tokenLostTimeout : Nat)) :
    ∀ (evs : List (Nat × Int)) (n : Net) (tl : Int), CS2 cfg n x y stx sty lx ly → n.stations.length = 2 →
    n.bus.seen.getD x 0 < lx + (stx.s.p.tokenLostTimeout : Nat) → n.bus.seen.getD y 0 ≤ tl → SchedN cfg.P n tl evs →
    TwoRun x y stx.s.p.address sty.s.p.address (lx + (stx.s.p.tokenLostTimeout : Nat))
      (lx + (stx.s.p.tokenLostTimeout : Nat) + (cfg.P : Nat)) (cfg.formTime stx.s.p.hsa) n evs := by
  intro evs
  induction evs with
  | nil => intro _ _ _ _ _ _ _; trivial
  | cons ev rest ih =>
    intro n tl h hN hsx hsy hs
    obtain ⟨i, now⟩ := ev
    obtain ⟨hi, htl, hown, hgap, hrest⟩ := hs
    obtain ⟨n', inc, c, hp, hN', hcase⟩ := cs2_step h hok G hG hGy hne hsync hv hstag hN hsx hsy hi htl hown hgap
    replace hrest := hrest.of_poll hp
    refine ⟨n', inc, c, hp, ?_⟩
    rcases hcase with ⟨htx, hiw, h', hsx', hsy'⟩ | ⟨rfl, hT, hlim, htx, hcs, d, e1, e2, hB⟩
    · exact .inl ⟨htx, hiw, ih n' now h' hN' hsx' hsy' hrest⟩
    · exact .inr ⟨rfl, hT, hlim, htx, hcs, duo_run hok hP100 G hG i y sty.s.ring (now + (cfg.formTime stx.s.p.hsa : Nat))
        stx.s.p.address stx.s.p.hsa sty rest n' (upSt stx c) sty (now + (cfg.b33 : Nat)) .c2 [] now d hN' e1 e2 rfl hB hrest⟩

end PV
