/-
Cold start of two stations: the poll in which the claimant sends the GAP request to the listener's address
establishes the start condition `HQ0` of the reply handshake; the listener has heard, or has still to consume, at most
two tokens by then (`duo_request_hq0`).
-/
import ProfiVerif.Lemmas.ColdStartReply

namespace PV
open StationGap TokenRing

theorem statusRequestBytes_inj (a a' ts : Nat) (ha : a < 126) (ha' : a' < 126)
    (h : statusRequestBytes a ts = statusRequestBytes a' ts) : a = a' := by
  -- the destination address is the second byte of the frame
  have h1 := congrArg (fun l : Bytes => l[1]?) h
  simp only [statusRequestBytes, sd1Frame, Header.body, fdlStatusRequestHeader, optByte, List.cons_append, List.nil_append,
    List.getElem?_cons_succ, List.getElem?_cons_zero, Option.some.injEq, Option.isSome_none, Bool.false_eq_true,
    if_false, UInt8.or_zero] at h1
  have := congrArg UInt8.toNat h1
  rwa [u8n a (by omega), u8n a' (by omega)] at this

theorem duo_request_hq0 {cfg : Cfg} {G : Nat} {n : Net} {x y : Nat} {stx sty : NetStation} {l : Int} {stage : SStage}
    {r0 : TokenRing} {hd : List Telegram} {tl : Int} (d : Duo cfg G n x y stx sty l stage r0 hd tl) (hok : cfg.Ok)
    (hP100 : cfg.P ≤ 100000) (B : Int)
    (hB : max (n.bus.seen.getD x 0) (l + ((stage.wait cfg : Nat) : Int)) +
      ((stage.rest cfg stx.s.p.address stx.s.p.hsa : Nat) : Int) ≤ B)
    (now : Int) (htl : tl ≤ now) (hown : n.bus.seen.getD x 0 < now) (hgx : now ≤ n.bus.seen.getD x 0 + (cfg.P : Nat))
    (hgy : now ≤ n.bus.seen.getD y 0 + (cfg.P : Nat))
    (n' : Net) (c : Ctx) (hp : n.poll x now = (n', [], some (.ok c)))
    (htx : c.tx = some (statusRequestBytes sty.s.p.address stx.s.p.address)) :
    ∃ dn rs lY coll, HQ0 cfg G n' x y (upSt stx c) sty now r0 hd dn rs lY coll now ∧
      countTok (hd ++ rs.map telOf) ≤ 2 := by
  have hc5p := cfg.ce_pos hok.rate 5
  have hsl := SStage.slack_ge cfg stage
  have haH : sty.s.p.address < 126 := by
    obtain ⟨-, -, hinvY, -⟩ := d.lis
    have := hinvY.addr; have := hinvY.hsa; omega
  have haL := d.aL_lt
  -- what the claimant did in this poll: it is in stage `await aH`
  obtain ⟨c'', hp'', -, hout⟩ := form_step d.solo hok stage d.stg d.view B now hown hgx hB
  rw [hp] at hp''
  simp only [Prod.mk.injEq, Option.some.injEq, Res.ok.injEq, true_and] at hp''
  obtain ⟨hn', rfl⟩ := hp''
  rw [← hn'] at hout
  have hlen3 : ∀ ts a ts', selfToken ts ≠ statusRequestBytes a ts' := fun ts a ts' e => by
    have := congrArg List.length e
    rw [statusRequestBytes_length] at this
    exact absurd this (by show ¬ (3 = 6); decide)
  unfold FormOut at hout
  rcases hout with ⟨-, a2, -⟩ | ⟨stage', l', hS, hs', hv', hp', htxi, -, -, -, -, -, hpbq⟩
  · rw [htx] at a2; exact absurd (Option.some.inj a2).symm (hlen3 _ _ _)
  rcases htxi with h0 | h0 | ⟨a, -, h2, h3, h4, h5⟩
  · rw [htx] at h0; cases h0
  · rw [htx] at h0; exact absurd (Option.some.inj h0).symm (hlen3 _ _ _)
  rw [htx] at h3
  have haeq : sty.s.p.address = a :=
    statusRequestBytes_inj _ _ _ haH (by have := d.solo.inv.hsa; omega) (Option.some.inj h3)
  subst h4 h5 haeq
  simp only [SStage.ok] at hs'
  -- what the transmission did to the log and to the listener
  obtain ⟨dn, rs, lY, coll, hX, hcnt⟩ := d.lisX
  have htxsX : n.bus.txs = dn ++ rs := hX.rcv.log
  obtain ⟨-, hgy', hyl', hys', hsx', hsy', hlogR, hlast, hall, hlis⟩ := duo_tx d hok hP100 htl hown hgy hn' hp htx
    (.inr ⟨_, haH, rfl⟩) (max (n.bus.seen.getD x 0) (l + ((stage.wait cfg : Nat) : Int)) + ((stage.slack cfg : Nat) : Int))
    (now + (cfg.b66 : Nat) + (cfg.slot : Nat) + (cfg.P : Nat)) (by omega)
  have haddr : (upSt stx c).s.p.address = stx.s.p.address := congrArg Params.address hp'
  refine ⟨dn.filter fun t => decide (({ n.bus with seen := n.bus.seen.set x now } : Bus).txEnd t + 100000 > now),
    rs ++ [rqTx x stx.s.p.address sty.s.p.address now], lY, coll,
    ⟨hS, .inl hs'.1, hs'.2, by rw [haddr]; exact hlogR, by rw [haddr]; exact List.getLast?_concat,
    by rw [haddr, List.dropLast_concat]; exact fun t ht => d.lone.kinds t (by rw [htxsX]; exact List.mem_append_right _ ht),
    hgy', d.yx, hys', hyl', by rw [haddr]; exact hlis dn rs lY coll hX, by rw [hsy']; have := d.seens.2; omega, d.py,
    by show c.s.pendingBytes = 0; rw [hpbq]; exact d.pbx,
    hall _ (fun t ht => Int.le_trans (d.starts t ht) htl) (Int.le_refl _),
    by rw [hsx', hsy']; exact ⟨Int.le_refl _, Int.le_trans d.seens.2 htl⟩,
    by show RingView [c.s.p.address] c.s.p.address c.s.ring; rw [hp']; exact hv'⟩, ?_⟩
  have et : telOf (rqTx x stx.s.p.address sty.s.p.address now) =
      reqTel sty.s.p.address stx.s.p.address := telOf_req _ _ _ (by omega) (by omega) rfl
  rw [List.map_append, ← List.append_assoc, countTok_append, List.map_cons, List.map_nil, et]
  show _ + 0 ≤ 2
  omega

end PV
