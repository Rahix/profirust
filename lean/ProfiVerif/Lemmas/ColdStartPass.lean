/-
The token pass to the adopted station: the holder (in `PassToken`, the adopted station its successor in its view `M`) waits
for the synchronisation pause and passes the token; the adopted station (in `ActiveIdle`, previous station = the holder)
receives it with arbitrary lag and becomes the token holder.  `tp0_…` / `tp1_…` are the polls before the pass and with the
token on the bus; `…_claimant` is the holder, `…_listener` the adopted station; `pass_runD` is the run over any schedule
(`pass_run` without the deadline at every poll).  (Props/C06)
-/
import ProfiVerif.Lemmas.AwaitReply

namespace PV
open StationGap TokenRing

/-- The token of `x` (address `aL`) to `aH`, sent at `p`. -/
def tkTx (x aL aH : Nat) (p : Int) : Transmission :=
  { start := p, sender := x, bytes := tokenBytes aH aL, dropped := false }

/-- **Before the pass**: the holder `x` (stamp `lx`) is in `PassToken`, its view is the ring `M` in which the adopted
station is its successor; the adopted station `y` (stamp `ly`) idles with `x` as previous station; both are up to date
with the log; `x` has not been polled after the end of its synchronisation pause. -/
structure TP0 (cfg : Cfg) (n : Net) (x y : Nat) (stx sty : NetStation) (lx ly : Int) (M : List Nat) (tl : Int) : Prop where
  soloX : Solo cfg n x stx lx
  soloY : Solo cfg n y sty ly
  stx_st : stx.s.st = .passToken false .first
  view : RingView M stx.s.p.address stx.s.ring
  succ : cycSucc stx.s.p.address M = sty.s.p.address
  ne : sty.s.p.address ≠ stx.s.p.address
  sty_st : sty.s.st = .activeIdle none none 0
  yps : sty.s.ring.ps = stx.s.p.address
  ypb : sty.s.pendingBytes = 0
  yx : y ≠ x
  lyx : lx ≤ ly + (cfg.P : Nat) + 1 ∧ ly ≤ lx
  tto : 2 * cfg.b33 + 4 * cfg.P + 4 ≤ sty.s.p.tokenLostTimeout
  wait : n.bus.seen.getD x 0 ≤ lx + (cfg.b33 : Nat)
  seens : n.bus.seen.getD x 0 ≤ tl ∧ n.bus.seen.getD y 0 ≤ tl

/-- **Token on the bus** (sent at `p`): the former holder supervises the pass (`CheckTokenPass`); the adopted station
`y` (stamp `lY`) holds exactly what has arrived of the token, which is incomplete.  `lYp`: its stamp is older than the
token, or a character of the token has moved it to a poll time; `ttoY`: its token-lost time-out does not run out before
the token is complete and polled. -/
structure TP1 (cfg : Cfg) (n : Net) (x y : Nat) (stx sty : NetStation) (p lY : Int) (M : List Nat) (B : Int) (tl : Int) : Prop where
  soloX : Solo cfg n x stx (p + (cfg.b33 : Nat))
  stx_st : stx.s.st = .checkTokenPass .first
  succ : cycSucc stx.s.p.address M = sty.s.p.address
  gy : n.stations[y]? = some sty
  yl : y < n.stations.length
  ys : y < n.bus.seen.length
  yon : sty.online = true ∧ sty.dead = false ∧ Inv sty.s sty.apps ∧ sty.s.online = true
  sty_st : sty.s.st = .activeIdle none none 0
  yps : sty.s.ring.ps = stx.s.p.address
  ne : sty.s.p.address ≠ stx.s.p.address
  yx : y ≠ x
  split : ∃ dn, n.bus.txs = dn ++ [tkTx x stx.s.p.address sty.s.p.address p] ∧
    ∀ o ∈ dn, cEnd cfg o ≤ p ∧ (o.sender = y ∨ cEnd cfg o ≤ n.bus.seen.getD y 0)
  rxY : sty.rx = arrived cfg [tkTx x stx.s.p.address sty.s.p.address p] (n.bus.seen.getD y 0)
  pendY : sty.s.pendingBytes ≤ (arrived cfg [tkTx x stx.s.p.address sty.s.p.address p] (n.bus.seen.getD y 0)).length
  headY : cvis cfg (tkTx x stx.s.p.address sty.s.p.address p) (n.bus.seen.getD y 0) < 3
  stampY : sty.s.lastBusActivity = some lY
  lYp : lY < p ∨ lY ≤ n.bus.seen.getD y 0
  ttoY : p + (cfg.b33 : Nat) + 1 + 2 * (cfg.P : Nat) < lY + (sty.s.p.tokenLostTimeout : Nat)
  pB : p + ((cfg.ce 2 : Nat) : Int) + (cfg.P : Nat) ≤ B
  ptl : p ≤ tl
  seens : n.bus.seen.getD x 0 ≤ tl ∧ n.bus.seen.getD y 0 ≤ tl

theorem TP1.seenY_lt {cfg : Cfg} {n : Net} {x y : Nat} {stx sty : NetStation} {p lY : Int} {M : List Nat} {B tl : Int}
    (h : TP1 cfg n x y stx sty p lY M B tl) : n.bus.seen.getD y 0 < p + ((cfg.ce 2 : Nat) : Int) :=
  cvis_lt_full cfg (tkTx x stx.s.p.address sty.s.p.address p) _ (by show 0 < 3; omega) h.headY

theorem tp0_listener {cfg : Cfg} {n : Net} {x y : Nat} {stx sty : NetStation} {lx ly : Int} {M : List Nat} {tl : Int}
    (h : TP0 cfg n x y stx sty lx ly M tl) (hok : cfg.Ok) (now : Int) (htl : tl ≤ now) (hown : n.bus.seen.getD y 0 < now)
    (hgx : now ≤ n.bus.seen.getD x 0 + (cfg.P : Nat)) :
    ∃ n' c, n.poll y now = (n', [], some (.ok c)) ∧ c.tx = none ∧ TP0 cfg n' x y stx sty lx ly M now := by
  have hr := hok.rate
  have hsY := h.soloY
  have htto := h.tto
  have hlyx := h.lyx
  have hwait := h.wait
  obtain ⟨n', c, hp, htx, hS, hbus, hset⟩ := lone_idle_noop hsY hok none 0 h.sty_st now hown (by omega)
  have hseen : n'.bus.seen.getD y 0 = now := by rw [hbus]; exact seen_set_self _ _ _ hsY.xs
  have hsxx : n'.bus.seen.getD x 0 = n.bus.seen.getD x 0 := by rw [hbus]; exact seen_set_other n.bus y x now h.yx
  exact ⟨n', c, hp, htx, h.soloX.otherNoop y now h.yx hbus hset, hS, h.stx_st, h.view, h.succ, h.ne, h.sty_st,
    h.yps, h.ypb, h.yx, h.lyx, h.tto, by rw [hsxx]; exact h.wait,
    by rw [hseen, hsxx]; exact ⟨Int.le_trans h.seens.1 htl, Int.le_refl _⟩⟩

theorem tp0_claimant {cfg : Cfg} {n : Net} {x y : Nat} {stx sty : NetStation} {lx ly : Int} {M : List Nat} {tl : Int}
    (h : TP0 cfg n x y stx sty lx ly M tl) (hok : cfg.Ok) (now : Int) (htl : tl ≤ now) (hown : n.bus.seen.getD x 0 < now)
    (hgx : now ≤ n.bus.seen.getD x 0 + (cfg.P : Nat)) :
    ∃ n' c, n.poll x now = (n', [], some (.ok c)) ∧
      ((c.tx = none ∧ TP0 cfg n' x y (upSt stx c) sty lx ly M now) ∨
       (c.tx = some (tokenBytes sty.s.p.address stx.s.p.address) ∧
          TP1 cfg n' x y (upSt stx c) sty now ly M (lx + 2 * (cfg.b33 : Nat) + 2 * (cfg.P : Nat) + 1) now)) := by
  have hr := hok.rate
  have hc2 := cfg.ce2 hr
  have hc0 := cfg.ce_pos hr 0
  have hs := h.soloX
  have hsY := h.soloY
  have hb33 := hs.b33
  have hlyx := h.lyx
  have hwait := h.wait
  have htto := h.tto
  have hno : stx.s.st ≠ .offline ∧ stx.s.st ≠ .passiveIdle := by rw [h.stx_st]; simp
  have hup : upSt stx { s := stx.s, apps := stx.apps, rx := [] } = stx := by unfold upSt; rw [← hs.rx]
  have hxy : x ≠ y := Ne.symm h.yx
  by_cases hw : now ≤ lx + (cfg.b33 : Nat)
  · -- still within the pause
    obtain ⟨n', hp, hS, hbus, hset⟩ := solo_noop hs hr now hown hno.1 hno.2 (fun _ => by
      unfold dispatch
      simp only [h.stx_st]
      exact pass_waits _ now lx false .first h.stx_st hs.stamp (by rw [hb33]; exact hw))
    have hseen : n'.bus.seen.getD x 0 = now := by rw [hbus]; exact seen_set_self _ _ _ hs.xs
    have hsy : n'.bus.seen.getD y 0 = n.bus.seen.getD y 0 := by rw [hbus]; exact seen_set_other n.bus x y now hxy
    refine ⟨n', _, hp, .inl ⟨rfl, ?_⟩⟩
    rw [hup]
    exact ⟨hS, hsY.otherNoop x now hxy hbus hset, h.stx_st, h.view, h.succ, h.ne, h.sty_st, h.yps, h.ypb, h.yx, h.lyx,
      h.tto, by rw [hseen]; exact hw, by rw [hseen, hsy]; exact ⟨Int.le_refl _, Int.le_trans h.seens.2 htl⟩⟩
  · have hlt : lx < now := by omega
    obtain ⟨c', hp, hS, -, a4, b1, -, -, hst'⟩ := solo_pass hs hok h.view h.stx_st now hown (by omega)
    rw [h.succ] at b1 hst'
    rw [if_neg h.ne] at hst'
    obtain ⟨n', hn'⟩ : ∃ n', n' = n.polled x now stx c' := ⟨_, rfl⟩
    rw [← hn'] at hp hS
    have hseen : n'.bus.seen.getD x 0 = now := by rw [hn']; exact hs.polled_seen now c'
    have hbus : n'.bus = Bus.send { n.bus with seen := n.bus.seen.set x now } x now
        (tokenBytes sty.s.p.address stx.s.p.address) := by
      rw [hn']; unfold Net.polled; rw [b1]
    have hset : n'.stations = n.stations.set x (upSt stx c') := by rw [hn']; rfl
    have hsy : n'.bus.seen.getD y 0 = n.bus.seen.getD y 0 := by
      rw [hbus]; exact seen_set_other n.bus x y now hxy
    have haddr : (upSt stx c').s.p.address = stx.s.p.address := by show c'.s.p.address = _; rw [a4]
    -- the adopted station, up to date so far, now lags behind the token
    obtain ⟨r, -⟩ := ((hsY.rcv h.ypb).other x now hxy).snoc (hsY.wire.seen _) hr (b' := n'.bus) x now
      (tokenBytes sty.s.p.address stx.s.p.address) (show 0 < 3 by omega)
      (by show (n.bus.seen.set x now).getD y 0 ≤ now; rw [seen_set_other _ _ _ _ hxy]; have := h.seens.2; omega)
      (fun hne => absurd rfl hne)
      (by rw [hbus, Bus.send_spec { n.bus with seen := n.bus.seen.set x now } x now _ hs.drops]) (by rw [hbus]; rfl)
    have hends := hs.ended (Int.le_of_lt hown) hlt
    refine ⟨n', c', hp, .inr ⟨b1, ?_⟩⟩
    refine ⟨hS, hst', by rw [haddr]; exact h.succ, by rw [hset, List.getElem?_set_ne hxy]; exact hsY.gx,
      by rw [hset, List.length_set]; exact hsY.xl, by rw [hbus]; show y < (n.bus.seen.set x now).length; rw [List.length_set]; exact hsY.xs,
      ⟨hsY.online, hsY.alive, hsY.inv, hsY.son⟩, h.sty_st, by rw [haddr]; exact h.yps, by rw [haddr]; exact h.ne, h.yx,
      ⟨_, by rw [haddr]; exact r.log, fun o ho => ⟨hends o (List.mem_filter.1 ho).1, r.done o ho⟩⟩,
      by rw [haddr]; exact r.rx, by rw [haddr]; exact r.pend, by rw [haddr]; exact r.head _ [] rfl,
      hsY.stamp, .inl (by omega), by omega, by omega, Int.le_refl _,
      by rw [hseen, hsy]; exact ⟨Int.le_refl _, Int.le_trans h.seens.2 htl⟩⟩

theorem tp1_claimant {cfg : Cfg} {n : Net} {x y : Nat} {stx sty : NetStation} {p lY : Int} {M : List Nat} {B tl : Int}
    (h : TP1 cfg n x y stx sty p lY M B tl) (hok : cfg.Ok) (now : Int) (htl : tl ≤ now) (hown : n.bus.seen.getD x 0 < now)
    (hgy : now ≤ n.bus.seen.getD y 0 + (cfg.P : Nat)) :
    ∃ n' c, n.poll x now = (n', [], some (.ok c)) ∧ c.tx = none ∧ TP1 cfg n' x y stx sty p lY M B now := by
  have hr := hok.rate
  have hmar := hok.margin
  have hc2 := cfg.ce2 hr
  have hs := h.soloX
  have hno : stx.s.st ≠ .offline ∧ stx.s.st ≠ .passiveIdle := by rw [h.stx_st]; simp
  have hup : upSt stx { s := stx.s, apps := stx.apps, rx := [] } = stx := by unfold upSt; rw [← hs.rx]
  have hxy : x ≠ y := Ne.symm h.yx
  have hys := h.seenY_lt
  obtain ⟨n', hp, hS, hbus, hset⟩ := solo_noop hs hr now hown hno.1 hno.2 (fun hlt => by
    -- the poll returns regularly; a supervising sender rests while its slot time has not run out
    obtain ⟨c', hd, -⟩ := hs.dispatch_ok hno.1 hno.2 hlt
    have hq := doCheckTokenPass_step (c := { s := stx.s, apps := stx.apps, rx := [] }) now h.stx_st
    rw [← dispatch_checkTokenPass now h.stx_st, hd] at hq
    rw [hd, hq.rests ⟨hs.son, rfl, rfl, hs.stamp⟩ (by show now ≤ _ + ((stx.s.p.slotTime : Nat) : Int); rw [hs.slot]; omega)])
  have hseen : n'.bus.seen.getD x 0 = now := by rw [hbus]; exact seen_set_self _ _ _ hs.xs
  have hsy : n'.bus.seen.getD y 0 = n.bus.seen.getD y 0 := by rw [hbus]; exact seen_set_other n.bus x y now hxy
  refine ⟨n', _, hp, rfl, hS, h.stx_st, h.succ, by rw [hset]; exact h.gy,
    by rw [hset]; exact h.yl, by rw [hbus]; simp only [List.length_set]; exact h.ys, h.yon, h.sty_st, h.yps,
    h.ne, h.yx, (by
      obtain ⟨dn, hd1, hd2⟩ := h.split
      exact ⟨dn, by rw [hbus]; exact hd1, fun o ho => by rw [hsy]; exact hd2 o ho⟩), by rw [hsy]; exact h.rxY, by rw [hsy]; exact h.pendY,
    by rw [hsy]; exact h.headY, h.stampY, by rw [hsy]; exact h.lYp, h.ttoY, h.pB, Int.le_trans h.ptl htl,
    by rw [hseen, hsy]; exact ⟨Int.le_refl _, Int.le_trans h.seens.2 htl⟩⟩

theorem tp1_listener {cfg : Cfg} {n : Net} {x y : Nat} {stx sty : NetStation} {p lY : Int} {M : List Nat} {B tl : Int}
    (h : TP1 cfg n x y stx sty p lY M B tl) (hok : cfg.Ok) (now : Int) (htl : tl ≤ now) (hown : n.bus.seen.getD y 0 < now)
    (hgy : now ≤ n.bus.seen.getD y 0 + (cfg.P : Nat)) :
    ∃ n' inc c, n.poll y now = (n', inc, some (.ok c)) ∧ c.tx = none ∧ c.s.p = sty.s.p ∧
      ((∃ lY', TP1 cfg n' x y stx (upSt sty c) p lY' M B now) ∨
       (now ≤ B ∧ c.s.st = .useToken ⟨now, none⟩ false)) := by
  have hr := hok.rate
  have hc2 := cfg.ce2 hr
  have hc0 := cfg.ce_pos hr 0
  have hs := h.soloX
  have hptl := h.ptl
  have hpB := h.pB
  have httoY := h.ttoY
  obtain ⟨hon, hal, hinv, hson⟩ := h.yon
  obtain ⟨dn, htxs, hdn⟩ := h.split
  have hxy : x ≠ y := Ne.symm h.yx
  have haL : stx.s.p.address < 126 := by have := hs.inv.addr; have := hs.inv.hsa; omega
  have haH : sty.s.p.address < 126 := by have := hinv.addr; have := hinv.hsa; omega
  -- the token as a transmission `tk` of three characters carrying `token aH aL`
  generalize htk : tkTx x stx.s.p.address sty.s.p.address p = tk at htxs
  have hrxY := h.rxY; have hpendY := h.pendY; have hheadY := h.headY
  rw [htk] at hrxY hpendY hheadY
  have hlen : tk.bytes.length = 3 := by rw [← htk]; rfl
  have htel : telOf tk = .token (UInt8.ofNat sty.s.p.address) (UInt8.ofNat stx.s.p.address) := by
    have := telOf_token tk stx.s.p.address M (by rw [h.succ, ← htk]; rfl)
    rw [this]; unfold tokTel; rw [h.succ]
  have hwire : tk.bytes = (telOf tk).wire ∧ (telOf tk).Valid := by
    rw [htel]; exact ⟨by rw [← htk]; rfl, trivial⟩
  have hsn : n.bus.seen.getD y 0 ≤ now := Int.le_of_lt hown
  have hys := h.seenY_lt
  have hlt : lY < now := by rcases h.lYp with e | e <;> omega
  -- the adopted station relative to the log; its poll
  have hR : Rcv cfg n.bus y sty dn [tk] lY :=
    ⟨htxs, fun o ho => (hdn o ho).2, hrxY, hpendY, fun t rest e => by cases e; rw [hlen]; exact hheadY, h.stampY⟩
  obtain ⟨inc, s1, hdv, hpd, hinvc, f1, f2, f3, f4, -, hl1, hpb1⟩ :=
    hR.poll hs.wire hr (fun t ht => by rw [List.mem_singleton.1 ht, ← htk]; exact hxy) now (fun o ho hso => by
      rw [htxs] at ho
      rcases List.mem_append.1 ho with ho | ho
      · have := (hdn o ho).1; omega
      · rw [List.mem_singleton.1 ho, ← htk] at hso; exact absurd hso hxy) hlt hsn hinv hson
      (by rw [h.sty_st]; simp) (by rw [h.sty_st]; simp)
  -- the stamp after `check_for_bus_activity`: not in the future, and too young for the token-lost time-out
  generalize hl1e : (if sty.s.pendingBytes < (arrived cfg [tk] now).length then now else lY) = l1 at hl1
  have hl1w : lY ≤ l1 ∧ l1 ≤ now ∧ now < l1 + (s1.p.tokenLostTimeout : Nat) := by
    rw [f2, ← hl1e]; split <;> omega
  have hle1 := hl1w.2.1
  have hdisp := fun b' d ret => idle_dispatch_recv { s := s1, apps := sty.apps, rx := arrived cfg [tk] now } now l1 none 0
    (f1.trans h.sty_st) hl1 hle1 hl1w.2.2 b' d ret
  rcases consume_one cfg tk now hwire with ⟨hV, ret, hrec⟩ | ⟨hV, ret, hrec⟩
  · -- incomplete: the buffer is kept
    have hd := hdisp _ _ _ hrec
    simp only [foldTelegrams] at hd
    have hpe := Net.poll_eq n y now sty _ inc _ h.gy hal hon hdv (hpd.trans hd)
    have hR' := hR.advance hs.wire h.ys hsn (c := { s := s1, apps := sty.apps, rx := arrived cfg [tk] now }) (k := 0)
      (fun t ht => by cases ht) (fun t rest e => by cases e; exact hV) rfl hpb1 hl1
    have hsx : (n.bus.seen.set y now).getD x 0 = n.bus.seen.getD x 0 := seen_set_other n.bus y x now h.yx
    have hseen : (n.bus.seen.set y now).getD y 0 = now := seen_set_self _ _ _ h.ys
    refine ⟨_, inc, _, hpe, rfl, f2, .inl ⟨l1, ?_⟩⟩
    have haddr : (upSt sty { s := s1, apps := sty.apps, rx := arrived cfg [tk] now }).s.p.address = sty.s.p.address :=
      congrArg Params.address f2
    refine ⟨hs.otherPoll y now _ h.yx rfl rfl, h.stx_st, by rw [haddr]; exact h.succ, List.getElem?_set_self h.yl,
      by simp only [List.length_set]; exact h.yl, by simp only [List.length_set]; exact h.ys,
      ⟨hon, hal, hinvc _ hd, f4⟩, f1.trans h.sty_st, f3 ▸ h.yps, by rw [haddr]; exact h.ne, h.yx,
      ⟨dn, by rw [haddr, htk]; exact htxs, fun o ho => ⟨(hdn o ho).1, hR'.done o (List.mem_append_left _ ho)⟩⟩,
      by rw [haddr, htk]; exact hR'.rx, by rw [haddr, htk]; exact hR'.pend,
      by rw [haddr, htk]; have := hR'.head tk [] rfl; rw [hlen] at this; exact this, hl1, .inr (by rw [hseen]; exact hle1),
      by show _ < l1 + ((s1.p.tokenLostTimeout : Nat) : Int); rw [f2]; omega, h.pB, Int.le_trans h.ptl htl,
      by simp only; rw [hseen, hsx]; exact ⟨Int.le_trans h.seens.1 htl, Int.le_refl _⟩⟩
  · -- complete: the token comes from the previous station and is accepted
    have hd := hdisp _ _ _ hrec
    have hm1 : (markRx s1 now).st = .activeIdle none none 0 := f1.trans h.sty_st
    rw [htel] at hd
    simp only [foldTelegrams, idleF, upd] at hd
    rw [handleTelegram_accepts _ now none 0 _ _ hm1 (by show (UInt8.ofNat _).toNat = s1.p.address; rw [f2]; exact u8n _ (by omega))
      (by show (UInt8.ofNat _).toNat ≠ s1.p.address; rw [f2, u8n _ (by omega)]; exact Ne.symm h.ne)
      (.inl (by show (UInt8.ofNat _).toNat = s1.ring.ps; rw [f3, u8n _ (by omega)]; exact h.yps.symm))] at hd
    have hpe := Net.poll_eq n y now sty _ inc _ h.gy hal hon hdv (hpd.trans hd)
    have := (cvis_spec cfg tk now 2 (by omega)).1 (by omega)
    exact ⟨_, inc, _, hpe, rfl, f2, .inr ⟨by omega, rfl⟩⟩

/-- Run from the adoption to the acceptance of the token: the holder `x` transmits nothing but the token to `aH`; the
adopted station `y` transmits nothing and holds the token (`UseToken`) no later than `B`. -/
def PassRun (x y aL aH : Nat) (B : Int) : Net → List (Nat × Int) → Prop
  | _, [] => True
  | n, (i, now) :: rest =>
    ∃ n' inc c, n.poll i now = (n', inc, some (.ok c)) ∧
      ((i = x ∧ (c.tx = none ∨ c.tx = some (tokenBytes aH aL)) ∧ PassRun x y aL aH B n' rest) ∨
       (i = y ∧ c.tx = none ∧ (PassRun x y aL aH B n' rest ∨ (now ≤ B ∧ c.s.st = .useToken ⟨now, none⟩ false))))

/-- The invariant of `pass_runD`: before the pass or token on the bus, the deadline `B` of `TP1` fixed from the holder's
stamp `lx` at the adoption (the bound of `pass_runD`). -/
def TPass (cfg : Cfg) (n : Net) (x y : Nat) (stx sty : NetStation) (lx : Int) (M : List Nat) (tl : Int) : Prop :=
  (∃ ly, TP0 cfg n x y stx sty lx ly M tl) ∨
  (∃ p lY, TP1 cfg n x y stx sty p lY M (lx + 2 * (cfg.b33 : Nat) + 2 * (cfg.P : Nat) + 1) tl)

theorem TPass.info {cfg : Cfg} {n : Net} {x y : Nat} {stx sty : NetStation} {lx : Int} {M : List Nat} {tl : Int}
    (h : TPass cfg n x y stx sty lx M tl) :
    n.stations[x]? = some stx ∧ n.stations[y]? = some sty ∧ x < n.stations.length ∧ y < n.stations.length ∧ y ≠ x := by
  rcases h with ⟨ly, h⟩ | ⟨p, lY, h⟩
  · exact ⟨h.soloX.gx, h.soloY.gx, h.soloX.xl, h.soloY.xl, h.yx⟩
  · exact ⟨h.soloX.gx, h.gy, h.soloX.xl, h.yl, h.yx⟩

/-- As `PassRun`, with the deadline at every poll of the adopted station: also a poll that does not yet find the complete
token happens no later than `B`, so a schedule that goes on beyond `B` contains the poll that accepts it. -/
def PassRunD (x y aL aH : Nat) (B : Int) : Net → List (Nat × Int) → Prop
  | _, [] => True
  | n, (i, now) :: rest =>
    ∃ n' inc c, n.poll i now = (n', inc, some (.ok c)) ∧
      ((i = x ∧ (c.tx = none ∨ c.tx = some (tokenBytes aH aL)) ∧ PassRunD x y aL aH B n' rest) ∨
       (i = y ∧ c.tx = none ∧
         ((now ≤ B ∧ PassRunD x y aL aH B n' rest) ∨ (now ≤ B ∧ c.s.st = .useToken ⟨now, none⟩ false))))

theorem PassRunD.weaken {x y aL aH : Nat} {B : Int} :
    ∀ (evs : List (Nat × Int)) (n : Net), PassRunD x y aL aH B n evs → PassRun x y aL aH B n evs := by
  intro evs
  induction evs with
  | nil => intro _ _; trivial
  | cons ev rest ih =>
    obtain ⟨i, now⟩ := ev
    rintro n ⟨n', inc, c, hp, h⟩
    refine ⟨n', inc, c, hp, ?_⟩
    rcases h with ⟨hi, htx, hr⟩ | ⟨hi, htx, ⟨-, hr⟩ | hr⟩
    · exact .inl ⟨hi, htx, ih n' hr⟩
    · exact .inr ⟨hi, htx, .inl (ih n' hr)⟩
    · exact .inr ⟨hi, htx, .inr hr⟩

/-- The bound: the synchronisation pause (`b33`), the pass at the holder's next poll (`P`), the token (`ce 2 ≤ b33 + 1`),
its acceptance at the adopted station's next poll (`P`). -/
theorem pass_runD {cfg : Cfg} (hok : cfg.Ok) (x y : Nat) (lx : Int) (M : List Nat) (aL aH : Nat) :
    ∀ (evs : List (Nat × Int)) (n : Net) (stx sty : NetStation) (tl : Int),
    TPass cfg n x y stx sty lx M tl → n.stations.length = 2 → stx.s.p.address = aL → sty.s.p.address = aH →
    SchedN cfg.P n tl evs →
    PassRunD x y aL aH (lx + 2 * (cfg.b33 : Nat) + 2 * (cfg.P : Nat) + 1) n evs := by
  intro evs
  induction evs with
  | nil => intro _ _ _ _ _ _ _ _ _; trivial
  | cons ev rest ih =>
    intro n stx sty tl hq hN haL haH hs
    obtain ⟨i, now⟩ := ev
    obtain ⟨hi, htl, hown, hgap, hrest⟩ := hs
    obtain ⟨hgx0, hgy0, hxl, hyl, hyx⟩ := hq.info
    have hgx := hgap x hxl
    have hgy := hgap y hyl
    have hixy : i = x ∨ i = y := by omega
    rcases hixy with rfl | rfl
    · rcases hq with ⟨ly, h⟩ | ⟨p, lY, h⟩
      · obtain ⟨n', c, hp, h'⟩ := tp0_claimant h hok now htl hown hgx
        have hpp := Net.poll_params n i now n' [] c stx hp hgx0
        have haL' : (upSt stx c).s.p.address = aL := by show c.s.p.address = _; rw [hpp]; exact haL
        rcases h' with ⟨htx, h'⟩ | ⟨htx, h'⟩
        · exact ⟨n', [], c, hp, .inl ⟨rfl, .inl htx, ih n' (upSt stx c) sty now (.inl ⟨ly, h'⟩)
            ((Net.poll_len_of hp).trans hN) haL' haH (hrest.of_poll hp)⟩⟩
        · exact ⟨n', [], c, hp, .inl ⟨rfl, .inr (by rw [htx, haL, haH]),
            ih n' (upSt stx c) sty now (.inr ⟨now, ly, h'⟩) ((Net.poll_len_of hp).trans hN) haL' haH (hrest.of_poll hp)⟩⟩
      · obtain ⟨n', c, hp, htx, h'⟩ := tp1_claimant h hok now htl hown hgy
        exact ⟨n', [], c, hp, .inl ⟨rfl, .inl htx, ih n' stx sty now (.inr ⟨p, lY, h'⟩) ((Net.poll_len_of hp).trans hN) haL haH (hrest.of_poll hp)⟩⟩
    · rcases hq with ⟨ly, h⟩ | ⟨p, lY, h⟩
      · obtain ⟨n', c, hp, htx, h'⟩ := tp0_listener h hok now htl hown hgx
        have := h.wait
        exact ⟨n', [], c, hp, .inr ⟨rfl, htx,
          .inl ⟨by omega, ih n' stx sty now (.inl ⟨ly, h'⟩) ((Net.poll_len_of hp).trans hN) haL haH (hrest.of_poll hp)⟩⟩⟩
      · obtain ⟨n', inc, c, hp, htx, hpp, h'⟩ := tp1_listener h hok now htl hown hgy
        have haH' : (upSt sty c).s.p.address = aH := by show c.s.p.address = _; rw [hpp]; exact haH
        rcases h' with ⟨lY', h'⟩ | ⟨hB, hst⟩
        · refine ⟨n', inc, c, hp, .inr ⟨rfl, htx,
            .inl ⟨?_, ih n' stx (upSt sty c) now (.inr ⟨p, lY', h'⟩) ((Net.poll_len_of hp).trans hN) haL haH' (hrest.of_poll hp)⟩⟩⟩
          -- the token is still incomplete at `now`
          have hlt := h'.seenY_lt
          rw [Net.poll_seen_of hp, seen_set_self _ _ _ h.ys] at hlt
          have := h.pB
          omega
        · exact ⟨n', inc, c, hp, .inr ⟨rfl, htx, .inr ⟨hB, hst⟩⟩⟩

theorem pass_run {cfg : Cfg} (hok : cfg.Ok) (x y : Nat) (lx : Int) (M : List Nat) (aL aH : Nat) :
    ∀ (evs : List (Nat × Int)) (n : Net) (stx sty : NetStation) (tl : Int),
    TPass cfg n x y stx sty lx M tl → n.stations.length = 2 → stx.s.p.address = aL → sty.s.p.address = aH →
    SchedN cfg.P n tl evs →
    PassRun x y aL aH (lx + 2 * (cfg.b33 : Nat) + 2 * (cfg.P : Nat) + 1) n evs :=
  fun evs n stx sty tl hq hN haL haH hs =>
    PassRunD.weaken evs n (pass_runD hok x y lx M aL aH evs n stx sty tl hq hN haL haH hs)

end PV
