/-
Cold start of two stations, the first answered GAP request: the listener registers the request addressed to it,
answers after the synchronisation pause, and the claimant receives the reply with arbitrary lag.  One invariant per
phase (`HQ0` request on the bus, `HQ1` registered, `HQ2` reply on the bus, `HQ3` received), one lemma per phase and
polled station, and the run over any schedule (`reply_runD`; `reply_run` without the deadline at every poll).  (Props/C06)
-/
import ProfiVerif.Lemmas.ColdStartDuo
import ProfiVerif.Lemmas.AwaitReply

namespace PV
open StationGap TokenRing

/-- The GAP request of `x` (address `aL`) to the listener (address `aH`), sent at `r`. -/
def rqTx (x aL aH : Nat) (r : Int) : Transmission :=
  { start := r, sender := x, bytes := statusRequestBytes aH aL, dropped := false }

/-- **Request on the bus, not yet registered**: the claimant `x` awaits the reply (stamp `r + bits 66`); the log is
the lone transmitter's, its last entry the request to the listener's address, no other entry that the listener has not
consumed addressed to it; the listener `y` satisfies the listener condition with the request among the transmissions it has not
consumed yet, and was last polled before the end of the request. -/
structure HQ0 (cfg : Cfg) (G : Nat) (n : Net) (x y : Nat) (stx sty : NetStation) (r : Int) (r0 : TokenRing)
    (hd : List Telegram) (dn rs : List Transmission) (lY : Int) (coll : Nat) (tl : Int) : Prop where
  solo : Solo cfg n x stx (r + (cfg.b66 : Nat))
  stx_st : AwaitSt stx.s.st sty.s.p.address
  stx_gap : stx.s.gap = .doPoll sty.s.p.address
  logR : LoneLogR cfg stx.s.p.address x n.bus
  rsne : rs.getLast? = some (rqTx x stx.s.p.address sty.s.p.address r)
  others : ∀ t ∈ rs.dropLast, t.bytes = tokenBytes stx.s.p.address stx.s.p.address ∨
    ∃ g, g < 126 ∧ g ≠ sty.s.p.address ∧ t.bytes = statusRequestBytes g stx.s.p.address
  gy : n.stations[y]? = some sty
  yx : y ≠ x
  ys : y < n.bus.seen.length
  yl : y < n.stations.length
  lis : LLOkX cfg G stx.s.p.address n.bus (r + (cfg.b66 : Nat) + (cfg.slot : Nat) + (cfg.P : Nat)) y sty r0 hd none dn rs lY coll
  early : n.bus.seen.getD y 0 < r + ((cfg.ce 5 : Nat) : Int)
  py : sty.s.p.rate = cfg.rate ∧ sty.s.p.slotBits = cfg.slotBits
  pbx : stx.s.pendingBytes = 0
  starts : ∀ t ∈ n.bus.txs, t.start ≤ tl
  seens : n.bus.seen.getD x 0 ≤ tl ∧ n.bus.seen.getD y 0 ≤ tl
  view : RingView [stx.s.p.address] stx.s.p.address stx.s.ring

theorem mem_dropLast_cons {α : Type} (a t : α) (l : List α) (h : t ∈ l.dropLast) : t ∈ (a :: l).dropLast := by
  cases l with
  | nil => cases h
  | cons b l' => exact List.mem_cons_of_mem _ h

theorem mem_dropLast_of_drop {α : Type} (t : α) : ∀ (k : Nat) (l : List α), t ∈ (l.drop k).dropLast → t ∈ l.dropLast := by
  intro k
  induction k with
  | zero => intro l h; simpa using h
  | succ k ih =>
    intro l h
    cases l with
    | nil => cases h
    | cons a l' => exact mem_dropLast_cons a t l' (ih l' (by simpa using h))

theorem mem_dropLast_of_take {α : Type} (t : α) : ∀ (l : List α) (k : Nat), k < l.length → t ∈ l.take k → t ∈ l.dropLast := by
  intro l
  induction l with
  | nil => intro k hk; simp at hk
  | cons a l' ih =>
    intro k hk ht
    cases k with
    | zero => simp at ht
    | succ k =>
      have hk' : k < l'.length := by simpa using hk
      rw [List.take_succ_cons] at ht
      cases l' with
      | nil => simp at hk'
      | cons b l'' =>
        rcases List.mem_cons.1 ht with rfl | ht
        · exact List.mem_cons_self ..
        · exact List.mem_cons_of_mem _ (ih k hk' ht)

theorem cEnd_rq (cfg : Cfg) (x aL aH : Nat) (r : Int) : cEnd cfg (rqTx x aL aH r) = r + ((cfg.ce 5 : Nat) : Int) := by
  unfold cEnd rqTx
  simp only [statusRequestBytes_length]

theorem hq0_claimant {cfg : Cfg} {G : Nat} {n : Net} {x y : Nat} {stx sty : NetStation} {r : Int} {r0 : TokenRing}
    {hd : List Telegram} {dn rs : List Transmission} {lY : Int} {coll : Nat} {tl : Int}
    (h : HQ0 cfg G n x y stx sty r r0 hd dn rs lY coll tl) (hok : cfg.Ok) (now : Int) (htl : tl ≤ now)
    (hown : n.bus.seen.getD x 0 < now) (hgy : now ≤ n.bus.seen.getD y 0 + (cfg.P : Nat)) :
    ∃ n' c, n.poll x now = (n', [], some (.ok c)) ∧ c.tx = none ∧ HQ0 cfg G n' x y stx sty r r0 hd dn rs lY coll now := by
  have hr := hok.rate
  have hmar := hok.margin
  have hc5 := cfg.ce5 hr
  have hs := h.solo
  have hearly := h.early
  have hxy : x ≠ y := Ne.symm h.yx
  obtain ⟨n', hp, hS, hbus, hset⟩ := await_noop hs hok _ h.stx_st h.stx_gap now hown (by omega)
  have hseen : n'.bus.seen.getD x 0 = now := by rw [hbus]; exact seen_set_self _ _ _ hs.xs
  have hsy : n'.bus.seen.getD y 0 = n.bus.seen.getD y 0 := by rw [hbus]; exact seen_set_other n.bus x y now hxy
  refine ⟨n', _, hp, rfl, ⟨hS, h.stx_st, h.stx_gap, ?_, h.rsne, h.others, ?_, h.yx, ?_, ?_, ?_, ?_, ?_, ?_, ?_, ?_, h.view⟩⟩
  · rw [hbus]; exact h.logR.seen _
  · rw [hset]; exact h.gy
  · rw [hbus]; simp only [List.length_set]; exact h.ys
  · rw [hset]; exact h.yl
  · rw [hbus]; exact h.lis.other x now hxy
  · rw [hsy]; exact hearly
  · exact h.py
  · exact h.pbx
  · rw [hbus]; exact fun t ht => Int.le_trans (h.starts t ht) htl
  · rw [hseen, hsy]; exact ⟨Int.le_refl _, Int.le_trans h.seens.2 htl⟩

/-- **Request registered** at `h1`: the listener `y` has consumed everything, remembers the requester and will
answer after the pause; the claimant still awaits the reply. -/
structure HQ1 (cfg : Cfg) (n : Net) (x y : Nat) (stx sty : NetStation) (r h1 : Int) (coll : Nat) (tl : Int) : Prop where
  solo : Solo cfg n x stx (r + (cfg.b66 : Nat))
  stx_st : AwaitSt stx.s.st sty.s.p.address
  stx_gap : stx.s.gap = .doPoll sty.s.p.address
  soloY : Solo cfg n y sty h1
  sty_st : sty.s.st = .listenToken (some stx.s.p.address) coll
  yx : y ≠ x
  reg : r + ((cfg.ce 5 : Nat) : Int) ≤ h1 ∧ h1 < r + ((cfg.ce 5 : Nat) : Int) + (cfg.P : Nat)
  ywait : n.bus.seen.getD y 0 ≤ h1 + (cfg.b33 : Nat) ∧ h1 ≤ n.bus.seen.getD y 0
  tto : cfg.slot + 3 * cfg.P + cfg.ce 0 + 2 ≤ sty.s.p.tokenLostTimeout
  allx : ∀ t ∈ n.bus.txs, t.sender = x
  pbx : stx.s.pendingBytes = 0
  starts : ∀ t ∈ n.bus.txs, t.start ≤ tl
  seens : n.bus.seen.getD x 0 ≤ tl ∧ n.bus.seen.getD y 0 ≤ tl
  view : RingView [stx.s.p.address] stx.s.p.address stx.s.ring

theorem hq0_listener {cfg : Cfg} {G : Nat} {n : Net} {x y : Nat} {stx sty : NetStation} {r : Int} {r0 : TokenRing}
    {hd : List Telegram} {dn rs : List Transmission} {lY : Int} {coll : Nat} {tl : Int}
    (h : HQ0 cfg G n x y stx sty r r0 hd dn rs lY coll tl) (hok : cfg.Ok) (hG : cfg.slot + 3 * cfg.P ≤ G) (now : Int)
    (htl : tl ≤ now) (hown : n.bus.seen.getD y 0 < now) (hgy : now ≤ n.bus.seen.getD y 0 + (cfg.P : Nat)) :
    ∃ n' inc c, n.poll y now = (n', inc, some (.ok c)) ∧ c.tx = none ∧
      ((∃ hd' dn' rs' lY', HQ0 cfg G n' x y stx (upSt sty c) r r0 hd' dn' rs' lY' coll now ∧
          hd' ++ rs'.map telOf = hd ++ rs.map telOf) ∨
       (HQ1 cfg n' x y stx (upSt sty c) r now coll now ∧
          (upSt sty c).s.ring = hearAll stx.s.p.address (hd ++ rs.map telOf) r0)) := by
  have hr := hok.rate
  have hmar := hok.margin
  have hc5 := cfg.ce5 hr
  have hc0 := cfg.ce_pos hr 0
  have hs := h.solo
  have haL : stx.s.p.address < 126 := by have := hs.inv.addr; have := hs.inv.hsa; omega
  have hL := h.lis
  have htxs : n.bus.txs = dn ++ rs := hL.rcv.log
  have hrsne : rs ≠ [] := by intro e; have := h.rsne; rw [e] at this; cases this
  have hlastT : n.bus.txs.getLast? = some (rqTx x stx.s.p.address sty.s.p.address r) := by
    rw [htxs, List.getLast?_append, h.rsne]; rfl
  obtain ⟨inc, c, hdv, hpoll, htx, hp, hres⟩ := llisten_stepR hL h.logR hr haL h.yx h.ys now hown
    (by have := h.early; omega) (fun t ht => Int.le_trans (h.starts t ht) htl)
    (by
      intro t ht
      rw [hlastT] at ht
      have := Option.some.inj ht
      subst this
      rw [cEnd_rq]
      omega)
  obtain ⟨hon, hal, -⟩ := hL
  have hpoll' : sty.s.poll sty.apps now (Bus.transmitting { n.bus with seen := n.bus.seen.set y now } y now) (sty.rx ++ inc) = .ok c := by
    rw [transmitting_seen]; exact hpoll
  have hpe := Net.poll_eq n y now sty _ inc c h.gy hal hon hdv hpoll'
  rw [htx] at hpe
  have hsx : ({ n.bus with seen := n.bus.seen.set y now } : Bus).seen.getD x 0 = n.bus.seen.getD x 0 :=
    seen_set_other n.bus y x now h.yx
  have haddr : (upSt sty c).s.p.address = sty.s.p.address := by show c.s.p.address = _; rw [hp]
  have hsoloX : Solo cfg { bus := { n.bus with seen := n.bus.seen.set y now }, stations := n.stations.set y (upSt sty c) } x stx
      (r + (cfg.b66 : Nat)) := hs.otherPoll y now (upSt sty c) h.yx rfl rfl
  have hlogR' := h.logR.seen (n.bus.seen.set y now)
  have hseensNew : ({ n.bus with seen := n.bus.seen.set y now } : Bus).seen.getD x 0 ≤ now ∧
      ({ n.bus with seen := n.bus.seen.set y now } : Bus).seen.getD y 0 ≤ now := by
    rw [hsx, seen_set_self _ _ _ h.ys]
    exact ⟨Int.le_trans h.seens.1 htl, Int.le_refl _⟩
  have hposrs : ∀ t ∈ rs, 0 < t.bytes.length := fun t ht => (h.logR.tel haL t (by rw [htxs]; exact List.mem_append_right _ ht)).2.2.1
  have hcrs : CChained cfg rs := h.lis.rcv.chained h.logR.wire
  refine ⟨_, inc, c, hpe, htx, ?_⟩
  -- the listener condition after the poll tells whether the request is complete
  have stillQ0 : ∀ (hd' : List Telegram) (dn' rs' : List Transmission) (lY' : Int),
      LLOkX cfg G stx.s.p.address { n.bus with seen := n.bus.seen.set y now }
        (r + (cfg.b66 : Nat) + (cfg.slot : Nat) + (cfg.P : Nat)) y (upSt sty c) r0 hd' none dn' rs' lY' coll →
      rs'.getLast? = some (rqTx x stx.s.p.address sty.s.p.address r) →
      (∀ t ∈ rs'.dropLast, t.bytes = tokenBytes stx.s.p.address stx.s.p.address ∨
        ∃ g, g < 126 ∧ g ≠ sty.s.p.address ∧ t.bytes = statusRequestBytes g stx.s.p.address) →
      CChained cfg rs' → (∀ t ∈ rs', 0 < t.bytes.length) →
      HQ0 cfg G { bus := { n.bus with seen := n.bus.seen.set y now }, stations := n.stations.set y (upSt sty c) } x y stx
        (upSt sty c) r r0 hd' dn' rs' lY' coll now := by
    intro hd' dn' rs' lY' hX hlast hoth hch hpos
    have hearly' : ({ n.bus with seen := n.bus.seen.set y now } : Bus).seen.getD y 0 < r + ((cfg.ce 5 : Nat) : Int) := by
      have hhead := hX.rcv.head
      have := rs_end_after cfg rs' _ hch hpos hhead (rqTx x stx.s.p.address sty.s.p.address r) (List.mem_of_getLast? hlast)
      rw [cEnd_rq] at this
      exact this
    exact ⟨hsoloX, by rw [haddr]; exact h.stx_st, by rw [haddr]; exact h.stx_gap, hlogR', by rw [haddr]; exact hlast,
      by rw [haddr]; exact hoth, List.getElem?_set_self h.yl, h.yx, by simp only [List.length_set]; exact h.ys,
      by simp only [List.length_set]; exact h.yl, hX, hearly', by show c.s.p.rate = _ ∧ c.s.p.slotBits = _; rw [hp]; exact h.py,
      h.pbx, fun t ht => Int.le_trans (h.starts t ht) htl, hseensNew, h.view⟩
  rcases hres with hX | ⟨k, d, hk1, hdm, hfl, hlastd, hX⟩
  · exact .inl ⟨hd, dn, rs, _, stillQ0 hd dn rs _ hX h.rsne h.others hcrs hposrs, rfl⟩
  · by_cases hdr : rs.drop k = []
    · -- the request has been consumed: registered
      right
      obtain ⟨pre, t, hdpt⟩ := hlastd hdr
      have hrsk : rs.take k = rs := take_of_drop_nil rs k hdr
      have ht : t = reqTel sty.s.p.address stx.s.p.address := by
        have e1 : (d.map Prod.fst).getLast? = ((rs.take k).map telOf).getLast? := by rw [hdm]
        rw [hdpt, hrsk] at e1
        simp only [List.map_append, List.map_cons, List.map_nil, List.getLast?_append, List.getLast?_singleton,
          Option.some_or, List.getLast?_map, h.rsne, Option.map_some] at e1
        have := Option.some.inj e1
        rw [this]
        have hH126 : sty.s.p.address < 126 := by
          have := hs.inv.gap _ h.stx_gap; have := hs.inv.hsa; omega
        exact telOf_req _ _ _ (by omega) (by omega) rfl
      have hreg : lastReg sty.s.p.address d = some stx.s.p.address := by
        unfold lastReg
        rw [hdpt, List.getLast?_append, List.getLast?_singleton]
        simp only [Option.some_or]
        rw [ht, regSr_req _ _ _ (by have := hs.inv.gap _ h.stx_gap; have := hs.inv.hsa; omega) (by omega)]
        simp
      rw [hreg, hdr] at hX
      have hRy := hX.rcv
      obtain ⟨x1, x2, x3, x4, -, x6, x7, -, x9, -, -, -, -, -, x15, -⟩ := hX
      refine ⟨⟨hsoloX, by rw [haddr]; exact h.stx_st, by rw [haddr]; exact h.stx_gap, ?_, x15, h.yx, ?_,
        (by rw [seen_set_self _ _ _ h.ys]; omega), ?_, ?_, h.pbx,
        fun t ht => Int.le_trans (h.starts t ht) htl, hseensNew, h.view⟩, by rw [x7, hdm, hrsk]⟩
      · -- the listener has consumed everything and never transmitted
        exact Solo.ofRcv (n := ⟨{ n.bus with seen := n.bus.seen.set y now }, n.stations.set y (upSt sty c)⟩) hRy
          (hs.wire.seen _) hs.drops (fun o ho hso => absurd ((h.logR.own o ho).symm.trans hso) (Ne.symm h.yx))
          (by simp only [List.length_set]; exact h.yl) (by simp only [List.length_set]; exact h.ys)
          (List.getElem?_set_self h.yl) x1 x2 x3 x4 (by show c.s.p.rate = _; rw [hp]; exact h.py.1)
          (by show c.s.p.slotBits = _; rw [hp]; exact h.py.2)
      · have hnowge : r + ((cfg.ce 5 : Nat) : Int) ≤ now := by
          have hm : rqTx x stx.s.p.address sty.s.p.address r ∈ dn ++ rs.take k := by
            rw [hrsk]; exact List.mem_append_right _ (List.mem_of_getLast? h.rsne)
          have := x9 _ (by simpa using hm)
          rw [cEnd_rq, seen_set_self _ _ _ h.ys] at this
          exact this
        have := h.early
        exact ⟨hnowge, by omega⟩
      · have := x6; omega
      · exact h.logR.own
    · -- the request is still incomplete
      left
      have hklt : k < rs.length := by
        rcases Nat.lt_or_ge k rs.length with h' | h'
        · exact h'
        · exact absurd (List.drop_eq_nil_of_le h') hdr
      have hlast' : (rs.drop k).getLast? = some (rqTx x stx.s.p.address sty.s.p.address r) := by
        rw [List.getLast?_drop, if_neg (by omega)]; exact h.rsne
      have hnone : lastReg sty.s.p.address d = none :=
        lastReg_none (by omega) d (rs.take k) hdm (fun t ht =>
          loneTel_of_kind haL t (h.others t (mem_dropLast_of_take t rs k hklt ht)))
      rw [hnone] at hX
      refine ⟨_, _, _, _, stillQ0 _ _ _ _ hX hlast' (fun t ht => h.others t (mem_dropLast_of_drop t k rs ht)) ?_ ?_,
        by rw [hdm, List.append_assoc, ← List.map_append, List.take_append_drop]⟩
      · have : rs = rs.take k ++ rs.drop k := (List.take_append_drop _ _).symm
        rw [this] at hcrs
        exact (List.pairwise_append.1 hcrs).2.1
      · exact fun t ht => hposrs t (List.mem_of_mem_drop ht)

/-- The reply of the listener `y` (address `aH`) to `aL`, sent at `q`. -/
def rpTx (y aL aH : Nat) (state : ResponseState) (q : Int) : Transmission :=
  { start := q, sender := y, bytes := statusResponseBytes aL aH state, dropped := false }

theorem hq1_claimant {cfg : Cfg} {n : Net} {x y : Nat} {stx sty : NetStation} {r h1 : Int} {coll : Nat} {tl : Int}
    (h : HQ1 cfg n x y stx sty r h1 coll tl) (hok : cfg.Ok) (now : Int) (htl : tl ≤ now)
    (hown : n.bus.seen.getD x 0 < now) (hgy : now ≤ n.bus.seen.getD y 0 + (cfg.P : Nat)) :
    ∃ n' c, n.poll x now = (n', [], some (.ok c)) ∧ c.tx = none ∧ HQ1 cfg n' x y stx sty r h1 coll now := by
  have hr := hok.rate
  have hmar := hok.margin
  have hc5 := cfg.ce5 hr
  have hs := h.solo
  have hreg := h.reg
  have hyw := h.ywait
  have hxy : x ≠ y := Ne.symm h.yx
  obtain ⟨n', hp, hS, hbus, hset⟩ := await_noop hs hok _ h.stx_st h.stx_gap now hown (by omega)
  have hseen : n'.bus.seen.getD x 0 = now := by rw [hbus]; exact seen_set_self _ _ _ hs.xs
  have hsy : n'.bus.seen.getD y 0 = n.bus.seen.getD y 0 := by rw [hbus]; exact seen_set_other n.bus x y now hxy
  have hsY := h.soloY
  refine ⟨n', _, hp, rfl, ⟨hS, h.stx_st, h.stx_gap, ?_, h.sty_st, h.yx, h.reg, by rw [hsy]; exact hyw, h.tto, ?_, h.pbx, ?_, ?_, h.view⟩⟩
  · exact hsY.otherNoop x now hxy hbus hset
  · rw [hbus]; exact h.allx
  · rw [hbus]; exact fun t ht => Int.le_trans (h.starts t ht) htl
  · rw [hseen, hsy]; exact ⟨Int.le_refl _, Int.le_trans h.seens.2 htl⟩

/-- **Reply on the bus** (sent by `y` at `q`, report `state`): the listener is done (`Solo`, stamp `q + bits 66`); the
claimant `x` (stamp `lX`) still awaits: its buffer holds exactly what has arrived of the reply, which is
incomplete, and the next character arrives before its slot time runs out (`slotok`).  `pbok`: the stamp is still that of
the request, or a character of the reply has moved it to a poll time; `qearly` bounds when the reply started. -/
structure HQ2 (cfg : Cfg) (n : Net) (x y : Nat) (stx sty : NetStation) (r q : Int) (state : ResponseState) (lX : Int)
    (coll : Nat) (tl : Int) : Prop where
  soloY : Solo cfg n y sty (q + (cfg.b66 : Nat))
  sty_st : sty.s.st = .listenToken none coll ∨ sty.s.st = .activeIdle none none 0
  qtl : q ≤ tl
  tto : cfg.slot + 3 * cfg.P + cfg.ce 0 + 2 ≤ sty.s.p.tokenLostTimeout
  ymw : state = .masterWithoutToken → sty.s.st = .activeIdle none none 0 ∧ sty.s.ring.ps = stx.s.p.address ∧
    sty.s.ring.readyForRing = true
  gx : n.stations[x]? = some stx
  xl : x < n.stations.length
  xs : x < n.bus.seen.length
  xon : stx.online = true ∧ stx.dead = false ∧ Inv stx.s stx.apps ∧ stx.s.online = true ∧
    stx.s.p.rate = cfg.rate ∧ stx.s.p.slotBits = cfg.slotBits
  stx_st : AwaitSt stx.s.st sty.s.p.address
  stx_gap : stx.s.gap = .doPoll sty.s.p.address
  yx : y ≠ x
  split : ∃ dnx, n.bus.txs = dnx ++ [rpTx y stx.s.p.address sty.s.p.address state q] ∧
    ∀ o ∈ dnx, o.sender = x ∧ cEnd cfg o ≤ r + (cfg.b66 : Nat) + 1
  rxX : stx.rx = arrived cfg [rpTx y stx.s.p.address sty.s.p.address state q] (n.bus.seen.getD x 0)
  pendX : stx.s.pendingBytes ≤ (arrived cfg [rpTx y stx.s.p.address sty.s.p.address state q] (n.bus.seen.getD x 0)).length
  headX : cvis cfg (rpTx y stx.s.p.address sty.s.p.address state q) (n.bus.seen.getD x 0) < 6
  stampX : stx.s.lastBusActivity = some lX
  lXge : r + (cfg.b66 : Nat) ≤ lX
  qlate : r + (cfg.b66 : Nat) < q
  qearly : q < r + ((cfg.ce 5 : Nat) : Int) + (cfg.b33 : Nat) + 2 * (cfg.P : Nat)
  pbok : lX = r + (cfg.b66 : Nat) ∨ lX ≤ n.bus.seen.getD x 0
  slotok : q + ((cfg.ce (cvis cfg (rpTx y stx.s.p.address sty.s.p.address state q) (n.bus.seen.getD x 0)) : Nat) : Int) ≤
    lX + (cfg.slot : Nat)
  starts : ∀ t ∈ n.bus.txs, t.start ≤ tl
  seens : n.bus.seen.getD x 0 ≤ tl ∧ n.bus.seen.getD y 0 ≤ tl
  view : RingView [stx.s.p.address] stx.s.p.address stx.s.ring

theorem hq1_listener {cfg : Cfg} {n : Net} {x y : Nat} {stx sty : NetStation} {r h1 : Int} {coll : Nat} {tl : Int}
    (h : HQ1 cfg n x y stx sty r h1 coll tl) (hok : cfg.Ok) (now : Int) (htl : tl ≤ now)
    (hown : n.bus.seen.getD y 0 < now) (hgy : now ≤ n.bus.seen.getD y 0 + (cfg.P : Nat))
    :
    ∃ n' c, n.poll y now = (n', [], some (.ok c)) ∧
      ((c.tx = none ∧ upSt sty c = sty ∧ HQ1 cfg n' x y stx (upSt sty c) r h1 coll now) ∨
       (c.tx = some (statusResponseBytes stx.s.p.address sty.s.p.address (listenReport sty.s stx.s.p.address)) ∧
          h1 + (cfg.b33 : Nat) < now ∧ now ≤ h1 + (cfg.b33 : Nat) + (cfg.P : Nat) ∧
          HQ2 cfg n' x y stx (upSt sty c) r now (listenReport sty.s stx.s.p.address) (r + (cfg.b66 : Nat)) coll now)) := by
  have hr := hok.rate
  have hmar := hok.margin
  have hc5 := cfg.ce5 hr
  have hc0 := cfg.ce_pos hr 0
  have hs := h.solo
  have hsY := h.soloY
  have hreg := h.reg
  obtain ⟨hyw1, hyw2⟩ := h.ywait
  have htto := h.tto
  have hno : sty.s.st ≠ .offline ∧ sty.s.st ≠ .passiveIdle := by rw [h.sty_st]; simp
  have hxy : x ≠ y := Ne.symm h.yx
  have hb33 : sty.s.p.bits 33 = cfg.b33 := hsY.b33
  have hlt : h1 < now := by omega
  have hnlt : now < h1 + (sty.s.p.tokenLostTimeout : Nat) := by omega
  have htl0 : ¬ TokenLost sty.s now := fun hh => by have := (tokenLost_some hsY.stamp).1 hh; omega
  have hupY : upSt sty { s := sty.s, apps := sty.apps, rx := [] } = sty := by unfold upSt; rw [← hsY.rx]
  have hdelY := hsY.deliver hr now (Int.le_of_lt hown)
  have hxl : x < n.stations.length := hs.xl
  by_cases hw : now ≤ h1 + (cfg.b33 : Nat)
  · -- still within the synchronisation pause
    have hdw : dispatch { s := sty.s, apps := sty.apps, rx := [] } now = .ok { s := sty.s, apps := sty.apps, rx := [] } := by
      unfold dispatch
      simp only [h.sty_st]
      rw [C12.listen_reply_waits { s := sty.s, apps := sty.apps, rx := [] } now stx.s.p.address coll h.sty_st htl0
        (by rw [syncOver_iff]; simp only [hsY.stamp, Option.getD_some]; rw [hb33]; omega)]
      rw [stamped_of_last hsY.stamp]
    obtain ⟨n', hp, hS, hbus, hset⟩ := solo_noop hsY hr now hown hno.1 hno.2 (fun _ => hdw)
    have hseen : n'.bus.seen.getD y 0 = now := by rw [hbus]; exact seen_set_self _ _ _ hsY.xs
    refine ⟨n', _, hp, .inl ⟨rfl, hupY, ?_⟩⟩
    rw [hupY]
    have hsxx : n'.bus.seen.getD x 0 = n.bus.seen.getD x 0 := by rw [hbus]; exact seen_set_other n.bus y x now h.yx
    exact ⟨hs.otherNoop y now h.yx hbus hset, h.stx_st, h.stx_gap, hS, h.sty_st, h.yx, h.reg,
      by rw [hseen]; omega, h.tto, by rw [hbus]; exact h.allx, h.pbx,
      by rw [hbus]; exact fun t ht => Int.le_trans (h.starts t ht) htl,
      by rw [hseen, hsxx]; exact ⟨Int.le_trans h.seens.1 htl, Int.le_refl _⟩, h.view⟩
  · have hdr : dispatch { s := sty.s, apps := sty.apps, rx := [] } now = .ok
        { s := { (markTx (StationGap.stamped sty.s now) now 6) with
            st := if sty.s.ring.readyForRing = true then FState.activeIdle none none 0 else FState.listenToken none coll },
          apps := sty.apps, rx := [],
          tx := some (statusResponseBytes stx.s.p.address sty.s.p.address (listenReport sty.s stx.s.p.address)) } := by
      unfold dispatch
      simp only [h.sty_st]
      rw [C12.listen_reply { s := sty.s, apps := sty.apps, rx := [] } now stx.s.p.address coll h.sty_st rfl htl0
        (by rw [syncOver_iff]; simp only [hsY.stamp, Option.getD_some]; rw [hb33]; omega)]
    have hst' : ({ (markTx (StationGap.stamped sty.s now) now 6) with
        st := if sty.s.ring.readyForRing = true then FState.activeIdle none none 0 else FState.listenToken none coll } : Station).lastBusActivity
        = some (now + (cfg.b66 : Nat)) := by
      unfold markTx
      simp only [StationGap.stamped_p]
      rw [show sty.s.p.bits (11 * 6) = cfg.b66 from hsY.bits 66]
    obtain ⟨cR, hdr', k1, k2, k3, k4, k5, k6, k7, k8⟩ : ∃ cR : Ctx, dispatch { s := sty.s, apps := sty.apps, rx := [] } now = .ok cR ∧
        cR.s.online = true ∧ cR.s.p = sty.s.p ∧ cR.rx = [] ∧ cR.s.lastBusActivity = some (now + (cfg.b66 : Nat)) ∧
        cR.tx = some (statusResponseBytes stx.s.p.address sty.s.p.address (listenReport sty.s stx.s.p.address)) ∧
        (cR.s.st = .listenToken none coll ∨ cR.s.st = .activeIdle none none 0) ∧
        (sty.s.ring.readyForRing = true → cR.s.st = .activeIdle none none 0) ∧ cR.s.ring = sty.s.ring :=
      ⟨_, hdr, hsY.son, rfl, rfl, hst', rfl, (by
        show (if sty.s.ring.readyForRing = true then _ else _) = _ ∨ (if sty.s.ring.readyForRing = true then _ else _) = _
        cases sty.s.ring.readyForRing
        · exact .inl rfl
        · exact .inr rfl), (by
        intro hrd
        show (if sty.s.ring.readyForRing = true then _ else _) = _
        rw [if_pos hrd]), rfl⟩
    obtain ⟨hp, hS⟩ := solo_step hsY hr now hown hlt cR hno.1 hno.2 hdr' (now + (cfg.b66 : Nat)) k1 k2 k3 k4
      (by omega) (fun b hb => by
        rw [k5] at hb
        cases hb
        rw [statusResponseBytes_length]
        refine ⟨by omega, ?_⟩
        show now + ((cfg.ce 5 : Nat) : Int) ≤ _
        omega)
    obtain ⟨n', hn'⟩ : ∃ n', n' = n.polled y now sty cR := ⟨_, rfl⟩
    rw [← hn'] at hp hS
    have hseen : n'.bus.seen.getD y 0 = now := by rw [hn']; exact hsY.polled_seen now cR
    have hbus : n'.bus = Bus.send { n.bus with seen := n.bus.seen.set y now } y now
        (statusResponseBytes stx.s.p.address sty.s.p.address (listenReport sty.s stx.s.p.address)) := by
      rw [hn']; unfold Net.polled; rw [k5]
    have hset : n'.stations = n.stations.set y (upSt sty cR) := by rw [hn']; rfl
    have haddrY : (upSt sty cR).s.p.address = sty.s.p.address := by show cR.s.p.address = _; rw [k2]
    refine ⟨n', cR, hp, .inr ⟨k5, by omega, by omega, ?_⟩⟩
    have hsxx : n'.bus.seen.getD x 0 = n.bus.seen.getD x 0 := by
      rw [hbus]; exact seen_set_other n.bus y x now h.yx
    -- the claimant, up to date so far, now lags behind the reply
    obtain ⟨r, -⟩ := ((hs.rcv h.pbx).other y now h.yx).snoc (hs.wire.seen _) hr (b' := n'.bus) y now
      (statusResponseBytes stx.s.p.address sty.s.p.address (listenReport sty.s stx.s.p.address))
      (by rw [statusResponseBytes_length]; omega)
      (by show (n.bus.seen.set y now).getD x 0 ≤ now; rw [seen_set_other _ _ _ _ h.yx]; have := h.seens.1; omega)
      (fun hne => absurd rfl hne)
      (by rw [hbus, Bus.send_spec { n.bus with seen := n.bus.seen.set y now } y now _ hsY.drops]) (by rw [hbus]; rfl)
    have hv0 : cvis cfg (rpTx y stx.s.p.address sty.s.p.address (listenReport sty.s stx.s.p.address) now) (n.bus.seen.getD x 0) = 0 := by
      apply cvis_zero
      unfold rpTx
      simp only
      have := h.seens.1
      omega
    have hymw : listenReport sty.s stx.s.p.address = .masterWithoutToken → cR.s.st = .activeIdle none none 0 ∧
        cR.s.ring.ps = stx.s.p.address ∧ cR.s.ring.readyForRing = true := by
      intro hmw
      unfold listenReport at hmw
      split at hmw
      · rename_i hc
        rw [k8]
        exact ⟨k7 hc.1, hc.2.symm, hc.1⟩
      · cases hmw
    refine ⟨hS, k6, Int.le_refl _, by show _ ≤ cR.s.p.tokenLostTimeout; rw [k2]; exact htto, hymw,
      by rw [hset, List.getElem?_set_ne h.yx]; exact hs.gx, by rw [hset, List.length_set]; exact hs.xl,
      by rw [hbus]; show x < (n.bus.seen.set y now).length; rw [List.length_set]; exact hs.xs,
      ⟨hs.online, hs.alive, hs.inv, hs.son, hs.prate, hs.pslot⟩, by rw [haddrY]; exact h.stx_st, by rw [haddrY]; exact h.stx_gap,
      h.yx, ⟨_, by rw [haddrY]; exact r.log, fun o ho => ⟨h.allx o (List.mem_filter.1 ho).1,
        hs.ends o (List.mem_filter.1 ho).1 (h.allx o (List.mem_filter.1 ho).1)⟩⟩,
      by rw [haddrY]; exact r.rx, by rw [haddrY]; exact r.pend, by rw [haddrY, hsxx, hv0]; omega,
      hs.stamp, Int.le_refl _, by omega, by omega, .inl rfl, by rw [haddrY, hsxx, hv0]; omega, ?_,
      by rw [hseen, hsxx]; exact ⟨Int.le_trans h.seens.1 htl, Int.le_refl _⟩, h.view⟩
    intro t ht
    rw [r.log] at ht
    rcases List.mem_append.1 ht with ht | ht
    · exact Int.le_trans (h.starts t (List.mem_filter.1 ht).1) htl
    · rw [List.mem_singleton.1 ht]; exact Int.le_refl _

def rpTel (aL aH : Nat) (state : ResponseState) : Telegram :=
  .data (fdlStatusResponseHeader (UInt8.ofNat aL) (UInt8.ofNat aH) state .ok) []

theorem statusResponse_frame (aL aH : Nat) (state : ResponseState) :
    statusResponseBytes aL aH state = (rpTel aL aH state).wire := by
  have h1 := statusResponse_serialize aL aH state
  have h2 := serialize_ok (fdlStatusResponseHeader (UInt8.ofNat aL) (UInt8.ofNat aH) state .ok) []
    (by simp [Header.lengthByte, Header.saps, fdlStatusResponseHeader])
  rw [h1] at h2
  cases h2
  rfl

theorem rpTel_valid (aL aH : Nat) (state : ResponseState) (h1 : aL < 128) (h2 : aH < 128) : (rpTel aL aH state).Valid := by
  unfold rpTel Telegram.Valid
  refine ⟨?_, ?_, by simp [Header.lengthByte, Header.saps, fdlStatusResponseHeader]⟩
  · simp [fdlStatusResponseHeader, UInt8.lt_iff_toNat_lt]; omega
  · simp [fdlStatusResponseHeader, UInt8.lt_iff_toNat_lt]; omega

theorem replyOf_rpTel (aL aH : Nat) (state : ResponseState) (h1 : aL < 128) (h2 : aH < 128) :
    replyOf aL aH (rpTel aL aH state) = some (state, .ok) := by
  unfold replyOf rpTel
  have e1 : (fdlStatusResponseHeader (UInt8.ofNat aL) (UInt8.ofNat aH) state .ok).sa.toNat = aH := u8n aH (by omega)
  have e2 : (fdlStatusResponseHeader (UInt8.ofNat aL) (UInt8.ofNat aH) state .ok).da.toNat = aL := u8n aL (by omega)
  show (if (fdlStatusResponseHeader (UInt8.ofNat aL) (UInt8.ofNat aH) state .ok).sa.toNat = aH ∧
      (fdlStatusResponseHeader (UInt8.ofNat aL) (UInt8.ofNat aH) state .ok).da.toNat = aL then _ else _) = _
  rw [if_pos ⟨e1, e2⟩]
  rfl

theorem rpTx_len (y aL aH : Nat) (state : ResponseState) (q : Int) : (rpTx y aL aH state q).bytes.length = 6 := by
  unfold rpTx; simp only [statusResponseBytes_length]

theorem HQ2.seenX_lt {cfg : Cfg} {n : Net} {x y : Nat} {stx sty : NetStation} {r q : Int} {state : ResponseState} {lX : Int}
    {coll : Nat} {tl : Int} (h : HQ2 cfg n x y stx sty r q state lX coll tl) :
    n.bus.seen.getD x 0 < q + ((cfg.ce 5 : Nat) : Int) := by
  have := cvis_lt_full cfg (rpTx y stx.s.p.address sty.s.p.address state q) (n.bus.seen.getD x 0)
    (by rw [rpTx_len]; omega) (by rw [rpTx_len]; exact h.headX)
  rw [rpTx_len] at this
  exact this

theorem hq2_listener {cfg : Cfg} {n : Net} {x y : Nat} {stx sty : NetStation} {r q : Int} {state : ResponseState} {lX : Int}
    {coll : Nat} {tl : Int} (h : HQ2 cfg n x y stx sty r q state lX coll tl) (hok : cfg.Ok) (now : Int) (htl : tl ≤ now)
    (hown : n.bus.seen.getD y 0 < now) (hgx : now ≤ n.bus.seen.getD x 0 + (cfg.P : Nat)) :
    ∃ n' c, n.poll y now = (n', [], some (.ok c)) ∧ c.tx = none ∧ HQ2 cfg n' x y stx sty r q state lX coll now := by
  have hr := hok.rate
  have hc5 := cfg.ce5 hr
  have hsY := h.soloY
  have htto := h.tto
  have hxs := h.seenX_lt
  obtain ⟨n', c, hp, htx, hS, hbus, hset⟩ : ∃ n' c, n.poll y now = (n', [], some (.ok c)) ∧ c.tx = none ∧
      Solo cfg n' y sty (q + (cfg.b66 : Nat)) ∧ n'.bus = { n.bus with seen := n.bus.seen.set y now } ∧
      n'.stations = n.stations := by
    rcases h.sty_st with e | e
    · exact lone_listen_noop hsY hok coll e now hown (by omega)
    · exact lone_idle_noop hsY hok none 0 e now hown (by omega)
  have hseen : n'.bus.seen.getD y 0 = now := by rw [hbus]; exact seen_set_self _ _ _ hsY.xs
  have hxy : x ≠ y := Ne.symm h.yx
  have hsxx : n'.bus.seen.getD x 0 = n.bus.seen.getD x 0 := by rw [hbus]; exact seen_set_other n.bus y x now h.yx
  refine ⟨n', c, hp, htx, hS, h.sty_st, Int.le_trans h.qtl htl, h.tto, h.ymw,
    by rw [hset]; exact h.gx, by rw [hset]; exact h.xl,
    by rw [hbus]; simp only [List.length_set]; exact h.xs, h.xon, h.stx_st, h.stx_gap, h.yx,
    by rw [hbus]; exact h.split, by rw [hsxx]; exact h.rxX, by rw [hsxx]; exact h.pendX, by rw [hsxx]; exact h.headX,
    h.stampX, h.lXge, h.qlate, h.qearly, by rw [hsxx]; exact h.pbok, by rw [hsxx]; exact h.slotok,
    by rw [hbus]; exact fun t ht => Int.le_trans (h.starts t ht) htl,
    by rw [hseen, hsxx]; exact ⟨Int.le_trans h.seens.1 htl, Int.le_refl _⟩, h.view⟩

/-- **Reply received**: the claimant `x` has consumed the reply and goes on (GAP scan, or `PassToken` as token holder);
the listener `y` listens or idles again; both are up to date with the log, whose last entry is the reply.  If the report
admits the listener (`last`), it is `x`'s next station and `x`'s view is that of the ring of the two. -/
structure HQ3 (cfg : Cfg) (n : Net) (x y : Nat) (stx sty : NetStation) (q lx : Int) (coll : Nat) (state : ResponseState) : Prop where
  soloX : Solo cfg n x stx lx
  soloY : Solo cfg n y sty (q + (cfg.b66 : Nat))
  stx_st : stx.s.st = .claimToken .scan ∨ stx.s.st = .passToken false .first
  stx_gap : stx.s.gap = .doPoll sty.s.p.address
  sty_st : sty.s.st = .listenToken none coll ∨ sty.s.st = .activeIdle none none 0
  ymw : state = .masterWithoutToken → sty.s.st = .activeIdle none none 0 ∧ sty.s.ring.ps = stx.s.p.address ∧
    sty.s.ring.readyForRing = true
  tto : cfg.slot + 3 * cfg.P + cfg.ce 0 + 2 ≤ sty.s.p.tokenLostTimeout
  yx : y ≠ x
  last : ∃ dnx, n.bus.txs = dnx ++ [rpTx y stx.s.p.address sty.s.p.address state q] ∧
    (∀ o ∈ dnx, o.sender = x) ∧
    (Admits state .ok → stx.s.ring.ns = sty.s.p.address ∧ stx.s.ring.isActive sty.s.p.address = true ∧
      ∀ M', IsRing M' → (∀ z, z ∈ M' ↔ z = sty.s.p.address ∨ z = stx.s.p.address) → RingView M' stx.s.p.address stx.s.ring)

def replyCtx (s : Station) (apps : Apps) (now : Int) (rg : TokenRing) : Ctx :=
  { s := { (markRx s now) with ring := rg, st := afterAwait s.st }, apps := apps, rx := [] }

theorem hq2_claimant {cfg : Cfg} {n : Net} {x y : Nat} {stx sty : NetStation} {r q : Int} {state : ResponseState} {lX : Int}
    {coll : Nat} {tl : Int} (h : HQ2 cfg n x y stx sty r q state lX coll tl) (hok : cfg.Ok) (now : Int) (htl : tl ≤ now)
    (hown : n.bus.seen.getD x 0 < now) :
    ∃ n' inc c, n.poll x now = (n', inc, some (.ok c)) ∧ c.tx = none ∧ c.s.p = stx.s.p ∧
      ((∃ lX', HQ2 cfg n' x y (upSt stx c) sty r q state lX' coll now) ∨
       (q + ((cfg.ce 5 : Nat) : Int) ≤ now ∧ HQ3 cfg n' x y (upSt stx c) sty q now coll state)) := by
  have hr := hok.rate
  have hmar := hok.margin
  have hc5 := cfg.ce5 hr
  have hc0 := cfg.ce_pos hr 0
  have hsY := h.soloY
  have hqlate := h.qlate
  have hqtl := h.qtl
  have hlXge := h.lXge
  obtain ⟨hon, hal, hinv, hson, hprate, hpslot⟩ := h.xon
  obtain ⟨dnx, htxs, hdnx⟩ := h.split
  have hxy : x ≠ y := Ne.symm h.yx
  have haL : stx.s.p.address < 126 := by have := hinv.addr; have := hinv.hsa; omega
  have haH : sty.s.p.address < 126 := by have := hinv.gap _ h.stx_gap; have := hinv.hsa; omega
  have hneA : sty.s.p.address ≠ stx.s.p.address := (AwaitSt.gapne hinv h.stx_st).2
  have hslotT : stx.s.p.slotTime = cfg.slot := by
    unfold Params.slotTime Cfg.slot Params.bits; rw [hprate, hpslot]
  have hsn : n.bus.seen.getD x 0 ≤ now := Int.le_of_lt hown
  have hlt : lX < now := by rcases h.pbok with e | e <;> omega
  have hno : stx.s.st ≠ .offline ∧ stx.s.st ≠ .passiveIdle := h.stx_st.awake
  -- the reply as a transmission `rp` of six characters carrying `rpTel`
  have hrxX := h.rxX; have hpendX := h.pendX; have hheadX := h.headX; have hslotok := h.slotok
  generalize hrp : rpTx y stx.s.p.address sty.s.p.address state q = rp at htxs hrxX hpendX hheadX hslotok
  have hlen : rp.bytes.length = 6 := by rw [← hrp]; exact rpTx_len ..
  have hstart : rp.start = q := by rw [← hrp]; rfl
  have hsender : rp.sender = y := by rw [← hrp]; rfl
  have htel : telOf rp = rpTel stx.s.p.address sty.s.p.address state :=
    telOf_wire rp _ (rpTel_valid _ _ state (by omega) (by omega)) (by rw [← hrp]; exact statusResponse_frame ..)
  have hwire : rp.bytes = (telOf rp).wire ∧ (telOf rp).Valid := by
    rw [htel]; exact ⟨by rw [← hrp]; exact statusResponse_frame .., rpTel_valid _ _ state (by omega) (by omega)⟩
  -- the claimant lags behind the reply and nothing else; its poll
  have hR : Rcv cfg n.bus x stx dnx [rp] lX :=
    ⟨htxs, fun o ho => .inl (hdnx o ho).1, hrxX, hpendX, (fun t rest e => by cases e; rw [hlen]; exact hheadX), h.stampX⟩
  have hownX : ∀ o ∈ n.bus.txs, o.sender = x → cEnd cfg o ≤ now := fun o ho hso => by
    rw [htxs] at ho
    rcases List.mem_append.1 ho with ho | ho
    · have := (hdnx o ho).2; omega
    · rw [List.mem_singleton.1 ho, hsender] at hso; exact absurd hso h.yx
  obtain ⟨inc, s1, hdv, hpd, hinvc, f1, f2, f3, f4, f5, hl1, hpb1⟩ := hR.poll hsY.wire hr
    (fun t ht => by rw [List.mem_singleton.1 ht, hsender]; exact h.yx) now hownX hlt hsn hinv hson hno.1 hno.2
  have hstC : AwaitSt s1.st sty.s.p.address := by rw [f1]; exact h.stx_st
  have hgC : s1.gap = .doPoll sty.s.p.address := by rw [f5]; exact h.stx_gap
  have hneC : sty.s.p.address ≠ s1.p.address := by rw [f2]; exact hneA
  have hseen : (n.bus.seen.set x now).getD x 0 = now := seen_set_self _ _ _ h.xs
  have hsy : (n.bus.seen.set x now).getD y 0 = n.bus.seen.getD y 0 := seen_set_other n.bus x y now hxy
  have hseens : (n.bus.seen.set x now).getD x 0 ≤ now ∧ (n.bus.seen.set x now).getD y 0 ≤ now := by
    rw [hseen, hsy]; exact ⟨Int.le_refl _, Int.le_trans h.seens.2 htl⟩
  rcases receive_one cfg rp now hwire with ⟨hV, hrec⟩ | ⟨hV, hrec⟩
  · -- the reply is still incomplete: the slot time counts from the last new character
    obtain ⟨hfr, hdl⟩ := nextArr_carry cfg hr (H := now) (rs := [rp]) (l := lX) (pend := stx.s.pendingBytes)
      (W := ((cfg.slot : Nat) : Int)) hsn (Int.le_refl _)
      (fun t rest e => by cases e; exact ⟨hV, fun _ ht => by cases ht⟩) (fun t rest e => by cases e; omega) hpendX (by omega)
      (by show rp.start + _ ≤ _; rw [hstart]; exact hslotok)
    have hd := await_dispatch_partial ⟨s1, stx.apps, arrived cfg [rp] now, none, []⟩ now _ sty.s.p.address _ false hstC hl1 hgC
      hneC hrec (by
        show now ≤ _ + ((s1.p.slotTime : Nat) : Int)
        rw [f2, hslotT]
        rcases hfr with hn | hw
        · rw [if_pos hn]; omega
        · split <;> omega)
    have hR' := hR.advance hsY.wire h.xs hsn (k := 0) (c := ⟨s1, stx.apps, arrived cfg [rp] now, none, []⟩)
      (fun t ht => by cases ht) (fun t rest e => by cases e; exact hV) rfl hpb1 hl1
    have hpe := Net.poll_eq n x now stx _ inc _ h.gx hal hon hdv (hpd.trans hd)
    have haddr : (upSt stx ⟨s1, stx.apps, arrived cfg [rp] now, none, []⟩).s.p.address = stx.s.p.address :=
      congrArg Params.address f2
    subst hrp
    refine ⟨_, inc, _, hpe, rfl, f2, .inl ⟨_, hsY.otherPoll x now _ hxy rfl rfl, h.sty_st, Int.le_trans h.qtl htl, h.tto,
      (fun hm => by rw [haddr]; exact h.ymw hm),
      List.getElem?_set_self h.xl, by simp only [List.length_set]; exact h.xl, by simp only [List.length_set]; exact h.xs,
      ⟨hon, hal, hinvc _ hd, f4, (congrArg Params.rate f2).trans hprate, (congrArg Params.slotBits f2).trans hpslot⟩,
      hstC, hgC, h.yx, ⟨dnx, by rw [haddr]; exact htxs, hdnx⟩, by rw [haddr]; exact hR'.rx, by rw [haddr]; exact hR'.pend, ?_, hl1,
      ?_, h.qlate, h.qearly, .inr ?_, ?_, fun t ht => Int.le_trans (h.starts t ht) htl, hseens,
      (by show RingView [s1.p.address] s1.p.address s1.ring; rw [f3, f2]; exact h.view)⟩⟩
    · rw [haddr]
      have := hR'.head _ [] rfl
      rw [hlen] at this
      exact this
    · split <;> omega
    · show _ ≤ (n.bus.seen.set x now).getD x 0
      rw [hseen]; split <;> omega
    · rw [haddr]
      show q + ((cfg.ce (cvis cfg _ ((n.bus.seen.set x now).getD x 0)) : Nat) : Int) ≤ _
      rw [hseen, ← hstart]
      exact hdl
  · -- the reply is complete: it is consumed, the station polled is admitted or not
    have hqe : q + ((cfg.ce 5 : Nat) : Int) ≤ now := by
      have := (cvis_spec cfg rp now 5 (by rw [hlen]; omega)).1 (by omega)
      omega
    rw [htel] at hrec
    have hrC : replyOf s1.p.address sty.s.p.address (rpTel stx.s.p.address sty.s.p.address state) = some (state, .ok) := by
      rw [f2]; exact replyOf_rpTel _ _ state (by omega) (by omega)
    obtain ⟨rg, hrgA, hd⟩ : ∃ rg : TokenRing, (Admits state .ok → rg.ns = sty.s.p.address ∧ rg.isActive sty.s.p.address = true ∧
          ∀ M', IsRing M' → (∀ z, z ∈ M' ↔ z = sty.s.p.address ∨ z = stx.s.p.address) → RingView M' stx.s.p.address rg) ∧
        dispatch ⟨s1, stx.apps, arrived cfg [rp] now, none, []⟩ now = .ok (replyCtx s1 stx.apps now rg) := by
      by_cases hadm : Admits state .ok
      · obtain ⟨rr, h1, h2, -, -, h5, h6⟩ := await_dispatch_admit ⟨s1, stx.apps, arrived cfg [rp] now, none, []⟩ now
          sty.s.p.address [] _ _ true [] state hstC hgC hneC hrec hrC hadm.2 (by omega)
          (by show s1.ring.ts = s1.p.address; rw [f3, f2]; exact h.view.ts) (by show s1.p.address < 128; rw [f2]; omega)
        have h1' : stx.s.ring.setNextStation sty.s.p.address = some rr := by rw [← f3]; exact h1
        refine ⟨rr, fun _ => ⟨h2, h5, ?_⟩, h6⟩
        intro M' hM' hmem
        have hbt : Between stx.s.p.address (cycSucc stx.s.p.address [stx.s.p.address]) sty.s.p.address := by
          rw [cycSucc_single]; unfold Between; exact ⟨hneA, by simp⟩
        have vk := AbstractRing.viewOk_setNext [stx.s.p.address] M' stx.s.p.address sty.s.p.address stx.s.ring rr
          ⟨h.view.ts, h.view.valid, h.view.las, h.view.nbr⟩ (List.mem_singleton.2 rfl) hbt
          (fun z => by rw [hmem z]; simp) h1'
        exact ⟨hM', (hmem _).2 (.inr rfl), vk.ts, vk.valid, vk.las, vk.nbr⟩
      · exact ⟨s1.ring, fun hh => absurd hh hadm,
          await_dispatch_reply ⟨s1, stx.apps, arrived cfg [rp] now, none, []⟩ now sty.s.p.address [] _ _ true [] state .ok
            hstC hgC hneC hrec hrC hadm⟩
    have hstamp : (replyCtx s1 stx.apps now rg).s.lastBusActivity = some now := by
      unfold replyCtx; rw [markRx_at s1 now _ hl1 (by split <;> omega)]
    have hR' := hR.advance hsY.wire h.xs hsn (k := 1) (c := replyCtx s1 stx.apps now rg)
      (fun t ht => by rw [List.mem_singleton.1 ht, hV]) (fun t rest e => by cases e) rfl (Nat.zero_le _) hstamp
    have hpe := Net.poll_eq n x now stx _ inc _ h.gx hal hon hdv (hpd.trans hd)
    have hst3 : afterAwait s1.st = .claimToken .scan ∨ afterAwait s1.st = .passToken false .first := by
      rw [f1]
      rcases h.stx_st with e | e <;> rw [e]
      · exact .inl rfl
      · exact .inr rfl
    have haddr : (upSt stx (replyCtx s1 stx.apps now rg)).s.p.address = stx.s.p.address := congrArg Params.address f2
    subst hrp
    refine ⟨_, inc, _, hpe, rfl, f2, .inr ⟨hqe, ?_, hsY.otherPoll x now _ hxy rfl rfl, hst3, hgC, h.sty_st,
      (fun hm => by rw [haddr]; exact h.ymw hm), h.tto, h.yx,
      ⟨dnx, by rw [haddr]; exact htxs, fun o ho => (hdnx o ho).1, fun ha => by rw [haddr]; exact hrgA ha⟩⟩⟩
    -- the claimant has consumed everything; its own transmissions ended long ago
    exact Solo.ofRcv (n := ⟨{ n.bus with seen := n.bus.seen.set x now }, n.stations.set x (upSt stx (replyCtx s1 stx.apps now rg))⟩)
      hR' (hsY.wire.seen _) hsY.drops (fun o ho hso => by have := hownX o ho hso; omega)
      (by simp only [List.length_set]; exact h.xl) (by simp only [List.length_set]; exact h.xs)
      (List.getElem?_set_self h.xl) hon hal (hinvc _ hd) f4 ((congrArg Params.rate f2).trans hprate)
      ((congrArg Params.slotBits f2).trans hpslot)

theorem listenReport_notReady (s : Station) (src : Nat) (h : s.ring.readyForRing = false) :
    listenReport s src = .masterNotReady := by
  unfold listenReport
  rw [h]
  simp

/-- The phases `HQ0`–`HQ2` of an answered GAP request (`HQ3`, the reply consumed, ends the run); `T`: everything the listener will have heard when it registers the
request. -/
def HQ (cfg : Cfg) (G : Nat) (n : Net) (x y : Nat) (stx sty : NetStation) (r : Int) (r0 : TokenRing) (T : List Telegram)
    (state : ResponseState) (coll : Nat) (tl : Int) : Prop :=
  (∃ hd dn rs lY, HQ0 cfg G n x y stx sty r r0 hd dn rs lY coll tl ∧ hd ++ rs.map telOf = T) ∨
  (∃ h1, HQ1 cfg n x y stx sty r h1 coll tl ∧ listenReport sty.s stx.s.p.address = state) ∨
  (∃ q lX, HQ2 cfg n x y stx sty r q state lX coll tl)

theorem HQ.info {cfg : Cfg} {G : Nat} {n : Net} {x y : Nat} {stx sty : NetStation} {r : Int} {r0 : TokenRing}
    {T : List Telegram} {state : ResponseState} {coll : Nat} {tl : Int} (h : HQ cfg G n x y stx sty r r0 T state coll tl) :
    n.stations[x]? = some stx ∧ n.stations[y]? = some sty ∧ x < n.stations.length ∧ y < n.stations.length ∧ y ≠ x := by
  rcases h with ⟨hd, dn, rs, lY, h, -⟩ | ⟨h1, h, -⟩ | ⟨q, lX, h⟩
  · exact ⟨h.solo.gx, h.gy, h.solo.xl, h.yl, h.yx⟩
  · exact ⟨h.solo.gx, h.soloY.gx, h.solo.xl, h.soloY.xl, h.yx⟩
  · exact ⟨h.gx, h.soloY.gx, h.xl, h.soloY.xl, h.yx⟩

/-- Run from the GAP request to the reception of the reply: the listener `y` transmits nothing but the reply with the
report `state`; the requester `x` transmits nothing; `x` has consumed the reply by `B` (`HQ3`: if the report admits
the listener, it is `x`'s next station and `x`'s view is that of the two-station ring). -/
def RplRun (cfg : Cfg) (x y aL aH : Nat) (state : ResponseState) (B : Int) : Net → List (Nat × Int) → Prop
  | _, [] => True
  | n, (i, now) :: rest =>
    ∃ n' inc c, n.poll i now = (n', inc, some (.ok c)) ∧
      ((i = y ∧ (c.tx = none ∨ c.tx = some (statusResponseBytes aL aH state)) ∧ RplRun cfg x y aL aH state B n' rest) ∨
       (i = x ∧ c.tx = none ∧ (RplRun cfg x y aL aH state B n' rest ∨
          (now ≤ B ∧ ∃ stx sty q coll, HQ3 cfg n' x y stx sty q now coll state ∧ stx.s.p.address = aL ∧ sty.s.p.address = aH))))

/-- As `RplRun`, with the deadline at every poll of the requester: also a poll that does not yet find the complete reply
happens no later than `B`, so a schedule that goes on beyond `B` contains the poll that consumes it. -/
def RplRunD (cfg : Cfg) (x y aL aH : Nat) (state : ResponseState) (B : Int) : Net → List (Nat × Int) → Prop
  | _, [] => True
  | n, (i, now) :: rest =>
    ∃ n' inc c, n.poll i now = (n', inc, some (.ok c)) ∧
      ((i = y ∧ (c.tx = none ∨ c.tx = some (statusResponseBytes aL aH state)) ∧ RplRunD cfg x y aL aH state B n' rest) ∨
       (i = x ∧ c.tx = none ∧ ((now ≤ B ∧ RplRunD cfg x y aL aH state B n' rest) ∨
          (now ≤ B ∧ ∃ stx sty q coll, HQ3 cfg n' x y stx sty q now coll state ∧ stx.s.p.address = aL ∧ sty.s.p.address = aH))))

theorem RplRunD.weaken {cfg : Cfg} {x y aL aH : Nat} {state : ResponseState} {B : Int} :
    ∀ (evs : List (Nat × Int)) (n : Net), RplRunD cfg x y aL aH state B n evs → RplRun cfg x y aL aH state B n evs := by
  intro evs
  induction evs with
  | nil => intro _ _; trivial
  | cons ev rest ih =>
    obtain ⟨i, now⟩ := ev
    rintro n ⟨n', inc, c, hp, h⟩
    refine ⟨n', inc, c, hp, ?_⟩
    rcases h with ⟨hi, htx, hr⟩ | ⟨hi, htx, ⟨-, hr⟩ | hr⟩
    · exact .inl ⟨hi, htx, ih n' hr⟩
    · exact .inr ⟨hi, htx, .inl (ih n' hr)⟩
    · exact .inr ⟨hi, htx, .inr hr⟩

/-- The bound: the request (`ce 5`), its registration at the listener's next poll (`P`), the synchronisation pause
(`b33`), the reply sent at the listener's next poll (`P`), the reply (`ce 5`), its consumption at the requester's next poll
(`P`).  `hrep`: `state` is what `listenReport` yields once the listener has heard everything up to the request (`T`). -/
theorem reply_runD {cfg : Cfg} (hok : cfg.Ok) (G : Nat) (hG : cfg.slot + 3 * cfg.P ≤ G) (x y : Nat) (r : Int) (r0 : TokenRing)
    (T : List Telegram) (aL aH : Nat) (state : ResponseState)
    (hrep : ∀ s : Station, s.ring = hearAll aL T r0 → listenReport s aL = state) :
    ∀ (evs : List (Nat × Int)) (n : Net) (stx sty : NetStation) (coll : Nat) (tl : Int),
    HQ cfg G n x y stx sty r r0 T state coll tl → n.stations.length = 2 → stx.s.p.address = aL → sty.s.p.address = aH →
    SchedN cfg.P n tl evs →
    RplRunD cfg x y aL aH state (r + 2 * ((cfg.ce 5 : Nat) : Int) + (cfg.b33 : Nat) + 3 * (cfg.P : Nat)) n evs := by
  intro evs
  induction evs with
  | nil => intro _ _ _ _ _ _ _ _ _ _; trivial
  | cons ev rest ih =>
    intro n stx sty coll tl hq hN haL haH hs
    obtain ⟨i, now⟩ := ev
    obtain ⟨hi, htl, hown, hgap, hrest⟩ := hs
    obtain ⟨hgx0, hgy0, hxl, hyl, hyx⟩ := hq.info
    have hgx := hgap x hxl
    have hgy := hgap y hyl
    have hixy : i = x ∨ i = y := by omega
    rcases hixy with rfl | rfl
    · -- the claimant
      rcases hq with ⟨hd, dn, rs, lY, h, hT⟩ | ⟨h1, h, hnr1⟩ | ⟨q, lX, h⟩
      · obtain ⟨n', c, hp, htx, h'⟩ := hq0_claimant h hok now htl hown hgy
        have hc5 := cfg.ce5 hok.rate
        have := h.early
        exact ⟨n', [], c, hp, .inr ⟨rfl, htx, .inl ⟨by omega, ih n' stx sty coll now (.inl ⟨hd, dn, rs, lY, h', hT⟩)
          ((Net.poll_len_of hp).trans hN) haL haH (hrest.of_poll hp)⟩⟩⟩
      · obtain ⟨n', c, hp, htx, h'⟩ := hq1_claimant h hok now htl hown hgy
        have hc5 := cfg.ce5 hok.rate
        have := h.reg
        have := h.ywait
        exact ⟨n', [], c, hp, .inr ⟨rfl, htx, .inl ⟨by omega, ih n' stx sty coll now (.inr (.inl ⟨h1, h', hnr1⟩))
          ((Net.poll_len_of hp).trans hN) haL haH (hrest.of_poll hp)⟩⟩⟩
      · obtain ⟨n', inc, c, hp, htx, hpp, h'⟩ := hq2_claimant h hok now htl hown
        have haL' : (upSt stx c).s.p.address = aL := by show c.s.p.address = _; rw [hpp]; exact haL
        refine ⟨n', inc, c, hp, .inr ⟨rfl, htx, ?_⟩⟩
        rcases h' with ⟨lX', h'⟩ | ⟨hqe, h3⟩
        · refine .inl ⟨?_, ih n' (upSt stx c) sty coll now (.inr (.inr ⟨q, lX', h'⟩)) ((Net.poll_len_of hp).trans hN) haL' haH (hrest.of_poll hp)⟩
          -- the reply is still incomplete at `now`
          have hc5 := cfg.ce5 hok.rate
          have := h'.seenX_lt
          rw [Net.poll_seen_of hp, seen_set_self _ _ _ h.xs] at this
          have := h.qearly
          omega
        · refine .inr ⟨?_, upSt stx c, sty, q, coll, h3, haL', haH⟩
          have hc5 := cfg.ce5 hok.rate
          have hqearly := h.qearly
          have hxs := h.seenX_lt
          omega
    · -- the listener
      rcases hq with ⟨hd, dn, rs, lY, h, hT⟩ | ⟨h1, h, hnr1⟩ | ⟨q, lX, h⟩
      · obtain ⟨n', inc, c, hp, htx, h'⟩ := hq0_listener h hok hG now htl hown hgy
        have hpp := Net.poll_params n i now n' inc c sty hp hgy0
        have haH' : (upSt sty c).s.p.address = aH := by show c.s.p.address = _; rw [hpp]; exact haH
        refine ⟨n', inc, c, hp, .inl ⟨rfl, .inl htx, ?_⟩⟩
        rcases h' with ⟨hd', dn', rs', lY', h', hT'⟩ | ⟨h', hring⟩
        · exact ih n' stx (upSt sty c) coll now (.inl ⟨hd', dn', rs', lY', h', hT'.trans hT⟩)
            ((Net.poll_len_of hp).trans hN) haL haH' (hrest.of_poll hp)
        · refine ih n' stx (upSt sty c) coll now (.inr (.inl ⟨now, h', ?_⟩)) ((Net.poll_len_of hp).trans hN) haL haH' (hrest.of_poll hp)
          rw [haL]; exact hrep _ (by rw [hring, hT, haL])
      · obtain ⟨n', c, hp, h'⟩ := hq1_listener h hok now htl hown hgy
        have hpp := Net.poll_params n i now n' [] c sty hp hgy0
        have haH' : (upSt sty c).s.p.address = aH := by show c.s.p.address = _; rw [hpp]; exact haH
        rcases h' with ⟨htx, hsame, h'⟩ | ⟨htx, -, -, h'⟩
        · refine ⟨n', [], c, hp, .inl ⟨rfl, .inl htx, ?_⟩⟩
          exact ih n' stx (upSt sty c) coll now (.inr (.inl ⟨h1, h', by rw [hsame]; exact hnr1⟩))
            ((Net.poll_len_of hp).trans hN) haL haH' (hrest.of_poll hp)
        · refine ⟨n', [], c, hp, .inl ⟨rfl, .inr ?_, ?_⟩⟩
          · rw [htx, hnr1, haL, haH]
          · rw [hnr1] at h'
            exact ih n' stx (upSt sty c) coll now (.inr (.inr ⟨now, _, h'⟩)) ((Net.poll_len_of hp).trans hN) haL haH' (hrest.of_poll hp)
      · obtain ⟨n', c, hp, htx, h'⟩ := hq2_listener h hok now htl hown hgx
        exact ⟨n', [], c, hp, .inl ⟨rfl, .inl htx, ih n' stx sty coll now (.inr (.inr ⟨q, lX, h'⟩))
          ((Net.poll_len_of hp).trans hN) haL haH (hrest.of_poll hp)⟩⟩

theorem reply_run {cfg : Cfg} (hok : cfg.Ok) (G : Nat) (hG : cfg.slot + 3 * cfg.P ≤ G) (x y : Nat) (r : Int) (r0 : TokenRing)
    (T : List Telegram) (aL aH : Nat) (state : ResponseState)
    (hrep : ∀ s : Station, s.ring = hearAll aL T r0 → listenReport s aL = state) :
    ∀ (evs : List (Nat × Int)) (n : Net) (stx sty : NetStation) (coll : Nat) (tl : Int),
    HQ cfg G n x y stx sty r r0 T state coll tl → n.stations.length = 2 → stx.s.p.address = aL → sty.s.p.address = aH →
    SchedN cfg.P n tl evs →
    RplRun cfg x y aL aH state (r + 2 * ((cfg.ce 5 : Nat) : Int) + (cfg.b33 : Nat) + 3 * (cfg.P : Nat)) n evs :=
  fun evs n stx sty coll tl hq hN haL haH hs =>
    RplRunD.weaken evs n (reply_runD hok G hG x y r r0 T aL aH state hrep evs n stx sty coll tl hq hN haL haH hs)

end PV
