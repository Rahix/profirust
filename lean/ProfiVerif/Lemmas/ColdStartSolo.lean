/-
Cold start, phases (a2)–(a4) for a station that is alone on the bus: second claim token, sweep of the whole GAP,
token to itself — the one-station ring.  `Solo` says that a station is up to date with a fault-free log; every poll of
such a station is either a no-op (`solo_noop`) or one step of its state handler on an empty buffer (`solo_step`).
`form_step` follows the claimant through its stages with a time budget; `lone_cold_start` puts phase (a1) of the lone
station in front of it.  (Props/C06, cold start)
-/
import ProfiVerif.Lemmas.ColdStart
import ProfiVerif.Props.C12

namespace PV
open StationGap TokenRing

def claimTokS (s : Station) (now : Int) (step : ClaimStep) : Station :=
  { (markTx s now 3) with ring := s.ring.claimToken, st := .claimToken (if step = .firstToken then .secondToken else .scan), gap := .doPoll s.p.address }

def claimReqS (s : Station) (now : Int) (a : Nat) : Station :=
  { (markTx { s with gap := .doPoll a } now 6) with st := .claimToken (.scanAwait a) }

theorem claimTok_exact (c : Ctx) (now l : Int) (fuel : Nat) (step : ClaimStep) (hstep : step = .firstToken ∨ step = .secondToken)
    (hst : c.s.st = .claimToken step) (htx : c.tx = none) (hl : c.s.lastBusActivity = some l)
    (hsy : l + (c.s.p.bits 33 : Nat) < now) :
    doClaimToken c now (fuel + 1) = .ok { c with tx := some (selfToken c.s.p.address), s := claimTokS c.s now step } := by
  rw [doClaimToken_claim c now fuel step hstep hst htx ((syncOver_some hl).2 hsy), stamped_of_last hl]
  rfl

/-- The time-out is checked before anything else, and the first claim token goes out in the same poll. -/
theorem idle_claim_exact (c : Ctx) (now l : Int) (hs : Sil c l) (hidle : IdleLike c.s.st)
    (hlost : (now - l).natAbs ≥ c.s.p.tokenLostTimeout) (hsy : l + (c.s.p.bits 33 : Nat) < now) :
    dispatch c now =
      .ok { c with tx := some (selfToken c.s.p.address), s := claimTokS { c.s with st := .claimToken .firstToken } now .firstToken } := by
  rw [idle_claims c now l hs hidle hlost]
  exact claimTok_exact { c with s := { c.s with st := .claimToken .firstToken } } now l 1 .firstToken (.inl rfl) rfl hs.tx hs.last hsy

theorem claimScan_poll (c : Ctx) (now l : Int) (fuel cur a : Nat) (hst : c.s.st = .claimToken .scan) (htx : c.tx = none)
    (hl : c.s.lastBusActivity = some l) (hsy : l + (c.s.p.bits 33 : Nat) < now) (hg : c.s.gap = .doPoll cur)
    (hn : nextGapPoll c.s.p.address c.s.ring.ns c.s.p.hsa cur = .poll a) (hne : a ≠ c.s.p.address) :
    doClaimToken c now (fuel + 1) =
      .ok { c with tx := some (statusRequestBytes a c.s.p.address), s := claimReqS c.s now a } := by
  rw [C12.claim_scan_step c now fuel hst htx ((syncOver_some hl).2 hsy), hg]
  simp only [nextGap, hn, if_neg hne, stamped_of_last hl]
  rfl

theorem claimAwait_exact (c : Ctx) (now l : Int) (fuel a : Nat) (hst : c.s.st = .claimToken (.scanAwait a))
    (hrx : c.rx = []) (hl : c.s.lastBusActivity = some l) (hg : c.s.gap = .doPoll a) (hne : a ≠ c.s.p.address) :
    doClaimToken c now (fuel + 1) =
      if now > l + (c.s.p.slotTime : Nat) then doClaimToken { c with s := { c.s with st := .claimToken .scan } } now fuel
      else .ok c := by
  have hr : receiveTelegram c.rx = .done [] [] false := by rw [hrx]; exact receiveTelegram_nil
  have hc : ({ c with rx := [] } : Ctx) = c := by cases c; simp only at hrx; subst hrx; rfl
  by_cases hx : now > l + (c.s.p.slotTime : Nat)
  · rw [if_pos hx, C12.claim_await_timeout c now fuel a [] false hst hne hg hr ((slotExpired_some hl).2 hx), stamped_of_last hl]
    congr 1
    cases c; simp only at hrx; subst hrx; rfl
  · rw [if_neg hx, C12.claim_await_waits c now fuel a [] false hst hne hg hr (by rw [slotExpired_some hl]; exact hx),
      stamped_of_last hl, hc]

/-- Addresses still to be polled after `cur` by a station `ts` whose NS is itself (`hsa` addresses). -/
def remGap (ts hsa cur : Nat) : Nat := if cur < ts then ts - 1 - cur else hsa - 1 - cur + ts

theorem nextGapPoll_alone (ts hsa cur : Nat) (hc : cur < hsa) (hh : hsa ≤ 126) :
    nextGapPoll ts ts hsa cur =
      (if (if cur = hsa - 1 then 0 else cur + 1) = ts then .waiting else .poll (if cur = hsa - 1 then 0 else cur + 1)) := by
  show nextGapPoll ts ts hsa cur = (if succAddr hsa cur = ts then .waiting else .poll (succAddr hsa cur))
  rw [nextGapPoll_eq', if_neg (by omega)]
  -- alone in the ring, every other address lies between the station and itself
  have e : TokenRing.Between ts ts (succAddr hsa cur) ↔ succAddr hsa cur ≠ ts := by rw [TokenRing.between_arith]; omega
  by_cases c : succAddr hsa cur = ts
  · rw [if_neg (fun hb => e.mp hb c), if_pos c]
  · rw [if_pos (e.mpr c), if_neg c]

theorem nextGap_alone (ts hsa cur : Nat) (hts : ts < hsa) (hc : cur < hsa) (hh : hsa ≤ 126) :
    (remGap ts hsa cur = 0 ∧ nextGapPoll ts ts hsa cur = .waiting) ∨
    (∃ a, nextGapPoll ts ts hsa cur = .poll a ∧ a ≠ ts ∧ a < hsa ∧ remGap ts hsa a + 1 = remGap ts hsa cur) := by
  rw [nextGapPoll_alone ts hsa cur hc hh]
  by_cases h : (if cur = hsa - 1 then 0 else cur + 1) = ts
  · left
    rw [if_pos h]
    refine ⟨?_, rfl⟩
    unfold remGap
    split at h <;> split <;> omega
  · right
    rw [if_neg h]
    refine ⟨_, rfl, h, ?_, ?_⟩
    · split <;> omega
    · unfold remGap
      split at h <;> rename_i h1
      · simp only [h1, if_true]
        split <;> split <;> omega
      · simp only [h1, if_false]
        split <;> split <;> omega

/-- **A station alone on the bus** (record `st`, stamp `l`): every logged transmission is its own (ended by `l + 1`) or has
been delivered to it completely; the log is fault-free and non-overlapping. -/
structure Solo (cfg : Cfg) (n : Net) (x : Nat) (st : NetStation) (l : Int) : Prop where
  rate : n.bus.rate = cfg.rate
  drops : n.bus.drops = []
  corrupt : n.bus.corrupt = []
  chained : CChained cfg n.bus.txs
  live : ∀ t ∈ n.bus.txs, t.dropped = false
  pos : ∀ t ∈ n.bus.txs, 0 < t.bytes.length
  done : ∀ o ∈ n.bus.txs, o.sender = x ∨ cEnd cfg o ≤ n.bus.seen.getD x 0
  ends : ∀ o ∈ n.bus.txs, o.sender = x → cEnd cfg o ≤ l + 1
  xl : x < n.stations.length
  xs : x < n.bus.seen.length
  gx : n.stations[x]? = some st
  online : st.online = true
  alive : st.dead = false
  inv : Inv st.s st.apps
  son : st.s.online = true
  rx : st.rx = []
  stamp : st.s.lastBusActivity = some l
  prate : st.s.p.rate = cfg.rate
  pslot : st.s.p.slotBits = cfg.slotBits

theorem Solo.bits {cfg : Cfg} {n : Net} {x : Nat} {st : NetStation} {l : Int} (h : Solo cfg n x st l) (k : Nat) :
    st.s.p.bits k = bitsToTime cfg.rate k := by unfold Params.bits; rw [h.prate]

theorem Solo.wire {cfg : Cfg} {n : Net} {x : Nat} {st : NetStation} {l : Int} (h : Solo cfg n x st l) : Wire cfg n.bus :=
  ⟨h.rate, h.corrupt, h.chained, h.live, h.pos⟩

/-- The lone station lags behind nothing. -/
theorem Solo.rcv {cfg : Cfg} {n : Net} {x : Nat} {st : NetStation} {l : Int} (h : Solo cfg n x st l)
    (hpb : st.s.pendingBytes = 0) : Rcv cfg n.bus x st n.bus.txs [] l :=
  ⟨(List.append_nil _).symm, h.done, h.rx, (by rw [hpb]; exact Nat.zero_le _), (fun t rest e => by cases e), h.stamp⟩

theorem Solo.ofRcv {cfg : Cfg} {n : Net} {x : Nat} {st : NetStation} {l : Int} {dn : List Transmission}
    (hR : Rcv cfg n.bus x st dn [] l) (hW : Wire cfg n.bus) (hdrops : n.bus.drops = [])
    (hends : ∀ o ∈ n.bus.txs, o.sender = x → cEnd cfg o ≤ l + 1) (hxl : x < n.stations.length)
    (hxs : x < n.bus.seen.length) (hgx : n.stations[x]? = some st) (hon : st.online = true) (hal : st.dead = false)
    (hinv : Inv st.s st.apps) (hson : st.s.online = true) (hprate : st.s.p.rate = cfg.rate)
    (hpslot : st.s.p.slotBits = cfg.slotBits) : Solo cfg n x st l :=
  ⟨hW.rate, hdrops, hW.corrupt, hW.chained, hW.live, hW.pos, fun o ho => hR.done o (by rw [hR.log] at ho; simpa using ho),
    hends, hxl, hxs, hgx, hon, hal, hinv, hson, hR.rx, hR.stamp, hprate, hpslot⟩

theorem Solo.deliver {cfg : Cfg} {n : Net} {x : Nat} {st : NetStation} {l : Int} (h : Solo cfg n x st l) (hr : 0 < cfg.rate)
    (now : Int) (hsn : n.bus.seen.getD x 0 ≤ now) :
    n.bus.deliver x now = ({ n.bus with seen := n.bus.seen.set x now }, []) := by
  obtain ⟨inc, hd, hcat⟩ := h.wire.deliver hr x now n.bus.txs [] (List.append_nil _).symm h.done (fun t ht => by cases ht) hsn
  have : inc = [] := hcat
  rw [hd, this]

theorem Solo.ended {cfg : Cfg} {n : Net} {x : Nat} {st : NetStation} {l : Int} (h : Solo cfg n x st l) {now : Int}
    (hown : n.bus.seen.getD x 0 ≤ now) (hlt : l < now) : ∀ o ∈ n.bus.txs, cEnd cfg o ≤ now := by
  intro o ho
  rcases h.done o ho with hs | hs
  · have := h.ends o ho hs; omega
  · omega

theorem Solo.poll {cfg : Cfg} {n : Net} {x : Nat} {st : NetStation} {l : Int} (h : Solo cfg n x st l) (hr : 0 < cfg.rate)
    {now : Int} {c : Ctx} (hp : st.s.poll st.apps now (n.bus.transmitting x now) [] = .ok c) :
    n.poll x now = (n.polled x now st c, [], some (.ok c)) :=
  Net.poll_upToDate n x now st c (by rw [h.rate]; exact hr) h.corrupt h.gx h.alive h.online h.rx
    (fun o ho => (h.done o ho).imp id (fun hh => .inr (by rw [h.wire.txEnd]; exact hh))) hp

theorem Solo.quiet {cfg : Cfg} {n : Net} {x : Nat} {st : NetStation} {l : Int} (h : Solo cfg n x st l) {now : Int}
    (hown : n.bus.seen.getD x 0 ≤ now) {c : Ctx} (htx : c.tx = none) (hinv : Inv c.s c.apps) (h1 : c.s.online = true)
    (h2 : c.s.p = st.s.p) (h3 : c.rx = []) {l' : Int} (h4 : c.s.lastBusActivity = some l') (h5 : l ≤ l') :
    Solo cfg (n.polled x now st c) x (upSt st c) l' := by
  have e : n.polled x now st c = ⟨{ n.bus with seen := n.bus.seen.set x now }, n.stations.set x (upSt st c)⟩ := by
    unfold Net.polled; rw [htx]
  rw [e]
  refine ⟨h.rate, h.drops, h.corrupt, h.chained, h.live, h.pos, ?_, fun o ho hs => by have := h.ends o ho hs; omega,
    by simp only [List.length_set]; exact h.xl, by simp only [List.length_set]; exact h.xs, List.getElem?_set_self h.xl,
    h.online, h.alive, hinv, h1, h3, h4, (congrArg Params.rate h2).trans h.prate, (congrArg Params.slotBits h2).trans h.pslot⟩
  intro o ho
  simp only
  rw [seen_set_self _ _ _ h.xs]
  exact (h.done o ho).imp id (fun hh => by omega)

theorem Solo.sent {cfg : Cfg} {n : Net} {x : Nat} {st : NetStation} {l : Int} (h : Solo cfg n x st l) (hr : 0 < cfg.rate)
    {now : Int} (hends : ∀ o ∈ n.bus.txs, cEnd cfg o ≤ now) {c : Ctx} {b : Bytes} (htx : c.tx = some b) (hbl : 0 < b.length)
    (hinv : Inv c.s c.apps) (h1 : c.s.online = true) (h2 : c.s.p = st.s.p) (h3 : c.rx = []) {l' : Int}
    (h4 : c.s.lastBusActivity = some l') (hbe : now + ((cfg.ce (b.length - 1) : Nat) : Int) ≤ l' + 1) :
    Solo cfg (n.polled x now st c) x (upSt st c) l' := by
  have e : n.polled x now st c = ⟨Bus.send { n.bus with seen := n.bus.seen.set x now } x now b, n.stations.set x (upSt st c)⟩ := by
    unfold Net.polled; rw [htx]
  obtain ⟨hW, hdr, hsn, -, hall⟩ := (h.wire.seen (n.bus.seen.set x now)).send hr h.drops x now b hbl hends
  rw [e]
  refine ⟨hW.rate, hdr, hW.corrupt, hW.chained, hW.live, hW.pos, ?_, ?_,
    by simp only [List.length_set]; exact h.xl, by rw [hsn]; simp only [List.length_set]; exact h.xs, List.getElem?_set_self h.xl,
    h.online, h.alive, hinv, h1, h3, h4, (congrArg Params.rate h2).trans h.prate, (congrArg Params.slotBits h2).trans h.pslot⟩
  · rw [hsn]
    simp only
    rw [seen_set_self _ _ _ h.xs]
    exact hall _ (fun o ho => .inr (hends o ho)) (.inl rfl)
  · exact hall (fun o => o.sender = x → cEnd cfg o ≤ l' + 1) (fun o ho _ => by
      have := hends o ho
      have : now ≤ l' + 1 := by have := Int.natCast_nonneg (cfg.ce (b.length - 1)); omega
      omega) (fun _ => hbe)

theorem Solo.dispatch_ok {cfg : Cfg} {n : Net} {x : Nat} {st : NetStation} {l : Int} (h : Solo cfg n x st l)
    (hno : st.s.st ≠ .offline) (hnp : st.s.st ≠ .passiveIdle) {now : Int} (hlt : l < now) :
    ∃ c, dispatch { s := st.s, apps := st.apps, rx := [] } now = .ok c ∧ Inv c.s c.apps := by
  obtain ⟨c', hc', hinv', -⟩ := pollInner_good { s := st.s, apps := st.apps, rx := [] } now false h.inv rfl
  have : st.s.poll st.apps now false [] = .ok c' := hc'
  rw [poll_dispatch st.s st.apps now [] h.son hno hnp (late_of_some h.stamp hlt)] at this
  simp only [List.length_nil, checkBus_nil] at this
  exact ⟨c', this, hinv'⟩

theorem Solo.polled_seen {cfg : Cfg} {n : Net} {x : Nat} {st : NetStation} {l : Int} (h : Solo cfg n x st l) (now : Int)
    (c : Ctx) : (n.polled x now st c).bus.seen.getD x 0 = now := by
  rw [Net.polled_seen]; exact seen_set_self _ _ _ h.xs

theorem solo_step {cfg : Cfg} {n : Net} {x : Nat} {st : NetStation} {l : Int} (h : Solo cfg n x st l) (hr : 0 < cfg.rate)
    (now : Int) (hown : n.bus.seen.getD x 0 < now) (hlt : l < now) (c : Ctx)
    (hno : st.s.st ≠ .offline) (hnp : st.s.st ≠ .passiveIdle)
    (hd : dispatch { s := st.s, apps := st.apps, rx := [] } now = .ok c) (l' : Int)
    (h1 : c.s.online = true) (h2 : c.s.p = st.s.p) (h3 : c.rx = []) (h4 : c.s.lastBusActivity = some l') (h5 : l ≤ l')
    (h6 : ∀ b, c.tx = some b → 0 < b.length ∧ now + ((cfg.ce (b.length - 1) : Nat) : Int) ≤ l' + 1) :
    n.poll x now = (n.polled x now st c, [], some (.ok c)) ∧ Solo cfg (n.polled x now st c) x (upSt st c) l' := by
  have hends := h.ended (Int.le_of_lt hown) hlt
  have hp : st.s.poll st.apps now (n.bus.transmitting x now) [] = .ok c := by
    rw [h.wire.phy (fun o ho _ => hends o ho), poll_dispatch st.s st.apps now [] h.son hno hnp (late_of_some h.stamp hlt)]
    simp only [List.length_nil, checkBus_nil]
    exact hd
  obtain ⟨c', hc', hinv'⟩ := h.dispatch_ok hno hnp hlt
  have hcc : c' = c := by rw [hd] at hc'; cases hc'; rfl
  subst hcc
  refine ⟨h.poll hr hp, ?_⟩
  cases htx : c'.tx with
  | none => exact h.quiet (Int.le_of_lt hown) htx hinv' h1 h2 h3 h4 h5
  | some b =>
    obtain ⟨hbl, hbe⟩ := h6 b htx
    exact h.sent hr hends htx hbl hinv' h1 h2 h3 h4 hbe

theorem Solo.sent_facts {cfg : Cfg} {n : Net} {x : Nat} {st : NetStation} {l : Int} (h : Solo cfg n x st l) {now : Int}
    {n' : Net} {inc : Bytes} {c : Ctx} {b : Bytes} (hp : n.poll x now = (n', inc, some (.ok c))) (hb : c.tx = some b) :
    l + (cfg.b33 : Nat) < now ∧
      c.s.lastBusActivity = some (now + ((bitsToTime cfg.rate (11 * b.length) : Nat) : Int)) := by
  obtain ⟨-, st0, hst0, -, hpoll0⟩ := Net.poll_bus n x now n' inc c hp
  rw [h.gx] at hst0
  cases hst0
  have hpp := Net.poll_params n x now n' inc c st hp h.gx
  constructor
  · have := (pollInner_tx { s := st.s, apps := st.apps, rx := _ } now _ c hpoll0 rfl (by rw [hb]; simp)).2.2 l h.stamp
    rw [show st.s.p.bits 33 = cfg.b33 from h.bits 33] at this
    exact this
  · have hm := pollInner_marks _ now _ c b hpoll0 rfl hb
    unfold MarkK at hm
    rw [hm]
    unfold Params.bits
    rw [hpp, h.prate]

theorem Solo.frame {cfg : Cfg} {n n' : Net} {x : Nat} {st : NetStation} {l : Int} (h : Solo cfg n x st l) (i : Nat) (now : Int)
    (hix : i ≠ x) (hbus : n'.bus = { n.bus with seen := n.bus.seen.set i now })
    (hlen : n'.stations.length = n.stations.length) (hgx : n'.stations[x]? = some st) : Solo cfg n' x st l := by
  refine ⟨by rw [hbus]; exact h.rate, by rw [hbus]; exact h.drops, by rw [hbus]; exact h.corrupt, by rw [hbus]; exact h.chained,
    by rw [hbus]; exact h.live, by rw [hbus]; exact h.pos, ?_, by rw [hbus]; exact h.ends,
    by rw [hlen]; exact h.xl, by rw [hbus]; simp only [List.length_set]; exact h.xs,
    hgx, h.online, h.alive, h.inv, h.son, h.rx, h.stamp, h.prate, h.pslot⟩
  rw [hbus]
  simp only
  rw [seen_set_other _ _ _ _ hix]
  exact h.done

theorem Solo.otherPoll {cfg : Cfg} {n n' : Net} {x : Nat} {st : NetStation} {l : Int} (h : Solo cfg n x st l) (i : Nat) (now : Int)
    (sti : NetStation) (hix : i ≠ x) (hbus : n'.bus = { n.bus with seen := n.bus.seen.set i now })
    (hset : n'.stations = n.stations.set i sti) : Solo cfg n' x st l :=
  h.frame i now hix hbus (by rw [hset, List.length_set]) (by rw [hset, List.getElem?_set_ne hix]; exact h.gx)

theorem Solo.otherNoop {cfg : Cfg} {n n' : Net} {x : Nat} {st : NetStation} {l : Int} (h : Solo cfg n x st l) (i : Nat) (now : Int)
    (hix : i ≠ x) (hbus : n'.bus = { n.bus with seen := n.bus.seen.set i now }) (hset : n'.stations = n.stations) :
    Solo cfg n' x st l :=
  h.frame i now hix hbus (by rw [hset]) (by rw [hset]; exact h.gx)

theorem Solo.polled_noop {cfg : Cfg} {n : Net} {x : Nat} {st : NetStation} {l : Int} (h : Solo cfg n x st l) (now : Int) :
    n.polled x now st { s := st.s, apps := st.apps, rx := [] } = ⟨{ n.bus with seen := n.bus.seen.set x now }, n.stations⟩ := by
  have hup : upSt st { s := st.s, apps := st.apps, rx := [] } = st := by unfold upSt; rw [← h.rx]
  obtain ⟨hx, e⟩ := List.getElem?_eq_some_iff.1 h.gx
  show (⟨_, n.stations.set x (upSt st _)⟩ : Net) = _
  rw [hup, ← e, List.set_getElem_self]

/-- Nothing happens in a poll either because the stamp has not passed or because the handler waits (`hd`). -/
theorem solo_noop {cfg : Cfg} {n : Net} {x : Nat} {st : NetStation} {l : Int} (h : Solo cfg n x st l) (hr : 0 < cfg.rate)
    (now : Int) (hown : n.bus.seen.getD x 0 < now) (hno : st.s.st ≠ .offline) (hnp : st.s.st ≠ .passiveIdle)
    (hd : l < now → dispatch { s := st.s, apps := st.apps, rx := [] } now = .ok { s := st.s, apps := st.apps, rx := [] }) :
    ∃ n', n.poll x now = (n', [], some (.ok { s := st.s, apps := st.apps, rx := [] })) ∧ Solo cfg n' x st l ∧
      n'.bus = { n.bus with seen := n.bus.seen.set x now } ∧ n'.stations = n.stations := by
  have hup : upSt st { s := st.s, apps := st.apps, rx := [] } = st := by unfold upSt; rw [← h.rx]
  have hpolled := h.polled_noop now
  have hp : st.s.poll st.apps now (n.bus.transmitting x now) [] = .ok { s := st.s, apps := st.apps, rx := [] } := by
    by_cases hle : now ≤ l
    · exact poll_ongoing st.s st.apps now (n.bus.transmitting x now) [] h.son hno hnp l h.stamp hle
    · have hlt : l < now := by omega
      rw [h.wire.phy (fun o ho _ => h.ended (Int.le_of_lt hown) hlt o ho),
        poll_dispatch st.s st.apps now [] h.son hno hnp (late_of_some h.stamp hlt)]
      simp only [List.length_nil, checkBus_nil]
      exact hd hlt
  have hS := h.quiet (Int.le_of_lt hown) (c := { s := st.s, apps := st.apps, rx := [] }) rfl h.inv h.son rfl rfl h.stamp
    (Int.le_refl _)
  have hpe := h.poll hr hp
  rw [hpolled] at hpe
  rw [hup, hpolled] at hS
  exact ⟨_, hpe, hS, rfl, rfl⟩

theorem claim_waits (c : Ctx) (now l : Int) (fuel : Nat) (step : ClaimStep)
    (hstep : step = .firstToken ∨ step = .secondToken ∨ step = .scan)
    (hst : c.s.st = .claimToken step) (hl : c.s.lastBusActivity = some l) (hw : now ≤ l + (c.s.p.bits 33 : Nat)) :
    doClaimToken c now (fuel + 1) = .ok c := by
  have hns : ¬ SyncOver c.s now := by rw [syncOver_some hl]; omega
  rcases hstep with rfl | rfl | rfl
  · rw [doClaimToken_claim_waits c now fuel _ (.inl rfl) hst hns, stamped_of_last hl]
  · rw [doClaimToken_claim_waits c now fuel _ (.inr rfl) hst hns, stamped_of_last hl]
  · rw [C12.claim_scan_waits c now fuel hst hns, stamped_of_last hl]

theorem pass_waits (c : Ctx) (now l : Int) (g : Bool) (att : Attempt) (hst : c.s.st = .passToken g att)
    (hl : c.s.lastBusActivity = some l) (hw : now ≤ l + (c.s.p.bits 33 : Nat)) : doPassToken c now = .ok c := by
  rw [C12.pass_token_waits c now g att hst (by rw [syncOver_some hl]; omega), stamped_of_last hl]

theorem pass_poll (c : Ctx) (now l : Int) (att : Attempt) (hst : c.s.st = .passToken false att) (htx : c.tx = none)
    (hl : c.s.lastBusActivity = some l) (hsy : l + (c.s.p.bits 33 : Nat) < now) :
    doPassToken c now = .ok (passed c now att) := by
  have := (doPassToken_step now hst).unique (.pass ((syncOver_some hl).2 hsy) htx)
  rwa [stamped_of_last hl] at this

/-- `Solo` says the station is up to date with the log, not that its ring `M` has no other member: with one it
supervises the pass instead of using the token. -/
theorem solo_pass {cfg : Cfg} {n : Net} {x : Nat} {st : NetStation} {l : Int} (h : Solo cfg n x st l) (hok : cfg.Ok)
    {M : List Nat} (hv : RingView M st.s.p.address st.s.ring) {att : Attempt} (hst : st.s.st = .passToken false att)
    (now : Int) (hown : n.bus.seen.getD x 0 < now) (hsy : l + (cfg.b33 : Nat) < now) :
    ∃ c, n.poll x now = (n.polled x now st c, [], some (.ok c)) ∧
      Solo cfg (n.polled x now st c) x (upSt st c) (now + (cfg.b33 : Nat)) ∧ Inv c.s c.apps ∧ c.s.p = st.s.p ∧
      c.tx = some (tokenBytes (cycSucc st.s.p.address M) st.s.p.address) ∧
      c.s.ring = st.s.ring.witness st.s.p.address (cycSucc st.s.p.address M) ∧ RingView M st.s.p.address c.s.ring ∧
      c.s.st = (if cycSucc st.s.p.address M = st.s.p.address then FState.useToken ⟨now, none⟩ false
                else FState.checkTokenPass att) := by
  have hr := hok.rate
  have hc2 := cfg.ce2 hr
  have hno : st.s.st ≠ .offline ∧ st.s.st ≠ .passiveIdle := by rw [hst]; simp
  have hlt : l < now := by omega
  have hns : st.s.ring.ns = cycSucc st.s.p.address M := hv.ns.1
  have hd : dispatch { s := st.s, apps := st.apps, rx := [] } now = .ok (passed { s := st.s, apps := st.apps, rx := [] } now att) := by
    rw [dispatch_passToken now hst]
    exact pass_poll _ now l att hst rfl h.stamp (by show l + ((st.s.p.bits 33 : Nat) : Int) < now; rw [h.bits 33]; exact hsy)
  obtain ⟨c', hc', hinv'⟩ := h.dispatch_ok hno.1 hno.2 hlt
  rw [hd] at hc'
  cases hc'
  have hl' : (passed { s := st.s, apps := st.apps, rx := [] } now att).s.lastBusActivity = some (now + (cfg.b33 : Nat)) := by
    show some (now + ((st.s.p.bits (11 * 3) : Nat) : Int)) = _
    rw [show st.s.p.bits (11 * 3) = cfg.b33 from h.bits 33]
  obtain ⟨hp, hS⟩ := solo_step h hr now hown hlt _ hno.1 hno.2 hd (now + (cfg.b33 : Nat)) h.son rfl rfl hl'
    (by omega) (fun b hb => by
      cases hb
      refine ⟨by show 0 < 3; omega, ?_⟩
      show now + ((cfg.ce 2 : Nat) : Int) ≤ _
      omega)
  refine ⟨_, hp, hS, hinv', rfl, ?_, ?_, ?_, ?_⟩
  · show some (tokenBytes st.s.ring.ns st.s.p.address) = _
    rw [hns]
  · show st.s.ring.witness st.s.p.address st.s.ring.ns = _
    rw [hns]
  · show RingView M st.s.p.address (st.s.ring.witness st.s.p.address st.s.ring.ns)
    rw [hns]
    exact hv.witness
  · show (if (st.s.ring.witness st.s.p.address st.s.ring.ns).ns = st.s.p.address then _ else _) = _
    rw [hns, hv.witness.ns.1]

/-- Stages: second claim token pending; scanning behind `cur`; awaiting the reply of `a`; sweep finished;
about to pass the token. -/
inductive SStage
  | c2
  | scan (cur : Nat)
  | await (a : Nat)
  | done
  | pass

def SStage.ok (s : Station) : SStage → Prop
  | .c2 => s.st = .claimToken .secondToken
  | .scan cur => s.st = .claimToken .scan ∧ s.gap = .doPoll cur
  | .await a => s.st = .claimToken (.scanAwait a) ∧ s.gap = .doPoll a
  | .done => s.st = .claimToken .scan ∧ ∃ r, s.gap = .waiting r
  | .pass => s.st = .passToken false .first

/-- Time the station waits after its stamp before the next step. -/
def SStage.wait (cfg : Cfg) : SStage → Nat
  | .await _ => cfg.slot
  | _ => cfg.b33

/-- One GAP request of the sweep: poll gap, request, slot time. -/
def Cfg.sweepStep (c : Cfg) : Nat := c.P + c.b66 + c.slot

/-- Worst-case time left until the token is held alone, counted from `max(last poll, stamp + wait)`. -/
def SStage.rest (cfg : Cfg) (ts hsa : Nat) : SStage → Nat
  | .c2 => cfg.P + 2 * cfg.b33 + remGap ts hsa ts * cfg.sweepStep + 3 * cfg.P
  | .scan cur => remGap ts hsa cur * cfg.sweepStep + 3 * cfg.P
  | .await a => remGap ts hsa a * cfg.sweepStep + 3 * cfg.P
  | .done => 2 * cfg.P
  | .pass => cfg.P

/-- Polls that may still pass before the next transmission, times `P`. -/
def SStage.slack (cfg : Cfg) : SStage → Nat
  | .c2 => cfg.P
  | .scan _ => 3 * cfg.P
  | .await _ => 3 * cfg.P
  | .done => 2 * cfg.P
  | .pass => cfg.P

theorem ringView_claim {ts : Nat} {r : TokenRing} (v : RingView [ts] ts r) : RingView [ts] ts r.claimToken :=
  ⟨v.ring, v.mem, v.ts, rfl, v.las, v.nbr⟩

theorem Solo.b33 {cfg : Cfg} {n : Net} {x : Nat} {st : NetStation} {l : Int} (h : Solo cfg n x st l) :
    st.s.p.bits 33 = cfg.b33 := h.bits 33
theorem Solo.slot {cfg : Cfg} {n : Net} {x : Nat} {st : NetStation} {l : Int} (h : Solo cfg n x st l) :
    st.s.p.slotTime = cfg.slot := by unfold Params.slotTime Cfg.slot; rw [h.bits, h.pslot]

/-- Outcome of one poll of the lone claimant at `now`: its ring of one stands, or it is in a stage `stage'` with stamp `l'`.
`B` is the deadline of the whole formation (the budget `rest` of the new stage still fits), `l0` the stamp before the
poll (kept when nothing is transmitted), `Φ` the time by which the next transmission must have come — the horizon a
listener's token-lost time-out is measured against.  The last three clauses say that the second claim token is sent
exactly once. -/
def FormOut (cfg : Cfg) (x ts : Nat) (B : Int) (st : NetStation) (n' : Net) (c : Ctx) (now : Int) (l0 Φ : Int) : Prop :=
  (c.s.st = .useToken ⟨now, none⟩ false ∧ c.tx = some (selfToken ts) ∧ RingView [ts] ts c.s.ring ∧ Inv c.s c.apps ∧
     n'.stations[x]? = some (upSt st c)) ∨
  (∃ (stage' : SStage) (l' : Int), Solo cfg n' x (upSt st c) l' ∧ stage'.ok c.s ∧ RingView [ts] ts c.s.ring ∧ c.s.p = st.s.p ∧
     (c.tx = none ∨ c.tx = some (selfToken ts) ∨ ∃ a, a ≠ ts ∧ a < st.s.p.hsa ∧ c.tx = some (statusRequestBytes a ts) ∧ stage' = .await a ∧ l' = now + (cfg.b66 : Nat)) ∧
     max now (l' + ((stage'.wait cfg : Nat) : Int)) + ((stage'.rest cfg ts st.s.p.hsa : Nat) : Int) ≤ B ∧
     (c.tx = none → l' = l0 ∧ max now (l' + ((stage'.wait cfg : Nat) : Int)) + ((stage'.slack cfg : Nat) : Int) ≤ Φ) ∧
     (c.tx ≠ none → now ≤ l') ∧
     (c.s.st = .claimToken .secondToken → st.s.st = .claimToken .secondToken ∧ c.tx = none) ∧
     (c.tx = some (selfToken ts) → st.s.st = .claimToken .secondToken) ∧ c.s.pendingBytes = st.s.pendingBytes)

theorem form_step {cfg : Cfg} {n : Net} {x : Nat} {st : NetStation} {l : Int} (h : Solo cfg n x st l) (hok : cfg.Ok)
    (stage : SStage) (hs : stage.ok st.s) (hv : RingView [st.s.p.address] st.s.p.address st.s.ring)
    (B : Int) (now : Int) (hown : n.bus.seen.getD x 0 < now) (hP : now ≤ n.bus.seen.getD x 0 + (cfg.P : Nat))
    (hB : max (n.bus.seen.getD x 0) (l + ((stage.wait cfg : Nat) : Int)) + ((stage.rest cfg st.s.p.address st.s.p.hsa : Nat) : Int) ≤ B) :
    ∃ c, n.poll x now = (n.polled x now st c, [], some (.ok c)) ∧
      now ≤ max (n.bus.seen.getD x 0) (l + ((stage.wait cfg : Nat) : Int)) + (cfg.P : Nat) ∧
      FormOut cfg x st.s.p.address B st (n.polled x now st c) c now l
        (max (n.bus.seen.getD x 0) (l + ((stage.wait cfg : Nat) : Int)) + ((stage.slack cfg : Nat) : Int)) := by
  have hr := hok.rate
  have hmar := hok.margin
  have hc2 := cfg.ce2 hr
  have hc5 := cfg.ce5 hr
  have hb33 := h.b33
  have hslot := h.slot
  have hns : st.s.ring.ns = st.s.p.address := by rw [hv.ns.1, cycSucc_single]
  have hno : st.s.st ≠ .offline ∧ st.s.st ≠ .passiveIdle := by
    cases stage <;> simp only [SStage.ok] at hs
    · rw [hs]; simp
    · rw [hs.1]; simp
    · rw [hs.1]; simp
    · rw [hs.1]; simp
    · rw [hs]; simp
  have hup : upSt st { s := st.s, apps := st.apps, rx := [] } = st := by
    unfold upSt; rw [← h.rx]
  have hgapc : ∀ cur, st.s.gap = .doPoll cur → cur < st.s.p.hsa := h.inv.gap
  by_cases hw : now ≤ l + ((stage.wait cfg : Nat) : Int)
  · -- the stamp has not passed, or the station still waits: same stage, same stamp
    obtain ⟨n', hp, hS, hbus, hset⟩ := solo_noop h hr now hown hno.1 hno.2 (fun _ => by
      unfold dispatch
      cases stage <;> simp only [SStage.ok, SStage.wait] at hs hw
      · simp only [hs]
        exact claim_waits _ now l 1 .secondToken (.inr (.inl rfl)) hs h.stamp (by rw [hb33]; exact hw)
      · simp only [hs.1]
        exact claim_waits _ now l 1 .scan (.inr (.inr rfl)) hs.1 h.stamp (by rw [hb33]; exact hw)
      · rename_i a
        simp only [hs.1]
        rw [claimAwait_exact _ now l 1 a hs.1 rfl h.stamp hs.2 (h.inv.await2 a hs.1).2]
        rw [if_neg (by rw [hslot]; omega)]
      · simp only [hs.1]
        exact claim_waits _ now l 1 .scan (.inr (.inr rfl)) hs.1 h.stamp (by rw [hb33]; exact hw)
      · simp only [hs]
        exact pass_waits _ now l false .first hs h.stamp (by rw [hb33]; exact hw))
    obtain rfl : n' = n.polled x now st { s := st.s, apps := st.apps, rx := [] } := by
      rw [h.polled_noop now]; cases n'; simp only at hbus hset; rw [hbus, hset]
    refine ⟨_, hp, by omega, ?_⟩
    unfold FormOut
    exact Or.inr ⟨stage, l, by rw [hup]; exact hS, hs, hv, rfl, .inl rfl, by omega, fun _ => ⟨rfl, by omega⟩,
      fun h => absurd rfl h, fun h => ⟨h, rfl⟩, (fun h => by cases h), rfl⟩
  have hlt : l < now := by omega
  have hts := h.inv.addr
  have hhsa := h.inv.hsa
  have scanStep : ∀ (c0 : Ctx) (fuel cur : Nat), c0 = { s := { st.s with st := .claimToken .scan }, apps := st.apps, rx := [] } →
      st.s.gap = .doPoll cur → l + (cfg.b33 : Nat) < now →
      max (n.bus.seen.getD x 0) (l + ((stage.wait cfg : Nat) : Int)) + (cfg.P : Nat) +
        ((remGap st.s.p.address st.s.p.hsa cur * cfg.sweepStep + 2 * cfg.P : Nat) : Int) ≤ B →
      3 * cfg.P ≤ stage.slack cfg →
      ∀ c, doClaimToken c0 now (fuel + 1) = .ok c → dispatch { s := st.s, apps := st.apps, rx := [] } now = .ok c →
      n.poll x now = (n.polled x now st c, [], some (.ok c)) ∧ FormOut cfg x st.s.p.address B st (n.polled x now st c) c now l
        (max (n.bus.seen.getD x 0) (l + ((stage.wait cfg : Nat) : Int)) + ((stage.slack cfg : Nat) : Int)) := by
    intro c0 fuel cur hc0 hg hsy hBud hsl c hdc hd
    subst hc0
    have hcur := hgapc cur hg
    rcases nextGap_alone st.s.p.address st.s.p.hsa cur hts hcur hhsa with ⟨hrem, hn⟩ | ⟨a, hn, hne, ha, hrem⟩
    · rw [claim_scan_last _ now l fuel h.stamp (by rw [hb33]; exact hsy) rfl cur hg (by rw [hns]; exact hn)] at hdc
      cases hdc
      obtain ⟨hp, hS⟩ := solo_step h hr now hown hlt _ hno.1 hno.2 hd l h.son rfl rfl h.stamp (Int.le_refl _)
        (fun b hb => by cases hb)
      refine ⟨hp, ?_⟩
      unfold FormOut
      refine Or.inr ⟨.done, l, hS, ⟨rfl, 0, rfl⟩, hv, rfl, .inl rfl, ?_, fun _ => ⟨rfl, ?_⟩, fun h => absurd rfl h,
        (fun h => by cases h), (fun h => by cases h), rfl⟩
      · simp only [SStage.wait, SStage.rest]
        rw [hrem] at hBud
        push_cast at hBud ⊢
        omega
      · have e1 : SStage.wait cfg .done = cfg.b33 := rfl
        have e2 : SStage.slack cfg .done = 2 * cfg.P := rfl
        rw [e1, e2]
        push_cast
        omega
    · rw [claimScan_poll _ now l fuel cur a rfl rfl h.stamp (by rw [hb33]; exact hsy) hg (by rw [hns]; exact hn) hne] at hdc
      cases hdc
      have hst' : (claimReqS { st.s with st := .claimToken .scan } now a).lastBusActivity = some (now + (cfg.b66 : Nat)) := by
        unfold claimReqS markTx
        simp only
        rw [show st.s.p.bits (11 * 6) = cfg.b66 from h.bits 66]
      obtain ⟨hp, hS⟩ := solo_step h hr now hown hlt _ hno.1 hno.2 hd (now + (cfg.b66 : Nat)) h.son rfl rfl hst'
        (by omega) (fun b hb => by
          cases hb
          rw [statusRequestBytes_length]
          refine ⟨by omega, ?_⟩
          show now + ((cfg.ce 5 : Nat) : Int) ≤ _
          omega)
      refine ⟨hp, ?_⟩
      unfold FormOut
      refine Or.inr ⟨.await a, now + (cfg.b66 : Nat), hS, ⟨rfl, rfl⟩, hv, rfl, .inr (.inr ⟨a, hne, ha, rfl, rfl, rfl⟩), ?_,
        (fun h => by cases h), (fun _ => by omega), (fun h => by cases h),
        (fun h => by
          have := congrArg List.length (Option.some.inj h)
          rw [statusRequestBytes_length] at this
          exact absurd this (by show ¬ (6 = 3); decide)), rfl⟩
      simp only [SStage.wait, SStage.rest]
      rw [← hrem, Nat.add_mul, Nat.one_mul] at hBud
      unfold Cfg.sweepStep at hBud ⊢
      push_cast at hBud ⊢
      omega
  have hnP : now ≤ max (n.bus.seen.getD x 0) (l + ((stage.wait cfg : Nat) : Int)) + (cfg.P : Nat) := by omega
  cases stage with
  | c2 =>
    simp only [SStage.ok, SStage.wait, SStage.rest] at hs hw hB hnP
    have hd : dispatch { s := st.s, apps := st.apps, rx := [] } now =
        .ok { s := claimTokS st.s now .secondToken, apps := st.apps, rx := [], tx := some (selfToken st.s.p.address) } := by
      unfold dispatch
      simp only [hs]
      rw [claimTok_exact _ now l 1 .secondToken (.inr rfl) hs rfl h.stamp (by rw [hb33]; omega)]
    have hst' : (claimTokS st.s now .secondToken).lastBusActivity = some (now + (cfg.b33 : Nat)) := by
      unfold claimTokS markTx
      simp only
      rw [show st.s.p.bits (11 * 3) = cfg.b33 from h.bits 33]
    obtain ⟨hp, hS⟩ := solo_step h hr now hown hlt _ hno.1 hno.2 hd (now + (cfg.b33 : Nat)) h.son rfl rfl hst'
      (by omega) (fun b hb => by
        cases hb
        refine ⟨by show 0 < 3; omega, ?_⟩
        show now + ((cfg.ce 2 : Nat) : Int) ≤ _
        omega)
    refine ⟨_, hp, hnP, ?_⟩
    unfold FormOut
    refine Or.inr ⟨.scan st.s.p.address, now + (cfg.b33 : Nat), hS, ⟨rfl, rfl⟩, ringView_claim hv, rfl, .inr (.inl rfl), ?_,
      (fun h => by cases h), (fun _ => by omega), (fun h => by cases h), fun _ => hs, rfl⟩
    simp only [SStage.wait, SStage.rest]
    push_cast at hB ⊢
    omega
  | scan cur =>
    simp only [SStage.ok, SStage.wait, SStage.rest] at hs hw hB hnP
    have hsame : ({ st.s with st := .claimToken .scan } : Station) = st.s := by
      have := hs.1
      cases hst : st.s
      rw [hst] at this
      simp only at this
      subst this
      rfl
    have hd0 : dispatch { s := st.s, apps := st.apps, rx := [] } now = doClaimToken { s := st.s, apps := st.apps, rx := [] } now 2 := by
      unfold dispatch; simp only [hs.1]
    obtain ⟨c, hd, -⟩ := h.dispatch_ok hno.1 hno.2 hlt
    have hdc := hd0.symm.trans hd
    obtain ⟨hp, hout⟩ := scanStep _ 1 cur (by rw [hsame]) hs.2 (by omega)
      (by simp only [SStage.wait]; push_cast at hB ⊢; omega) (by simp only [SStage.slack]; omega) c hdc hd
    exact ⟨c, hp, hnP, hout⟩
  | await a =>
    simp only [SStage.ok, SStage.wait, SStage.rest] at hs hw hB hnP
    have hd0 : dispatch { s := st.s, apps := st.apps, rx := [] } now =
        doClaimToken { s := { st.s with st := .claimToken .scan }, apps := st.apps, rx := [] } now 1 := by
      unfold dispatch
      simp only [hs.1]
      rw [claimAwait_exact _ now l 1 a hs.1 rfl h.stamp hs.2 (h.inv.await2 a hs.1).2]
      rw [if_pos (by rw [hslot]; omega)]
    obtain ⟨c, hd, -⟩ := h.dispatch_ok hno.1 hno.2 hlt
    have hdc := hd0.symm.trans hd
    obtain ⟨hp, hout⟩ := scanStep _ 0 a rfl hs.2 (by omega)
      (by simp only [SStage.wait]; push_cast at hB ⊢; omega) (by simp only [SStage.slack]; omega) c hdc hd
    exact ⟨c, hp, hnP, hout⟩
  | done =>
    simp only [SStage.ok, SStage.wait, SStage.rest] at hs hw hB hnP
    obtain ⟨hs1, r, hg⟩ := hs
    have hd : dispatch { s := st.s, apps := st.apps, rx := [] } now =
        .ok { s := { st.s with st := .passToken false .first }, apps := st.apps, rx := [] } := by
      unfold dispatch
      simp only [hs1]
      rw [claim_scan_done _ now l 1 h.stamp (by rw [hb33]; omega) hs1 r hg]
    obtain ⟨hp, hS⟩ := solo_step h hr now hown hlt _ hno.1 hno.2 hd l h.son rfl rfl h.stamp (Int.le_refl _)
      (fun b hb => by cases hb)
    refine ⟨_, hp, hnP, ?_⟩
    unfold FormOut
    refine Or.inr ⟨.pass, l, hS, rfl, hv, rfl, .inl rfl, ?_, fun _ => ⟨rfl, ?_⟩, fun h => absurd rfl h,
      (fun h => by cases h), (fun h => by cases h), rfl⟩
    · simp only [SStage.wait, SStage.rest]
      push_cast at hB ⊢
      omega
    · simp only [SStage.wait, SStage.slack]
      push_cast
      omega
  | pass =>
    simp only [SStage.ok, SStage.wait, SStage.rest] at hs hw hB hnP
    obtain ⟨c', hp, hS, hinv', -, htx, -, hv', hst'⟩ := solo_pass h hok hv hs now hown (by omega)
    rw [cycSucc_single] at htx hst'
    rw [if_pos rfl] at hst'
    refine ⟨c', hp, hnP, ?_⟩
    unfold FormOut
    exact Or.inl ⟨hst', htx, hv', hinv', hS.gx⟩

def FormTx (ts : Nat) (c : Ctx) : Prop :=
  c.tx = none ∨ c.tx = some (selfToken ts) ∨ ∃ a, a ≠ ts ∧ c.tx = some (statusRequestBytes a ts)

/-- **Run of the lone claimant until its one-station ring stands** (`B` = latest time): every poll returns
regularly and receives nothing; the station transmits only self-addressed tokens and GAP requests to other
addresses; until the ring stands every poll happens no later than `B` and leaves the station in `ClaimToken` or
`PassToken`; the poll that completes the formation sends the token to the station itself, which is then in
`UseToken` with the ring view of the one-member ring; all later polls return regularly. -/
def FormRun (x ts : Nat) (B : Int) : Net → List Int → Prop
  | _, [] => True
  | n, now :: rest =>
    ∃ n' c, n.poll x now = (n', [], some (.ok c)) ∧ now ≤ B ∧ FormTx ts c ∧
      ((c.s.st = .useToken ⟨now, none⟩ false ∧ c.tx = some (selfToken ts) ∧ RingView [ts] ts c.s.ring ∧
          SoloRun x n' rest) ∨
       (((∃ step, c.s.st = .claimToken step) ∨ c.s.st = .passToken false .first) ∧ FormRun x ts B n' rest))

theorem SStage.rest_ge (cfg : Cfg) (ts hsa : Nat) (stage : SStage) : cfg.P ≤ stage.rest cfg ts hsa := by
  cases stage <;> simp only [SStage.rest] <;> omega

theorem SStage.ok_state {s : Station} {stage : SStage} (h : stage.ok s) :
    (∃ step, s.st = .claimToken step) ∨ s.st = .passToken false .first := by
  cases stage <;> simp only [SStage.ok] at h
  · exact .inl ⟨_, h⟩
  · exact .inl ⟨_, h.1⟩
  · exact .inl ⟨_, h.1⟩
  · exact .inl ⟨_, h.1⟩
  · exact .inr h

theorem solo_forms {cfg : Cfg} (hok : cfg.Ok) (x ts hsa : Nat) (B : Int) :
    ∀ (evs : List Int) (n : Net) (st : NetStation) (l : Int) (stage : SStage), Solo cfg n x st l → stage.ok st.s →
    st.s.p.address = ts → st.s.p.hsa = hsa → RingView [ts] ts st.s.ring →
    max (n.bus.seen.getD x 0) (l + ((stage.wait cfg : Nat) : Int)) + ((stage.rest cfg ts hsa : Nat) : Int) ≤ B →
    SchedXT cfg.P (n.bus.seen.getD x 0) evs → FormRun x ts B n evs := by
  intro evs
  induction evs with
  | nil => intro _ _ _ _ _ _ _ _ _ _ _; trivial
  | cons now rest ih =>
    intro n st l stage h hs hts hhsa hv hB hsch
    obtain ⟨hlt, hle, hrest⟩ := hsch
    subst hts hhsa
    obtain ⟨c, hp, hnow, hout⟩ := form_step h hok stage hs hv B now hlt hle hB
    have hseen := h.polled_seen now c
    have hrg := SStage.rest_ge cfg st.s.p.address st.s.p.hsa stage
    refine ⟨_, c, hp, by omega, ?_, ?_⟩
    · rcases hout with ⟨-, b, -⟩ | ⟨_, _, -, -, -, -, b, -, -, -, -⟩
      · exact .inr (.inl b)
      · rcases b with b | b | ⟨a, b1, -, b3, -⟩
        · exact .inl b
        · exact .inr (.inl b)
        · exact .inr (.inr ⟨a, b1, b3⟩)
    · rcases hout with ⟨a1, a2, a3, a4, a5⟩ | ⟨stage', l', hS, hs', hv', hp', -, hB', -, -⟩
      · exact .inl ⟨a1, a2, a3, solo_regular x rest _ (upSt st c) a5 h.alive h.online a4⟩
      · refine .inr ⟨SStage.ok_state hs', ?_⟩
        have e1 : (upSt st c).s.p.address = st.s.p.address := by show c.s.p.address = _; rw [hp']
        have e2 : (upSt st c).s.p.hsa = st.s.p.hsa := by show c.s.p.hsa = _; rw [hp']
        exact ih _ (upSt st c) l' stage' hS hs' e1 e2 hv' (by rw [hseen]; exact hB') (by rw [hseen]; exact hrest)

theorem listen_dispatch_quiet (c : Ctx) (now l : Int) (coll : Nat) (hst : c.s.st = .listenToken none coll) (hrx : c.rx = [])
    (hl : c.s.lastBusActivity = some l) (hw : now < l + (c.s.p.tokenLostTimeout : Nat)) (hlt : l < now) :
    dispatch c now = .ok c := by
  unfold dispatch
  simp only [hst]
  rw [doListenToken_recv hst (handleLost_quiet c now l hl (by show ¬ (now - l).natAbs ≥ c.s.p.tokenLostTimeout; omega)) hst]
  simp only [hrx, receiveAll_nil, foldTelegrams]
  cases c
  simp only at hrx
  subst hrx
  rfl

/-- Time budget of the formation after the first claim token (sent at `q`): the ring stands by `q + formTime`. -/
def Cfg.formTime (c : Cfg) (hsa : Nat) : Nat :=
  2 * c.b33 + (c.P + 2 * c.b33 + (hsa - 1) * c.sweepStep + 3 * c.P)

theorem lone_listen_noop {cfg : Cfg} {n : Net} {x : Nat} {st : NetStation} {l : Int} (h : Solo cfg n x st l) (hok : cfg.Ok)
    (coll : Nat) (hst : st.s.st = .listenToken none coll) (now : Int) (hown : n.bus.seen.getD x 0 < now)
    (hw : now < l + (st.s.p.tokenLostTimeout : Nat)) :
    ∃ n' c, n.poll x now = (n', [], some (.ok c)) ∧ c.tx = none ∧ Solo cfg n' x st l ∧
      n'.bus = { n.bus with seen := n.bus.seen.set x now } ∧ n'.stations = n.stations := by
  obtain ⟨n', hp, hS, hbus, hset⟩ := solo_noop h hok.rate now hown (by rw [hst]; simp) (by rw [hst]; simp)
    (fun hlt => listen_dispatch_quiet _ now l coll hst rfl h.stamp hw hlt)
  exact ⟨n', _, hp, rfl, hS, hbus, hset⟩

theorem lone_listen_claim {cfg : Cfg} {n : Net} {x : Nat} {st : NetStation} {l : Int} (h : Solo cfg n x st l) (hok : cfg.Ok)
    (coll : Nat) (hst : st.s.st = .listenToken none coll) (now : Int) (hown : n.bus.seen.getD x 0 < now)
    (hexp : l + (st.s.p.tokenLostTimeout : Nat) ≤ now) (hsync : cfg.b33 < st.s.p.tokenLostTimeout)
    (hv : RingView [st.s.p.address] st.s.p.address st.s.ring.claimToken) :
    ∃ c, n.poll x now = (n.polled x now st c, [], some (.ok c)) ∧ c.tx = some (selfToken st.s.p.address) ∧
      Solo cfg (n.polled x now st c) x (upSt st c) (now + (cfg.b33 : Nat)) ∧ SStage.c2.ok c.s ∧
      RingView [st.s.p.address] st.s.p.address c.s.ring ∧ c.s.p = st.s.p ∧ c.s.pendingBytes = st.s.pendingBytes := by
  have hno : st.s.st ≠ .offline ∧ st.s.st ≠ .passiveIdle := by rw [hst]; simp
  have hc2 := cfg.ce2 hok.rate
  have hb33 := h.b33
  have hd : dispatch { s := st.s, apps := st.apps, rx := [] } now =
      .ok { s := claimTokS { st.s with st := .claimToken .firstToken } now .firstToken, apps := st.apps, rx := [],
            tx := some (selfToken st.s.p.address) } := by
    exact idle_claim_exact { s := st.s, apps := st.apps, rx := [] } now l ⟨h.son, rfl, rfl, h.stamp⟩ (.inr ⟨none, coll, hst⟩)
      (by show (now - l).natAbs ≥ st.s.p.tokenLostTimeout; omega)
      (by show l + ((st.s.p.bits 33 : Nat) : Int) < now; rw [hb33]; omega)
  have hst' : (claimTokS { st.s with st := .claimToken .firstToken } now .firstToken).lastBusActivity = some (now + (cfg.b33 : Nat)) := by
    unfold claimTokS markTx
    simp only
    rw [show st.s.p.bits (11 * 3) = cfg.b33 from h.bits 33]
  obtain ⟨hp, hS⟩ := solo_step h hok.rate now hown (by omega) _ hno.1 hno.2 hd (now + (cfg.b33 : Nat)) h.son rfl rfl hst'
    (by omega) (fun b hb => by
      cases hb
      refine ⟨by show 0 < 3; omega, ?_⟩
      show now + ((cfg.ce 2 : Nat) : Int) ≤ _
      omega)
  exact ⟨_, hp, rfl, hS, rfl, hv, rfl, rfl⟩

/-- **Run of a station that is alone on a silent bus** (`T` = stamp + token-lost time-out, `lim` = latest time of
the first claim, `D` = time budget of the formation): every poll returns regularly and receives nothing; nothing
is transmitted before `T`; the first poll at or after `T`, no later than `lim`, transmits the first claim token;
from there the run is a `FormRun` that completes no later than `D` after that poll. -/
def LoneRun (x ts : Nat) (T lim : Int) (D : Nat) : Net → List Int → Prop
  | _, [] => True
  | n, now :: rest =>
    ∃ n' c, n.poll x now = (n', [], some (.ok c)) ∧
      ((c.tx = none ∧ now < T ∧ LoneRun x ts T lim D n' rest) ∨
       (T ≤ now ∧ now ≤ lim ∧ c.tx = some (selfToken ts) ∧ c.s.st = .claimToken .secondToken ∧
          FormRun x ts (now + (D : Int)) n' rest))

theorem remGap_self (ts hsa : Nat) (h : ts < hsa) : remGap ts hsa ts = hsa - 1 := by
  unfold remGap; rw [if_neg (by omega)]; omega

theorem lone_cold_start {cfg : Cfg} (hok : cfg.Ok) (x : Nat) (st : NetStation) (l : Int) (coll : Nat) (S : Int) :
    ∀ (evs : List Int) (n : Net), Solo cfg n x st l → st.s.st = .listenToken none coll →
    cfg.b33 < st.s.p.tokenLostTimeout → RingView [st.s.p.address] st.s.p.address st.s.ring.claimToken →
    n.bus.seen.getD x 0 ≤ S → l + (st.s.p.tokenLostTimeout : Nat) ≤ S → SchedXT cfg.P (n.bus.seen.getD x 0) evs →
    LoneRun x st.s.p.address (l + (st.s.p.tokenLostTimeout : Nat)) (S + (cfg.P : Nat)) (cfg.formTime st.s.p.hsa) n evs := by
  intro evs
  induction evs with
  | nil => intro _ _ _ _ _ _ _ _; trivial
  | cons now rest ih =>
    intro n h hst hsync hv hS hT hsch
    obtain ⟨hlt, hle, hrest⟩ := hsch
    by_cases hw : now < l + (st.s.p.tokenLostTimeout : Nat)
    · obtain ⟨n', c, hp, htx, hS', hbus, -⟩ := lone_listen_noop h hok coll hst now hlt hw
      have hseen : n'.bus.seen.getD x 0 = now := by rw [hbus]; exact seen_set_self _ _ _ h.xs
      refine ⟨n', c, hp, .inl ⟨htx, hw, ?_⟩⟩
      exact ih n' hS' hst hsync hv (by rw [hseen]; omega) hT (by rw [hseen]; exact hrest)
    · obtain ⟨c, hp, htx, hS', hs2, hv', hp', -⟩ := lone_listen_claim h hok coll hst now hlt (by omega) hsync hv
      have hseen := h.polled_seen now c
      refine ⟨_, c, hp, .inr ⟨by omega, by omega, htx, hs2, ?_⟩⟩
      have e1 : (upSt st c).s.p.address = st.s.p.address := by show c.s.p.address = _; rw [hp']
      have e2 : (upSt st c).s.p.hsa = st.s.p.hsa := by show c.s.p.hsa = _; rw [hp']
      refine solo_forms hok x st.s.p.address st.s.p.hsa (now + (cfg.formTime st.s.p.hsa : Nat)) rest _ (upSt st c)
        (now + (cfg.b33 : Nat)) .c2 hS' hs2 e1 e2 hv' ?_ (by rw [hseen]; exact hrest)
      rw [hseen]
      simp only [SStage.wait, SStage.rest, remGap_self _ _ h.inv.addr]
      unfold Cfg.formTime
      push_cast
      omega

end PV
