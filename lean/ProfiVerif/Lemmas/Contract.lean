/-
The FDL→application contract (C15) as an automaton over the callback log of a station, and the one theorem that ties
it to the station model: the callbacks of every poll run the automaton from the request the station awaits the reply
to before the poll to the one it awaits afterwards (`poll_contract`).  The state of the automaton is the outstanding
request: the application that made it and the address the reply is due from; `Last` reads it off a log.  The
compositions FDL ∘ DP (`Lemmas/Stack.lean`) and FDL ∘ LiveList / DpScanner (`Lemmas/StackApps.lean`) show that their
history relations (`Dp.gstep`, `Apps.gstep`) accept whatever the automaton accepts.
-/
import ProfiVerif.Lemmas.StationTrace

namespace PV

/-- The address the station awaits a data reply from. -/
def Station.awaited (s : Station) : Option Nat :=
  match s.st with
  | .awaitData a _ => some a
  | _ => none

theorem Station.awaited_eq {s : Station} {a : Nat} : s.awaited = some a ↔ ∃ d, s.st = .awaitData a d := by
  unfold Station.awaited
  constructor
  · intro h
    split at h
    · cases h; exact ⟨_, by assumption⟩
    · cases h
  · rintro ⟨d, h⟩; rw [h]

namespace Contract

/-- The request outstanding after application `i` answered `transmit_telegram` with `ans`: `(i, address)` if the
telegram expects a reply. -/
def askedBy (i : Nat) : AppAnswer → Option (Nat × Nat)
  | .send hd _ => (expectsReplyOf hd).map fun a8 => (i, a8.toNat)
  | .decline => none

/-- … and the address alone. -/
def asked : AppAnswer → Option Nat
  | .send hd _ => (expectsReplyOf hd).map (·.toNat)
  | .decline => none

theorem askedBy_snd (i : Nat) (ans : AppAnswer) : (askedBy i ans).map (·.2) = asked ans := by
  cases ans with
  | decline => rfl
  | send hd pdu => simp only [askedBy, asked, Option.map_map]; rfl

/-- One callback; `o` is the outstanding request.  `none` = the contract forbids it: a reply or time-out goes to the
application that asked, for the address it asked, and a reply has passed the admission filter. -/
def step (own : Nat) (o : Option (Nat × Nat)) : AppCall → Option (Option (Nat × Nat))
  | .transmit i _ ans => some (askedBy i ans)
  | .reply i a t => if o = some (i, a) ∧ validReplyB own a t = true then some none else none
  | .timeout i a => if o = some (i, a) then some none else none

def run (own : Nat) : Option (Nat × Nat) → List AppCall → Option (Option (Nat × Nat))
  | o, [] => some o
  | o, c :: cs => (step own o c).bind fun o' => run own o' cs

theorem run_cons_inv {own : Nat} {o o' : Option (Nat × Nat)} {c : AppCall} {cs : List AppCall}
    (h : run own o (c :: cs) = some o') : ∃ o1, step own o c = some o1 ∧ run own o1 cs = some o' := by
  simp only [run] at h
  cases hs : step own o c with
  | none => rw [hs] at h; cases h
  | some o1 => rw [hs] at h; exact ⟨o1, rfl, h⟩

theorem step_reply_inv {own : Nat} {o o' : Option (Nat × Nat)} {i a : Nat} {t : Telegram}
    (h : step own o (.reply i a t) = some o') : o = some (i, a) ∧ validReplyB own a t = true ∧ o' = none := by
  simp only [step] at h
  split at h
  · rename_i hc; cases h; exact ⟨hc.1, hc.2, rfl⟩
  · cases h

theorem step_timeout_inv {own : Nat} {o o' : Option (Nat × Nat)} {i a : Nat}
    (h : step own o (.timeout i a) = some o') : o = some (i, a) ∧ o' = none := by
  simp only [step] at h
  split at h
  · rename_i hc; cases h; exact ⟨hc, rfl⟩
  · cases h

/-- A run of `transmit_telegram` callbacks is always allowed; what is outstanding afterwards is what the
last answer asks for. -/
theorem run_asks (own : Nat) : ∀ (new : List AppCall), AskRun new → ∀ o,
    ∃ o', run own o new = some o' ∧ (new = [] → o' = o) ∧
      ∀ pre i hp ans, new = pre ++ [.transmit i hp ans] → o' = askedBy i ans := by
  intro new
  induction new with
  | nil => intro _ o; exact ⟨o, rfl, fun _ => rfl, fun pre i hp ans he => by simp at he⟩
  | cons c rest ih =>
    intro har o
    obtain ⟨i, hp, ans, rfl⟩ := har c (List.mem_cons_self ..)
    obtain ⟨o', hr, hnil, hlast⟩ := ih (fun r hr => har r (List.mem_cons_of_mem _ hr)) (askedBy i ans)
    refine ⟨o', by simpa only [run, step, Option.bind_some] using hr, (by intro he; cases he), ?_⟩
    intro pre j hp' ans' he
    cases pre with
    | nil =>
      simp only [List.nil_append, List.cons.injEq, AppCall.transmit.injEq] at he
      obtain ⟨⟨rfl, -, rfl⟩, he2⟩ := he
      exact hnil he2
    | cons y ys =>
      simp only [List.cons_append, List.cons.injEq] at he
      exact hlast ys j hp' ans' he.2

theorem asks_link {own : Nat} {new : List AppCall} {s : Station} (har : AskRun new) (hl : AwaitLink new s)
    (o : Option (Nat × Nat)) :
    ∃ o', run own o new = some o' ∧ (new = [] → o' = o) ∧ ∀ a, s.awaited = some a → o' = some (s.nextApp, a) := by
  obtain ⟨o', hr, hnil, hlast⟩ := run_asks own new har o
  refine ⟨o', hr, hnil, fun a ha => ?_⟩
  obtain ⟨d, hst⟩ := Station.awaited_eq.mp ha
  obtain ⟨pre, hp, hd, pdu, a8, e1, e2, e3⟩ := hl a d hst
  rw [hlast pre _ hp _ e1]
  simp only [askedBy, e2, Option.map_some, e3]

/-- What the state of the automaton says of the log that led to it: an outstanding request is the last callback. -/
def Last (log : List AppCall) (o : Option (Nat × Nat)) : Prop :=
  ∀ i a, o = some (i, a) → ∃ pre hp hd pdu a8,
    log = pre ++ [.transmit i hp (.send hd pdu)] ∧ expectsReplyOf hd = some a8 ∧ a8.toNat = a

theorem last_none (log : List AppCall) : Last log none := fun _ _ h => by cases h

theorem step_last {own : Nat} {o o' : Option (Nat × Nat)} {c : AppCall} (log : List AppCall)
    (h : step own o c = some o') : Last (log ++ [c]) o' := by
  cases c with
  | transmit i hp ans =>
    cases h
    intro j a he
    cases ans with
    | decline => cases he
    | send hd pdu =>
      obtain ⟨a8, e1, e2⟩ := Option.map_eq_some_iff.mp he
      cases e2
      exact ⟨log, hp, hd, pdu, a8, rfl, e1, rfl⟩
  | reply i a t => rw [(step_reply_inv h).2.2]; exact last_none _
  | timeout i a => rw [(step_timeout_inv h).2]; exact last_none _

end Contract

/-- **The callbacks of one poll keep the contract**: if the request the station awaits the reply to before the poll
is outstanding (`o`), the automaton accepts the callbacks of the poll, and the request the station awaits the reply to
afterwards is outstanding then. -/
theorem poll_contract (s : Station) (apps : Apps) (now : Int) (phy : Bool) (rx : Bytes) (c' : Ctx)
    (h : s.poll apps now phy rx = .ok c') {o : Option (Nat × Nat)}
    (ho : ∀ a, s.awaited = some a → o = some (s.nextApp, a)) :
    ∃ o', Contract.run s.p.address o c'.calls = some o' ∧ ∀ a, c'.s.awaited = some a → o' = some (c'.s.nextApp, a) := by
  rcases poll_calls s apps now phy rx c' h with ⟨hc, hkeep⟩ | ⟨-, -, har, hlink⟩ | ⟨-, a, d, hst, hcase⟩
  · refine ⟨o, by rw [hc]; rfl, fun a ha => ?_⟩
    obtain ⟨d, hd⟩ := Station.awaited_eq.mp ha
    obtain ⟨h1, h2⟩ := hkeep a d hd
    rw [h2]
    exact ho a (Station.awaited_eq.mpr ⟨d, h1⟩)
  · obtain ⟨o', hr, -, hl⟩ := Contract.asks_link (own := s.p.address) har hlink o
    exact ⟨o', hr, hl⟩
  · have hoa := ho a (Station.awaited_eq.mpr ⟨d, hst⟩)
    rcases hcase with ⟨t, hv, hc, hs'⟩ | ⟨new, hc, har, hlink⟩
    · refine ⟨none, by simp [hc, Contract.run, Contract.step, hoa, hv], fun a' ha' => ?_⟩
      obtain ⟨d', hd'⟩ := Station.awaited_eq.mp ha'
      rw [hs'] at hd'; cases hd'
    · obtain ⟨o', hr, -, hl⟩ := Contract.asks_link (own := s.p.address) har hlink none
      exact ⟨o', by simpa [hc, Contract.run, Contract.step, hoa] using hr, hl⟩

end PV
