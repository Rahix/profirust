/-
Cyclic neighbours as the two ends of an empty cyclic interval.  `Between a b x`: `x` lies strictly inside the
interval that starts behind `a` and runs upwards, wrapping round, to just before `b` (everything but `a` when
`b = a`); `Gapless L a b`: no member of `L` does.  The cyclic successor `n` of `ts` in `L` is the one address of
`L ∪ {ts}` with `Gapless L ts n`, the predecessor `p` the one with `Gapless L p ts` (`cycSucc_iff`,
`cycPred_iff`): one relation read from its two ends, over the same interval that a token pass `a → b` sweeps
(`inPassGap_iff`); the GAP of `Model/Gap.lean` is that interval cut off at HSA (`inGap_iff`, `Lemmas/Gap.lean`).
-/
import ProfiVerif.Model.TokenRing

namespace PV
namespace TokenRing

/-- Cyclic successor of `ts` in the address set listed by `L` (no order or distinctness assumed);
`ts` itself if `L` is empty. -/
def cycSucc (ts : Nat) (L : List Nat) : Nat :=
  match (L.filter fun a => ts < a).min? with
  | some a => a
  | none =>
    match L.min? with
    | some a => a
    | none => ts

def cycPred (ts : Nat) (L : List Nat) : Nat :=
  match (L.filter fun a => a < ts).max? with
  | some a => a
  | none =>
    match L.max? with
    | some a => a
    | none => ts

/-- `x` lies strictly inside the cyclic interval that starts behind `h` and ends before `n`
(every address but `h` when `n = h`): the GAP of a station `h` with successor `n`, without the HSA bound. -/
def Between (h n x : Nat) : Prop :=
  x ≠ h ∧ (if h < n then h < x ∧ x < n else if n < h then h < x ∨ x < n else True)

instance (h n x : Nat) : Decidable (Between h n x) := by unfold Between; infer_instance

theorem between_arith (h n x : Nat) :
    Between h n x ↔ x ≠ h ∧ ((h < n ∧ h < x ∧ x < n) ∨ (n < h ∧ (h < x ∨ x < n)) ∨ n = h) := by
  unfold Between
  by_cases c1 : h < n
  · rw [if_pos c1]; constructor <;> intro hh <;> omega
  · rw [if_neg c1]
    by_cases c2 : n < h
    · rw [if_pos c2]; constructor <;> intro hh <;> omega
    · rw [if_neg c2]; constructor <;> intro hh
      · exact ⟨hh.1, by omega⟩
      · exact ⟨hh.1, trivial⟩

theorem inPassGap_iff (sa da a : Nat) : inPassGap sa da a = true ↔ a = sa ∨ Between sa da a := by
  rw [between_arith]
  unfold inPassGap
  by_cases c : da > sa
  · rw [if_pos c]; simp only [decide_eq_true_eq]; omega
  · rw [if_neg c]; simp only [decide_eq_true_eq]; omega

def Gapless (L : List Nat) (a b : Nat) : Prop := ∀ x ∈ L, ¬ Between a b x

theorem Gapless.mono {L L' : List Nat} {a b : Nat} (h : ∀ x, x ∈ L' → x ∈ L) (g : Gapless L a b) : Gapless L' a b :=
  fun x hx => g x (h x hx)

theorem Gapless.cons_left {L : List Nat} {a b : Nat} (g : Gapless L a b) : Gapless (a :: L) a b := by
  intro x hx hb
  rcases List.mem_cons.mp hx with rfl | hx
  · exact hb.1 rfl
  · exact g x hx hb

theorem Gapless.cons_right {L : List Nat} {a b : Nat} (g : Gapless L a b) (hne : b ≠ a) : Gapless (b :: L) a b := by
  intro x hx hb
  rcases List.mem_cons.mp hx with rfl | hx
  · rw [between_arith] at hb; omega
  · exact g x hx hb

theorem Gapless.left {L : List Nat} {h n a : Nat} (g : Gapless L h n) (ha : Between h n a) : Gapless L h a := by
  intro x hx hb
  apply g x hx
  rw [between_arith] at ha hb ⊢
  omega

theorem Gapless.right {L : List Nat} {h n a : Nat} (g : Gapless L h n) (ha : Between h n a) : Gapless L a n := by
  intro x hx hb
  by_cases e : x = h
  · subst e
    rw [between_arith] at ha hb
    omega
  · apply g x hx
    rw [between_arith] at ha hb ⊢
    omega

/-- The far end of an empty interval is determined by the near end: on either side. -/
theorem gapless_right_unique {L : List Nat} {ts n m : Nat} (hn : n = ts ∨ n ∈ L) (gn : Gapless L ts n)
    (hm : m = ts ∨ m ∈ L) (gm : Gapless L ts m) : n = m := by
  have a : n ≠ ts → ¬ Between ts m n := fun c => gm n (hn.resolve_left c)
  have b : m ≠ ts → ¬ Between ts n m := fun c => gn m (hm.resolve_left c)
  simp only [between_arith] at a b
  omega

theorem gapless_left_unique {L : List Nat} {ts p q : Nat} (hp : p = ts ∨ p ∈ L) (gp : Gapless L p ts)
    (hq : q = ts ∨ q ∈ L) (gq : Gapless L q ts) : p = q := by
  have a : p ≠ ts → ¬ Between q ts p := fun c => gq p (hp.resolve_left c)
  have b : q ≠ ts → ¬ Between p ts q := fun c => gp q (hq.resolve_left c)
  simp only [between_arith] at a b
  omega

theorem cycSucc_gapless (ts : Nat) (L : List Nat) :
    (cycSucc ts L = ts ∨ cycSucc ts L ∈ L) ∧ Gapless L ts (cycSucc ts L) := by
  unfold cycSucc
  cases h1 : (L.filter fun a => ts < a).min? with
  | some n =>
    have h := List.min?_eq_some_iff.mp h1
    have hn : n ∈ L ∧ ts < n := by simpa using h.1
    show (n = ts ∨ n ∈ L) ∧ Gapless L ts n
    refine ⟨.inr hn.1, fun x hx hb => ?_⟩
    rw [between_arith] at hb
    have := h.2 x (by simp only [List.mem_filter, decide_eq_true_eq]; exact ⟨hx, by omega⟩)
    omega
  | none =>
    have hle : ∀ a ∈ L, a ≤ ts := fun a ha => Nat.le_of_not_lt fun hlt => by
      have : a ∈ L.filter fun a => ts < a := by simp [ha, hlt]
      rw [List.min?_eq_none_iff.mp h1] at this
      cases this
    cases h2 : L.min? with
    | some n =>
      have h := List.min?_eq_some_iff.mp h2
      show (n = ts ∨ n ∈ L) ∧ Gapless L ts n
      refine ⟨.inr h.1, fun x hx hb => ?_⟩
      rw [between_arith] at hb
      have := h.2 x hx
      have := hle x hx
      have := hle n h.1
      omega
    | none =>
      rw [List.min?_eq_none_iff.mp h2]
      exact ⟨.inl rfl, fun x hx => nomatch hx⟩

theorem cycPred_gapless (ts : Nat) (L : List Nat) :
    (cycPred ts L = ts ∨ cycPred ts L ∈ L) ∧ Gapless L (cycPred ts L) ts := by
  unfold cycPred
  cases h1 : (L.filter fun a => a < ts).max? with
  | some n =>
    have h := List.max?_eq_some_iff.mp h1
    have hn : n ∈ L ∧ n < ts := by simpa using h.1
    show (n = ts ∨ n ∈ L) ∧ Gapless L n ts
    refine ⟨.inr hn.1, fun x hx hb => ?_⟩
    rw [between_arith] at hb
    have := h.2 x (by simp only [List.mem_filter, decide_eq_true_eq]; exact ⟨hx, by omega⟩)
    omega
  | none =>
    have hle : ∀ a ∈ L, ts ≤ a := fun a ha => Nat.le_of_not_lt fun hlt => by
      have : a ∈ L.filter fun a => a < ts := by simp [ha, hlt]
      rw [List.max?_eq_none_iff.mp h1] at this
      cases this
    cases h2 : L.max? with
    | some n =>
      have h := List.max?_eq_some_iff.mp h2
      show (n = ts ∨ n ∈ L) ∧ Gapless L n ts
      refine ⟨.inr h.1, fun x hx hb => ?_⟩
      rw [between_arith] at hb
      have := h.2 x hx
      have := hle x hx
      have := hle n h.1
      omega
    | none =>
      rw [List.max?_eq_none_iff.mp h2]
      exact ⟨.inl rfl, fun x hx => nomatch hx⟩

theorem cycSucc_iff {ts n : Nat} {L : List Nat} : n = cycSucc ts L ↔ (n = ts ∨ n ∈ L) ∧ Gapless L ts n :=
  ⟨fun h => h ▸ cycSucc_gapless ts L,
   fun h => gapless_right_unique h.1 h.2 (cycSucc_gapless ts L).1 (cycSucc_gapless ts L).2⟩

theorem cycPred_iff {ts p : Nat} {L : List Nat} : p = cycPred ts L ↔ (p = ts ∨ p ∈ L) ∧ Gapless L p ts :=
  ⟨fun h => h ▸ cycPred_gapless ts L,
   fun h => gapless_left_unique h.1 h.2 (cycPred_gapless ts L).1 (cycPred_gapless ts L).2⟩

theorem cycSucc_mem (h : Nat) (M : List Nat) (hh : h ∈ M) : cycSucc h M ∈ M :=
  (cycSucc_gapless h M).1.elim (fun e => e.symm ▸ hh) id

theorem cycPred_cycSucc (h : Nat) (M : List Nat) (hh : h ∈ M) : cycPred (cycSucc h M) M = h :=
  ((cycPred_iff (ts := cycSucc h M) (p := h)).mpr ⟨.inr hh, (cycSucc_gapless h M).2⟩).symm

theorem cycSucc_congr (ts : Nat) (L L' : List Nat) (h : ∀ a, a ∈ L ↔ a ∈ L') : cycSucc ts L = cycSucc ts L' :=
  cycSucc_iff.mpr ⟨(cycSucc_gapless ts L).1.imp id (h _).mp, (cycSucc_gapless ts L).2.mono fun x => (h x).mpr⟩

theorem cycPred_congr (ts : Nat) (L L' : List Nat) (h : ∀ a, a ∈ L ↔ a ∈ L') : cycPred ts L = cycPred ts L' :=
  cycPred_iff.mpr ⟨(cycPred_gapless ts L).1.imp id (h _).mp, (cycPred_gapless ts L).2.mono fun x => (h x).mpr⟩

/-- The LAS of a station that is not in the ring does not contain its own address: the neighbours in `L` are
those in `L ∪ {TS}`. -/
theorem cycSucc_cons_self (ts : Nat) (L : List Nat) : cycSucc ts (ts :: L) = cycSucc ts L :=
  (cycSucc_iff.mpr ⟨(cycSucc_gapless ts L).1.imp id (List.mem_cons_of_mem _), (cycSucc_gapless ts L).2.cons_left⟩).symm

theorem cycPred_cons_self (ts : Nat) (L : List Nat) : cycPred ts (ts :: L) = cycPred ts L := by
  refine (cycPred_iff.mpr ⟨(cycPred_gapless ts L).1.imp id (List.mem_cons_of_mem _), fun x hx hb => ?_⟩).symm
  rcases List.mem_cons.mp hx with e | hx
  · rw [between_arith] at hb; omega
  · exact (cycPred_gapless ts L).2 x hx hb

theorem cycSucc_alone (ts : Nat) (L : List Nat) (hm : ∀ a ∈ L, a = ts) : cycSucc ts L = ts :=
  (cycSucc_iff.mpr ⟨.inl rfl, fun x hx hb => hb.1 (hm x hx)⟩).symm

theorem cycPred_alone (ts : Nat) (L : List Nat) (hm : ∀ a ∈ L, a = ts) : cycPred ts L = ts :=
  (cycPred_iff.mpr ⟨.inl rfl, fun x hx hb => hb.1 (hm x hx)⟩).symm

/-- A station entering in the GAP of `h`: `h` is its predecessor and the old successor of `h` its successor. -/
theorem cycPred_of_between (h a : Nat) (M : List Nat) (hh : h ∈ M) (hb : Between h (cycSucc h M) a) :
    cycPred a M = h :=
  (cycPred_iff.mpr ⟨.inr hh, (cycSucc_gapless h M).2.left hb⟩).symm

theorem cycSucc_of_between (h a : Nat) (M : List Nat) (hh : h ∈ M) (hb : Between h (cycSucc h M) a) :
    cycSucc a M = cycSucc h M :=
  (cycSucc_iff.mpr ⟨.inr (cycSucc_mem h M hh), (cycSucc_gapless h M).2.right hb⟩).symm

theorem cycSucc_above {ts : Nat} {L : List Nat} (h : ∃ a ∈ L, ts < a) :
    cycSucc ts L ∈ L ∧ ts < cycSucc ts L ∧ ∀ a ∈ L, ts < a → cycSucc ts L ≤ a := by
  obtain ⟨hm, g⟩ := cycSucc_gapless ts L
  obtain ⟨a, ha, hlt⟩ := h
  have ka := g a ha
  rw [between_arith] at ka
  have hgt : ts < cycSucc ts L := by omega
  refine ⟨hm.resolve_left (by omega), hgt, fun b hb hlt' => ?_⟩
  have kb := g b hb
  rw [between_arith] at kb
  omega

theorem cycSucc_wrap {ts : Nat} {L : List Nat} (hall : ∀ a ∈ L, a ≤ ts) (hne : ∃ a, a ∈ L) :
    cycSucc ts L ∈ L ∧ ∀ a ∈ L, cycSucc ts L ≤ a := by
  obtain ⟨hm, g⟩ := cycSucc_gapless ts L
  obtain ⟨a, ha⟩ := hne
  have hmem : cycSucc ts L ∈ L := by
    rcases hm with e | hm
    · have ka := g a ha
      rw [between_arith, e] at ka
      have := hall a ha
      have : a = ts := by omega
      rw [e, ← this]; exact ha
    · exact hm
  refine ⟨hmem, fun b hb => ?_⟩
  have kb := g b hb
  rw [between_arith] at kb
  have := hall b hb
  have := hall _ hmem
  omega

theorem cycPred_below {ts : Nat} {L : List Nat} (h : ∃ a ∈ L, a < ts) :
    cycPred ts L ∈ L ∧ cycPred ts L < ts ∧ ∀ a ∈ L, a < ts → a ≤ cycPred ts L := by
  obtain ⟨hm, g⟩ := cycPred_gapless ts L
  obtain ⟨a, ha, hlt⟩ := h
  have ka := g a ha
  rw [between_arith] at ka
  have hgt : cycPred ts L < ts := by omega
  refine ⟨hm.resolve_left (by omega), hgt, fun b hb hlt' => ?_⟩
  have kb := g b hb
  rw [between_arith] at kb
  omega

theorem cycPred_wrap {ts : Nat} {L : List Nat} (hall : ∀ a ∈ L, ts ≤ a) (hne : ∃ a, a ∈ L) :
    cycPred ts L ∈ L ∧ ∀ a ∈ L, a ≤ cycPred ts L := by
  obtain ⟨hm, g⟩ := cycPred_gapless ts L
  obtain ⟨a, ha⟩ := hne
  have hmem : cycPred ts L ∈ L := by
    rcases hm with e | hm
    · have ka := g a ha
      rw [between_arith, e] at ka
      have := hall a ha
      have : a = ts := by omega
      rw [e, ← this]; exact ha
    · exact hm
  refine ⟨hmem, fun b hb => ?_⟩
  have kb := g b hb
  rw [between_arith] at kb
  have := hall b hb
  have := hall _ hmem
  omega

end TokenRing
end PV
