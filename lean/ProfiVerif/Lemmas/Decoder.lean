/-
The decoder refines a flat, slice-free, panic-free specification (`decode_eq_spec : deserialize = decodeSpec`);
list and checksum lemmas for `Lemmas/Frame.lean`, which brings the specification into its normal form.
-/
import ProfiVerif.Model.TelegramSpec
namespace PV

theorem body_eq_spec (b : Bytes) (len total : Nat) : deserializeBody b len total = bodySpec b len total := by
  unfold deserializeBody bodySpec
  split
  · rfl
  · rename_i hlen
    rw [if_neg (by omega)]
    simp only
    cases hfc : FunctionCode.fromByte (b.getD 3 0) with
    | error e => rfl
    | ok fc =>
      simp only
      rw [if_neg (by omega)]
      have hl4 : (b.drop 4).length = b.length - 4 := by simp
      have hne : ¬ (b.length - 4 = 0) := by omega
      have hne5 : ¬ (b.length - 5 = 0) := by omega
      -- four cases: DSAP / SSAP byte there or not.  From `len + 6 ≤ b.length` no bounds check of `takeSap` / `finishData`
      -- fires; `takeSap` rejects exactly when `len < sapCount b` (the sub-cases `len = 0`, `len = 1`)
      by_cases hD : b[1]?.getD 0 &&& 128 = 0 <;> by_cases hS : b[2]?.getD 0 &&& 128 = 0
      · simp [takeSap, finishData, sapCount, headerOf, hasDsapBit, hasSsapBit, hD, hS]
        rw [if_neg (by omega), if_neg (by omega)]
        simp only [Nat.add_comm, Nat.add_assoc]
      · simp [takeSap, finishData, sapCount, headerOf, hasDsapBit, hasSsapBit, hD, hS, hne]
        by_cases hl0 : len = 0
        · simp [hl0]
        · obtain ⟨m, rfl⟩ : ∃ m, len = m + 1 := ⟨len - 1, by omega⟩
          simp
          rw [if_neg (by omega), if_neg (by omega)]
          simp only [Nat.add_comm, Nat.add_assoc]
      · simp [takeSap, finishData, sapCount, headerOf, hasDsapBit, hasSsapBit, hD, hS, hne]
        by_cases hl0 : len = 0
        · simp [hl0]
        · obtain ⟨m, rfl⟩ : ∃ m, len = m + 1 := ⟨len - 1, by omega⟩
          simp
          rw [if_neg (by omega), if_neg (by omega)]
          simp only [Nat.add_comm, Nat.add_assoc]
      · simp [takeSap, finishData, sapCount, headerOf, hasDsapBit, hasSsapBit, hD, hS, hne]
        by_cases hl0 : len = 0
        · simp [hl0]
        · by_cases hl1 : len = 1
          · subst hl1
            have : ¬ (List.drop 5 b = []) := by
              intro h; have := congrArg List.length h; simp at this; omega
            simp [this]
          · obtain ⟨m, rfl⟩ : ∃ m, len = m + 2 := ⟨len - 2, by omega⟩
            have : ¬ (List.drop 5 b = []) := by
              intro h; have := congrArg List.length h; simp at this; omega
            simp [this]
            rw [if_neg (by omega), if_neg (by omega)]
            have e : ¬ (m + 2 < 2) := by omega
            simp [e, Nat.add_assoc]
            have e1 : 6 + m = m + 6 := by omega
            have e2 : 6 + (m + 1) = m + 7 := by omega
            rw [e1, e2]

theorem data_eq_spec (bs : Bytes) : deserializeData bs = dataSpec bs := by
  unfold deserializeData dataSpec
  simp only [body_eq_spec]
  split
  · rfl
  · rename_i h
    have : (bs.drop 3).getD 0 0 = bs.getD 3 0 := by
      simp [List.getD_eq_getElem?_getD]
    simp only [this]

theorem decode_eq_spec (bs : Bytes) : deserialize bs = decodeSpec bs := by
  unfold deserialize decodeSpec
  simp only [data_eq_spec]
  split
  · rfl
  · split
    · rfl
    · split
      · rename_i h4
        unfold deserializeToken
        split
        · rfl
        · rw [if_neg (by simpa using h4)]
      · rfl

theorem getD_append_lt (b ext : Bytes) (i : Nat) (h : i < b.length) :
    (b ++ ext).getD i 0 = b.getD i 0 := by
  simp [List.getD_eq_getElem?_getD, List.getElem?_append_left h]

theorem take_drop_append (b ext : Bytes) (n m : Nat) (h : n + m ≤ b.length) :
    ((b ++ ext).drop n).take m = (b.drop n).take m := by
  rw [List.drop_append_of_le_length (by omega), List.take_append_of_le_length (by simp; omega)]

theorem getD_drop (bs : Bytes) (k i : Nat) : (bs.drop k).getD i 0 = bs.getD (k + i) 0 := by
  simp [List.getD_eq_getElem?_getD]

theorem foldl_add_acc (l : Bytes) (a : UInt8) : l.foldl (· + ·) a = a + l.foldl (· + ·) 0 := by
  induction l generalizing a with
  | nil => simp
  | cons x xs ih =>
    simp only [List.foldl_cons]
    rw [ih (a + x), ih (0 + x)]
    simp [UInt8.add_assoc]

theorem checksum_cons (x : UInt8) (l : Bytes) : checksum (x :: l) = x + checksum l := by
  unfold checksum
  simp only [List.foldl_cons]
  rw [foldl_add_acc]
  simp

theorem checksum_set_ne (l : Bytes) (i : Nat) (v : UInt8) (hi : i < l.length) (hv : v ≠ l.getD i 0) :
    checksum (l.set i v) ≠ checksum l := by
  induction l generalizing i with
  | nil => simp at hi
  | cons x xs ih =>
    cases i with
    | zero =>
      simp only [List.set_cons_zero, checksum_cons]
      simp at hv
      intro h
      exact hv ((UInt8.add_left_inj _).mp h)
    | succ j =>
      simp only [List.set_cons_succ, checksum_cons]
      intro h
      have := (UInt8.add_right_inj _).mp h
      exact ih j (by simpa using hi) (by simpa using hv) this

theorem getD_set_append_ne (F ext : Bytes) (i j : Nat) (v : UInt8) (hj : j < F.length) (hne : j ≠ i) :
    (F.set i v ++ ext).getD j 0 = F.getD j 0 := by
  rw [getD_append_lt _ _ _ (by simpa using hj)]
  simp [List.getD_eq_getElem?_getD, Ne.symm hne]

theorem getD_set_append_eq (F ext : Bytes) (i : Nat) (v : UInt8) (hi : i < F.length) :
    (F.set i v ++ ext).getD i 0 = v := by
  rw [getD_append_lt _ _ _ (by simpa using hi)]
  simp [List.getD_eq_getElem?_getD, hi]

theorem region_getD (F : Bytes) (i a m : Nat) (h1 : a ≤ i) (h2 : i < a + m) :
    ((F.drop a).take m).getD (i - a) 0 = F.getD i 0 := by
  obtain ⟨k, rfl⟩ : ∃ k, i = a + k := ⟨i - a, by omega⟩
  have e : a + k - a = k := by omega
  have e2 : k < m := by omega
  simp [List.getD_eq_getElem?_getD, List.getElem?_drop, e, e2]

end PV
