/-
Helper lemmas for C17 (`Props/C17.lean`): the six header bytes as numbers, the masks and shifts of the
block header / channel bytes as `/` and `%`, the iterator against the recursive specification, tiling,
identifier bits.
-/
import ProfiVerif.Model.Diag
import ProfiVerif.Lemmas.Bytes
namespace PV.Diag
open PV

theorem le16_toNat (b0 b1 : UInt8) : (le16 b0 b1).toNat = b0.toNat + 256 * b1.toNat := by
  unfold le16
  have h0 := b0.toNat_lt
  have h1 := b1.toNat_lt
  simp only [UInt16.toNat_or, UInt16.toNat_shiftLeft, UInt8.toNat_toUInt16]
  have : b1.toNat <<< ((8 : UInt16).toNat % 16) % 2 ^ 16 = b1.toNat <<< 8 := by
    show b1.toNat <<< 8 % 65536 = _
    rw [Nat.shiftLeft_eq]; omega
  rw [this, Nat.or_comm, ← Nat.shiftLeft_add_eq_or_of_lt (by omega), Nat.shiftLeft_eq]
  omega

theorem be16_toNat (b0 b1 : UInt8) : (be16 b0 b1).toNat = 256 * b0.toNat + b1.toNat := by
  have : be16 b0 b1 = le16 b1 b0 := by
    unfold be16 le16; exact UInt16.or_comm _ _
  rw [this, le16_toNat]; omega

theorem and_split (x y k m : Nat) (hx : x < 256) (hk : k < 256) :
    (x + 256 * y) &&& (k + 256 * m) = (x &&& k) + 256 * (y &&& m) := by
  have hxk : x &&& k < 2 ^ 8 := Nat.and_lt_two_pow _ (by simpa using hk)
  apply Nat.eq_of_testBit_eq
  intro j
  have e1 : x + 256 * y = 2 ^ 8 * y + x := by omega
  have e2 : k + 256 * m = 2 ^ 8 * m + k := by omega
  have e3 : (x &&& k) + 256 * (y &&& m) = 2 ^ 8 * (y &&& m) + (x &&& k) := by omega
  rw [Nat.testBit_and, e1, e2, e3,
    Nat.testBit_two_pow_mul_add _ (by simpa using hx), Nat.testBit_two_pow_mul_add _ (by simpa using hk),
    Nat.testBit_two_pow_mul_add _ hxk]
  by_cases hj : j < 8 <;> simp [hj, Nat.testBit_and]


theorem clear_bit2 (b : UInt8) :
    (b &&& 0xFB).toNat = if b.toNat / 4 % 2 = 1 then b.toNat - 4 else b.toNat := by
  have := forall_u8 (fun b => decide ((b &&& 0xFB).toNat = if b.toNat / 4 % 2 = 1 then b.toNat - 4 else b.toNat))
    (by decide +kernel) b
  simpa using this

/-- The flag word after `remove(PERMANENT_BIT)`, as a number. -/
theorem flags_toNat (b0 b1 : UInt8) :
    (le16 b0 b1 &&& ~~~PERMANENT_BIT).toNat =
      let raw := b0.toNat + 256 * b1.toNat
      if raw / 1024 % 2 = 1 then raw - 1024 else raw := by
  have h0 := b0.toNat_lt
  have h1 := b1.toNat_lt
  rw [UInt16.toNat_and, le16_toNat]
  have hm : (~~~PERMANENT_BIT).toNat = 255 + 256 * 251 := by decide
  rw [hm, and_split _ _ _ _ h0 (by omega)]
  have ha : b0.toNat &&& 255 = b0.toNat := by
    have := Nat.and_two_pow_sub_one_of_lt_two_pow (x := b0.toNat) (n := 8) (by simpa using h0)
    simpa using this
  have hb : b1.toNat &&& 251 = (b1 &&& 0xFB).toNat := by rw [UInt8.toNat_and]; rfl
  rw [ha, hb, clear_bit2]
  simp only
  split <;> split <;> omega

/-- `flags.contains(EXT_DIAG)` looks at bit 3 of the first byte only. -/
theorem ext_flag_iff (b0 b1 : UInt8) :
    ((le16 b0 b1 &&& ~~~PERMANENT_BIT) &&& EXT_DIAG ≠ 0) ↔ b0.toNat / 8 % 2 = 1 := by
  have h0 := b0.toNat_lt
  rw [show EXT_DIAG = UInt16.ofNat (2 ^ 3) from rfl, u16_mask _ 3 (by decide), flags_toNat]
  simp only
  split <;> omega

theorem shr6_toNat (h : UInt8) : (h >>> 6).toNat = h.toNat / 64 := by
  rw [UInt8.toNat_shiftRight]
  exact Nat.shiftRight_eq_div_pow h.toNat 6

theorem shr6_cases (h : UInt8) :
    (h >>> 6 = 0 ∧ h.toNat / 64 = 0) ∨ (h >>> 6 = 1 ∧ h.toNat / 64 = 1) ∨
    (h >>> 6 = 2 ∧ h.toNat / 64 = 2) ∨ (h >>> 6 = 3 ∧ h.toNat / 64 = 3) := by
  have e := shr6_toNat h
  have hlt := h.toNat_lt
  have hd : h.toNat / 64 = 0 ∨ h.toNat / 64 = 1 ∨ h.toNat / 64 = 2 ∨ h.toNat / 64 = 3 := by omega
  rcases hd with d | d | d | d
  · exact .inl ⟨UInt8.toNat_inj.mp (e.trans d), d⟩
  · exact .inr (.inl ⟨UInt8.toNat_inj.mp (e.trans d), d⟩)
  · exact .inr (.inr (.inl ⟨UInt8.toNat_inj.mp (e.trans d), d⟩))
  · exact .inr (.inr (.inr ⟨UInt8.toNat_inj.mp (e.trans d), d⟩))

theorem len6 (h : UInt8) : (h &&& 0x3f).toNat = h.toNat % 64 := by
  rw [UInt8.toNat_and]
  exact Nat.and_two_pow_sub_one_eq_mod h.toNat 6

theorem low6 (h : UInt8) : h &&& 0x3f = UInt8.ofNat (h.toNat % 64) := by
  rw [← len6, UInt8.ofNat_toNat]

theorem bit6 (b : UInt8) : (b &&& 0x40 ≠ 0) ↔ (b.toNat / 64 % 2 = 1) := u8_mask b 6 (by decide)

theorem bit7 (b : UInt8) : (b &&& 0x80 ≠ 0) ↔ (b.toNat / 128 = 1) := by
  have hb := b.toNat_lt
  rw [show (0x80 : UInt8) = UInt8.ofNat (2 ^ 7) from rfl, u8_mask b 7 (by decide)]
  omega

theorem dtype_table (b : UInt8) :
    DataType.fromByte2 b = Spec.dataTypeTable.getD (b.toNat / 32) .invalid := by
  have := forall_u8 (fun b => decide (DataType.fromByte2 b = Spec.dataTypeTable.getD (b.toNat / 32) .invalid))
    (by decide +kernel) b
  simpa using this

theorem error_table (b : UInt8) : ChanError.fromByte2 b = Spec.errorOf (b.toNat % 32) := by
  have := forall_u8 (fun b => decide (ChanError.fromByte2 b = Spec.errorOf (b.toNat % 32))) (by decide +kernel) b
  simpa using this

theorem blockLen_pos {bs : Bytes} {n : Nat} (h : Spec.blockLen bs = some n) : 0 < n ∧ n ≤ bs.length := by
  unfold Spec.blockLen at h
  cases bs with
  | nil => simp at h
  | cons b tl =>
    simp only at h
    split at h
    · cases h
    · split at h
      · split at h
        · cases h; omega
        · cases h
      · split at h
        · cases h
        · split at h
          · cases h; omega
          · cases h

theorem parseAux_fuel : ∀ (f1 f2 : Nat) (bs : Bytes), bs.length ≤ f1 → bs.length ≤ f2 →
    Spec.parseAux f1 bs = Spec.parseAux f2 bs := by
  intro f1
  induction f1 with
  | zero =>
    intro f2 bs h1 _
    have : bs = [] := List.eq_nil_of_length_eq_zero (by omega)
    subst this
    cases f2 <;> simp [Spec.parseAux, Spec.blockLen]
  | succ f1 ih =>
    intro f2 bs h1 h2
    cases f2 with
    | zero =>
      have : bs = [] := List.eq_nil_of_length_eq_zero (by omega)
      subst this
      simp [Spec.parseAux, Spec.blockLen]
    | succ f2 =>
      simp only [Spec.parseAux]
      cases hb : Spec.blockLen bs with
      | none => rfl
      | some n =>
        have ⟨hp, hl⟩ := blockLen_pos hb
        simp only
        rw [ih f2 (bs.drop n) (by simp; omega) (by simp; omega)]

theorem parse_unfold (bs : Bytes) :
    Spec.parse bs =
      match Spec.blockLen bs with
      | none => []
      | some n => Spec.decode (bs.take n) :: Spec.parse (bs.drop n) := by
  unfold Spec.parse
  cases hl : bs.length with
  | zero =>
    have : bs = [] := List.eq_nil_of_length_eq_zero hl
    subst this
    simp [Spec.parseAux, Spec.blockLen]
  | succ k =>
    simp only [Spec.parseAux]
    cases hb : Spec.blockLen bs with
    | none => rfl
    | some n =>
      have ⟨hp, hl'⟩ := blockLen_pos hb
      simp only
      rw [parseAux_fuel k (bs.drop n).length (bs.drop n) (by simp; omega) (Nat.le_refl _)]

theorem parse_nil : Spec.parse [] = [] := by simp [Spec.parse, Spec.parseAux]

/-- Induction along the specification's recursion: the remainder behind a well-formed block is shorter. -/
theorem parse_induction {P : Bytes → Prop} (hstop : ∀ bs, Spec.blockLen bs = none → P bs)
    (hstep : ∀ bs n, Spec.blockLen bs = some n → P (bs.drop n) → P bs) : ∀ bs, P bs := by
  have key : ∀ (k : Nat) (bs : Bytes), bs.length ≤ k → P bs := by
    intro k
    induction k with
    | zero =>
      intro bs h
      have : bs = [] := List.eq_nil_of_length_eq_zero (by omega)
      subst this
      exact hstop [] rfl
    | succ k ih =>
      intro bs h
      cases hb : Spec.blockLen bs with
      | none => exact hstop bs hb
      | some n =>
        have ⟨hp, hl⟩ := blockLen_pos hb
        exact hstep bs n hb (ih _ (by rw [List.length_drop]; omega))
  exact fun bs => key bs.length bs (Nat.le_refl _)

theorem specDecode_device (h : UInt8) (r : Bytes) (d : h.toNat / 64 = 0) :
    Spec.decode (h :: r) = .device r := by
  simp [Spec.decode, d]

theorem specDecode_identifier (h : UInt8) (r : Bytes) (d : h.toNat / 64 = 1) :
    Spec.decode (h :: r) = .identifier r := by
  simp [Spec.decode, d]

theorem specDecode_channel (h b1 b2 : UInt8) (r : Bytes) (d : h.toNat / 64 = 2) :
    Spec.decode (h :: b1 :: b2 :: r) = .channel {
      module := h &&& 0x3f, channel := b1 &&& 0x3f,
      input := b1 &&& 0x40 ≠ 0, output := b1 &&& 0x80 ≠ 0,
      dtype := DataType.fromByte2 b2, error := ChanError.fromByte2 b2 } := by
  have i6 : decide (b1 &&& 0x40 ≠ 0) = decide (b1.toNat / 64 % 2 = 1) := by
    simp only [bit6 b1]
  have i7 : decide (b1 &&& 0x80 ≠ 0) = decide (b1.toNat / 128 = 1) := by
    simp only [bit7 b1]
  simp only [Spec.decode, List.getD_cons_zero, List.getD_cons_succ, d]
  rw [low6 h, low6 b1, dtype_table, error_table, i6, i7]
  simp

theorem next_spec (rb : Bytes) (c : Nat) (hc : c < rb.length) :
    next (.some rb) c =
      match Spec.blockLen (rb.drop c) with
      | none => .done rb.length
      | some n => .yield (Spec.decode ((rb.drop c).take n)) (c + n) := by
  unfold next
  simp only [ge_iff_le, Nat.not_le.mpr hc, if_false]
  obtain ⟨rem, hrem⟩ : ∃ rem, rb.drop c = rem := ⟨_, rfl⟩
  have hlen : rem.length = rb.length - c := by rw [← hrem, List.length_drop]
  rw [hrem]
  cases rem with
  | nil => simp at hlen; omega
  | cons h tl =>
    have hl := len6 h
    rcases shr6_cases h with ⟨e, d⟩ | ⟨e, d⟩ | ⟨e, d⟩ | ⟨e, d⟩
    · -- device
      simp only [List.length_cons, List.getD_cons_zero, e, hl, Spec.blockLen, d]
      by_cases hz : h.toNat % 64 = 0
      · simp [hz]
      · obtain ⟨k, hk⟩ : ∃ k, h.toNat % 64 = k + 1 := ⟨h.toNat % 64 - 1, by omega⟩
        rw [hk]
        by_cases hcut : tl.length + 1 < k + 1
        · simp [hcut, Nat.not_le.mpr hcut]
        · simp [hcut, Nat.not_lt.mp hcut, specDecode_device _ _ d]
    · -- identifier
      simp only [List.length_cons, List.getD_cons_zero, e, hl, Spec.blockLen, d]
      by_cases hz : h.toNat % 64 = 0
      · simp [hz]
      · obtain ⟨k, hk⟩ : ∃ k, h.toNat % 64 = k + 1 := ⟨h.toNat % 64 - 1, by omega⟩
        rw [hk]
        by_cases hcut : tl.length + 1 < k + 1
        · simp [hcut, Nat.not_le.mpr hcut]
        · simp [hcut, Nat.not_lt.mp hcut, specDecode_identifier _ _ d]
    · -- channel
      simp only [List.length_cons, List.getD_cons_zero, e, Spec.blockLen, d]
      by_cases hcut : tl.length + 1 < 3
      · simp [hcut, Nat.not_le.mpr hcut]
      · match tl, hcut with
        | b1 :: b2 :: r, _ =>
          simp [specDecode_channel _ _ _ _ d]
        | [], hcut => simp at hcut
        | [_], hcut => simp at hcut
    · simp [e, d, Spec.blockLen]

theorem drop_cons (rb : Bytes) (c : Nat) (hc : c < rb.length) : rb.drop c = rb.getD c 0 :: rb.drop (c + 1) := by
  rw [List.drop_eq_getElem_cons hc]
  simp [List.getD_eq_getElem?_getD, hc]

theorem next_done (rb : Bytes) (c : Nat) (hc : rb.length ≤ c) : next (.some rb) c = .done c := by
  unfold next
  simp [hc]

theorem collect_spec : ∀ (fuel : Nat) (rb : Bytes) (c : Nat), c ≤ rb.length → rb.length - c < fuel →
    collect fuel (.some rb) c = .ok (Spec.parse (rb.drop c)) := by
  intro fuel
  induction fuel with
  | zero => intro rb c _ h; omega
  | succ fuel ih =>
    intro rb c hc hf
    unfold collect
    by_cases hlt : c < rb.length
    · rw [next_spec rb c hlt, parse_unfold (rb.drop c)]
      cases hb : Spec.blockLen (rb.drop c) with
      | none => rfl
      | some n =>
        have ⟨hp, hl⟩ := blockLen_pos hb
        rw [List.length_drop] at hl
        simp only
        rw [ih rb (c + n) (by omega) (by omega), List.drop_drop]
    · have : c = rb.length := by omega
      subst this
      rw [next_done rb _ (Nat.le_refl _)]
      simp [parse_nil]

theorem iterBlocks_spec (rb : Bytes) : iterBlocks (.some rb) = .ok (Spec.parse rb) := by
  unfold iterBlocks
  have := collect_spec (rawLen (.some rb) + 1) rb 0 (Nat.zero_le _) (by simp [rawLen])
  simpa using this

/-- Any fuel above the buffer length gives the same result: the iterator needs at most `length + 1`
calls of `next`. -/
theorem collect_fuel (fuel : Nat) (rb : Bytes) (h : rb.length < fuel) :
    collect fuel (.some rb) 0 = iterBlocks (.some rb) := by
  rw [iterBlocks_spec, collect_spec fuel rb 0 (Nat.zero_le _) (by omega)]
  simp

theorem parse_length_le (bs : Bytes) : (Spec.parse bs).length ≤ bs.length := by
  induction bs using parse_induction with
  | hstop bs hb => rw [parse_unfold, hb]; exact Nat.zero_le _
  | hstep bs n hb ih =>
    have ⟨hp, hl⟩ := blockLen_pos hb
    rw [parse_unfold, hb]
    rw [List.length_drop] at ih
    simp only [List.length_cons]
    omega

/-! ### Tiling: well-formed and malformed blocks, stated without reference to `blockLen` -/

/-- `s` is exactly one well-formed block: a 3-byte channel block, or an identifier / device block
whose six length bits equal its (non-zero) size. -/
def WellFormed (s : Bytes) : Prop :=
  ∃ h tl, s = h :: tl ∧
    ((h.toNat / 64 = 2 ∧ s.length = 3) ∨ (h.toNat / 64 ≤ 1 ∧ s.length = h.toNat % 64))

def Malformed (r : Bytes) : Prop :=
  ∃ h tl, r = h :: tl ∧
    (h.toNat / 64 = 3                                   -- reserved block type
     ∨ (h.toNat / 64 = 2 ∧ r.length < 3)                -- channel block cut off
     ∨ (h.toNat / 64 ≤ 1 ∧ h.toNat % 64 = 0)            -- zero length
     ∨ (h.toNat / 64 ≤ 1 ∧ r.length < h.toNat % 64))    -- identifier / device block cut off

theorem blockLen_some {bs : Bytes} {n : Nat} (hb : Spec.blockLen bs = some n) : WellFormed (bs.take n) := by
  have ⟨hp, hl⟩ := blockLen_pos hb
  cases bs with
  | nil => simp [Spec.blockLen] at hb
  | cons h tl =>
    obtain ⟨k, rfl⟩ : ∃ k, n = k + 1 := ⟨n - 1, by omega⟩
    refine ⟨h, tl.take k, by simp, ?_⟩
    have hlen : (List.take (k + 1) (h :: tl)).length = k + 1 := by
      rw [List.length_take]; omega
    rw [hlen]
    simp only [Spec.blockLen] at hb
    have hd : h.toNat / 64 < 4 := by have := h.toNat_lt; omega
    split at hb
    · cases hb
    · split at hb
      · split at hb
        · have := Option.some.inj hb; left; omega
        · cases hb
      · split at hb
        · cases hb
        · split at hb
          · have := Option.some.inj hb; right; omega
          · cases hb

theorem blockLen_none {bs : Bytes} (hne : bs ≠ []) (hb : Spec.blockLen bs = none) : Malformed bs := by
  cases bs with
  | nil => exact absurd rfl hne
  | cons h tl =>
    refine ⟨h, tl, rfl, ?_⟩
    simp only [Spec.blockLen] at hb
    have hd : h.toNat / 64 < 4 := by have := h.toNat_lt; omega
    split at hb
    · left; assumption
    · split at hb
      · split at hb
        · cases hb
        · right; left; omega
      · split at hb
        · right; right; left; omega
        · split at hb
          · cases hb
          · right; right; right; omega

theorem wellFormed_blockLen {s : Bytes} (rest : Bytes) (hw : WellFormed s) :
    Spec.blockLen (s ++ rest) = some s.length := by
  obtain ⟨h, tl, rfl, hc⟩ := hw
  simp only [List.cons_append, Spec.blockLen, List.length_cons, List.length_append] at hc ⊢
  rcases hc with ⟨h2, hl⟩ | ⟨h01, hl⟩
  · simp [h2]; omega
  · have h3 : ¬ h.toNat / 64 = 3 := by omega
    have h2 : ¬ h.toNat / 64 = 2 := by omega
    have hz : ¬ h.toNat % 64 = 0 := by omega
    simp [h3, h2, hz]; omega

theorem malformed_blockLen {r : Bytes} (hm : Malformed r) : Spec.blockLen r = none := by
  obtain ⟨h, tl, rfl, hc⟩ := hm
  simp only [Spec.blockLen, List.length_cons] at hc ⊢
  rcases hc with h3 | ⟨h2, hl⟩ | ⟨h01, hz⟩ | ⟨h01, hl⟩
  · simp [h3]
  · simp [h2]; omega
  · have h3 : ¬ h.toNat / 64 = 3 := by omega
    have h2 : ¬ h.toNat / 64 = 2 := by omega
    simp [h3, h2, hz]
  · have h3 : ¬ h.toNat / 64 = 3 := by omega
    have h2 : ¬ h.toNat / 64 = 2 := by omega
    simp [h3, h2]; omega

/-- "First malformed block": no prefix of a malformed remainder is a well-formed block. -/
theorem malformed_no_prefix {r s rest : Bytes} (hm : Malformed r) (e : r = s ++ rest) : ¬ WellFormed s := by
  intro hw
  have := wellFormed_blockLen rest hw
  rw [← e, malformed_blockLen hm] at this
  cases this

/-- The specification tiles the string: consecutive well-formed blocks from offset 0, then nothing
or a malformed block. -/
theorem parse_tiling (bs : Bytes) :
    ∃ (spans : List Bytes) (rest : Bytes), bs = spans.flatten ++ rest ∧ (∀ s ∈ spans, WellFormed s) ∧
      (rest = [] ∨ Malformed rest) ∧ Spec.parse bs = spans.map Spec.decode := by
  induction bs using parse_induction with
  | hstop bs hb =>
    rw [parse_unfold, hb]
    by_cases hne : bs = []
    · exact ⟨[], [], by simp [hne], by simp, Or.inl rfl, rfl⟩
    · exact ⟨[], bs, by simp, by simp, Or.inr (blockLen_none hne hb), rfl⟩
  | hstep bs k hb ih =>
    obtain ⟨spans, rest, e, hw, hr, hpar⟩ := ih
    rw [parse_unfold, hb]
    refine ⟨bs.take k :: spans, rest, ?_, ?_, hr, ?_⟩
    · rw [List.flatten_cons, List.append_assoc, ← e, List.take_append_drop]
    · intro s hs
      rcases List.mem_cons.mp hs with rfl | hs
      · exact blockLen_some hb
      · exact hw s hs
    · simp [hpar]

/-- Any tiling of that shape yields the specification's blocks (the tiling is unique). -/
theorem tiling_unique : ∀ (spans : List Bytes) (rest : Bytes), (∀ s ∈ spans, WellFormed s) →
    (rest = [] ∨ Malformed rest) → Spec.parse (spans.flatten ++ rest) = spans.map Spec.decode := by
  intro spans
  induction spans with
  | nil =>
    intro rest _ hr
    rcases hr with rfl | hm
    · simp [parse_nil]
    · rw [List.flatten_nil, List.nil_append, parse_unfold, malformed_blockLen hm]; rfl
  | cons s spans ih =>
    intro rest hw hr
    have hs := hw s (List.mem_cons_self ..)
    rw [List.flatten_cons, List.append_assoc, parse_unfold, wellFormed_blockLen _ hs]
    simp only [List.take_left', List.drop_left', List.map_cons]
    rw [ih rest (fun t ht => hw t (List.mem_cons_of_mem _ ht)) hr]

theorem bit_k (b : UInt8) (k : Nat) (hk : k < 8) :
    ((b >>> UInt8.ofNat k) &&& 1 = 1) ↔ b.toNat / 2 ^ k % 2 = 1 := by
  have h1 : k % 256 % 8 = k := by omega
  rw [← UInt8.toNat_inj, UInt8.toNat_and, UInt8.toNat_shiftRight, UInt8.toNat_ofNat', h1,
    Nat.shiftRight_eq_div_pow]
  exact Iff.of_eq (congrArg (· = 1) (Nat.and_one_is_mod _))

theorem byteOnes_spec (b : UInt8) (base : Nat) :
    byteOnes b base = ((List.range 8).filter fun k => b.toNat / 2 ^ k % 2 = 1).map (base + ·) := by
  unfold byteOnes
  congr 1
  apply List.filter_congr
  intro k hk
  have hk : k < 8 := by simpa [List.mem_range] using hk
  have := bit_k b k hk
  by_cases h : b.toNat / 2 ^ k % 2 = 1 <;> simp_all

theorem onesFrom_spec : ∀ (bs : Bytes) (base : Nat), onesFrom bs base = (Spec.ones bs).map (base + ·) := by
  intro bs
  induction bs with
  | nil => intro base; simp [onesFrom, Spec.ones]
  | cons b bs ih =>
    intro base
    rw [onesFrom, ih, byteOnes_spec]
    unfold Spec.ones
    have e : 8 * (b :: bs).length = 8 + 8 * bs.length := by simp; omega
    rw [e, List.range_add, List.filter_append, List.map_append, List.filter_map, List.map_map]
    have p1 : List.filter (fun i => decide (((b :: bs).getD (i / 8) 0).toNat / 2 ^ (i % 8) % 2 = 1)) (List.range 8)
        = List.filter (fun k => decide (b.toNat / 2 ^ k % 2 = 1)) (List.range 8) := by
      apply List.filter_congr
      intro k hk
      have hk : k < 8 := by simpa [List.mem_range] using hk
      have h1 : k / 8 = 0 := by omega
      have h2 : k % 8 = k := by omega
      simp [h1, h2]
    have hf : (fun i => decide (((b :: bs).getD (i / 8) 0).toNat / 2 ^ (i % 8) % 2 = 1)) ∘ (fun x => 8 + x)
        = fun i => decide ((bs.getD (i / 8) 0).toNat / 2 ^ (i % 8) % 2 = 1) := by
      funext i
      have h1 : (8 + i) / 8 = i / 8 + 1 := by omega
      have h2 : (8 + i) % 8 = i % 8 := by omega
      simp [h1, h2]
    have hg : ((fun x => base + x) ∘ fun x => 8 + x) = (fun x => base + 8 + x) := by
      funext x; simp; omega
    rw [p1, hf, hg]

theorem ones_spec (bs : Bytes) : ones bs = Spec.ones bs := by
  unfold ones
  rw [onesFrom_spec]
  simp

/-- Representation invariant of `ExtendedDiagnostics`: `length ≤ buffer.len()`. -/
def ExtDiag.Valid (e : ExtDiag) : Prop := e.length ≤ e.buf.length

theorem valid_ofSize (n : Nat) : (ExtDiag.ofSize n).Valid := by simp [ExtDiag.Valid, ExtDiag.ofSize]

theorem raw_of_valid {e : ExtDiag} (hv : e.Valid) :
    e.raw = if e.buf.length = 0 then .none else .some (e.buf.take e.length) := by
  unfold ExtDiag.raw ExtDiag.isAvailable ExtDiag.Valid at *
  by_cases h0 : e.buf.length = 0
  · simp [h0]
  · have : ¬ e.length > e.buf.length := by omega
    simp [h0, this]

theorem fill_spec (e : ExtDiag) (src : Bytes) :
    e.fill src =
      if 0 < e.buf.length ∧ src.length ≤ e.buf.length
      then ({ buf := src ++ e.buf.drop src.length, length := src.length }, true) else (e, false) := by
  unfold ExtDiag.fill
  by_cases h0 : e.buf.length = 0
  · simp [h0]
  · by_cases h1 : e.buf.length < src.length
    · have : ¬ src.length ≤ e.buf.length := by omega
      simp [h0, h1, this]
    · have : src.length ≤ e.buf.length := by omega
      simp [h0, h1, this]

theorem fill_valid {e : ExtDiag} (hv : e.Valid) (src : Bytes) :
    (e.fill src).1.Valid ∧ (e.fill src).1.buf.length = e.buf.length := by
  rw [fill_spec]
  split
  · next h => simp [ExtDiag.Valid]; omega
  · exact ⟨hv, rfl⟩

theorem fill_raw {e : ExtDiag} (src : Bytes) (h : (e.fill src).2 = true) :
    (e.fill src).1.raw = .some src := by
  rw [fill_spec] at h ⊢
  split at h
  · next hc =>
    simp only [hc, and_self, if_true]
    unfold ExtDiag.raw ExtDiag.isAvailable
    simp
    have h1 : ¬ (src = [] ∧ e.buf.length - src.length = 0) := by
      intro ⟨hs, hz⟩
      have : src.length = 0 := by rw [hs]; rfl
      omega
    have h2 : ¬ (src.length + (e.buf.length - src.length) < src.length) := by omega
    simp [h1, h2]
  · cases h

theorem fill_raw_eq {e : ExtDiag} (hv : e.Valid) (src : Bytes) :
    (e.fill src).1.raw =
      if e.buf.length = 0 then .none else if src.length ≤ e.buf.length then .some src else e.raw := by
  by_cases h0 : e.buf.length = 0
  · rw [if_pos h0, fill_spec, if_neg (by omega), raw_of_valid hv, if_pos h0]
  · rw [if_neg h0]
    by_cases hfit : src.length ≤ e.buf.length
    · rw [if_pos hfit]
      exact fill_raw src (by rw [fill_spec, if_pos ⟨by omega, hfit⟩])
    · rw [if_neg hfit, fill_spec, if_neg (fun h => hfit h.2)]

theorem debugFails_of_valid {e : ExtDiag} (hv : e.Valid) : e.debugFails = false := by
  unfold ExtDiag.debugFails ExtDiag.blocks
  by_cases ha : e.isAvailable = true
  · have h0 : ¬ e.buf.length = 0 := by
      unfold ExtDiag.isAvailable at ha; simp at ha; omega
    simp [ha, raw_of_valid hv, h0, iterBlocks_spec]
  · simp [ha]

def infoOf (pdu : Bytes) : DiagInfo :=
  { flags := le16 (pdu.getD 0 0) (pdu.getD 1 0) &&& ~~~PERMANENT_BIT,
    ident := be16 (pdu.getD 4 0) (pdu.getD 5 0),
    master := if pdu.getD 3 0 = 255 then none else some (pdu.getD 3 0) }

theorem decodeInfo_spec (pdu : Bytes) :
    decodeInfo pdu = if pdu.length < 6 then .reject else .accept (infoOf pdu) := by
  unfold decodeInfo infoOf
  by_cases h : pdu.length < 6
  · simp [h]
  · have h3 : ¬ pdu.length ≤ 3 := by omega
    have h2 : ¬ pdu.length < 2 := by omega
    simp [h, h3, h2]

/-- `handle_diagnostics_response` in closed form (for a peripheral whose `ext_diag` is valid). -/
theorem handle_spec (s : PState) (hv : s.ext.Valid) (t : Telegram) :
    handle s t =
      if Spec.accepts t then
        match t with
        | .data _ pdu =>
          .accepted { info := some (infoOf pdu),
                      ext := if Spec.extFlag pdu then (s.ext.fill (pdu.drop 6)).1 else s.ext }
        | _ => .rejected
      else .rejected := by
  cases t with
  | token da sa => simp [handle, Spec.accepts]
  | sc => simp [handle, Spec.accepts]
  | data h pdu =>
    unfold handle
    simp only [Spec.accepts, SAP_MASTER_MS0, SAP_SLAVE_DIAGNOSIS]
    by_cases hd : h.dsap = some 62
    · by_cases hs : h.ssap = some 60
      · rw [decodeInfo_spec]
        by_cases hl : pdu.length < 6
        · have : ¬ 6 ≤ pdu.length := by omega
          simp [hd, hs, hl, this]
        · have hl' : 6 ≤ pdu.length := by omega
          have hf : (infoOf pdu).flags &&& EXT_DIAG ≠ 0 ↔ (pdu.getD 0 0).toNat / 8 % 2 = 1 :=
            ext_flag_iff (pdu.getD 0 0) (pdu.getD 1 0)
          have hdbg := debugFails_of_valid (fill_valid hv (pdu.drop 6)).1
          simp only [hd, hs, hl, hl', ne_eq, not_true_eq_false, if_false, and_self, decide_true, if_true]
          by_cases he : (pdu.getD 0 0).toNat / 8 % 2 = 1
          · have := hf.mpr he
            rw [if_pos this]
            have he' := he
            rw [List.getD_eq_getElem?_getD] at he'
            simp [hdbg, Spec.extFlag, he', infoOf]
          · have : ¬ ((infoOf pdu).flags &&& EXT_DIAG ≠ 0) := fun h => he (hf.mp h)
            rw [if_neg this]
            have he' := he
            rw [List.getD_eq_getElem?_getD] at he'
            simp [Spec.extFlag, he', infoOf]
      · simp [hd, hs]
    · simp [hd]

end PV.Diag
