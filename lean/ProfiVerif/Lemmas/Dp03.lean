/-
Ghost invariant for C03: the bring-up automaton S0..S4 of a slot against the state of its peripheral
(`J3`, read state by state through `j3_iff`), stepped over the histories next to `Inv8`, which tells
which request a reply answers; and `readyFlags` flag by flag (`readyFlags_iff`).
-/
import ProfiVerif.Lemmas.Dp08


namespace PV.Dp
open PV

/-- The state of `p` admits the value `x.s` of the bring-up automaton: S0 while offline, S1.. while waiting for
parameters, S2 while waiting for the configuration, S3 / S4 while validating, S4 in the data-exchange states. -/
structure J3 (x : SG) (p : Peripheral) : Prop where
  off : p.state = .offline → x.s = 0
  prm : p.state = .waitForParam → 1 ≤ x.s
  cfg : p.state = .waitForConfig → x.s = 2
  val : p.state = .validateConfig → x.s = 3 ∨ x.s = 4
  dx : (p.state = .preDataExchange ∨ p.state = .dataExchange) → x.s = 4

structure Inv3 (g : G) : Prop where
  slot : ∀ (i : Nat) (p : Peripheral), g.m.slots[i]? = some (some p) → J3 (g.sg i) p
  /-- while the reply to a Set_Prm request is outstanding the automaton is in S1 -/
  await : ∀ a, g.out = some a → ∀ i p, g.m.cur = some (i, p) → p.state = .waitForParam → (g.sg i).s = 1

/-- `J3` read by the state of the peripheral: the values of the automaton that go with it. -/
def s3Ok (s : Nat) : PState → Prop
  | .offline => s = 0
  | .waitForParam => 1 ≤ s
  | .waitForConfig => s = 2
  | .validateConfig => s = 3 ∨ s = 4
  | .preDataExchange | .dataExchange => s = 4

theorem j3_iff {x : SG} {p : Peripheral} : J3 x p ↔ s3Ok x.s p.state := by
  constructor
  · intro hJ
    cases hs : p.state with
    | offline => exact hJ.off hs
    | waitForParam => exact hJ.prm hs
    | waitForConfig => exact hJ.cfg hs
    | validateConfig => exact hJ.val hs
    | preDataExchange => exact hJ.dx (.inl hs)
    | dataExchange => exact hJ.dx (.inr hs)
  · intro h
    refine ⟨?_, ?_, ?_, ?_, ?_⟩ <;> intro hs
    · rw [hs] at h; exact h
    · rw [hs] at h; exact h
    · rw [hs] at h; exact h
    · rw [hs] at h; exact h
    · rcases hs with hs | hs <;> (rw [hs] at h; exact h)

theorem j3_ghost_irrelevant {x x' : SG} {p : Peripheral} (hJ : J3 x p) (h : x'.s = x.s) : J3 x' p := by
  rw [j3_iff, h]; exact j3_iff.mp hJ

theorem j3_same_state {x : SG} {p p' : Peripheral} (hJ : J3 x p) (h : p'.state = p.state) : J3 x p' := by
  rw [j3_iff, h]; exact j3_iff.mp hJ

theorem j3_offline {x : SG} {p : Peripheral} (hx : x.s = 0) (hs : p.state = .offline) : J3 x p := by
  rw [j3_iff, hs]; exact hx

theorem inv3_init {fp : FdlParams} {slots : List (Option Peripheral)} (h : InitOk fp slots) (gr : Bool) :
    Inv3 (G.init slots gr) := by
  refine ⟨?_, by intro a ha; cases ha⟩
  intro i p hi
  exact j3_offline rfl (h.fresh i p hi).2.1

theorem readyFlags_iff (t : Telegram) :
    readyFlags t = true ↔ (flagsOf t &&& PARAMETER_FAULT = 0 ∧ flagsOf t &&& CONFIGURATION_FAULT = 0 ∧
      flagsOf t &&& PARAMETER_REQUIRED = 0 ∧ flagsOf t &&& STATION_NOT_READY = 0) := by
  simp only [readyFlags, Bool.and_eq_true, beq_iff_eq, and_assoc]

theorem j3_send {fp : FdlParams} {op : OpState} {x : SG} {p p' : Peripheral} {h : Header} {pdu : Bytes}
    (hJ : J3 x p) (hs : TxSpec fp op p (.send p' h pdu)) :
    J3 (sgSend h p' x) p' ∧ (p'.state = .waitForParam → (sgSend h p' x).s = 1) := by
  obtain ⟨hk, hst, _⟩ := send_kind_snap hs
  have hs' : (sgSend h p' x).s = if p.state = .waitForParam then 1 else x.s := by
    simp only [sgSend, hk]
    cases hps : p.state <;> simp [kindOfSnap]
    · have := hJ.prm hps; omega
    · split <;> simp
    · split <;> simp
  have hJ' := j3_iff.mp hJ
  constructor
  · rw [j3_iff, hst, hs']
    cases hps : p.state with
    | waitForParam => simp [s3Ok]
    | _ => rw [hps] at hJ'; simpa [s3Ok] using hJ'
  · intro hh; rw [hs']; rw [hst] at hh; simp [hh]

/-- The automaton after a reply, given that the ghost `last` service is the one the state implies. -/
theorem j3_reply {x : SG} {p p' : Peripheral} {t : Telegram} {ev : Option PEvent}
    (hJ : J3 x p) (hs : RxSpec p t p' ev) {k : RKind} {f : FrameCountBit} (hl : x.last = some (k, f))
    (hk : k = kindOfSnap p.state x.snapDiag)
    (hinf : (p.state = .preDataExchange ∨ p.state = .dataExchange) → p.diagInFlight = x.snapDiag)
    (hprm : p.state = .waitForParam → x.s = 1) :
    J3 (sgReply t p p' x) p' := by
  have hs' : (sgReply t p p' x).s =
      if p'.state = .offline then 0
      else if acceptable k p.piI.length t then bringUp k t x.s else x.s := by
    simp only [sgReply, hl]
  have hJ' := j3_iff.mp hJ
  rw [j3_iff, hs']
  cases hs
  case offAcc hst ha =>
    have h0 : x.s = 0 := by rw [hst] at hJ'; exact hJ'
    simp [s3Ok, hk, hst, kindOfSnap, acceptable, ha, bringUp, h0]
  case offRej hst ha => simp [s3Ok, hst]
  case prmSc hst => simp [s3Ok, hk, hst, kindOfSnap, acceptable, bringUp, hprm hst]
  case prmRej hst hne =>
    rw [hst] at hJ'
    simpa [s3Ok, hk, hst, kindOfSnap, acceptable, hne] using hJ'
  case cfgSc hst =>
    have h2 : x.s = 2 := by rw [hst] at hJ'; exact hJ'
    simp [s3Ok, hk, hst, kindOfSnap, acceptable, bringUp, h2]
  case cfgRej hst hne =>
    rw [hst] at hJ'
    simpa [s3Ok, hk, hst, kindOfSnap, acceptable, hne] using hJ'
  case valRej hst ha =>
    rw [hst] at hJ'
    simpa [s3Ok, hk, hst, kindOfSnap, acceptable, ha] using hJ'
  case valPrmFault hst ha h1 => simp [s3Ok]
  case valCfgFault hst ha h1 h2 => simp [s3Ok]
  case valPrmReq hst ha h1 h2 h3 =>
    have hv : x.s = 3 ∨ x.s = 4 := by rw [hst] at hJ'; exact hJ'
    have hr : readyFlags t = false := by
      cases hrf : readyFlags t with
      | false => rfl
      | true => exact absurd ((readyFlags_iff t).mp hrf).2.2.1 h3
    rcases hv with hv | hv <;> simp [s3Ok, hk, hst, kindOfSnap, acceptable, ha, bringUp, hr, hv]
  case valReady hst ha h1 h2 h3 h4 =>
    have hv : x.s = 3 ∨ x.s = 4 := by rw [hst] at hJ'; exact hJ'
    have hr : readyFlags t = true := (readyFlags_iff t).mpr ⟨h1, h2, h3, h4⟩
    rcases hv with hv | hv <;> simp [s3Ok, hk, hst, kindOfSnap, acceptable, ha, bringUp, hr, hv]
  case valNotReady hst ha h1 h2 h3 h4 =>
    have hv : x.s = 3 ∨ x.s = 4 := by rw [hst] at hJ'; exact hJ'
    have hr : readyFlags t = false := by
      cases hrf : readyFlags t with
      | false => rfl
      | true => exact absurd ((readyFlags_iff t).mp hrf).2.2.2 h4
    rcases hv with hv | hv <;> simp [s3Ok, hk, hst, kindOfSnap, acceptable, ha, bringUp, hr, hv]
  case dxDiagAcc hst hd ha =>
    have h4 := hJ.dx hst
    have hsd : x.snapDiag = true := by rw [← hinf hst]; exact hd
    rcases hst with hst | hst <;> simp [s3Ok, hk, hst, hsd, kindOfSnap, acceptable, ha, bringUp, h4]
  case dxDiagRej hst hd ha =>
    have h4 := hJ.dx hst
    have hsd : x.snapDiag = true := by rw [← hinf hst]; exact hd
    rcases hst with hst | hst <;> simp [s3Ok, hk, hst, hsd, kindOfSnap, acceptable, ha, h4]
  -- a reply to a Data_Exchange request never moves the automaton: S4 before and after
  case dxScData hst hd _ | dxScOk hst hd _ | dxSapNotEnabled _ _ _ hst hd _ | dxOther _ _ _ _ hst hd _ _ _ |
      dxSaps _ _ _ _ hst hd _ _ _ | dxLen _ _ _ _ hst hd _ _ _ _ _ | dxData _ _ _ _ hst hd _ _ _ _ _ =>
    have h4 := hJ.dx hst
    have hsd : x.snapDiag = false := by rw [← hinf hst]; exact hd
    have hkk : k = .dx := by rw [hk]; rcases hst with hst | hst <;> simp [hst, hsd, kindOfSnap]
    rw [hkk]
    simp only [bringUp]
    rcases hst with hst | hst <;> simp [s3Ok, hst, h4]

theorem j3_user {g : G} {slot : Nat} {p q : Peripheral} {op : Op} {f : SG → SG} {t s : Bool}
    (hU : UserUpd g slot p op q f t s) (hJ : J3 (g.sg slot) p) : J3 (f (g.sg slot)) q := by
  cases hU with
  | writeQ bs _ => exact j3_same_state hJ rfl
  | diagReq => exact j3_same_state (j3_ghost_irrelevant hJ rfl) rfl
  | resetAddr a _ => exact j3_offline rfl rfl

theorem inv3_step {fp : FdlParams} (hfp : FpOk fp) {g g' : G} (hI : Inv fp g) (h8 : Inv8 g) (h3 : Inv3 g) (op : Op)
    (h : gstep fp g op = .ok g') : Inv3 g' := by
  have hdec : ∀ {m'}, Declined fp g.m m' → ∀ (i : Nat) (p : Peripheral), m'.slots[i]? = some (some p) → J3 (g.sg i) p :=
    fun hD => declined_pres hD (fun i p => J3 (g.sg i) p) (fun i p hJ _ => j3_same_state hJ rfl) h3.slot
  cases step_form hfp hI h with
  | tx hform =>
    cases hform with
    | gc => exact ⟨h3.slot, by intro a ha; cases ha⟩
    | idle m' hD => exact ⟨hdec hD, by intro a ha; cases ha⟩
    | send m1 i p p' hd pdu hD hM1 hc hts =>
      have hsend := j3_send (hdec hD i p (cur_slot hc)) hts
      refine ⟨slotInv_upd_set (hdec hD) hsend.1, ?_⟩
      intro a _ j q hcq hst
      obtain ⟨rfl, rfl⟩ := cur_set_inj hc hcq
      show (g.upd i (sgSend hd p') i).s = 1
      rw [upd_same]; exact hsend.2 hst
    | off m1 index i p hD hM1 hcy hc =>
      refine ⟨?_, by intro a ha; cases ha⟩
      show ∀ (j : Nat) (q : Peripheral), (afterDecline m1 index i p _ (some .offline)).slots[j]? = some (some q) →
        J3 (g.upd i sgOffline j) q
      rw [afterDecline_slots]
      exact slotInv_upd_set (hdec hD) (j3_offline rfl rfl)
  | delivered hdel =>
    obtain ⟨index, i, p, p', ev, ho, hcy, hc, hpa, hal, hspec, rfl⟩ := hdel
    have hi := (curSlot_spec hc).2.2.1
    have hcur : g.m.cur = some (i, p) := by simp [Master.cur, hcy, hc]
    have hA := h8.await _ ho i p hcur hpa
    have hJ8 := h8.slot i p hi
    obtain ⟨k, hl⟩ := hA.last
    obtain ⟨hst, _⟩ := hJ8.snap hA.notFirst k p.fcb hl rfl
    have hk := (hJ8.kind k p.fcb hl).1
    exact ⟨slotInv_upd_set h3.slot
      (j3_reply (h3.slot i p hi) hspec hl (by rw [hk, hst]) hA.inflight (h3.await _ ho i p hcur)),
      by intro a ha; cases ha⟩
  | stale hst =>
    obtain ⟨_, _, _, _, _, _, _, rfl⟩ := hst
    exact ⟨h3.slot, by intro a ha; cases ha⟩
  | timeout a _ => exact ⟨h3.slot, by intro a ha; cases ha⟩
  | take sg' hsg =>
    rcases hsg with ⟨rfl, _⟩ | ⟨he, _, _, rfl⟩
    · exact ⟨h3.slot, h3.await⟩
    · -- `sgTake` only moves the life-cycle ghost
      refine ⟨fun j q hq => ?_, fun a ha j q hq hst => ?_⟩
      · exact upd_pres g he.index (P := fun x => J3 x q) (fun hJ => j3_ghost_irrelevant hJ rfl) (h3.slot j q hq)
      · exact upd_pres g he.index (P := fun x => x.s = 1) (fun hs => hs) (h3.await a ha j q hq hst)
  | user slot p q f t s hj hU =>
    refine ⟨slotInv_upd_set h3.slot (j3_user hU (h3.slot slot p hj)), ?_⟩
    intro a' ha' i q' hq hst
    have ho : g.out = some a' := ha'
    rcases cur_set_cases hj hq with ⟨rfl, rfl, hc⟩ | ⟨hij, hc⟩
    · show (g.upd i f i).s = 1
      rw [upd_same]
      cases hU with
      | writeQ bs _ => exact h3.await a' ho i p hc hst
      | diagReq => exact h3.await a' ho i p hc hst
      | resetAddr a _ => simp [Peripheral.resetAddress] at hst
    · show (g.upd slot f i).s = 1
      rw [upd_other _ _ hij]
      exact h3.await a' ho i q' hc hst

end PV.Dp
