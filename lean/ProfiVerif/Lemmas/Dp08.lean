/-
Ghost invariant for C08 (frame count bit / retry discipline): `J8` per slot, `Await` for the slot a
reply is outstanding from, with `init` / `step` lemmas over the histories of `Lemmas/Dp.lean`; an acceptable reply
toggles the bit (`acc_cycles`), an unchanged bit means an unchanged peripheral (`same_fcb_same`); `send_step`: what is
known when a request goes out, the form in which `Props/C03` and `Props/C08` use the invariant.
-/
import ProfiVerif.Lemmas.Dp

namespace PV.Dp
open PV

/-- C08 invariant of one slot: ghost observations `x` against the peripheral `p`. -/
structure J8 (x : SG) (p : Peripheral) : Prop where
  first : x.expectFirst = true → p.fcb = .first
  lastNone : x.last = none → x.expectFirst = true
  toggled : x.expectFirst = false → x.accepted = true → ∀ k f0, x.last = some (k, f0) → p.fcb = cyc f0
  /-- as long as the bit is the one of the last request, the peripheral is in the state it was in
  when that request went out, and in the data-exchange states that request is still unanswered
  (`retry_count > 0`) with the same service in flight -/
  snap : x.expectFirst = false → ∀ k f0, x.last = some (k, f0) → p.fcb = f0 →
    p.state = x.snapState ∧
    ((p.state = .preDataExchange ∨ p.state = .dataExchange) → p.diagInFlight = x.snapDiag ∧ 0 < p.retry)
  kind : ∀ k f0, x.last = some (k, f0) → k = kindOfSnap x.snapState x.snapDiag ∧ f0 ≠ .inactive
  /-- a turn that declines without event resets `retry_count` but not the ghost count; it happens only offline or with
  nothing to send in WaitForParam / WaitForConfig (`decline_none_state`): the three cases excluded -/
  count : p.state ≠ .offline → (p.state = .waitForParam → p.opts.userPrm ≠ none) →
    (p.state = .waitForConfig → p.opts.config ≠ none) → x.anyReply = false → x.count ≤ p.retry

/-- The slot a reply is outstanding from: its last request is unanswered and carried the current bit. -/
structure Await (x : SG) (p : Peripheral) : Prop where
  notFirst : x.expectFirst = false
  last : ∃ k, x.last = some (k, p.fcb)
  noReply : x.anyReply = false
  notAcc : x.accepted = false
  inflight : (p.state = .preDataExchange ∨ p.state = .dataExchange) → p.diagInFlight = x.snapDiag

structure Inv8 (g : G) : Prop where
  slot : ∀ (i : Nat) (p : Peripheral), g.m.slots[i]? = some (some p) → J8 (g.sg i) p
  /-- (for the peripheral the reply will be delivered to: after a `reset_address()` in flight the
  peripheral at the cycle index has another address and the reply is ignored) -/
  await : ∀ a, g.out = some a → ∀ i p, g.m.cur = some (i, p) → p.address = a → Await (g.sg i) p

theorem decline_none_state {fp : FdlParams} {op : OpState} {p p' : Peripheral}
    (h : TxSpec fp op p (.decline p' none)) :
    p.state = .offline ∨ p.state = .waitForParam ∨ p.state = .waitForConfig := by
  cases h with
  | probeWait _ hs _ => exact .inl hs
  | noPrm _ hs _ => exact .inr (.inl hs)
  | noCfg _ hs _ => exact .inr (.inr hs)

theorem j8_decline {fp : FdlParams} {op : OpState} {x : SG} {p : Peripheral} (hJ : J8 x p)
    (ht : TxSpec fp op p (.decline { p with retry := 0 } none)) : J8 x { p with retry := 0 } where
  first := hJ.first
  lastNone := hJ.lastNone
  toggled := hJ.toggled
  snap := by
    intro he k f0 hl hf
    obtain ⟨h1, _⟩ := hJ.snap he k f0 hl hf
    refine ⟨h1, ?_⟩
    intro hdx
    exfalso
    -- a decline without event never happens in the data-exchange states
    have hdx' : p.state = .preDataExchange ∨ p.state = .dataExchange := hdx
    rcases decline_none_state ht with h | h | h <;> rcases hdx' with h' | h' <;> (rw [h] at h'; cases h')
  kind := hJ.kind
  count := by
    intro h1 h2 h3 _
    exfalso
    -- a decline without event happens only offline, or without parameters / configuration to send:
    -- each contradicts one of `h1`, `h2`, `h3`
    generalize hr : PTx.decline { p with retry := 0 } none = r at ht
    cases ht <;> simp_all

theorem j8_init {x : SG} (hx : x = {}) {p : Peripheral} (hf : p.fcb = .first) : J8 x p := by
  subst hx
  exact ⟨fun _ => hf, fun _ => rfl, (by intro h; cases h), (by intro h; cases h),
    (by intro k f0 h; cases h), (by intro _ _ _ _; exact Nat.zero_le _)⟩

theorem inv8_init {fp : FdlParams} {slots : List (Option Peripheral)} (h : InitOk fp slots) (gr : Bool) :
    Inv8 (G.init slots gr) :=
  ⟨fun i p hi => j8_init rfl (h.fresh i p hi).2.2.2.1, (by intro a ha; cases ha)⟩


theorem j8_send {fp : FdlParams} {op : OpState} {x : SG} {p p' : Peripheral} {h : Header} {pdu : Bytes}
    (hJ : J8 x p) (hP : PInv fp p) (hs : TxSpec fp op p (.send p' h pdu)) : J8 (sgSend h p' x) p' := by
  obtain ⟨hk, hst, hdn, hfcb, hre, hop, hrl, hprm, hcfg, hinf⟩ := send_kind_snap hs
  have hf : fcbOf h = p.fcb := (send_header hs).2.2.2.1
  refine ⟨by simp [sgSend], by simp [sgSend], by simp [sgSend], ?_, ?_, ?_⟩
  · intro _ k f0 hl _
    simp only [sgSend, true_and]
    exact fun _ => by rw [hre]; omega
  · intro k f0 hl
    simp only [sgSend, Option.some.injEq, Prod.mk.injEq] at hl ⊢
    obtain ⟨rfl, rfl⟩ := hl
    rw [hk, hf]
    refine ⟨?_, hP.fcb⟩
    -- outside the data-exchange states the service does not depend on the flag
    by_cases hdx : p'.state = .preDataExchange ∨ p'.state = .dataExchange
    · rw [hinf hdx, hst]
    · rw [hst] at hdx ⊢
      cases hps : p.state <;> simp_all [kindOfSnap]
  · intro h1 h2 h3 _
    simp only [sgSend]
    rw [hre]
    split
    · rename_i hc
      have := hJ.count (by rw [← hst]; exact h1) (by intro hh; exact hprm hh) (by intro hh; exact hcfg hh) hc.2
      omega
    · omega

theorem await_send {fp : FdlParams} {op : OpState} {x : SG} {p p' : Peripheral} {h : Header} {pdu : Bytes}
    (hs : TxSpec fp op p (.send p' h pdu)) : Await (sgSend h p' x) p' := by
  obtain ⟨_, _, _, hfcb, _, _, _, _, _, hinf⟩ := send_kind_snap hs
  have hf : fcbOf h = p.fcb := (send_header hs).2.2.2.1
  refine ⟨by simp [sgSend], ⟨reqKind h, by simp [sgSend, hf, hfcb]⟩, by simp [sgSend], by simp [sgSend], ?_⟩
  intro _
  simp only [sgSend]

theorem j8_offline {x : SG} {p : Peripheral} (hJ : J8 x p) :
    J8 (sgOffline x) { p with state := .offline, fcb := .first, retry := 0 } :=
  ⟨fun _ => rfl, fun _ => rfl, (by intro h; cases h), (by intro h; cases h), hJ.kind,
   (by intro h; exact absurd rfl h)⟩



/-- An acceptable reply (for the service the peripheral's state implies) toggles the bit. -/
theorem acc_cycles {p p' : Peripheral} {t : Telegram} {ev : Option PEvent} (h : RxSpec p t p' ev) (d : Bool)
    (hacc : acceptable (kindOfSnap p.state d) p.piI.length t = true)
    (hinf : (p.state = .preDataExchange ∨ p.state = .dataExchange) → p.diagInFlight = d) :
    p'.fcb = cyc p.fcb := by
  -- a reply that leaves the bit is not acceptable for the service the state implies
  cases h
  case offRej hs ha | valRej hs ha =>
    rw [hs] at hacc
    simp only [kindOfSnap, acceptable] at hacc
    rw [ha] at hacc; cases hacc
  case prmRej hs hne | cfgRej hs hne =>
    rw [hs] at hacc
    simp only [kindOfSnap, acceptable, beq_iff_eq] at hacc
    exact absurd hacc hne
  case dxDiagRej hs hd ha =>
    have hdd : d = true := (hinf hs).symm.trans hd
    subst hdd
    rcases hs with hs | hs <;>
      (rw [hs] at hacc; simp only [kindOfSnap, if_true, acceptable] at hacc; rw [ha] at hacc; cases hacc)
  all_goals rfl

/-- If the bit is what it was, the peripheral is in the state it was (only `retry_count` may differ). -/
theorem same_fcb_same {p p' : Peripheral} {t : Telegram} {ev : Option PEvent} (h : RxSpec p t p' ev)
    (hf : p.fcb ≠ .inactive) (he : p'.fcb = p.fcb) :
    p'.state = p.state ∧ p'.diagNeeded = p.diagNeeded ∧ p'.diagInFlight = p.diagInFlight ∧
      ((p.state = .preDataExchange ∨ p.state = .dataExchange) → p'.retry = p.retry) := by
  have hne := cyc_ne_self hf
  -- a case leaves the peripheral as it is up to `retry_count`, or it cycles the bit, against `he`
  cases h
  case valRej hs _ => exact ⟨rfl, rfl, rfl, by intro h; rcases h with h | h <;> simp [hs] at h⟩
  all_goals first | exact ⟨rfl, rfl, rfl, fun _ => rfl⟩ | exact absurd he hne

theorem j8_reply {x : SG} {p p' : Peripheral} {t : Telegram} {ev : Option PEvent}
    (hJ : J8 x p) (hA : Await x p) (hf : p.fcb ≠ .inactive) (hs : RxSpec p t p' ev) :
    J8 (sgReply t p p' x) p' := by
  obtain ⟨k, hl⟩ := hA.last
  obtain ⟨hst, hdn⟩ := hJ.snap hA.notFirst k p.fcb hl rfl
  have hk := (hJ.kind k p.fcb hl).1
  refine ⟨?_, ?_, ?_, ?_, ?_, ?_⟩
  · intro h; simp only [sgReply] at h; rw [hA.notFirst] at h; cases h
  · intro h; simp only [sgReply] at h; rw [hl] at h; cases h
  · intro _ hacc k' f0 hl'
    simp only [sgReply, hl, hA.notAcc, Bool.false_or] at hacc hl'
    simp only [Option.some.injEq, Prod.mk.injEq] at hl'
    obtain ⟨rfl, rfl⟩ := hl'
    rw [hk, ← hst] at hacc
    exact acc_cycles hs x.snapDiag hacc (by intro h; exact hA.inflight h)
  · intro _ k' f0 hl' hfe
    simp only [sgReply, hl, Option.some.injEq, Prod.mk.injEq] at hl' ⊢
    obtain ⟨rfl, rfl⟩ := hl'
    obtain ⟨h1, _, h3, h4⟩ := same_fcb_same hs hf hfe
    rw [h1, h3]
    refine ⟨hst, fun hdx => ?_⟩
    rw [h4 hdx]
    exact hdn hdx
  · intro k' f0 hl'
    simp only [sgReply] at hl' ⊢
    exact hJ.kind k' f0 hl'
  · intro _ _ _ h; simp [sgReply] at h


theorem j8_user {g : G} {slot : Nat} {p q : Peripheral} {op : Op} {f : SG → SG} {t s : Bool}
    (hU : UserUpd g slot p op q f t s) (hJ : J8 (g.sg slot) p) : J8 (f (g.sg slot)) q := by
  cases hU with
  | writeQ bs _ => exact ⟨hJ.first, hJ.lastNone, hJ.toggled, hJ.snap, hJ.kind, hJ.count⟩
  | diagReq => exact ⟨hJ.first, hJ.lastNone, hJ.toggled, hJ.snap, hJ.kind, hJ.count⟩
  | resetAddr a _ => exact j8_init rfl rfl

theorem inv8_step {fp : FdlParams} (hfp : FpOk fp) {g g' : G} (hI : Inv fp g) (h8 : Inv8 g) (op : Op)
    (h : gstep fp g op = .ok g') (hu : g'.tainted = false) : Inv8 g' := by
  have hdec : ∀ {m'}, Declined fp g.m m' → ∀ (i : Nat) (p : Peripheral), m'.slots[i]? = some (some p) → J8 (g.sg i) p :=
    fun hD => declined_pres hD (fun i p => J8 (g.sg i) p) (fun i p hJ ht => j8_decline hJ ht) h8.slot
  cases step_form hfp hI h with
  | tx hform =>
    cases hform with
    | gc => exact ⟨h8.slot, by intro a ha; cases ha⟩
    | idle m' hD => exact ⟨hdec hD, by intro a ha; cases ha⟩
    | send m1 i p p' hd pdu hD hM1 hc hts =>
      have hi := cur_slot hc
      refine ⟨slotInv_upd_set (hdec hD) (j8_send (hdec hD i p hi) (hM1.pinv i p hi) hts), ?_⟩
      intro a _ j q hcq _
      obtain ⟨rfl, rfl⟩ := cur_set_inj hc hcq
      show Await (g.upd i (sgSend hd p') i) p'
      rw [upd_same]; exact await_send hts
    | off m1 index i p hD hM1 hcy hc =>
      have hi := (curSlot_spec hc).2.2.1
      refine ⟨?_, by intro a ha; cases ha⟩
      show ∀ (j : Nat) (q : Peripheral), (afterDecline m1 index i p _ (some .offline)).slots[j]? = some (some q) →
        J8 (g.upd i sgOffline j) q
      rw [afterDecline_slots]
      exact slotInv_upd_set (hdec hD) (j8_offline (hdec hD i p hi))
  | delivered hdel =>
    obtain ⟨index, i, p, p', ev, ho, hcy, hc, hpa, hal, hspec, rfl⟩ := hdel
    have hi := (curSlot_spec hc).2.2.1
    have hcur : g.m.cur = some (i, p) := by simp [Master.cur, hcy, hc]
    exact ⟨slotInv_upd_set h8.slot
      (j8_reply (h8.slot i p hi) (h8.await _ ho i p hcur hpa) (hI.m.pinv i p hi).fcb hspec), by intro a ha; cases ha⟩
  | stale hst =>
    obtain ⟨_, _, _, _, _, _, _, rfl⟩ := hst
    exact ⟨h8.slot, by intro a ha; cases ha⟩
  | timeout a _ => exact ⟨h8.slot, by intro a ha; cases ha⟩
  | take sg' hsg =>
    rcases hsg with ⟨rfl, _⟩ | ⟨he, _, _, rfl⟩
    · exact ⟨h8.slot, h8.await⟩
    · -- `sgTake` only moves the life-cycle ghost
      refine ⟨fun j q hq => ?_, fun a ha j q hq hpa => ?_⟩
      · exact upd_pres g he.index (P := fun x => J8 x q)
          (fun hJ => ⟨hJ.first, hJ.lastNone, hJ.toggled, hJ.snap, hJ.kind, hJ.count⟩) (h8.slot j q hq)
      · exact upd_pres g he.index (P := fun x => Await x q)
          (fun hA => ⟨hA.notFirst, hA.last, hA.noReply, hA.notAcc, hA.inflight⟩) (h8.await a ha j q hq hpa)
  | user slot p q f t s hj hU =>
    refine ⟨slotInv_upd_set h8.slot (j8_user hU (h8.slot slot p hj)), ?_⟩
    intro a' ha' i q' hq hpa
    have ho : g.out = some a' := ha'
    rcases cur_set_cases hj hq with ⟨rfl, rfl, hc⟩ | ⟨hij, hc⟩
    · show Await (g.upd i f i) q'
      rw [upd_same]
      cases hU with
      | writeQ bs _ =>
        have hA := h8.await a' ho i p hc hpa
        exact ⟨hA.notFirst, hA.last, hA.noReply, hA.notAcc, hA.inflight⟩
      | diagReq =>
        have hA := h8.await a' ho i p hc hpa
        exact ⟨hA.notFirst, hA.last, hA.noReply, hA.notAcc, hA.inflight⟩
      | resetAddr a _ =>
        -- reset to the very address the reply is outstanding from: such a history is tainted
        exfalso
        have haa : a = a' := hpa
        have h2 := (Bool.or_eq_false_iff.mp hu).2
        simp [resetInFlight, ho, hc, haa] at h2
    · show Await (g.upd slot f i) q'
      rw [upd_other _ _ hij]
      exact h8.await a' ho i q' hc hpa


/-- `send_step0` with the C08 invariant of the sending peripheral: declines do not disturb `J8`. -/
theorem send_step {fp : FdlParams} (hfp : FpOk fp) {g g' : G} (hI : Inv fp g) (h8 : Inv8 g)
    {now : Int} {hp : Bool} (h : gstep fp g (.tx now hp) = .ok g')
    {i : Nat} {hd : Header} {pdu : Bytes} (ho : g'.o = .sent i hd pdu) :
    ∃ p p' p0, g.m.slots[i]? = some (some p0) ∧ p = { p0 with retry := p.retry } ∧
      J8 (g.sg i) p ∧ PInv fp p ∧ TxSpec fp .operate p (.send p' hd pdu) ∧
      g'.sg i = sgSend hd p' (g.sg i) ∧ g'.out = some p0.address :=
  have ⟨_, p, p', p0, hD, hj, hp0, hsame, hP, hts, hsg, hout⟩ := send_step0 hfp hI h ho
  ⟨p, p', p0, hp0, hsame,
    declined_pres hD (fun i p => J8 (g.sg i) p) (fun _ _ hJ ht => j8_decline hJ ht) h8.slot i p hj, hP, hts, hsg, hout⟩

end PV.Dp
