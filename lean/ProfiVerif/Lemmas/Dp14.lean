/-
Ghost invariants for C14: exact event accounting (`produced` = `taken` ++ pending) and the
life-cycle automaton of the taken events against the peripheral state (`LcOk`, read state by state
through `lcOk_iff`).
-/
import ProfiVerif.Lemmas.Dp


namespace PV.Dp
open PV

/-- Life-cycle state of slot `i` including the event that is still waiting in `last_events`. -/
def lcEff (g : G) (i : Nat) : Option Nat :=
  match g.m.lastEvents.peripheral with
  | some he => if he.index = i then lcStep (g.sg i).lc he.ev else some (g.sg i).lc
  | none => some (g.sg i).lc

/-- … unless that event is stale (it belongs to an incarnation that `reset_address()` has replaced):
then it does not count. -/
def lcNow (g : G) (i : Nat) : Option Nat := if g.staleEv then some (g.sg i).lc else lcEff g i

/-- The state of `p` admits the life-cycle value `v` (0 off, 1 online, 2 configured): offline exactly at 0,
the data-exchange states only at 2. -/
structure LcOk (v : Nat) (p : Peripheral) : Prop where
  le : v ≤ 2
  off : p.state = .offline ↔ v = 0
  dx : (p.state = .preDataExchange ∨ p.state = .dataExchange) → v = 2

structure Inv14 (g : G) : Prop where
  /-- nothing is pending when no callback ran since the last `take_last_events` -/
  clean : g.dirty = false → g.m.lastEvents.peripheral = none
  /-- none lost, none duplicated -/
  exact : g.collected = true → g.produced = g.taken ++ g.m.lastEvents.peripheral.toList
  lc : g.collected = true → ∀ (i : Nat) (p : Peripheral), g.m.slots[i]? = some (some p) →
    ∃ v, lcNow g i = some v ∧ LcOk v p

/-- `LcOk` read by the state of the peripheral: the life-cycle values that go with it. -/
def lcAt (v : Nat) : PState → Prop
  | .offline => v = 0
  | .preDataExchange | .dataExchange => v = 2
  | _ => v = 1 ∨ v = 2

theorem lcOk_iff {v : Nat} {p : Peripheral} : LcOk v p ↔ lcAt v p.state := by
  constructor
  · intro h
    have hle := h.le
    have hlive : p.state ≠ .offline → v = 1 ∨ v = 2 := fun hne => by
      have : v ≠ 0 := fun h0 => hne (h.off.mpr h0)
      omega
    cases hs : p.state with
    | offline => exact h.off.mp hs
    | preDataExchange => exact h.dx (.inl hs)
    | dataExchange => exact h.dx (.inr hs)
    | waitForParam => exact hlive (by rw [hs]; intro h; cases h)
    | waitForConfig => exact hlive (by rw [hs]; intro h; cases h)
    | validateConfig => exact hlive (by rw [hs]; intro h; cases h)
  · intro h
    refine ⟨?_, ⟨fun hs => by rw [hs] at h; exact h, fun h0 => ?_⟩, fun hs => ?_⟩
    · cases hs : p.state <;> rw [hs] at h <;> simp only [lcAt] at h <;> omega
    · cases hs : p.state <;> rw [hs] at h <;> simp only [lcAt] at h <;> first | rfl | omega
    · rcases hs with hs | hs <;> (rw [hs] at h; exact h)

theorem lcOk_same {v : Nat} {p p' : Peripheral} (h : LcOk v p) (hs : p'.state = p.state) : LcOk v p' := by
  rw [lcOk_iff, hs]; exact lcOk_iff.mp h

theorem inv14_init {fp : FdlParams} {slots : List (Option Peripheral)} (h : InitOk fp slots) (gr : Bool) :
    Inv14 (G.init slots gr) := by
  refine ⟨fun _ => rfl, fun _ => rfl, ?_⟩
  intro _ i p hi
  exact ⟨0, rfl, by rw [lcOk_iff, (h.fresh i p hi).2.1]; rfl⟩

theorem rx_lc {p p' : Peripheral} {t : Telegram} {ev : Option PEvent} (h : RxSpec p t p' ev)
    {v : Nat} (hv : LcOk v p) :
    ∃ v', (match ev with | some e => lcStep v e | none => some v) = some v' ∧ LcOk v' p' := by
  have hv' := lcOk_iff.mp hv
  cases h
  case offAcc hs _ =>
    rw [hs] at hv'
    obtain rfl : v = 0 := hv'
    exact ⟨1, rfl, lcOk_iff.mpr (.inl rfl)⟩
  case offRej | prmRej | cfgRej | dxDiagRej => exact ⟨v, rfl, hv⟩
  case valRej | valNotReady => exact ⟨v, rfl, lcOk_same hv rfl⟩
  -- live before and after, no event
  case prmSc hs | cfgSc hs | valPrmReq hs _ _ _ _ =>
    rw [hs] at hv'
    exact ⟨v, rfl, lcOk_iff.mpr hv'⟩
  case valPrmFault hs _ _ | valCfgFault hs _ _ _ =>
    rw [hs] at hv'
    rcases hv' with rfl | rfl <;> exact ⟨0, rfl, lcOk_iff.mpr rfl⟩
  case valReady hs _ _ _ _ _ =>
    rw [hs] at hv'
    rcases hv' with rfl | rfl <;> exact ⟨2, rfl, lcOk_iff.mpr rfl⟩
  -- answered in the data-exchange states: configured before and after
  case dxDiagAcc hs _ _ | dxScData hs _ _ | dxOther hs _ _ _ _ | dxSaps hs _ _ _ _ | dxLen hs _ _ _ _ _ _ =>
    obtain rfl := hv.dx hs
    exact ⟨2, rfl, lcOk_same hv rfl⟩
  case dxScOk hs _ _ | dxData hs _ _ _ _ _ _ =>
    obtain rfl := hv.dx hs
    exact ⟨2, rfl, lcOk_iff.mpr rfl⟩
  case dxSapNotEnabled hs _ _ =>
    obtain rfl := hv.dx hs
    exact ⟨2, rfl, lcOk_iff.mpr (.inr rfl)⟩

theorem lcEff_none {g : G} (h : g.m.lastEvents.peripheral = none) (i : Nat) : lcEff g i = some (g.sg i).lc := by
  simp [lcEff, h]

theorem lcNow_none {g : G} (h : g.m.lastEvents.peripheral = none) (i : Nat) : lcNow g i = some (g.sg i).lc := by
  unfold lcNow; rw [lcEff_none h]; split <;> rfl

theorem lcNow_fresh {g : G} (h : g.staleEv = false) (i : Nat) : lcNow g i = lcEff g i := by
  unfold lcNow; rw [h]; rfl

theorem toList_none {α : Type} {o : Option α} (h : o = none) : o.toList = [] := by subst h; rfl

theorem lcNow_stale {g : G} (h : g.staleEv = true) (i : Nat) : lcNow g i = some (g.sg i).lc := by
  unfold lcNow; rw [h]; rfl

theorem lcEff_other {g : G} {i : Nat} (h : ∀ he, g.m.lastEvents.peripheral = some he → he.index ≠ i) :
    lcEff g i = some (g.sg i).lc := by
  unfold lcEff
  cases hev : g.m.lastEvents.peripheral with
  | none => rfl
  | some he => simp only [if_neg (h he hev)]

theorem lcEff_at {g : G} {he : HEvent} (h : g.m.lastEvents.peripheral = some he) :
    lcEff g he.index = lcStep (g.sg he.index).lc he.ev := by
  unfold lcEff; rw [h]; simp only [if_true]

theorem lcNow_congr {g g' : G} {i : Nat} (hs : g'.staleEv = g.staleEv)
    (he : g'.m.lastEvents.peripheral = g.m.lastEvents.peripheral) (hl : (g'.sg i).lc = (g.sg i).lc) :
    lcNow g' i = lcNow g i := by
  unfold lcNow lcEff; rw [hs, he, hl]

/-- `reset_address()` of another slot does not move the life-cycle value of slot `j`: the pending
event becomes stale only if it is about the slot that was reset. -/
theorem lcNow_reset_other {g g' : G} {slot j : Nat} (hj : j ≠ slot) (hsg : (g'.sg j).lc = (g.sg j).lc)
    (hev : g'.m.lastEvents.peripheral = g.m.lastEvents.peripheral)
    (hst : g'.staleEv = (g.staleEv || resetStaleEv g slot)) : lcNow g' j = lcNow g j := by
  have hE : lcEff g' j = lcEff g j := by unfold lcEff; rw [hev, hsg]
  unfold lcNow
  rw [hst, hE, hsg]
  cases hs : g.staleEv with
  | true => rfl
  | false =>
    cases hr : resetStaleEv g slot with
    | false => rfl
    | true =>
      simp only [Bool.or_true, if_true, Bool.false_eq_true, if_false]
      rw [lcEff_other]
      intro he hhe hidx
      simp only [resetStaleEv, hhe, beq_iff_eq] at hr
      exact hj (hidx.symm.trans hr)

theorem lcNow_reset_self {g g' : G} {slot : Nat} (h0 : (g'.sg slot).lc = 0)
    (hev : g'.m.lastEvents.peripheral = g.m.lastEvents.peripheral)
    (hst : g'.staleEv = (g.staleEv || resetStaleEv g slot)) : lcNow g' slot = some 0 := by
  cases hs : g'.staleEv with
  | true => rw [lcNow_stale hs, h0]
  | false =>
    rw [lcNow_fresh hs, lcEff_other, h0]
    intro he hhe hidx
    rw [hev] at hhe
    rw [hst] at hs
    have h2 := (Bool.or_eq_false_iff.mp hs).2
    simp [resetStaleEv, hhe, hidx] at h2

/-- The life-cycle values after a callback that replaced the peripheral of slot `i` (its ghost changed
by `f`, which keeps `lc`) and left at most an event for that slot in `last_events`: slot `i` makes the
step of that event, every other slot stays where it was. -/
theorem lc_callback {g g' : G} {slots : List (Option Peripheral)} {i : Nat} {q : Peripheral} {f : SG → SG}
    {ev : Option PEvent} {a : UInt8}
    {v : Nat} (hv : (match ev with | some e => lcStep (g.sg i).lc e | none => some (g.sg i).lc) = some v)
    (hq : LcOk v q) (hl : ∀ (j : Nat) (p : Peripheral), slots[j]? = some (some p) → LcOk (g.sg j).lc p)
    (hst : g'.staleEv = false) (hsl : g'.m.slots = slots.set i (some q)) (hsg : g'.sg = g.upd i f)
    (hf : ∀ x, (f x).lc = x.lc)
    (hev : g'.m.lastEvents.peripheral = ev.map fun e => { index := i, address := a, ev := e }) :
    ∀ (j : Nat) (p : Peripheral), g'.m.slots[j]? = some (some p) → ∃ v, lcNow g' j = some v ∧ LcOk v p := by
  intro j p hj
  rw [hsl] at hj
  refine set_pres (fun j p => LcOk (g.sg j).lc p) (fun j p => ∃ v, lcNow g' j = some v ∧ LcOk v p) hl ?_ ?_ j p hj
  · refine ⟨v, ?_, hq⟩
    rw [lcNow_fresh hst]
    unfold lcEff
    rw [hev, hsg]
    cases ev with
    | none => simpa [upd_same, hf] using hv
    | some e => simpa [upd_same, hf] using hv
  · intro j p hji hJ
    refine ⟨(g.sg j).lc, ?_, hJ⟩
    rw [lcNow_fresh hst, lcEff_other, hsg, upd_other _ _ hji]
    intro he hhe hidx
    rw [hev] at hhe
    cases ev with
    | none => cases hhe
    | some e =>
      simp only [Option.map_some, Option.some.injEq] at hhe
      subst hhe
      exact hji hidx.symm

/-- A callback (`transmit_telegram`, a delivered reply) writes `last_events` afresh.  If the events
were collected before it, nothing was pending: the account stays exact when what the callback produced
is what waits afterwards, and the life-cycle values follow from those of the ghosts before. -/
theorem inv14_callback {g g' : G} (h4 : Inv14 g) (hd : g'.dirty = true)
    (hc : g'.collected = (g.collected && !g.dirty)) (ht : g'.taken = g.taken)
    (hp : g'.produced = g.produced ++ g'.m.lastEvents.peripheral.toList)
    (hlc : (∀ (i : Nat) (p : Peripheral), g.m.slots[i]? = some (some p) → LcOk (g.sg i).lc p) →
      ∀ (j : Nat) (p : Peripheral), g'.m.slots[j]? = some (some p) → ∃ v, lcNow g' j = some v ∧ LcOk v p) :
    Inv14 g' := by
  have before : g'.collected = true →
      g.produced = g.taken ∧ ∀ (i : Nat) (p : Peripheral), g.m.slots[i]? = some (some p) → LcOk (g.sg i).lc p := by
    intro hcc
    rw [hc] at hcc
    simp only [Bool.and_eq_true, Bool.not_eq_true'] at hcc
    have hn := h4.clean hcc.2
    refine ⟨by have := h4.exact hcc.1; rw [hn] at this; simpa using this, ?_⟩
    intro i p hi
    obtain ⟨v, hv, hok⟩ := h4.lc hcc.1 i p hi
    rw [lcNow_none hn] at hv
    simp only [Option.some.injEq] at hv
    rw [hv]; exact hok
  refine ⟨(by intro h; rw [hd] at h; cases h), fun hcc => ?_, fun hcc => hlc (before hcc).2⟩
  rw [hp, ht, (before hcc).1]

theorem inv14_step {fp : FdlParams} (hfp : FpOk fp) {g g' : G} (hI : Inv fp g) (h4 : Inv14 g) (op : Op)
    (h : gstep fp g op = .ok g') : Inv14 g' := by
  cases step_form hfp hI h with
  | tx hform =>
    cases hform with
    | gc =>
      exact inv14_callback h4 rfl rfl rfl (List.append_nil _).symm
        (fun hl i p hi => ⟨(g.sg i).lc, lcNow_none rfl i, hl i p hi⟩)
    | idle m' hD _ hn =>
      refine inv14_callback h4 rfl rfl rfl ?_ (fun hl i p hi => ⟨(g.sg i).lc, lcNow_none hn i, ?_⟩)
      · show g.produced = g.produced ++ m'.lastEvents.peripheral.toList
        rw [hn]; exact (List.append_nil _).symm
      · exact declined_pres hD (fun i p => LcOk (g.sg i).lc p) (fun i p hJ _ => lcOk_same hJ rfl) hl i p hi
    | send m1 i p p' hd pdu hD hM1 hc hts =>
      refine inv14_callback h4 rfl rfl rfl (List.append_nil _).symm (fun hl => ?_)
      have h1 := declined_pres hD (fun i p => LcOk (g.sg i).lc p) (fun i p hJ _ => lcOk_same hJ rfl) hl
      have hst : p'.state = p.state := (send_kind_snap hts).2.1
      exact lc_callback (ev := none) (a := 0) rfl (lcOk_same (h1 i p (cur_slot hc)) hst) h1 rfl rfl rfl (fun _ => rfl) rfl
    | off m1 index i p hD hM1 hcy hc hret =>
      have hev := afterDecline_event m1 index i p { p with state := .offline, fcb := .first, retry := 0 } .offline
      have hs := afterDecline_slots m1 index i p { p with state := .offline, fcb := .first, retry := 0 } (some .offline)
      refine inv14_callback h4 rfl rfl rfl ?_ (fun hl => ?_)
      · show g.produced ++ _ = g.produced ++ (afterDecline m1 index i p _ (some .offline)).lastEvents.peripheral.toList
        rw [hev]; rfl
      · have h1 := declined_pres hD (fun i p => LcOk (g.sg i).lc p) (fun i p hJ _ => lcOk_same hJ rfl) hl
        have hi := (curSlot_spec hc).2.2.1
        have hlive : p.state ≠ .offline := by
          intro hs0; have := (hM1.pinv i p hi).off_retry hs0; have := hfp.retry_lo; omega
        have hlc := h1 i p hi
        have hv0 : (g.sg i).lc ≠ 0 := fun h0 => hlive (hlc.off.mpr h0)
        have hle := hlc.le
        refine lc_callback (ev := some .offline) (v := 0) ?_ ?_ h1 rfl hs rfl (fun _ => rfl) hev
        · have : (g.sg i).lc = 1 ∨ (g.sg i).lc = 2 := by omega
          rcases this with h12 | h12 <;> rw [h12] <;> rfl
        · exact lcOk_iff.mpr rfl
  | delivered hdel =>
    obtain ⟨index, i, p, p', ev, ho, hcy, hc, hpa, hal, hspec, rfl⟩ := hdel
    refine inv14_callback h4 rfl rfl rfl rfl (fun hl => ?_)
    obtain ⟨v', hv', hok'⟩ := rx_lc hspec (hl i p (curSlot_spec hc).2.2.1)
    exact lc_callback hv' hok' hl rfl rfl rfl (fun _ => rfl) rfl
  | stale hst =>
    obtain ⟨_, _, _, _, _, _, _, rfl⟩ := hst
    exact ⟨h4.clean, h4.exact, h4.lc⟩
  | timeout a _ => exact ⟨h4.clean, h4.exact, h4.lc⟩
  | take sg' hsg =>
    refine ⟨fun _ => rfl, ?_, ?_⟩
    · intro hcc
      have := h4.exact hcc
      show g.produced = (g.taken ++ g.m.lastEvents.peripheral.toList) ++ []
      rw [this]; simp
    · intro hcc i p hi
      obtain ⟨v, hv, hok⟩ := h4.lc hcc i p hi
      refine ⟨v, ?_, hok⟩
      -- nothing is pending afterwards
      rw [lcNow_none rfl]
      show some (sg' i).lc = some v
      rcases hsg with ⟨rfl, hev | hsv⟩ | ⟨he, hev, hsv, rfl⟩
      · rw [lcNow_none hev] at hv; exact hv
      · -- a stale event is handed out but not counted
        rw [lcNow_stale hsv] at hv; exact hv
      · rw [lcNow_fresh hsv] at hv
        by_cases hj : i = he.index
        · subst hj
          rw [lcEff_at hev] at hv
          rw [upd_same]
          simp only [sgTake, hv, Option.getD_some]
        · rw [lcEff_other (fun he' hh => by rw [hev] at hh; cases hh; exact fun e => hj e.symm)] at hv
          rw [upd_other _ _ hj]; exact hv
  | user slot p q f t s hj hU =>
    refine ⟨h4.clean, h4.exact, ?_⟩
    intro hcc i q' hq
    -- a call that keeps the state of the peripheral and the life-cycle ghost changes nothing here
    have quiet : q.state = p.state → (∀ x : SG, (f x).lc = x.lc) →
        ∃ v, lcNow g i = some v ∧ LcOk v q' ∧ (g.upd slot f i).lc = (g.sg i).lc := by
      intro hst hf
      obtain ⟨v, hv, hok⟩ := set_pres (fun j p => ∃ v, lcNow g j = some v ∧ LcOk v p)
        (fun j p => ∃ v, lcNow g j = some v ∧ LcOk v p) (h4.lc hcc)
        (by obtain ⟨v, hv, hok⟩ := h4.lc hcc slot p hj; exact ⟨v, hv, lcOk_same hok hst⟩) (fun _ _ _ h => h) i q' hq
      exact ⟨v, hv, hok, upd_pres g slot (P := fun x => x.lc = (g.sg i).lc) (fun h => (hf _).trans h) rfl⟩
    cases hU with
    | writeQ bs _ =>
      obtain ⟨v, hv, hok, hlc⟩ := quiet rfl (fun _ => rfl)
      refine ⟨v, Eq.trans (lcNow_congr ?_ ?_ ?_) hv, hok⟩
      · exact Bool.or_false _
      · rfl
      · exact hlc
    | diagReq =>
      obtain ⟨v, hv, hok, hlc⟩ := quiet rfl (fun _ => rfl)
      refine ⟨v, Eq.trans (lcNow_congr ?_ ?_ ?_) hv, hok⟩
      · exact Bool.or_false _
      · rfl
      · exact hlc
    | resetAddr a _ =>
      refine set_pres (fun j p => ∃ v, lcNow g j = some v ∧ LcOk v p)
        (fun j r => ∃ v, lcNow { g with m := { g.m with slots := g.m.slots.set slot (some (p.resetAddress a)) },
                                        o := .user, sg := g.upd slot (fun _ => {}),
                                        tainted := g.tainted || resetInFlight g slot a,
                                        staleEv := g.staleEv || resetStaleEv g slot } j = some v ∧ LcOk v r)
        (h4.lc hcc) ?_ ?_ i q' hq
      · refine ⟨0, lcNow_reset_self (g := g) ?_ ?_ ?_, lcOk_iff.mpr rfl⟩
        · simp only [upd_same]
        · rfl
        · rfl
      · intro j r hj ⟨v, hv, hok⟩
        refine ⟨v, Eq.trans (lcNow_reset_other hj ?_ ?_ ?_) hv, hok⟩
        · simp only [upd_other _ _ hj]
        · rfl
        · rfl

end PV.Dp
