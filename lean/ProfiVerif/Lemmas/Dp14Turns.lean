/-
C14 `turn_order` / `cycle_completed_once` over whole histories.  A *visit* is one invocation of
`Peripheral::transmit_telegram` by the loop of the master's `transmit_telegram` (`txVisits` mirrors the
loop and lists the slots, in order); a *turn* is a maximal run of consecutive visits of the same slot
within a pass (a request and its retransmissions: the cycle index stays on the slot while its request is
outstanding or unanswered); a *pass* ends when a callback reports `cycle_completed`.  `Turns` / `trun`
keep this bookkeeping next to `grun`.  `TInv`: every completed pass is the ascending list of the occupied
slots, the current pass that of the occupied slots before the cycle index (`Open`); a poll adds the visits
`TxFormV` names.
-/
import ProfiVerif.Lemmas.Dp

namespace PV.Dp
open PV


/-- Record a visit of slot `v`; `pass` lists the turns of the current pass, newest first. -/
def addVisit (v : Nat) : List Nat → List Nat
  | [] => [v]
  | w :: r => if w = v then w :: r else v :: w :: r

def addVisits (pass : List Nat) (vs : List Nat) : List Nat := vs.foldl (fun acc v => addVisit v acc) pass

theorem addVisit_new {L : List Nat} {v : Nat} (h : ∀ x ∈ L, x < v) : addVisit v L.reverse = (L ++ [v]).reverse := by
  rw [List.reverse_append]
  cases hr : L.reverse with
  | nil => rfl
  | cons w r =>
    have hw : w ∈ L := by
      have : w ∈ L.reverse := by rw [hr]; exact List.mem_cons_self ..
      exact List.mem_reverse.mp this
    have : w ≠ v := by have := h w hw; omega
    simp [addVisit, this]

theorem addVisit_same {L : List Nat} {v : Nat} : addVisit v (L ++ [v]).reverse = (L ++ [v]).reverse := by
  rw [List.reverse_append]
  simp [addVisit]

theorem addVisits_occFrom (slots : List (Option Peripheral)) : ∀ (n a : Nat),
    addVisits (occIn slots 0 a).reverse (occFrom slots a n) = (occIn slots 0 (a + n)).reverse := by
  intro n
  induction n with
  | zero => intro a; rfl
  | succ n ih =>
    intro a
    have e : a + (n + 1) = (a + 1) + n := by omega
    by_cases ho : occupied slots a = true
    · simp only [occFrom, if_pos ho, addVisits, List.foldl_cons]
      have hlt : ∀ x ∈ occIn slots 0 a, x < a := by
        intro x hx
        have := mem_occFrom slots _ _ _ hx
        omega
      rw [addVisit_new hlt, ← occIn_snoc slots (Nat.zero_le _) ho, e]
      exact ih (a + 1)
    · have ho' : occupied slots a = false := by simpa using ho
      simp only [occFrom, if_neg ho]
      rw [e, ← ih (a + 1), occIn_snoc_false slots (Nat.zero_le _) ho']

/-- The visits of one poll — the occupied slots from `o` to `e`, ascending — added to a pass that holds
the occupied slots before `o`, with or without `o` itself (its turn may have begun in an earlier poll). -/
theorem addVisits_turn (slots : List (Option Peripheral)) {o e : Nat} (ho : occupied slots o = true) (hoe : o ≤ e)
    {pass : List Nat} (hp : pass = (occIn slots 0 o).reverse ∨ pass = (occIn slots 0 (o + 1)).reverse) :
    addVisits pass (occIn slots o (e + 1)) = (occIn slots 0 (e + 1)).reverse := by
  have e1 : e + 1 - o = (e - o) + 1 := by omega
  have hfirst : addVisit o pass = (occIn slots 0 (o + 1)).reverse := by
    rcases hp with hp | hp
    · rw [hp, occIn_snoc slots (Nat.zero_le _) ho]
      apply addVisit_new
      intro x hx
      have := mem_occFrom slots _ _ _ hx
      omega
    · rw [hp, occIn_snoc slots (Nat.zero_le _) ho]
      exact addVisit_same
  unfold occIn at *
  rw [e1]
  simp only [occFrom, if_pos ho, addVisits, List.foldl_cons]
  have := addVisits_occFrom slots (e - o) (o + 1)
  unfold occIn addVisits at this
  simp only [Nat.sub_zero] at this hfirst ⊢
  rw [hfirst, this]
  have : o + 1 + (e - o) = e + 1 := by omega
  rw [this]


/-- Did the callback that led to `g'` report `cycle_completed`?  Every `transmit_telegram` and every
delivered reply writes `last_events` afresh; nothing else reports. -/
def reported (g' : G) : Bool :=
  match g'.o with
  | .gc _ _ => g'.m.lastEvents.cycleCompleted
  | .sent _ _ _ => g'.m.lastEvents.cycleCompleted
  | .idle => g'.m.lastEvents.cycleCompleted
  | .replied _ _ => g'.m.lastEvents.cycleCompleted
  | _ => false

structure Turns where
  /-- turns of the current pass, newest first -/
  pass : List Nat := []
  /-- the completed passes (each newest turn first), newest pass first -/
  done : List (List Nat) := []

def tstep (fp : FdlParams) (g : G) (op : Op) (g' : G) (t : Turns) : Turns :=
  let pass' := match op with
    | .tx now hp => addVisits t.pass (visits fp now hp g.m)
    | _ => t.pass
  if reported g' then { pass := [], done := pass' :: t.done } else { t with pass := pass' }

def trun (fp : FdlParams) : G → Turns → List Op → Res3 (G × Turns)
  | g, t, [] => .ok (g, t)
  | g, t, op :: ops =>
    match gstep fp g op with
    | .ok g' => trun fp g' (tstep fp g op g' t) ops
    | .panic => .panic
    | .hang => .hang
    | .refused => .refused

theorem trun_grun (fp : FdlParams) : ∀ (ops : List Op) (g : G) (t : Turns) (g' : G) (t' : Turns),
    trun fp g t ops = .ok (g', t') → grun fp g ops = .ok g' := by
  intro ops
  induction ops with
  | nil => intro g t g' t' h; simp only [trun, Res3.ok.injEq, Prod.mk.injEq] at h; rw [h.1]; rfl
  | cons op ops ih =>
    intro g t g' t' h
    simp only [trun, grun] at h ⊢
    cases hs : gstep fp g op with
    | ok g1 => rw [hs] at h; exact ih _ _ _ _ h
    | panic => rw [hs] at h; cases h
    | hang => rw [hs] at h; cases h
    | refused => rw [hs] at h; cases h

/-- The current pass: with the cycle index at the occupied slot `o`, its turns are the occupied slots
before `o`, plus `o` itself once its turn has begun (always, while its request is outstanding). -/
structure Open (slots : List (Option Peripheral)) (cycle : Cycle) (out : Bool) (pass : List Nat) : Prop where
  compl : cycle = .completed → pass = []
  idx : ∀ index, cycle = .dx index → index = 0 ∨ ∃ p, curSlot slots index = some (index, p)
  none_ : ∀ index, cycle = .dx index → curSlot slots index = none → pass = []
  some_ : ∀ index o p, cycle = .dx index → curSlot slots index = some (o, p) →
      (pass = (occIn slots 0 o).reverse ∨ pass = (occIn slots 0 (o + 1)).reverse) ∧
      (out = true → pass = (occIn slots 0 (o + 1)).reverse)

structure TInv (occ0 : List Nat) (g : G) (t : Turns) : Prop where
  done : ∀ P ∈ t.done, P = (occAll g.m.slots).reverse
  open_ : Open g.m.slots g.m.cycle g.out.isSome t.pass
  /-- occupancy never changes (Operate: no `add`) -/
  occ : occAll g.m.slots = occ0

theorem open_start (slots : List (Option Peripheral)) : Open slots (.dx 0) false [] where
  compl := by intro h; cases h
  idx := by intro index h; cases h; exact .inl rfl
  none_ := by intro _ _ _; rfl
  some_ := by
    intro index o p h hc
    cases h
    refine ⟨.inl ?_, by intro h; cases h⟩
    rw [occIn_before hc]; rfl

theorem open_at {slots : List (Option Peripheral)} {n : Nat} {q : Peripheral} {pass : List Nat}
    (hc : curSlot slots n = some (n, q)) (hp : pass = (occIn slots 0 n).reverse) : Open slots (.dx n) false pass where
  compl := by intro h; cases h
  idx := by intro index h; cases h; exact .inr ⟨q, hc⟩
  none_ := by intro index h hn; cases h; rw [hc] at hn; cases hn
  some_ := by
    intro index o p h hc'
    cases h
    rw [hc] at hc'
    cases hc'
    exact ⟨.inl hp, by intro h; cases h⟩

theorem open_turn {slots : List (Option Peripheral)} {index e : Nat} {q : Peripheral} {pass : List Nat} (b : Bool)
    (hc : curSlot slots index = some (e, q)) (hi : index = 0 ∨ index = e)
    (hp : pass = (occIn slots 0 (e + 1)).reverse) : Open slots (.dx index) b pass where
  compl := by intro h; cases h
  idx := by
    intro index' h
    cases h
    rcases hi with hi | hi
    · exact .inl hi
    · right; subst hi; exact ⟨q, hc⟩
  none_ := by intro index' h hn; cases h; rw [hc] at hn; cases hn
  some_ := by
    intro index' o p h hc'
    cases h
    rw [hc] at hc'
    cases hc'
    exact ⟨.inr hp, fun _ => hp⟩

theorem fst_transfer {a b : Option (Nat × Peripheral)} (h : a.map (·.1) = b.map (·.1)) {o : Nat} {p : Peripheral}
    (ha : a = some (o, p)) : ∃ p', b = some (o, p') := by
  subst ha
  cases b with
  | none => cases h
  | some jp =>
    simp only [Option.map_some, Option.some.injEq] at h
    exact ⟨jp.2, by rw [h]⟩

/-- Replacing the peripheral in an occupied slot changes nothing about the pass: `Open` looks at the
slots only through their occupancy and the index `curSlot` finds. -/
theorem open_set {slots : List (Option Peripheral)} {cycle : Cycle} {out : Bool} {pass : List Nat}
    (h : Open slots cycle out pass) {k : Nat} {p0 q : Peripheral} (hk : slots[k]? = some (some p0)) :
    Open (slots.set k (some q)) cycle out pass := by
  have hocc := occupied_set slots (q := q) hk
  have hfst := fun index => curSlot_set_fst (q := q) hk index
  refine ⟨h.compl, ?_, ?_, ?_⟩
  · intro index hcy
    rcases h.idx index hcy with h0 | ⟨p, hp⟩
    · exact .inl h0
    · exact .inr (fst_transfer (hfst index).symm hp)
  · intro index hcy hn
    cases hcur : curSlot slots index with
    | none => exact h.none_ index hcy hcur
    | some jp =>
      obtain ⟨p', hp'⟩ := fst_transfer (o := jp.1) (p := jp.2) (hfst index).symm hcur
      rw [hn] at hp'; cases hp'
  · intro index o p hcy hc
    obtain ⟨p', hp'⟩ := fst_transfer (hfst index) hc
    rw [occIn_congr hocc, occIn_congr hocc]
    exact h.some_ index o p' hcy hp'

theorem open_weaken {slots : List (Option Peripheral)} {cycle : Cycle} {out : Bool} {pass : List Nat}
    (h : Open slots cycle out pass) : Open slots cycle false pass :=
  ⟨h.compl, h.idx, h.none_, fun index o p hcy hc => ⟨(h.some_ index o p hcy hc).1, by intro h; cases h⟩⟩

/-- The turn of the peripheral in slot `e` is over (`slots` are those of the moment, with the occupancy
of `S`; the pass holds the occupied slots up to `e`): if no occupied slot follows, the pass is complete;
otherwise the cycle index goes to the next one, whose turn has not begun. -/
theorem turn_over {S slots : List (Option Peripheral)} {index e : Nat} {pe : Peripheral} (p' : Peripheral)
    (hocc : ∀ j, occupied slots j = occupied S j) (hc : curSlot slots index = some (e, pe)) {pass : List Nat}
    (hp : pass = (occIn S 0 (e + 1)).reverse) :
    (nextSlot slots index = none → pass = (occAll S).reverse) ∧
    (∀ n, nextSlot slots index = some n → Open (slots.set e (some p')) (.dx n) false pass) := by
  have hi := (curSlot_spec hc).2.2.1
  refine ⟨fun hn => ?_, fun n hn => ?_⟩
  · rw [hp]
    congr 1
    refine occIn_all S (fun k hk => ?_)
    rw [← hocc]
    exact nextSlot_none_last hc hn k (by omega)
  · obtain ⟨hin, hon, hgap⟩ := nextSlot_is_next hc hn
    obtain ⟨_, _, q, hq⟩ := nextSlot_gt hc hn
    have hq' : curSlot (slots.set e (some p')) n = some (n, q) := by
      rw [curSlot_set hi, hq]
      have : ¬ n = e := by omega
      simp [this]
    refine open_at hq' ?_
    rw [hp, occIn_congr (fun j => (occupied_set slots (q := p') hi j).trans (hocc j))]
    congr 1
    refine (occIn_gap S (by omega) (fun k h1 h2 => ?_)).symm
    rw [← hocc]
    exact hgap k (by omega) h2


theorem tinv_of {occ0 : List Nat} {g' : G} {slots : List (Option Peripheral)} {t : Turns} {pass' : List Nat} {rep : Bool}
    (hd : ∀ P ∈ t.done, P = (occAll slots).reverse) (h0 : occAll slots = occ0)
    (hoc : occAll g'.m.slots = occAll slots)
    (hrep : rep = true → pass' = (occAll slots).reverse ∧ Open g'.m.slots g'.m.cycle g'.out.isSome [])
    (hnrep : rep = false → Open g'.m.slots g'.m.cycle g'.out.isSome pass') :
    TInv occ0 g' (if rep then { pass := [], done := pass' :: t.done } else { t with pass := pass' }) := by
  cases rep with
  | true =>
    obtain ⟨h1, h2⟩ := hrep rfl
    refine ⟨?_, h2, hoc.trans h0⟩
    intro P hP
    rw [hoc]
    simp only [if_true] at hP
    rcases List.mem_cons.mp hP with rfl | hP
    · exact h1
    · exact hd P hP
  | false =>
    refine ⟨?_, hnrep rfl, hoc.trans h0⟩
    intro P hP
    rw [hoc]
    exact hd P hP

theorem tinv_quiet {fp : FdlParams} {occ0 : List Nat} {g g' : G} {t : Turns} (op : Op) (hT : TInv occ0 g t)
    (hnt : ∀ now hp, op ≠ .tx now hp) (hrep : reported g' = false)
    (hopen : Open g'.m.slots g'.m.cycle g'.out.isSome t.pass) (hoc : occAll g'.m.slots = occAll g.m.slots) :
    TInv occ0 g' (tstep fp g op g' t) := by
  unfold tstep
  cases op with
  | tx now hp => exact absurd rfl (hnt now hp)
  | _ => exact tinv_of hT.done hT.occ hoc (by intro h; rw [hrep] at h; cases h) (fun _ => hopen)

/-- Closing a `transmit_telegram` step: only the master, the contract automaton and the observable
result of the successor state matter. -/
theorem tinv_close {fp : FdlParams} {occ0 : List Nat} {g g' : G} {t : Turns} {now : Int} {hp : Bool} (hT : TInv occ0 g t) {vs : List Nat}
    (hv : visits fp now hp g.m = vs)
    (ho : g'.o = .idle ∨ (∃ i h pdu, g'.o = .sent i h pdu) ∨ ∃ h pdu, g'.o = .gc h pdu)
    (hoc : occAll g'.m.slots = occAll g.m.slots)
    (hrep : g'.m.lastEvents.cycleCompleted = true →
      addVisits t.pass vs = (occAll g.m.slots).reverse ∧ Open g'.m.slots g'.m.cycle g'.out.isSome [])
    (hnrep : g'.m.lastEvents.cycleCompleted = false → Open g'.m.slots g'.m.cycle g'.out.isSome (addVisits t.pass vs)) :
    TInv occ0 g' (tstep fp g (.tx now hp) g' t) := by
  have hr : reported g' = g'.m.lastEvents.cycleCompleted := by
    unfold reported
    rcases ho with ho | ⟨i, h, pdu, ho⟩ | ⟨h, pdu, ho⟩ <;> rw [ho]
  unfold tstep
  simp only [hv, hr]
  exact tinv_of hT.done hT.occ hoc hrep hnrep

theorem tinv_step {fp : FdlParams} (hfp : FpOk fp) {occ0 : List Nat} {g g' : G} {t : Turns} (hI : Inv fp g) (hT : TInv occ0 g t) (op : Op)
    (h : gstep fp g op = .ok g') : TInv occ0 g' (tstep fp g op g' t) := by
  cases op with
  | timeout a =>
    cases step_form hfp hI h with
    | timeout _ _ => exact tinv_quiet _ hT (by intro _ _ h; cases h) rfl (open_weaken hT.open_) rfl
    | user _ _ _ _ _ _ _ hU => cases hU
  | take =>
    cases step_form hfp hI h with
    | take sg' _ => exact tinv_quiet _ hT (by intro _ _ h; cases h) rfl hT.open_ rfl
    | user _ _ _ _ _ _ _ hU => cases hU
  | writeQ | diagReq | resetAddr =>
    cases step_form hfp hI h with
    | user slot p q f t s hk =>
      exact tinv_quiet _ hT (by intro _ _ h; cases h) rfl (open_set hT.open_ hk)
        (occAll_congr (occupied_set _ hk) (by simp))
  | reply a t' =>
    rcases reply_cases hI h with hdel | ⟨_, _, _, _, _, _, _, rfl⟩
    · obtain ⟨index, i, p, p', ev, ho, hcy, hc, hpa, hal, hspec, rfl⟩ := hdel
      have hi := (curSlot_spec hc).2.2.1
      have hocc := occupied_set g.m.slots (q := p') hi
      have hB := (hT.open_.some_ index i p hcy hc).2 (by rw [ho]; rfl)
      obtain ⟨hrep, hnone, hsome⟩ := afterReply_cycle g.m index i p p' ev
      have hslots : (afterReply g.m index i p p' ev).slots = g.m.slots.set i (some p') := rfl
      unfold tstep
      simp only [reported]
      obtain ⟨hdone, hnext⟩ := turn_over p' (fun _ => rfl) hc hB
      refine tinv_of hT.done hT.occ (by rw [hslots]; exact occAll_congr hocc (by simp)) ?_ ?_
      · intro hr
        have hn := hrep.mp hr
        refine ⟨hdone hn, ?_⟩
        simp only
        rw [hnone hn]
        exact ⟨fun _ => rfl, (by intro _ h; cases h), (by intro _ h; cases h), (by intro _ _ _ h; cases h)⟩
      · intro hr
        cases hn : nextSlot g.m.slots index with
        | none => rw [hrep.mpr hn] at hr; cases hr
        | some n =>
          simp only
          rw [hsome n hn, hslots]
          exact hnext n hn
    · exact tinv_quiet _ hT (by intro _ _ h; cases h) rfl (open_weaken hT.open_) rfl
  | tx now hp =>
    -- the poll visited the occupied slots from `o` to `e`, whose turn has begun: the pass holds those up to `e`
    have turn : ∀ {index o p0 m1 index1 e pe}, g.m.cycle = .dx index → curSlot g.m.slots index = some (o, p0) →
        Passed fp g.m index o m1 index1 e pe → ∀ p' : Peripheral,
        addVisits t.pass (occIn g.m.slots o (e + 1)) = (occIn g.m.slots 0 (e + 1)).reverse ∧
        (∀ j, occupied (m1.slots.set e (some p')) j = occupied g.m.slots j) ∧
        occAll (m1.slots.set e (some p')) = occAll g.m.slots := by
      intro index o p0 m1 index1 e pe hcy hc hP p'
      have hocc2 : ∀ j, occupied (m1.slots.set e (some p')) j = occupied g.m.slots j :=
        fun j => (occupied_set m1.slots (curSlot_spec hP.cur).2.2.1 j).trans (hP.occ j)
      exact ⟨addVisits_turn g.m.slots (curSlot_occupied hc).1 hP.le (hT.open_.some_ index o p0 hcy hc).1, hocc2,
        occAll_congr hocc2 (by simp [hP.decl.len])⟩
    cases tx_formV hfp hI h with
    | gc _ _ _ hv =>
      -- no visit, no report, the cycle does not move
      exact tinv_close hT hv (.inr (.inr ⟨_, _, rfl⟩)) rfl (by intro h; cases h) (fun _ => open_weaken hT.open_)
    | idle m' vs hE hv =>
      cases hE with
      | completed hcy =>
        refine tinv_close hT hv (.inl rfl) rfl (by intro h; cases h) (fun _ => ?_)
        show Open g.m.slots (.dx 0) false (addVisits t.pass [])
        rw [hT.open_.compl hcy]
        exact open_start _
      | empty index hcy hc =>
        have hidx0 : index = 0 := by
          rcases hT.open_.idx index hcy with h0 | ⟨p, hp⟩
          · exact h0
          · rw [hc] at hp; cases hp
        refine tinv_close hT hv (.inl rfl) rfl (fun _ => ?_) (by intro h; cases h)
        show addVisits t.pass [] = _ ∧ Open g.m.slots (.dx 0) false []
        rw [hT.open_.none_ index hcy hc]
        refine ⟨?_, open_start _⟩
        rw [hidx0] at hc
        rw [occAll_nil hc]; rfl
      | last index o p0 m1 index1 e pe hcy hc hP hts hn =>
        obtain ⟨hpass, hocc2, hoc⟩ := turn hcy hc hP { pe with retry := 0 }
        obtain ⟨hrep, hwrap, -⟩ := afterDecline_cycle m1 index1 e pe { pe with retry := 0 } none (fun _ => hn)
        have hslots := afterDecline_slots m1 index1 e pe { pe with retry := 0 } none
        refine tinv_close hT hv (.inl rfl) (by show occAll (afterDecline ..).slots = _; rw [hslots]; exact hoc) ?_ ?_
        · intro _
          show _ ∧ Open (afterDecline ..).slots (afterDecline ..).cycle false []
          rw [hwrap hn]
          exact ⟨(turn_over { pe with retry := 0 } hP.occ hP.cur hpass).1 hn, open_start _⟩
        · intro hr
          exact absurd ((hrep.mpr hn).symm.trans hr) (by decide)
    | send index o p0 m1 index1 e pe p' hd pdu hcy hc hP hts hv =>
      obtain ⟨hpass, hocc2, hoc⟩ := turn hcy hc hP p'
      have hi1 := (curSlot_spec hP.cur).2.2.1
      refine tinv_close hT hv (.inr (.inl ⟨_, _, _, rfl⟩)) hoc (by intro h; cases h) (fun _ => ?_)
      show Open (m1.slots.set e (some p')) m1.cycle true _
      rw [hP.cyc]
      have hcs : curSlot (m1.slots.set e (some p')) index1 = some (e, p') := by
        rw [curSlot_set hi1, hP.cur]; simp
      refine open_turn _ hcs ?_ (by rw [hpass, occIn_congr hocc2])
      rcases hP.idx with ⟨h1, h2⟩ | h1
      · rcases hT.open_.idx index hcy with h0 | ⟨q0, hq0⟩
        · left; rw [h1]; exact h0
        · right
          rw [hc] at hq0
          simp only [Option.some.injEq, Prod.mk.injEq] at hq0
          rw [h1, h2]; exact hq0.1.symm
      · exact .inr h1
    | off index o p0 m1 index1 e pe hcy hc hP hret hv =>
      obtain ⟨hpass, hocc2, hoc⟩ := turn hcy hc hP { pe with state := .offline, fcb := .first, retry := 0 }
      obtain ⟨hrep, hwrap, hnext⟩ := afterDecline_cycle m1 index1 e pe { pe with state := .offline, fcb := .first, retry := 0 }
        (some .offline) (by intro h; cases h)
      have hslots := afterDecline_slots m1 index1 e pe { pe with state := .offline, fcb := .first, retry := 0 } (some .offline)
      obtain ⟨hdone, hnext'⟩ := turn_over { pe with state := .offline, fcb := .first, retry := 0 } hP.occ hP.cur hpass
      refine tinv_close hT hv (.inl rfl) (by show occAll (afterDecline ..).slots = _; rw [hslots]; exact hoc) ?_ ?_
      · intro hr
        have hn := hrep.mp hr
        show _ ∧ Open (afterDecline ..).slots (afterDecline ..).cycle false []
        rw [hwrap hn]
        exact ⟨hdone hn, open_start _⟩
      · intro hr
        show Open (afterDecline ..).slots (afterDecline ..).cycle false _
        cases hn : nextSlot m1.slots index1 with
        | none => exact absurd ((hrep.mpr hn).symm.trans hr) (by decide)
        | some n =>
          rw [hnext n hn, hslots]
          exact hnext' n hn


theorem tinv_init (slots : List (Option Peripheral)) (gr : Bool) : TInv (occAll slots) (G.init slots gr) {} :=
  ⟨(by intro P hP; cases hP), open_start _, rfl⟩

theorem tinv_run {fp : FdlParams} (hfp : FpOk fp) {occ0 : List Nat} : ∀ (ops : List Op) (g : G) (t : Turns) (g' : G) (t' : Turns),
    Inv fp g → TInv occ0 g t → trun fp g t ops = .ok (g', t') → TInv occ0 g' t' := by
  intro ops
  induction ops with
  | nil =>
    intro g t g' t' _ hT h
    simp only [trun, Res3.ok.injEq, Prod.mk.injEq] at h
    rw [← h.1, ← h.2]; exact hT
  | cons op ops ih =>
    intro g t g' t' hI hT h
    simp only [trun] at h
    cases hs : gstep fp g op with
    | ok g1 =>
      rw [hs] at h
      exact ih g1 _ g' t' (inv_step hfp hI op hs) (tinv_step hfp hI hT op hs) h
    | panic => rw [hs] at h; cases h
    | hang => rw [hs] at h; cases h
    | refused => rw [hs] at h; cases h

theorem trun_of_grun (fp : FdlParams) : ∀ (ops : List Op) (g : G) (t : Turns) (g' : G),
    grun fp g ops = .ok g' → ∃ t', trun fp g t ops = .ok (g', t') := by
  intro ops
  induction ops with
  | nil => intro g t g' h; simp only [grun, Res3.ok.injEq] at h; exact ⟨t, by rw [← h]; rfl⟩
  | cons op ops ih =>
    intro g t g' h
    simp only [grun, trun] at h ⊢
    cases hs : gstep fp g op with
    | ok g1 => rw [hs] at h; exact ih g1 _ g' h
    | panic => rw [hs] at h; cases h
    | hang => rw [hs] at h; cases h
    | refused => rw [hs] at h; cases h

/-- Reports of `cycle_completed` along a history. -/
def reports (fp : FdlParams) : G → List Op → Nat
  | _, [] => 0
  | g, op :: ops =>
    match gstep fp g op with
    | .ok g' => (if reported g' then 1 else 0) + reports fp g' ops
    | _ => 0

theorem done_length (fp : FdlParams) : ∀ (ops : List Op) (g : G) (t : Turns) (g' : G) (t' : Turns),
    trun fp g t ops = .ok (g', t') → t'.done.length = t.done.length + reports fp g ops := by
  intro ops
  induction ops with
  | nil => intro g t g' t' h; simp only [trun, Res3.ok.injEq, Prod.mk.injEq] at h; rw [← h.2]; rfl
  | cons op ops ih =>
    intro g t g' t' h
    simp only [trun, reports] at h ⊢
    cases hs : gstep fp g op with
    | ok g1 =>
      rw [hs] at h
      simp only
      rw [ih g1 _ g' t' h]
      unfold tstep
      cases reported g1 <;> simp <;> omega
    | panic => rw [hs] at h; cases h
    | hang => rw [hs] at h; cases h
    | refused => rw [hs] at h; cases h

end PV.Dp
