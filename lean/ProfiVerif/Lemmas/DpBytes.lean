/-
Byte-level facts about the requests of `Model/Dp/Peripheral.lean`: the watchdog factor search of
`ParametersBuilder::watchdog_timeout`, the layout of the Set_Prm PDU in plain arithmetic, the fields of the
four request headers, `Peripheral.transmit` state by state under the side conditions `Sendable` (retry counter, addresses
and buffer lengths in range) — as equations and as one relation, `TxSpec` — and, through C09 (`Lemmas/Codec.lean`), the
bytes it puts on the wire and that the decoder reads them back.  `example`s show that
the hypotheses of the theorems with hypotheses are met by a concrete non-trivial value.
-/
import ProfiVerif.Model.Dp.Peripheral
import ProfiVerif.Lemmas.Codec

namespace PV.Dp
open PV


/-- `(t + g - 1) / g` is `⌈t / g⌉`, the second factor the loop of `watchdog_timeout` tries for the first factor `g`; it
looks for the least `g ≥ f1` (among `fuel` candidates) for which that fits a byte. -/
theorem wdSearch_spec (t : Nat) : ∀ fuel f1 : Nat,
    (wdSearch t fuel f1 = none ∧ ∀ g, f1 ≤ g → g < f1 + fuel → 256 ≤ (t + g - 1) / g) ∨
    (∃ f, f1 ≤ f ∧ f < f1 + fuel ∧ wdSearch t fuel f1 = some (f, (t + f - 1) / f) ∧
      (t + f - 1) / f < 256 ∧ ∀ g, f1 ≤ g → g < f → 256 ≤ (t + g - 1) / g) := by
  intro fuel
  induction fuel with
  | zero =>
    intro f1
    left
    refine ⟨rfl, ?_⟩
    intro g h1 h2
    omega
  | succ n ih =>
    intro f1
    by_cases hq : (t + f1 - 1) / f1 < 256
    · right
      refine ⟨f1, Nat.le_refl _, by omega, ?_, hq, ?_⟩
      · simp only [wdSearch, hq, if_true]
      · intro g h1 h2
        omega
    · have hstep : wdSearch t (n + 1) f1 = wdSearch t n (f1 + 1) := by
        simp only [wdSearch, hq, if_false]
      rcases ih (f1 + 1) with ⟨hn, hall⟩ | ⟨f, hf1, hf2, hs, hlt, hall⟩
      · left
        refine ⟨by rw [hstep, hn], ?_⟩
        intro g h1 h2
        by_cases hg : g = f1
        · subst hg; omega
        · exact hall g (by omega) (by omega)
      · right
        refine ⟨f, by omega, by omega, by rw [hstep, hs], hlt, ?_⟩
        intro g h1 h2
        by_cases hg : g = f1
        · subst hg; omega
        · exact hall g (by omega) h2

/-- With at most 65000 ten-millisecond units the candidate 255 always fits, so the full loop
(`1..256`) cannot fail. -/
theorem wdSearch_full (t : Nat) (ht : t ≤ 65000) :
    ∃ f, 1 ≤ f ∧ f ≤ 255 ∧ wdSearch t 255 1 = some (f, (t + f - 1) / f) ∧
      (t + f - 1) / f < 256 ∧ ∀ g, 1 ≤ g → g < f → 256 ≤ (t + g - 1) / g := by
  rcases wdSearch_spec t 255 1 with ⟨_, hall⟩ | ⟨f, h1, h2, hs, hlt, hall⟩
  · exfalso
    have h := hall 255 (by omega) (by omega)
    have h' : (t + 255 - 1) / 255 < 256 := by
      rw [Nat.div_lt_iff_lt_mul (by omega)]
      omega
    omega
  · exact ⟨f, h1, by omega, hs, hlt, hall⟩

/-- `watchdog_timeout` panics exactly for durations below 10 ms or above 650 s. -/
theorem watchdog_factors_none_iff (ms : Nat) :
    watchdogFactors ms = none ↔ (ms < 10 ∨ 650000 < ms) := by
  constructor
  · intro h
    by_cases hc : ms < 10 ∨ 650000 < ms
    · exact hc
    · exfalso
      have ht : ms / 10 ≤ 65000 := by omega
      obtain ⟨f, _, _, hs, _, _⟩ := wdSearch_full (ms / 10) ht
      simp [watchdogFactors, hc, hs] at h
  · intro h
    simp [watchdogFactors, h]

/-- Inside the accepted range the two factors are bytes in `1..=255`, `f2` is the ceiling of
`(ms / 10) / f1` (so `f1 * f2` is the smallest multiple of `f1` that is at least `ms / 10`), and `f1`
is the least factor for which that ceiling fits a byte. -/
theorem watchdog_factors_spec (ms : Nat) (h1 : 10 ≤ ms) (h2 : ms ≤ 650000) :
    ∃ f1 f2 : Nat, watchdogFactors ms = some (UInt8.ofNat f1, UInt8.ofNat f2) ∧
      1 ≤ f1 ∧ f1 ≤ 255 ∧ 1 ≤ f2 ∧ f2 ≤ 255 ∧ ms / 10 ≤ f1 * f2 ∧ f1 * f2 < ms / 10 + f1 ∧
      (∀ g, 1 ≤ g → g < f1 → 256 ≤ (ms / 10 + g - 1) / g) := by
  have ht : ms / 10 ≤ 65000 := by omega
  have ht1 : 1 ≤ ms / 10 := by omega
  obtain ⟨t, hte⟩ : ∃ t, ms / 10 = t := ⟨_, rfl⟩
  rw [hte] at ht ht1 ⊢
  obtain ⟨f, hf1, hf2, hs, hlt, hall⟩ := wdSearch_full t ht
  have hc : ¬ (ms < 10 ∨ 650000 < ms) := by omega
  have hdm := Nat.div_add_mod (t + f - 1) f
  have hml := Nat.mod_lt (t + f - 1) (show f > 0 by omega)
  obtain ⟨q, hq⟩ : ∃ q, (t + f - 1) / f = q := ⟨_, rfl⟩
  rw [hq] at hs hlt hdm
  have hq1 : 1 ≤ q := by
    rw [← hq]
    exact (Nat.le_div_iff_mul_le (by omega)).2 (by omega)
  refine ⟨f, q, ?_, hf1, hf2, hq1, by omega, by omega, by omega, hall⟩
  simp [watchdogFactors, hc, hte, hs]

/-! The boundary values of DESIGN.md (15 ms is floored to 10 ms units before the search). -/
example : watchdogFactors 10 = some (1, 1) := by decide
example : watchdogFactors 15 = some (1, 1) := by decide
example : watchdogFactors 2550 = some (1, 255) := by decide
example : watchdogFactors 2560 = some (2, 128) := by decide
example : watchdogFactors 650000 = some (255, 255) := by decide +kernel
example : watchdogFactors 9 = none := by decide
example : watchdogFactors 650001 = none := by decide
/-- Non-vacuity of `watchdog_factors_spec`. -/
example : ∃ ms, 10 ≤ ms ∧ ms ≤ 650000 := ⟨2560, by omega, by omega⟩


/-- The station-status byte is `0x80 (lock) + 0x20 (sync) + 0x10 (freeze) + 0x08 (watchdog on)`; the ident number is
big-endian. -/
theorem setPrmPdu_spec (fp : FdlParams) (o : Options) (up : Bytes) (hid : o.ident < 65536) :
    (setPrmPdu fp o up).length = 7 + up.length ∧ (setPrmPdu fp o up).drop 7 = up ∧
    ((setPrmPdu fp o up).getD 0 0).toNat =
      128 + (if o.sync then 32 else 0) + (if o.freeze then 16 else 0) +
        (if fp.watchdog.isSome then 8 else 0) ∧
    (setPrmPdu fp o up).getD 1 0 = (match fp.watchdog with | some (f1, _) => f1 | none => 0) ∧
    (setPrmPdu fp o up).getD 2 0 = (match fp.watchdog with | some (_, f2) => f2 | none => 0) ∧
    (setPrmPdu fp o up).getD 3 0 = fp.minTsdr ∧
    ((setPrmPdu fp o up).getD 4 0).toNat * 256 + ((setPrmPdu fp o up).getD 5 0).toNat = o.ident ∧
    (setPrmPdu fp o up).getD 6 0 = o.groups := by
  have e1 : (UInt8.ofNat (o.ident / 256)).toNat = o.ident / 256 := ofNat_toNat_le _ (by omega)
  have e2 : (UInt8.ofNat (o.ident % 256)).toNat = o.ident % 256 := ofNat_toNat_le _ (by omega)
  refine ⟨?_, ?_, ?_, ?_, ?_, ?_, ?_, ?_⟩
  · simp [setPrmPdu]; omega
  · simp [setPrmPdu]
  · obtain ⟨ident, sync, freeze, groups, userPrm, config⟩ := o
    obtain ⟨a, s, m, ts, wd⟩ := fp
    cases sync <;> cases freeze <;> cases wd <;> simp [setPrmPdu] <;> decide
  · obtain ⟨a, s, m, ts, wd⟩ := fp
    rcases wd with _ | ⟨f1, f2⟩ <;> rfl
  · obtain ⟨a, s, m, ts, wd⟩ := fp
    rcases wd with _ | ⟨f1, f2⟩ <;> rfl
  · simp [setPrmPdu]
  · simp only [setPrmPdu, List.cons_append, List.getD_cons_succ, List.getD_cons_zero, e1, e2]
    omega
  · simp [setPrmPdu]

/-- Non-vacuity of `setPrmPdu_spec`, and a worked example. -/
example : (⟨0x1234, true, false, 3, some [9, 9], none⟩ : Options).ident < 65536 := by decide
example : setPrmPdu ⟨2, 100, 1, 11, some (2, 128)⟩ ⟨0x1234, true, false, 3, none, none⟩ [9, 9]
    = [0xA8, 2, 128, 11, 0x12, 0x34, 3, 9, 9] := by decide


section Headers
variable (fp : FdlParams) (p : Peripheral)

@[simp] theorem diagHeader_da : (p.diagHeader fp).da = p.address := rfl
@[simp] theorem diagHeader_sa : (p.diagHeader fp).sa = fp.address := rfl
@[simp] theorem diagHeader_dsap : (p.diagHeader fp).dsap = some 60 := rfl
@[simp] theorem diagHeader_ssap : (p.diagHeader fp).ssap = some 62 := rfl
@[simp] theorem diagHeader_fc : (p.diagHeader fp).fc = .request p.fcb .srdLow := rfl

@[simp] theorem setPrmHeader_da : (p.setPrmHeader fp).da = p.address := rfl
@[simp] theorem setPrmHeader_sa : (p.setPrmHeader fp).sa = fp.address := rfl
@[simp] theorem setPrmHeader_dsap : (p.setPrmHeader fp).dsap = some 61 := rfl
@[simp] theorem setPrmHeader_ssap : (p.setPrmHeader fp).ssap = some 62 := rfl
@[simp] theorem setPrmHeader_fc : (p.setPrmHeader fp).fc = .request p.fcb .srdLow := rfl

@[simp] theorem chkCfgHeader_da : (p.chkCfgHeader fp).da = p.address := rfl
@[simp] theorem chkCfgHeader_sa : (p.chkCfgHeader fp).sa = fp.address := rfl
@[simp] theorem chkCfgHeader_dsap : (p.chkCfgHeader fp).dsap = some 62 := rfl
@[simp] theorem chkCfgHeader_ssap : (p.chkCfgHeader fp).ssap = some 62 := rfl
@[simp] theorem chkCfgHeader_fc : (p.chkCfgHeader fp).fc = .request p.fcb .srdLow := rfl

@[simp] theorem dxHeader_da : (p.dxHeader fp).da = p.address := rfl
@[simp] theorem dxHeader_sa : (p.dxHeader fp).sa = fp.address := rfl
@[simp] theorem dxHeader_dsap : (p.dxHeader fp).dsap = none := rfl
@[simp] theorem dxHeader_ssap : (p.dxHeader fp).ssap = none := rfl
@[simp] theorem dxHeader_fc : (p.dxHeader fp).fc = .request p.fcb .srdHigh := rfl

/-- Length byte (LE) of the four requests: PDU length + 2 SAP bytes + DA/SA/FC, or + 0 SAP bytes for
data exchange. -/
theorem diagHeader_lengthByte (n : Nat) : (p.diagHeader fp).lengthByte n = n + 5 := rfl
theorem setPrmHeader_lengthByte (n : Nat) : (p.setPrmHeader fp).lengthByte n = n + 5 := rfl
theorem chkCfgHeader_lengthByte (n : Nat) : (p.chkCfgHeader fp).lengthByte n = n + 5 := rfl
theorem dxHeader_lengthByte (n : Nat) : (p.dxHeader fp).lengthByte n = n + 3 := rfl

end Headers

@[simp] theorem dxPdu_length (op : OpState) (q : Bytes) : (dxPdu op q).length = q.length := by
  unfold dxPdu
  split <;> simp


/-- The static side conditions under which `transmit_telegram` cannot hit a panic site: retry counter
within the (byte-sized) limit, both addresses are 7-bit station addresses, and the three buffers fit
a 249-byte length field (`7 + 237 + 2 + 3 = 249`, `244 + 2 + 3 = 249`, `244 + 0 + 3 = 247`). -/
def Peripheral.Sendable (fp : FdlParams) (p : Peripheral) : Prop :=
  p.retry ≤ fp.maxRetry ∧ fp.maxRetry ≤ 254 ∧ p.address < 128 ∧ fp.address < 128 ∧
  (∀ up, p.opts.userPrm = some up → up.length ≤ 237) ∧
  (∀ c, p.opts.config = some c → c.length ≤ 244) ∧ p.piQ.length ≤ 244

theorem sent_ok (p : Peripheral) (h : Header) (pdu : Bytes)
    (hl : h.lengthByte pdu.length ≤ 249) (hr : p.retry + 1 ≤ 255) :
    p.sent h pdu = .send { p with retry := p.retry + 1 } h pdu := by
  have hs : Header.serialize h pdu 256 = .ok (frameSpec h pdu) := serialize_ok h pdu hl
  have hr' : ¬ (p.retry + 1 > 255) := by omega
  simp only [Peripheral.sent, hs, hr', if_false]

theorem wire_of_send (h : Header) (pdu rest : Bytes)
    (hda : h.da < 128) (hsa : h.sa < 128) (hl : h.lengthByte pdu.length ≤ 249) :
    h.serialize pdu = .ok (frameSpec h pdu) ∧
    deserialize (frameSpec h pdu ++ rest) = .accept (.data h pdu) (frameSpec h pdu).length :=
  ⟨serialize_ok h pdu hl, decode_frame h pdu rest hda hsa hl⟩

/-! A request that goes out is encodable, whatever the peripheral and the master: `.send` leaves `Peripheral.sent` only
after `serialize` returned `.ok`, and `serialize` returns `.ok` only with a length byte ≤ 249.  (`sent_len`,
`ptransmit_len`, and for the master `visit_len`, `txLoop_len`, `transmit_len` of `Lemmas/DpPoll.lean`.) -/

theorem serialize_ok_len {h : Header} {pdu b : Bytes} {cap : Nat} (hs : h.serialize pdu cap = .ok b) :
    h.lengthByte pdu.length ≤ 249 := by
  unfold Header.serialize at hs
  simp only at hs
  split at hs
  · cases hs
  · split at hs
    · rename_i h3; omega
    · split at hs
      · rename_i h11; omega
      · split at hs
        · cases hs
        · rename_i hle; omega

theorem sent_len {p p' : Peripheral} {h h' : Header} {pdu pdu' : Bytes} (hs : p.sent h pdu = .send p' h' pdu') :
    h'.lengthByte pdu'.length ≤ 249 := by
  unfold Peripheral.sent at hs
  cases hser : h.serialize pdu 256 with
  | panic => rw [hser] at hs; cases hs
  | ok b =>
    rw [hser] at hs
    simp only at hs
    split at hs
    · cases hs
    · cases hs
      exact serialize_ok_len hser

section Transmit
variable (fp : FdlParams) (op : OpState) (p : Peripheral)

/-- Needs no `Sendable`: `hr` contradicts its first conjunct. -/
theorem transmit_retry_exceeded (hop : op ≠ .stop) (hr : fp.maxRetry < p.retry) :
    p.transmit fp op =
      .decline { p with state := .offline, fcb := .first, retry := 0 } (some .offline) := by
  simp only [Peripheral.transmit, hop, if_false, gt_iff_lt, hr, if_true, Peripheral.declined]

theorem transmit_offline_first (hop : op ≠ .stop) (hst : p.state = .offline) (hr : p.retry = 0) :
    p.transmit fp op = .send { p with retry := 1 } (p.diagHeader fp) [] := by
  have hn : ¬ (0 > fp.maxRetry) := by omega
  simp only [Peripheral.transmit, hop, if_false, hst, hr, hn, if_true]
  rw [sent_ok _ _ _ (by rw [diagHeader_lengthByte]; simp) (by rw [hr]; omega), hr, hst]

theorem transmit_offline_retry (hop : op ≠ .stop) (hS : p.Sendable fp)
    (hst : p.state = .offline) (hr : p.retry ≠ 0) :
    p.transmit fp op = .decline { p with retry := 0 } none := by
  obtain ⟨h1, h2, -⟩ := hS
  have hn : ¬ (p.retry > fp.maxRetry) := by omega
  simp only [Peripheral.transmit, hop, if_false, hn, hst, hr, Peripheral.declined]

theorem transmit_validateConfig (hop : op ≠ .stop) (hS : p.Sendable fp)
    (hst : p.state = .validateConfig) :
    p.transmit fp op = .send { p with retry := p.retry + 1 } (p.diagHeader fp) [] := by
  obtain ⟨h1, h2, -⟩ := hS
  have hn : ¬ (p.retry > fp.maxRetry) := by omega
  simp only [Peripheral.transmit, hop, if_false, hn, hst]
  rw [sent_ok _ _ _ (by rw [diagHeader_lengthByte]; simp) (by omega), hst]

theorem transmit_waitForParam (hop : op ≠ .stop) (hS : p.Sendable fp)
    (hst : p.state = .waitForParam) (up : Bytes) (hup : p.opts.userPrm = some up) :
    p.transmit fp op =
      .send { p with retry := p.retry + 1 } (p.setPrmHeader fp) (setPrmPdu fp p.opts up) := by
  obtain ⟨h1, h2, -, -, h5, -⟩ := hS
  have hn : ¬ (p.retry > fp.maxRetry) := by omega
  have hlen : (setPrmPdu fp p.opts up).length = 7 + up.length := by simp [setPrmPdu]; omega
  have hu := h5 up hup
  simp only [Peripheral.transmit, hop, if_false, hn, hst, hup]
  rw [sent_ok _ _ _ (by rw [setPrmHeader_lengthByte, hlen]; omega) (by omega), hst]

theorem transmit_waitForParam_none (hop : op ≠ .stop) (hS : p.Sendable fp)
    (hst : p.state = .waitForParam) (hup : p.opts.userPrm = none) :
    p.transmit fp op = .decline { p with retry := 0 } none := by
  obtain ⟨h1, h2, -⟩ := hS
  have hn : ¬ (p.retry > fp.maxRetry) := by omega
  simp only [Peripheral.transmit, hop, if_false, hn, hst, hup, Peripheral.declined]

theorem transmit_waitForConfig (hop : op ≠ .stop) (hS : p.Sendable fp)
    (hst : p.state = .waitForConfig) (cfg : Bytes) (hc : p.opts.config = some cfg) :
    p.transmit fp op = .send { p with retry := p.retry + 1 } (p.chkCfgHeader fp) cfg := by
  obtain ⟨h1, h2, -, -, -, h6, -⟩ := hS
  have hn : ¬ (p.retry > fp.maxRetry) := by omega
  have hu := h6 cfg hc
  simp only [Peripheral.transmit, hop, if_false, hn, hst, hc]
  rw [sent_ok _ _ _ (by rw [chkCfgHeader_lengthByte]; omega) (by omega), hst]

theorem transmit_waitForConfig_none (hop : op ≠ .stop) (hS : p.Sendable fp)
    (hst : p.state = .waitForConfig) (hc : p.opts.config = none) :
    p.transmit fp op = .decline { p with retry := 0 } none := by
  obtain ⟨h1, h2, -⟩ := hS
  have hn : ¬ (p.retry > fp.maxRetry) := by omega
  simp only [Peripheral.transmit, hop, if_false, hn, hst, hc, Peripheral.declined]

theorem transmit_dataExchange (hop : op ≠ .stop) (hS : p.Sendable fp)
    (hst : p.state = .preDataExchange ∨ p.state = .dataExchange) :
    p.transmit fp op =
      (let p1 : Peripheral := { p with diagInFlight := p.serviceIsDiag }
       if p.serviceIsDiag then .send { p1 with retry := p.retry + 1 } (p1.diagHeader fp) []
       else .send { p1 with retry := p.retry + 1 } (p1.dxHeader fp) (dxPdu op p.piQ)) := by
  obtain ⟨h1, h2, -, -, -, -, h7⟩ := hS
  have hn : ¬ (p.retry > fp.maxRetry) := by omega
  have hq : (dxPdu op p.piQ).length ≤ 244 := by rw [dxPdu_length]; exact h7
  rcases hst with hst | hst <;>
    (unfold Peripheral.transmit
     simp only [hop, if_false, hn, hst]
     cases hsd : p.serviceIsDiag with
     | true =>
       simp only [if_true]
       rw [sent_ok _ _ _ (by rw [diagHeader_lengthByte]; simp) (by simp only; omega)]
     | false =>
       simp only [Bool.false_eq_true, if_false]
       rw [sent_ok _ _ _ (by rw [dxHeader_lengthByte]; omega) (by simp only; omega)])

end Transmit

theorem ptransmit_len {fp : FdlParams} {op : OpState} {p p' : Peripheral} {h : Header} {pdu : Bytes}
    (ht : p.transmit fp op = .send p' h pdu) : h.lengthByte pdu.length ≤ 249 := by
  unfold Peripheral.transmit at ht
  split at ht
  · cases ht
  · split at ht
    · cases ht
    · split at ht
      · split at ht
        · exact sent_len ht
        · cases ht
      · split at ht
        · exact sent_len ht
        · cases ht
      · split at ht
        · exact sent_len ht
        · cases ht
      · exact sent_len ht
      · simp only at ht
        split at ht <;> exact sent_len ht
      · simp only at ht
        split at ht <;> exact sent_len ht

/-- `Peripheral::transmit_telegram` case by case: the equations above as one relation. -/
inductive TxSpec (fp : FdlParams) (op : OpState) : Peripheral → PTx → Prop
  | goOffline (p) : fp.maxRetry < p.retry →
      TxSpec fp op p (.decline { p with state := .offline, fcb := .first, retry := 0 } (some .offline))
  | probe (p) : p.retry ≤ fp.maxRetry → p.state = .offline → p.retry = 0 →
      TxSpec fp op p (.send { p with retry := 1 } (p.diagHeader fp) [])
  | probeWait (p) : p.retry ≤ fp.maxRetry → p.state = .offline → p.retry ≠ 0 →
      TxSpec fp op p (.decline { p with retry := 0 } none)
  | setPrm (p up) : p.retry ≤ fp.maxRetry → p.state = .waitForParam → p.opts.userPrm = some up →
      TxSpec fp op p (.send { p with retry := p.retry + 1 } (p.setPrmHeader fp) (setPrmPdu fp p.opts up))
  | noPrm (p) : p.retry ≤ fp.maxRetry → p.state = .waitForParam → p.opts.userPrm = none →
      TxSpec fp op p (.decline { p with retry := 0 } none)
  | chkCfg (p cfg) : p.retry ≤ fp.maxRetry → p.state = .waitForConfig → p.opts.config = some cfg →
      TxSpec fp op p (.send { p with retry := p.retry + 1 } (p.chkCfgHeader fp) cfg)
  | noCfg (p) : p.retry ≤ fp.maxRetry → p.state = .waitForConfig → p.opts.config = none →
      TxSpec fp op p (.decline { p with retry := 0 } none)
  | validate (p) : p.retry ≤ fp.maxRetry → p.state = .validateConfig →
      TxSpec fp op p (.send { p with retry := p.retry + 1 } (p.diagHeader fp) [])
  | dxDiag (p) : p.retry ≤ fp.maxRetry → (p.state = .preDataExchange ∨ p.state = .dataExchange) →
      p.serviceIsDiag = true →
      TxSpec fp op p (.send { p with diagInFlight := p.serviceIsDiag, retry := p.retry + 1 } (p.diagHeader fp) [])
  | dx (p) : p.retry ≤ fp.maxRetry → (p.state = .preDataExchange ∨ p.state = .dataExchange) →
      p.serviceIsDiag = false →
      TxSpec fp op p (.send { p with diagInFlight := p.serviceIsDiag, retry := p.retry + 1 } (p.dxHeader fp) (dxPdu op p.piQ))

theorem tx_spec_of_sendable {fp : FdlParams} {op : OpState} (hop : op ≠ .stop) {p : Peripheral}
    (h : fp.maxRetry < p.retry ∨ p.Sendable fp) : TxSpec fp op p (p.transmit fp op) := by
  by_cases hr : fp.maxRetry < p.retry
  · rw [transmit_retry_exceeded fp op p hop hr]; exact .goOffline p hr
  · have hS : p.Sendable fp := h.resolve_left hr
    have hr' : p.retry ≤ fp.maxRetry := hS.1
    cases hs : p.state with
    | offline =>
      by_cases h0 : p.retry = 0
      · rw [transmit_offline_first fp op p hop hs h0]; exact .probe p hr' hs h0
      · rw [transmit_offline_retry fp op p hop hS hs h0]; exact .probeWait p hr' hs h0
    | waitForParam =>
      cases hu : p.opts.userPrm with
      | some up => rw [transmit_waitForParam fp op p hop hS hs up hu]; exact .setPrm p up hr' hs hu
      | none => rw [transmit_waitForParam_none fp op p hop hS hs hu]; exact .noPrm p hr' hs hu
    | waitForConfig =>
      cases hu : p.opts.config with
      | some c => rw [transmit_waitForConfig fp op p hop hS hs c hu]; exact .chkCfg p c hr' hs hu
      | none => rw [transmit_waitForConfig_none fp op p hop hS hs hu]; exact .noCfg p hr' hs hu
    | validateConfig => rw [transmit_validateConfig fp op p hop hS hs]; exact .validate p hr' hs
    | preDataExchange =>
      rw [transmit_dataExchange fp op p hop hS (Or.inl hs)]
      rcases Bool.eq_false_or_eq_true p.serviceIsDiag with hd | hd
      · simp only; rw [if_pos hd]; exact .dxDiag p hr' (Or.inl hs) hd
      · simp only; rw [if_neg (by simp [hd])]; exact .dx p hr' (Or.inl hs) hd
    | dataExchange =>
      rw [transmit_dataExchange fp op p hop hS (Or.inr hs)]
      rcases Bool.eq_false_or_eq_true p.serviceIsDiag with hd | hd
      · simp only; rw [if_pos hd]; exact .dxDiag p hr' (Or.inr hs) hd
      · simp only; rw [if_neg (by simp [hd])]; exact .dx p hr' (Or.inr hs) hd

theorem TxSpec.send_retry {fp : FdlParams} {op : OpState} {p p' : Peripheral} {h : Header} {pdu : Bytes}
    (hs : TxSpec fp op p (.send p' h pdu)) : p.retry ≤ fp.maxRetry := by
  cases hs <;> assumption

theorem TxSpec.send_facts {fp : FdlParams} {op : OpState} {p p' : Peripheral} {h : Header} {pdu : Bytes}
    (hS : p.Sendable fp) (hs : TxSpec fp op p (.send p' h pdu)) :
    h.da = p.address ∧ h.sa = fp.address ∧ h.lengthByte pdu.length ≤ 249 ∧ p'.retry = p.retry + 1 := by
  obtain ⟨-, -, -, -, h5, h6, h7⟩ := hS
  cases hs with
  | probe _ _ h0 => exact ⟨rfl, rfl, by rw [diagHeader_lengthByte]; simp, by simp only; omega⟩
  | setPrm up _ _ hu =>
    have hlen : (setPrmPdu fp p.opts up).length = 7 + up.length := by simp [setPrmPdu]; omega
    have := h5 up hu
    exact ⟨rfl, rfl, by rw [setPrmHeader_lengthByte, hlen]; omega, rfl⟩
  | chkCfg c _ _ hu =>
    have := h6 _ hu
    exact ⟨rfl, rfl, by rw [chkCfgHeader_lengthByte]; omega, rfl⟩
  | validate => exact ⟨rfl, rfl, by rw [diagHeader_lengthByte]; simp, rfl⟩
  | dxDiag => exact ⟨rfl, rfl, by rw [diagHeader_lengthByte]; simp, rfl⟩
  | dx => exact ⟨rfl, rfl, by rw [dxHeader_lengthByte, dxPdu_length]; omega, rfl⟩

section Transmit
variable (fp : FdlParams) (op : OpState) (p : Peripheral)

theorem transmit_sendable (hop : op ≠ .stop) (hS : p.Sendable fp) :
    (∃ p', p.transmit fp op = .decline p' none) ∨
    ∃ p' h pdu, p.transmit fp op = .send p' h pdu ∧ h.da = p.address ∧ h.sa = fp.address ∧
      h.lengthByte pdu.length ≤ 249 ∧ p'.retry = p.retry + 1 := by
  have h := tx_spec_of_sendable (fp := fp) hop (.inr hS)
  cases ht : p.transmit fp op with
  | panic => rw [ht] at h; cases h
  | send p' hd pdu => rw [ht] at h; exact .inr ⟨p', hd, pdu, rfl, h.send_facts hS⟩
  | decline p' ev =>
    rw [ht] at h
    cases h with
    | goOffline hr => have := hS.1; omega
    | probeWait => exact .inl ⟨_, rfl⟩
    | noPrm => exact .inl ⟨_, rfl⟩
    | noCfg => exact .inl ⟨_, rfl⟩

theorem transmit_send_inv (hop : op ≠ .stop) (hS : p.Sendable fp)
    (p' : Peripheral) (h : Header) (pdu : Bytes) (ht : p.transmit fp op = .send p' h pdu) :
    h.da = p.address ∧ h.sa = fp.address ∧ h.lengthByte pdu.length ≤ 249 ∧
      p'.retry = p.retry + 1 := by
  rcases transmit_sendable fp op p hop hS with ⟨p0, hd⟩ | ⟨p1, h1, pdu1, he, hres⟩
  · rw [hd] at ht; cases ht
  · rw [he] at ht; cases ht; exact hres

/-- Under `Sendable` and outside Stop, `transmit_telegram` reaches none of its panic sites. -/
theorem transmit_no_panic (hop : op ≠ .stop) (hS : p.Sendable fp) : p.transmit fp op ≠ .panic := by
  intro ht
  rcases transmit_sendable fp op p hop hS with ⟨p0, hd⟩ | ⟨p1, h1, pdu1, he, _⟩
  · rw [hd] at ht; cases ht
  · rw [he] at ht; cases ht

/-- What `transmit` hands to the FDL layer goes through C09: the wire bytes are the frame `frameSpec h pdu`, and the
decoder reads header and PDU back from them. -/
theorem transmit_wire (hop : op ≠ .stop) (hS : p.Sendable fp)
    (p' : Peripheral) (h : Header) (pdu rest : Bytes) (ht : p.transmit fp op = .send p' h pdu) :
    h.serialize pdu = .ok (frameSpec h pdu) ∧
    deserialize (frameSpec h pdu ++ rest) = .accept (.data h pdu) (frameSpec h pdu).length := by
  obtain ⟨hda, hsa, hl, -⟩ := transmit_send_inv fp op p hop hS p' h pdu ht
  obtain ⟨-, -, ha, hf, -⟩ := hS
  exact wire_of_send h pdu rest (by rw [hda]; exact ha) (by rw [hsa]; exact hf) hl

end Transmit

/-! ## Non-vacuity: a concrete master / peripheral satisfying every hypothesis used above -/

/-- Master at address 2, retry limit 1, `min_tsdr` 11, watchdog 2.56 s. -/
def exFp : FdlParams := ⟨2, 100, 1, 11, watchdogFactors 2560⟩
/-- Ident 0x1234, sync on, three user-parameter bytes, two configuration bytes. -/
def exOpts : Options := ⟨0x1234, true, false, 3, some [1, 2, 3], some [0x11, 0x21]⟩
/-- Peripheral 7 with a 2-byte input and 3-byte output image, put in state `st` with retry count `r`
and `diag_needed = dn`. -/
def exP (st : PState) (r : Nat) (dn : Bool) : Peripheral :=
  { Peripheral.new 7 exOpts [0, 0] [5, 6, 7] 16 with state := st, retry := r, diagNeeded := dn }

theorem exP_sendable (st : PState) (r : Nat) (dn : Bool) (hr : r ≤ 1) :
    (exP st r dn).Sendable exFp := by
  refine ⟨hr, by decide, ?_, by decide, ?_, ?_, ?_⟩
  · show (7 : UInt8) < 128; decide
  · intro up h; cases h; decide
  · intro c h; cases h; decide
  · show [(5 : UInt8), 6, 7].length ≤ 244; decide

/-- `sent_ok` / `wire_of_send`: hypotheses hold for the Set_Prm telegram of the example. -/
example : ((exP .waitForParam 0 false).setPrmHeader exFp).lengthByte
      (setPrmPdu exFp exOpts [1, 2, 3]).length ≤ 249 ∧ (exP .waitForParam 0 false).retry + 1 ≤ 255 ∧
    ((exP .waitForParam 0 false).setPrmHeader exFp).da < 128 ∧
    ((exP .waitForParam 0 false).setPrmHeader exFp).sa < 128 := by decide

example : (exP .offline 0 false).transmit exFp .operate =
    .send (exP .offline 1 false) ((exP .offline 0 false).diagHeader exFp) [] :=
  transmit_offline_first _ _ _ (by decide) rfl rfl
example : (exP .offline 1 false).transmit exFp .clear = .decline (exP .offline 0 false) none :=
  transmit_offline_retry _ _ _ (by decide) (exP_sendable _ _ _ (by decide)) rfl (by decide)
example : (exP .validateConfig 1 false).transmit exFp .operate =
    .send (exP .validateConfig 2 false) ((exP .validateConfig 1 false).diagHeader exFp) [] :=
  transmit_validateConfig _ _ _ (by decide) (exP_sendable _ _ _ (by decide)) rfl
example : (exP .waitForParam 0 false).transmit exFp .operate =
    .send (exP .waitForParam 1 false) ((exP .waitForParam 0 false).setPrmHeader exFp)
      [0xA8, 2, 128, 11, 0x12, 0x34, 3, 1, 2, 3] :=
  transmit_waitForParam _ _ _ (by decide) (exP_sendable _ _ _ (by decide)) rfl _ rfl
example : (exP .waitForConfig 0 false).transmit exFp .operate =
    .send (exP .waitForConfig 1 false) ((exP .waitForConfig 0 false).chkCfgHeader exFp)
      [0x11, 0x21] :=
  transmit_waitForConfig _ _ _ (by decide) (exP_sendable _ _ _ (by decide)) rfl _ rfl
example : ({ exP .waitForParam 0 false with opts := { exOpts with userPrm := none } } : Peripheral).transmit
      exFp .operate =
    .decline { exP .waitForParam 0 false with opts := { exOpts with userPrm := none } } none :=
  transmit_waitForParam_none _ _ _ (by decide)
    ⟨by decide, by decide, by decide, by decide, (by intro up h; cases h),
      (by intro c h; cases h; decide), by decide⟩ rfl rfl
example : ({ exP .waitForConfig 0 false with opts := { exOpts with config := none } } : Peripheral).transmit
      exFp .operate =
    .decline { exP .waitForConfig 0 false with opts := { exOpts with config := none } } none :=
  transmit_waitForConfig_none _ _ _ (by decide)
    ⟨by decide, by decide, by decide, by decide, (by intro up h; cases h; decide),
      (by intro c h; cases h), by decide⟩ rfl rfl
example : (exP .dataExchange 0 false).transmit exFp .operate =
    .send (exP .dataExchange 1 false) ((exP .dataExchange 0 false).dxHeader exFp) [5, 6, 7] :=
  transmit_dataExchange _ _ _ (by decide) (exP_sendable _ _ _ (by decide)) (Or.inr rfl)
example : (exP .preDataExchange 0 false).transmit exFp .clear =
    .send (exP .preDataExchange 1 false) ((exP .preDataExchange 0 false).dxHeader exFp) [0, 0, 0] :=
  transmit_dataExchange _ _ _ (by decide) (exP_sendable _ _ _ (by decide)) (Or.inl rfl)
example : (exP .dataExchange 0 true).transmit exFp .operate =
    .send { exP .dataExchange 1 true with diagInFlight := true }
      ((exP .dataExchange 0 true).diagHeader exFp) [] :=
  transmit_dataExchange _ _ _ (by decide) (exP_sendable _ _ _ (by decide)) (Or.inr rfl)
example : (exP .dataExchange 2 false).transmit exFp .operate =
    .decline { exP .offline 0 false with fcb := .first } (some .offline) :=
  transmit_retry_exceeded _ _ _ (by decide) (by decide)

/-- The bytes of the example's data-exchange telegram on the wire (SD2 LE LEr SD2 DA SA FC PDU FCS ED). -/
example : frameSpec ((exP .dataExchange 0 false).dxHeader exFp) [5, 6, 7] =
    [0x68, 6, 6, 0x68, 7, 2, 0x6D, 5, 6, 7, 0x88, 0x16] := by decide
example (rest : Bytes) :
    deserialize ([0x68, 6, 6, 0x68, 7, 2, 0x6D, 5, 6, 7, 0x88, 0x16] ++ rest) =
      .accept (.data ((exP .dataExchange 0 false).dxHeader exFp) [5, 6, 7]) 12 :=
  (transmit_wire exFp .operate (exP .dataExchange 0 false) (by decide)
    (exP_sendable _ _ _ (by decide)) (exP .dataExchange 1 false) _ [5, 6, 7] rest
    (transmit_dataExchange _ _ _ (by decide) (exP_sendable _ _ _ (by decide)) (Or.inr rfl))).2

example : (exP .waitForParam 1 false).transmit exFp .clear ≠ .panic :=
  transmit_no_panic _ _ _ (by decide) (exP_sendable _ _ _ (by decide))
example : ∃ p' h pdu, (exP .waitForConfig 1 false).transmit exFp .operate = .send p' h pdu ∧
    h.da = 7 ∧ h.sa = 2 ∧ h.lengthByte pdu.length = 7 ∧ p'.retry = 2 :=
  ⟨_, _, _, transmit_waitForConfig _ _ _ (by decide) (exP_sendable _ _ _ (by decide)) rfl _ rfl,
    rfl, rfl, rfl, rfl⟩

end PV.Dp
