/-
Simulation between the joint model `PJ` of `Model/Dp/Live.lean` (real master model + reference slave, all payload
bytes) and the finite control machine of `Lemmas/DpLiveCtl.lean`.  `ctl : PJ → Ctl` forgets process images,
parameter / configuration / diagnostics bytes and addresses; `Good j` is the master-side invariant `PInv` of
`Lemmas/DpPeripheral.lean`, matching configuration, and the well-formedness of what the slave has stored.
`step_sim`: every environment step (any delivery fault, any substituted reply telegram, any payload) is the `cstep`
of its abstraction `absEnv`, with the same event, without panic, and keeps `Good`.
-/
import ProfiVerif.Lemmas.Dp
import ProfiVerif.Lemmas.DpLiveCert

namespace PV.Live
open PV PV.Dp

/-- The kind of a reply of the reference slave with `inLen` input bytes.  `.other` is whatever that slave never
sends (`SOk.last`, `receive_ctl`), so what the control machine makes of `.other` (`RK.view`: nothing arrives) never
matters. -/
def kindOf (inLen : Nat) : SReply → RK
  | .silent => .silent
  | .sc => .sc
  | .data h pdu =>
    match h.fc with
    | .request _ _ => .other
    | .response _ st =>
      if h.dsap = some 62 ∧ h.ssap = some 60 then
        if st = .dataLow ∧ 6 ≤ pdu.length ∧ flagsOf (.data h pdu) &&& PARAMETER_FAULT = 0 ∧
            flagsOf (.data h pdu) &&& CONFIGURATION_FAULT = 0 then
          .diag (flagsOf (.data h pdu) &&& PARAMETER_REQUIRED != 0)
                (flagsOf (.data h pdu) &&& STATION_NOT_READY != 0)
        else .other
      else if h.dsap = none ∧ h.ssap = none then
        match st with
        | .sapNotEnabled => .rs
        | .dataLow => if pdu.length = inLen then .dxLow else .other
        | .dataHigh => if pdu.length = inLen then .dxHigh else .other
        | _ => .other
      else .other

def sclsOf : ResponseStatus → SCls
  | .sapNotEnabled => .rs
  | .ok => .okLow
  | .dataLow => .okLow
  | .dataHigh => .high
  | _ => .other

/-- The master's evaluation order of the diagnostics flags. -/
def dflagsOf (fl : UInt16) : DFlags :=
  if fl &&& PARAMETER_FAULT ≠ 0 then .prmFault
  else if fl &&& CONFIGURATION_FAULT ≠ 0 then .cfgFault
  else if fl &&& PARAMETER_REQUIRED ≠ 0 then .prmReq
  else if fl &&& STATION_NOT_READY = 0 then .ready
  else .notReady

/-- A reply telegram as `receive_reply` of a peripheral with `ilen` input bytes sees it.  Tokens and requests are
given the junk value `.sc`: `RxOk` excludes them wherever this is used. -/
def viewOf (ilen : Nat) : Telegram → View
  | .sc => .sc
  | .token _ _ => .sc
  | .data h pdu =>
    match h.fc with
    | .request _ _ => .sc
    | .response _ st =>
      if Diag.Spec.accepts (.data h pdu) then .diag (dflagsOf (flagsOf (.data h pdu))) (sclsOf st)
      else .data (sclsOf st) (dataOkStatus st && h.dsap == none && h.ssap == none && pdu.length == ilen)

def absD (ilen : Nat) : Delivery → AD
  | .ok => .ok
  | .lossReq => .lossReq
  | .lossRep => .lossRep
  | .sub t => .sub (viewOf ilen t)

/-- `piq` and `inputs` change nothing but the process images, which `ctl` forgets: `.noop`. -/
def absEnv (ilen : Nat) : PEnv → AEnv
  | .visit mid d => .visit mid (absD ilen d)
  | .power => .power
  | .fault _ => .fault
  | .diagReq => .diagReq
  | .piq _ => .noop
  | .inputs _ => .noop

/-- The slave's retransmission memory relative to the master's frame count bit. -/
def memOf (s : Slave) (f : FrameCountBit) : Option RK :=
  if isRetransmission s.stored f then some (kindOf s.cfg.inLen s.last) else none

def coreOf (p : Peripheral) (s : Slave) : Core :=
  { st := p.state, fcb := p.fcb, dn := p.diagNeeded, fl := p.diagInFlight, ss := s.state,
    mem := memOf s p.fcb, dp := s.diagPending }

def ctl (j : PJ) : Ctl := { core := coreOf j.p j.s, retry := j.p.retry }

/-- Environment steps the FDL contract allows: a substituted reply is a short confirmation or a
response telegram. -/
def PEnv.WellFormed : PEnv → Prop
  | .visit _ (.sub t) => RxOk t
  | _ => True

theorem visit_decline_any {j : PJ} {p' : Peripheral} {ev : Option PEvent}
    (h : j.p.transmit j.fp j.op = .decline p' ev) (mid : Bool) (d : Delivery) :
    j.visit mid d = some ({ j with p := p' }, ev) := by
  unfold PJ.visit; simp only [h]

theorem PJ.visit_of_request {j : PJ} {p' : Peripheral} {h : Header} {pdu : Bytes}
    (ht : j.p.transmit j.fp j.op = .send p' h pdu) (mid : Bool) (d : Delivery) :
    j.visit mid d =
      if d = .lossReq then some ({ j with p := if mid then reqDiag p' else p' }, none)
      else
        match d.deliver (j.s.receive h pdu).2 with
        | none => some ({ j with p := if mid then reqDiag p' else p', s := (j.s.receive h pdu).1 }, none)
        | some t =>
          match (if mid then reqDiag p' else p').receiveReply t with
          | .panic => none
          | .ok p2 ev => some ({ j with p := p2, s := (j.s.receive h pdu).1 }, ev) := by
  unfold PJ.visit
  simp only [ht]
  cases d <;> rfl

/-- Static agreement of master-side options and the slave (the "matching configuration" of C07). -/
structure Matched (p : Peripheral) (c : SlaveCfg) : Prop where
  addr : p.address = c.address
  prm : ∃ up, p.opts.userPrm = some up ∧ up.length = c.prmLen
  ident : p.opts.ident = c.ident
  identLt : c.ident < 65536
  cfg : p.opts.config = some c.config
  qlen : p.piQ.length = c.outLen
  ilen : p.piI.length = c.inLen

/-- What `Good` keeps of the slave.  The fault flags stay clear because, the configuration matching, every `Set_Prm`
and `Chk_Cfg` the slave is sent is one it accepts (`serve_ctl`), and a power cycle clears them; `last`: the stored
reply is of a kind the slave itself produces. -/
structure SOk (s : Slave) : Prop where
  inputs : s.inputs.length = s.cfg.inLen
  prmFault : s.prmFault = false
  cfgFault : s.cfgFault = false
  last : kindOf s.cfg.inLen s.last ≠ .other

structure Good (j : PJ) : Prop where
  fp : FpOk j.fp
  op : j.op ≠ .stop
  pinv : PInv j.fp j.p
  m : Matched j.p j.s.cfg
  s : SOk j.s

/-- The four diagnostics flags the master's state machine looks at, decoded from the two status bytes the
reference slave builds (`Slave.diagPdu`).  `y` is the payload part of the second byte, which the slave masks to
bits 3 … 5. -/
theorem diag_flags_table (y : UInt8) (hy : y &&& 0x38 = y) (dp pf cf : Bool) (st : SState) :
    let b0 : UInt8 := bit (st != .dataExch) 0x02 ||| bit cf 0x04 ||| bit dp 0x08 ||| bit pf 0x40
    let b1 : UInt8 := bit (st == .waitPrm) 0x01 ||| 0x04 ||| (if st == .waitPrm then 0 else y)
    let f := Diag.le16 b0 b1 &&& ~~~Diag.PERMANENT_BIT
    (f &&& PARAMETER_FAULT != 0) = pf ∧ (f &&& CONFIGURATION_FAULT != 0) = cf ∧
    (f &&& PARAMETER_REQUIRED != 0) = (st == .waitPrm) ∧
    (f &&& STATION_NOT_READY != 0) = (st != .dataExch) := by
  have := forall_u8 (fun y => !(y &&& 0x38 == y) || (allBool.all fun dp => allBool.all fun pf => allBool.all fun cf =>
    allSState.all fun st =>
    let b0 : UInt8 := bit (st != .dataExch) 0x02 ||| bit cf 0x04 ||| bit dp 0x08 ||| bit pf 0x40
    let b1 : UInt8 := bit (st == .waitPrm) 0x01 ||| 0x04 ||| (if st == .waitPrm then 0 else y)
    let f := Diag.le16 b0 b1 &&& ~~~Diag.PERMANENT_BIT
    decide ((f &&& PARAMETER_FAULT != 0) = pf ∧ (f &&& CONFIGURATION_FAULT != 0) = cf ∧
    (f &&& PARAMETER_REQUIRED != 0) = (st == .waitPrm) ∧
    (f &&& STATION_NOT_READY != 0) = (st != .dataExch)))) (by decide +kernel) y
  rw [beq_iff_eq.mpr hy, Bool.not_true, Bool.false_or] at this
  have h1 := List.all_eq_true.mp this dp (mem_allBool dp)
  have h2 := List.all_eq_true.mp h1 pf (mem_allBool pf)
  have h3 := List.all_eq_true.mp h2 cf (mem_allBool cf)
  have h4 := List.all_eq_true.mp h3 st (mem_allSState st)
  simpa using h4

theorem flagsOf_data (h : Header) (pdu : Bytes) :
    flagsOf (.data h pdu) = Diag.le16 (pdu.getD 0 0) (pdu.getD 1 0) &&& ~~~Diag.PERMANENT_BIT := rfl

/-- A request as the reference slave classifies it, addressed to it, with contents that match its
configuration. -/
def IsReq (k : ReqK) (c : SlaveCfg) (f : FrameCountBit) (h : Header) (pdu : Bytes) : Prop :=
  h.da = c.address ∧
  match k with
  | .diag => h.dsap = some 60 ∧ h.ssap = some 62 ∧ h.fc = .request f .srdLow
  | .setPrm => h.dsap = some 61 ∧ h.ssap = some 62 ∧ h.fc = .request f .srdLow ∧
      pdu.length = 7 + c.prmLen ∧ (pdu.getD 4 0).toNat * 256 + (pdu.getD 5 0).toNat = c.ident
  | .chkCfg => h.dsap = some 62 ∧ h.ssap = some 62 ∧ h.fc = .request f .srdLow ∧ pdu = c.config
  | .dx => h.dsap = none ∧ h.ssap = none ∧ h.fc = .request f .srdHigh ∧ pdu.length = c.outLen

theorem isReq_fc {k : ReqK} {c : SlaveCfg} {f : FrameCountBit} {h : Header} {pdu : Bytes} (hr : IsReq k c f h pdu) :
    h.da = c.address ∧ (h.fc = .request f .srdLow ∨ h.fc = .request f .srdHigh) := by
  obtain ⟨hda, hk⟩ := hr
  refine ⟨hda, ?_⟩
  cases k
  · exact Or.inl hk.2.2
  · exact Or.inl hk.2.2.1
  · exact Or.inl hk.2.2.1
  · exact Or.inr hk.2.2.1

/-- **The flags of the slave's diagnostics reply as the master decodes them** say what the slave's state says. -/
theorem diagPdu_flags (s : Slave) (hdr : Header) :
    (flagsOf (.data hdr s.diagPdu) &&& PARAMETER_FAULT != 0) = s.prmFault ∧
    (flagsOf (.data hdr s.diagPdu) &&& CONFIGURATION_FAULT != 0) = s.cfgFault ∧
    (flagsOf (.data hdr s.diagPdu) &&& PARAMETER_REQUIRED != 0) = (s.state == .waitPrm) ∧
    (flagsOf (.data hdr s.diagPdu) &&& STATION_NOT_READY != 0) = (s.state != .dataExch) := by
  have ht := diag_flags_table (s.prmFlags &&& 0x38) (by rw [UInt8.and_assoc, UInt8.and_self]) s.diagPending
    s.prmFault s.cfgFault s.state
  have hf : flagsOf (.data hdr s.diagPdu) =
      Diag.le16 (bit (s.state != .dataExch) 0x02 ||| bit s.cfgFault 0x04 ||| bit s.diagPending 0x08 ||| bit s.prmFault 0x40)
        (bit (s.state == .waitPrm) 0x01 ||| 0x04 ||| (if s.state == .waitPrm then 0 else s.prmFlags &&& 0x38))
        &&& ~~~Diag.PERMANENT_BIT := by
    rw [flagsOf_data]
    simp [Slave.diagPdu]
  rw [hf]
  exact ht

theorem kindOf_diagReply (s : Slave) (hs : SOk s) (req : Header) :
    kindOf s.cfg.inLen (.data (replyHeader s req (some 62) (some 60) .dataLow) s.diagPdu) =
      .diag (s.state == .waitPrm) (s.state != .dataExch) := by
  obtain ⟨h1, h2, h3, h4⟩ := diagPdu_flags s (replyHeader s req (some 62) (some 60) .dataLow)
  rw [hs.prmFault] at h1
  rw [hs.cfgFault] at h2
  have hlen : 6 ≤ s.diagPdu.length := by simp [Slave.diagPdu]
  unfold kindOf
  simp only [replyHeader, true_and, and_self, if_true] at h1 h2 h3 h4 ⊢
  rw [if_pos ⟨hlen, by simpa using h1, by simpa using h2⟩, h3, h4]

theorem serve_diag (s : Slave) {h : Header} (pdu : Bytes) (h1 : h.dsap = some 60) (h2 : h.ssap = some 62) :
    s.serve h pdu = ({ s with diagPending := false, extDiag := [] },
      .data (replyHeader s h (some 62) (some 60) .dataLow) s.diagPdu) := by
  unfold Slave.serve
  rw [if_pos ⟨h1, h2⟩]

theorem serve_setPrm (s : Slave) {h : Header} (pdu : Bytes) (h1 : h.dsap = some 61) (h2 : h.ssap = some 62) :
    s.serve h pdu =
      if pdu.length = 7 + s.cfg.prmLen ∧ (pdu.getD 4 0).toNat * 256 + (pdu.getD 5 0).toNat = s.cfg.ident then
        ({ s with prmFault := false, master := h.sa, prmFlags := pdu.getD 0 0 &&& 0x38,
                  state := if s.state = .dataExch then .dataExch else .waitCfg }, .sc)
      else ({ s with prmFault := true, state := .waitPrm }, .sc) := by
  unfold Slave.serve
  rw [if_neg (by simp [h1]), if_pos ⟨h1, h2⟩]

theorem serve_chkCfg (s : Slave) {h : Header} (pdu : Bytes) (h1 : h.dsap = some 62) (h2 : h.ssap = some 62) :
    s.serve h pdu =
      if s.state = .waitPrm then (s, s.rs h)
      else if pdu = s.cfg.config then ({ s with cfgFault := false, state := .dataExch }, .sc)
      else ({ s with cfgFault := true, state := .waitPrm }, .sc) := by
  unfold Slave.serve
  rw [if_neg (by simp [h1]), if_neg (by simp [h1]), if_pos ⟨h1, h2⟩]

theorem serve_dx (s : Slave) {h : Header} (pdu : Bytes) (h1 : h.dsap = none) (h2 : h.ssap = none) :
    s.serve h pdu =
      if s.state = .dataExch then
        if pdu.length = s.cfg.outLen then
          if s.diagPending then ({ s with outputs := pdu }, .data (replyHeader s h none none .dataHigh) s.inputs)
          else if s.cfg.inLen = 0 then ({ s with outputs := pdu }, .sc)
          else ({ s with outputs := pdu }, .data (replyHeader s h none none .dataLow) s.inputs)
        else ({ s with state := .waitPrm }, s.rs h)
      else (s, s.rs h) := by
  unfold Slave.serve
  rw [if_neg (by simp [h1]), if_neg (by simp [h1]), if_neg (by simp [h1]), if_pos ⟨h1, h2⟩]

theorem serve_cfg_eq (s : Slave) (h : Header) (pdu : Bytes) : (s.serve h pdu).1.cfg = s.cfg := by
  simp only [Slave.serve, apply_ite Prod.fst, apply_ite Slave.cfg, ite_self]

theorem serve_ctl {s : Slave} (hs : SOk s) {k : ReqK} {f : FrameCountBit} {h : Header} {pdu : Bytes}
    (hr : IsReq k s.cfg f h pdu) :
    ((s.serve h pdu).1.state, (s.serve h pdu).1.diagPending, kindOf s.cfg.inLen (s.serve h pdu).2) =
        sserve (s.cfg.inLen == 0) s.state s.diagPending k ∧
    (s.serve h pdu).1.cfg = s.cfg ∧ (s.serve h pdu).1.inputs = s.inputs ∧
    (s.serve h pdu).1.prmFault = false ∧ (s.serve h pdu).1.cfgFault = false ∧
    (s.serve h pdu).1.stored = s.stored := by
  obtain ⟨hda, hk⟩ := hr
  cases k with
  | diag =>
    obtain ⟨h1, h2, _⟩ := hk
    rw [serve_diag s pdu h1 h2]
    simp only [sserve]
    refine ⟨?_, by simp, by simp, by simp [hs.prmFault], by simp [hs.cfgFault], by simp⟩
    rw [kindOf_diagReply s hs h]
  | setPrm =>
    obtain ⟨h1, h2, _, h4, h5⟩ := hk
    rw [serve_setPrm s pdu h1 h2, if_pos ⟨h4, h5⟩]
    simp only [sserve]
    refine ⟨?_, by simp, by simp, by simp, by simp [hs.cfgFault], by simp⟩
    simp [kindOf]
  | chkCfg =>
    obtain ⟨h1, h2, _, h4⟩ := hk
    rw [serve_chkCfg s pdu h1 h2]
    simp only [sserve]
    by_cases hw : s.state = .waitPrm
    · simp only [hw, if_true]
      refine ⟨?_, by simp, by simp, by simp [hs.prmFault], by simp [hs.cfgFault], by simp⟩
      simp [Slave.rs, kindOf, replyHeader]
    · simp only [hw, if_false, h4, if_true]
      refine ⟨?_, by simp, by simp, by simp [hs.prmFault], by simp, by simp⟩
      simp [kindOf]
  | dx =>
    obtain ⟨h1, h2, _, h4⟩ := hk
    rw [serve_dx s pdu h1 h2]
    simp only [sserve, h4, if_true]
    by_cases hd : s.state = .dataExch
    · simp only [hd, if_true]
      by_cases hp : s.diagPending = true
      · simp only [hp, if_true]
        refine ⟨?_, by simp, by simp, by simp [hs.prmFault], by simp [hs.cfgFault], by simp⟩
        simp [kindOf, replyHeader, hs.inputs]
      · have hp' : s.diagPending = false := by simpa using hp
        simp only [hp', Bool.false_eq_true, if_false]
        by_cases hz : s.cfg.inLen = 0
        · simp only [hz, if_true]
          refine ⟨?_, by simp, by simp, by simp [hs.prmFault], by simp [hs.cfgFault], by simp⟩
          simp [kindOf]
        · simp only [hz, if_false]
          refine ⟨?_, by simp, by simp, by simp [hs.prmFault], by simp [hs.cfgFault], by simp⟩
          simp [kindOf, replyHeader, hs.inputs, hz]
    · simp only [hd, if_false]
      refine ⟨?_, by simp, by simp, by simp [hs.prmFault], by simp [hs.cfgFault], by simp⟩
      simp [Slave.rs, kindOf, replyHeader]

theorem isRetransmission_after (f : FrameCountBit) : isRetransmission (storedAfter f) f = f.fcv := by
  cases f <;> rfl

theorem isRetransmission_cyc {st : Option Bool} {f : FrameCountBit}
    (h : isRetransmission st f = true ∨ st = storedAfter f) : isRetransmission st (cycA f) = false := by
  rcases h with h | rfl
  · cases f <;> cases st with
      | none => simp [isRetransmission] at h
      | some b => cases b <;> simp_all [isRetransmission, cycA, FrameCountBit.fcv, FrameCountBit.fcb]
  · cases f <;> rfl

theorem cyc_eq_cycA : cyc = cycA := by funext f; cases f <;> rfl

theorem receive_serve {s : Slave} {h : Header} {pdu : Bytes} {f : FrameCountBit} (hda : h.da = s.cfg.address)
    (hfc : h.fc = .request f .srdLow ∨ h.fc = .request f .srdHigh) (hre : isRetransmission s.stored f = false) :
    s.receive h pdu =
      ({ (s.serve h pdu).1 with stored := storedAfter f, last := (s.serve h pdu).2 }, (s.serve h pdu).2) := by
  unfold Slave.receive
  rw [if_neg (by simp [hda])]
  rcases hfc with hfc | hfc <;> simp [hfc, hre]

theorem receive_repeat {s : Slave} {h : Header} {pdu : Bytes} {f : FrameCountBit} (hda : h.da = s.cfg.address)
    (hfc : h.fc = .request f .srdLow ∨ h.fc = .request f .srdHigh) (hre : isRetransmission s.stored f = true) :
    s.receive h pdu = (s, s.last) := by
  unfold Slave.receive
  rw [if_neg (by simp [hda])]
  rcases hfc with hfc | hfc <;> simp [hfc, hre]

theorem receive_other {s : Slave} {h : Header} (pdu : Bytes) (hne : h.da ≠ s.cfg.address) :
    s.receive h pdu = (s, .silent) := by
  unfold Slave.receive; rw [if_pos hne]

/-- The reference slave receiving a request of the master (frame count bit handling included), on
control: `sreact`. -/
theorem receive_ctl {s : Slave} (hs : SOk s) {k : ReqK} {f : FrameCountBit} {h : Header} {pdu : Bytes}
    (hr : IsReq k s.cfg f h pdu) :
    ((s.receive h pdu).1.state, (s.receive h pdu).1.diagPending, kindOf s.cfg.inLen (s.receive h pdu).2,
        memOf (s.receive h pdu).1 f) =
      sreact (s.cfg.inLen == 0) s.state s.diagPending (memOf s f) f.fcv k ∧
    SOk (s.receive h pdu).1 ∧ (s.receive h pdu).1.cfg = s.cfg ∧
    (isRetransmission (s.receive h pdu).1.stored f = true ∨ (s.receive h pdu).1.stored = storedAfter f) ∧
    kindOf s.cfg.inLen (s.receive h pdu).2 ≠ .other := by
  have hfc := (isReq_fc hr).2
  by_cases hre : isRetransmission s.stored f = true
  · rw [receive_repeat hr.1 hfc hre]
    refine ⟨?_, hs, rfl, Or.inl hre, hs.last⟩
    simp only [memOf, hre, if_true, sreact]
  · have hre' : isRetransmission s.stored f = false := by simpa using hre
    have hrecv := receive_serve (pdu := pdu) hr.1 hfc hre'
    obtain ⟨h1, h2, h3, h4, h5, _⟩ := serve_ctl hs hr
    have hk : kindOf s.cfg.inLen (s.serve h pdu).2 ≠ .other := by
      have : kindOf s.cfg.inLen (s.serve h pdu).2 = (sserve (s.cfg.inLen == 0) s.state s.diagPending k).2.2 := by
        rw [← h1]
      rw [this]
      cases k <;> simp only [sserve] <;> (repeat' split) <;> simp
    rw [hrecv]
    refine ⟨?_, ⟨by simp [h2, h3, hs.inputs], h4, h5, by simp only [h2]; exact hk⟩, h2, Or.inr rfl, hk⟩
    simp only [memOf, hre', Bool.false_eq_true, if_false, sreact, isRetransmission_after, h2]
    rw [← h1]

def sentP (p : Peripheral) (fl : Bool) : Peripheral := { p with retry := p.retry + 1, diagInFlight := fl }

/-- `transmit_telegram` on control: what the peripheral does is a function of its state, the retry
class and the two diagnostics flags; the request it sends is one the slave understands. -/
theorem tx_ctl {fp : FdlParams} (hfp : FpOk fp) {op : OpState} (hop : op ≠ .stop) {p : Peripheral}
    (hI : PInv fp p) {c : SlaveCfg} (hm : Matched p c) :
    (fp.maxRetry < p.retry ∧
      p.transmit fp op = .decline { p with state := .offline, fcb := .first, retry := 0 } (some .offline)) ∨
    (p.retry ≤ fp.maxRetry ∧ reqOf p.state p.diagNeeded p.diagInFlight (rcls fp.maxRetry p.retry) = none ∧
      p.transmit fp op = .decline { p with retry := 0 } none) ∨
    (p.retry ≤ fp.maxRetry ∧ ∃ k h pdu,
      reqOf p.state p.diagNeeded p.diagInFlight (rcls fp.maxRetry p.retry) = some k ∧
      p.transmit fp op = .send (sentP p (flAfter p.state p.diagNeeded p.diagInFlight (rcls fp.maxRetry p.retry))) h pdu ∧
      IsReq k c p.fcb h pdu) := by
  have hspec := tx_spec hfp hop hI
  obtain ⟨up, hup, hupl⟩ := hm.prm
  have hz : ∀ (h : p.retry ≤ fp.maxRetry), (rcls fp.maxRetry p.retry = .zero ↔ p.retry = 0) ∧
      rcls fp.maxRetry p.retry ≠ .over := by
    intro h
    rcases rcls_cases fp.maxRetry p.retry with ⟨h0, hc⟩ | ⟨h1, _, hc⟩ | ⟨h1, _⟩
    · exact ⟨⟨fun _ => h0, fun _ => hc⟩, by rw [hc]; decide⟩
    · exact ⟨⟨fun h => (by rw [hc] at h; cases h), fun h => (by omega)⟩, by rw [hc]; decide⟩
    · omega
  -- in `PreDataExchange` / `DataExchange`: `flAfter` is the service `transmit_telegram` chooses, `reqOf` follows it
  have hdxs : (p.state = .preDataExchange ∨ p.state = .dataExchange) → p.retry ≤ fp.maxRetry →
      flAfter p.state p.diagNeeded p.diagInFlight (rcls fp.maxRetry p.retry) = p.serviceIsDiag ∧
      reqOf p.state p.diagNeeded p.diagInFlight (rcls fp.maxRetry p.retry) =
        some (if flAfter p.state p.diagNeeded p.diagInFlight (rcls fp.maxRetry p.retry) then .diag else .dx) := by
    intro hs hr
    refine ⟨?_, by rcases hs with hs | hs <;> rw [hs] <;> rfl⟩
    unfold flAfter Peripheral.serviceIsDiag
    have hdx : isDX p.state = true := by rcases hs with hs | hs <;> simp [isDX, hs]
    rw [hdx]
    by_cases h0 : p.retry = 0
    · rw [if_pos ((hz hr).1.mpr h0), if_pos h0]; simp
    · have : rcls fp.maxRetry p.retry ≠ .zero := fun h => h0 ((hz hr).1.mp h)
      rw [if_neg this, if_neg h0]; simp
  generalize hres : p.transmit fp op = res at hspec
  cases hspec with
  | goOffline hr => exact Or.inl ⟨hr, rfl⟩
  | probe hr hs h0 =>
    refine Or.inr (Or.inr ⟨hr, .diag, p.diagHeader fp, [], ?_, ?_, ?_⟩)
    · simp [reqOf, hs, (hz hr).1.mpr h0]
    · simp [sentP, flAfter, isDX, hs, h0]
    · exact ⟨hm.addr, rfl, rfl, rfl⟩
  | probeWait hr hs h0 =>
    refine Or.inr (Or.inl ⟨hr, ?_, rfl⟩)
    have : rcls fp.maxRetry p.retry ≠ .zero := fun h => h0 ((hz hr).1.mp h)
    simp [reqOf, hs, this]
  | setPrm up' hr hs hu =>
    have : up' = up := by rw [hup] at hu; exact (Option.some.inj hu).symm
    subst this
    refine Or.inr (Or.inr ⟨hr, .setPrm, p.setPrmHeader fp, setPrmPdu fp p.opts up', ?_, ?_, ?_⟩)
    · simp [reqOf, hs]
    · simp [sentP, flAfter, isDX, hs]
    · have hspec := setPrmPdu_spec fp p.opts up' (by rw [hm.ident]; exact hm.identLt)
      exact ⟨hm.addr, rfl, rfl, rfl, by rw [hspec.1, hupl], by rw [hspec.2.2.2.2.2.2.1, hm.ident]⟩
  | noPrm hr hs hu => rw [hup] at hu; cases hu
  | chkCfg cfg hr hs hu =>
    have : cfg = c.config := by rw [hm.cfg] at hu; exact (Option.some.inj hu).symm
    subst this
    refine Or.inr (Or.inr ⟨hr, .chkCfg, p.chkCfgHeader fp, c.config, ?_, ?_, ?_⟩)
    · simp [reqOf, hs]
    · simp [sentP, flAfter, isDX, hs]
    · exact ⟨hm.addr, rfl, rfl, rfl, rfl⟩
  | noCfg hr hs hu => rw [hm.cfg] at hu; cases hu
  | validate hr hs =>
    refine Or.inr (Or.inr ⟨hr, .diag, p.diagHeader fp, [], ?_, ?_, ?_⟩)
    · simp [reqOf, hs]
    · simp [sentP, flAfter, isDX, hs]
    · exact ⟨hm.addr, rfl, rfl, rfl⟩
  | dxDiag hr hs hd =>
    obtain ⟨hfl, hq⟩ := hdxs hs hr
    refine Or.inr (Or.inr ⟨hr, .diag, p.diagHeader fp, [], ?_, ?_, ?_⟩)
    · rw [hq, hfl, hd]; rfl
    · rw [hfl]; rfl
    · exact ⟨hm.addr, rfl, rfl, rfl⟩
  | dx hr hs hd =>
    obtain ⟨hfl, hq⟩ := hdxs hs hr
    refine Or.inr (Or.inr ⟨hr, .dx, p.dxHeader fp, dxPdu op p.piQ, ?_, ?_, ?_⟩)
    · rw [hq, hfl, hd]; rfl
    · rw [hfl]; rfl
    · exact ⟨hm.addr, rfl, rfl, rfl, by rw [dxPdu_length, hm.qlen]⟩

theorem send_facts {j : PJ} (hg : Good j) {p' : Peripheral} {h : Header} {pdu : Bytes}
    (ht : j.p.transmit j.fp j.op = .send p' h pdu) :
    h.da = j.s.cfg.address ∧ expectsReplyOf h = some j.p.address ∧ h.serialize pdu = .ok (frameSpec h pdu) ∧
      p'.address = j.p.address := by
  rcases tx_ctl hg.fp hg.op hg.pinv hg.m with ⟨_, htx⟩ | ⟨_, _, htx⟩ | ⟨hr, k, h2, pdu2, hq, htx, hreq⟩
  · rw [ht] at htx; cases htx
  · rw [ht] at htx; cases htx
  · rw [ht] at htx
    simp only [PTx.send.injEq] at htx
    obtain ⟨rfl, rfl, rfl⟩ := htx
    have hsend := pinv_sendable hg.fp hg.pinv hr
    obtain ⟨hser, _⟩ := transmit_wire j.fp j.op j.p hg.op hsend _ h pdu [] ht
    obtain ⟨hda, _, _, _⟩ := transmit_send_inv j.fp j.op j.p hg.op hsend _ h pdu ht
    obtain ⟨hda2, hfc⟩ := isReq_fc hreq
    refine ⟨hda2, ?_, hser, rfl⟩
    rcases hfc with hfc | hfc <;> simp [expectsReplyOf, hfc, RequestType.expectsReply, hda]

theorem viewOf_acc {n : Nat} {t : Telegram} (ht : RxOk t) (ha : Diag.Spec.accepts t = true) :
    ∃ c, viewOf n t = .diag (dflagsOf (flagsOf t)) c := by
  cases t with
  | sc => simp [Diag.Spec.accepts] at ha
  | token a b => simp [Diag.Spec.accepts] at ha
  | data h pdu =>
    obtain ⟨st, ss, hfc⟩ := ht
    exact ⟨sclsOf ss, by simp [viewOf, hfc, ha]⟩

theorem viewOf_rej {n : Nat} {t : Telegram} (ht : RxOk t) (ha : Diag.Spec.accepts t = false) :
    viewOf n t = .sc ∨ ∃ c b, viewOf n t = .data c b := by
  cases t with
  | sc => exact Or.inl rfl
  | token a b => exact Or.inl rfl
  | data h pdu =>
    obtain ⟨st, ss, hfc⟩ := ht
    exact Or.inr ⟨sclsOf ss, (dataOkStatus ss && h.dsap == none && h.ssap == none && pdu.length == n), by simp [viewOf, hfc, ha]⟩

theorem viewOf_not_sc {n : Nat} {t : Telegram} (ht : RxOk t) (hne : t ≠ .sc) : viewOf n t ≠ .sc := by
  cases t with
  | sc => exact absurd rfl hne
  | token a b => exact absurd ht (by simp [RxOk])
  | data h pdu =>
    obtain ⟨st, ss, hfc⟩ := ht
    simp only [viewOf, hfc]
    split <;> simp

/-- `receive_reply` on control: the peripheral's reaction depends on the reply only through its
view, and on the peripheral only through state and the two diagnostics flags. -/
theorem rx_ctl {fp : FdlParams} {p : Peripheral} (hI : PInv fp p) {t : Telegram} (ht : RxOk t) :
    ∃ p' ev, p.receiveReply t = .ok p' ev ∧ PInv fp p' ∧
      p'.state = (mrx (p.piI.length == 0) p.state p.diagNeeded p.diagInFlight (viewOf p.piI.length t)).st ∧
      p'.diagNeeded = (mrx (p.piI.length == 0) p.state p.diagNeeded p.diagInFlight (viewOf p.piI.length t)).dn ∧
      p'.fcb = (if (mrx (p.piI.length == 0) p.state p.diagNeeded p.diagInFlight (viewOf p.piI.length t)).cycled
                then cycA p.fcb else p.fcb) ∧
      p'.retry = (if (mrx (p.piI.length == 0) p.state p.diagNeeded p.diagInFlight (viewOf p.piI.length t)).reset
                  then 0 else p.retry) ∧
      ev = (mrx (p.piI.length == 0) p.state p.diagNeeded p.diagInFlight (viewOf p.piI.length t)).ev ∧
      p'.diagInFlight = p.diagInFlight ∧ p'.address = p.address ∧ p'.opts = p.opts ∧ p'.piQ = p.piQ ∧
      p'.piI.length = p.piI.length := by
  obtain ⟨p', ev, he, hspec⟩ := rx_spec hI ht
  refine ⟨p', ev, he, rx_pinv hspec hI, ?_⟩
  rw [← cyc_eq_cycA]
  -- each case of `RxSpec` fixes the view of `t` as far as `mrx` looks at it in that state; then both sides compute
  cases hspec with
  | offAcc _ hs ha =>
    obtain ⟨c, hv⟩ := viewOf_acc (n := p.piI.length) ht ha
    simp [hv, hs, mrx]
  | offRej _ hs ha =>
    rcases viewOf_rej (n := p.piI.length) ht ha with hv | ⟨c, b, hv⟩ <;> simp [hv, hs, mrx]
  | prmSc hs => simp [viewOf, hs, mrx]
  | prmRej _ hs hne =>
    have := viewOf_not_sc (n := p.piI.length) ht hne
    simp only [hs, mrx]
    split <;> simp_all
  | cfgSc hs => simp [viewOf, hs, mrx]
  | cfgRej _ hs hne =>
    have := viewOf_not_sc (n := p.piI.length) ht hne
    simp only [hs, mrx]
    split <;> simp_all
  | valRej _ hs ha =>
    rcases viewOf_rej (n := p.piI.length) ht ha with hv | ⟨c, b, hv⟩ <;> simp [hv, hs, mrx]
  | valPrmFault _ hs ha h1 =>
    obtain ⟨c, hv⟩ := viewOf_acc (n := p.piI.length) ht ha
    simp [hv, hs, mrx, dflagsOf, h1]
  | valCfgFault _ hs ha h1 h2 =>
    obtain ⟨c, hv⟩ := viewOf_acc (n := p.piI.length) ht ha
    simp [hv, hs, mrx, dflagsOf, h1, h2]
  | valPrmReq _ hs ha h1 h2 h3 =>
    obtain ⟨c, hv⟩ := viewOf_acc (n := p.piI.length) ht ha
    simp [hv, hs, mrx, dflagsOf, h1, h2, h3]
  | valReady _ hs ha h1 h2 h3 h4 =>
    obtain ⟨c, hv⟩ := viewOf_acc (n := p.piI.length) ht ha
    simp [hv, hs, mrx, dflagsOf, h1, h2, h3, h4]
  | valNotReady _ hs ha h1 h2 h3 h4 =>
    obtain ⟨c, hv⟩ := viewOf_acc (n := p.piI.length) ht ha
    simp [hv, hs, mrx, dflagsOf, h1, h2, h3, h4]
  | dxDiagAcc _ hs hf ha =>
    obtain ⟨c, hv⟩ := viewOf_acc (n := p.piI.length) ht ha
    rcases hs with hs | hs <;> simp [hv, hs, hf, mrx]
  | dxDiagRej _ hs hf ha =>
    rcases viewOf_rej (n := p.piI.length) ht ha with hv | ⟨c, b, hv⟩ <;>
      rcases hs with hs | hs <;> simp [hv, hs, hf, mrx]
  | dxScData hs hf hl =>
    rcases hs with hs | hs <;> simp [viewOf, hs, hf, mrx, hl]
  | dxScOk hs hf hl =>
    rcases hs with hs | hs <;> simp [viewOf, hs, hf, mrx, hl]
  | dxSapNotEnabled h pdu st hs hf hfc =>
    by_cases ha : Diag.Spec.accepts (.data h pdu) = true
    · rcases hs with hs | hs <;> simp [viewOf, hfc, ha, hs, hf, mrx, sclsOf]
    · rcases hs with hs | hs <;> simp [viewOf, hfc, ha, hs, hf, mrx, sclsOf]
  | dxOther h pdu st ss hs hf hfc hok hne =>
    have hc : sclsOf ss = .other := by cases ss <;> simp_all [sclsOf, dataOkStatus]
    by_cases ha : Diag.Spec.accepts (.data h pdu) = true
    · rcases hs with hs | hs <;> simp [viewOf, hfc, ha, hs, hf, mrx, hc]
    · rcases hs with hs | hs <;> simp [viewOf, hfc, ha, hs, hf, mrx, hc]
  | dxSaps h pdu st ss hs hf hfc hok hsap =>
    have hshape : ¬ ((h.dsap = none ∧ h.ssap = none) ∧ pdu.length = p.piI.length) := by
      rintro ⟨⟨h1, h2⟩, _⟩
      rcases hsap with h3 | h3
      · exact h3 h1
      · exact h3 h2
    by_cases ha : Diag.Spec.accepts (.data h pdu) = true
    · cases ss <;> first
        | (exfalso; simp [dataOkStatus] at hok; done)
        | (rcases hs with hs | hs <;> simp [viewOf, hfc, ha, hs, hf, mrx, sclsOf])
    · cases ss <;> first
        | (exfalso; simp [dataOkStatus] at hok; done)
        | (rcases hs with hs | hs <;> simp [viewOf, hfc, ha, hs, hf, mrx, sclsOf, hshape, dataOkStatus])
  | dxLen h pdu st ss hs hf hfc hok hd1 hd2 hl =>
    have ha : Diag.Spec.accepts (.data h pdu) = false := by simp [Diag.Spec.accepts, hd1]
    cases ss <;> first
      | (exfalso; simp [dataOkStatus] at hok; done)
      | (rcases hs with hs | hs <;> simp [viewOf, hfc, ha, hs, hf, mrx, sclsOf, hd1, hd2, hl, dataOkStatus])
  | dxData h pdu st ss hs hf hfc hok hd1 hd2 hl =>
    have ha : Diag.Spec.accepts (.data h pdu) = false := by simp [Diag.Spec.accepts, hd1]
    cases ss <;> first
      | (exfalso; simp [dataOkStatus] at hok; done)
      | (rcases hs with hs | hs <;> simp [viewOf, hfc, ha, hs, hf, mrx, sclsOf, hd1, hd2, hl, dataOkStatus])

theorem kindOf_silent {n : Nat} {r : SReply} : kindOf n r = .silent ↔ r = .silent := by
  cases r with
  | silent => simp [kindOf]
  | sc => simp [kindOf]
  | data h pdu =>
    simp only [kindOf, reduceCtorEq, iff_false]
    cases h.fc with
    | request f q => simp
    | response st ss =>
      simp only
      split
      · split <;> simp
      · split
        · cases ss <;> simp <;> split <;> simp
        · simp

theorem view_of_kind {n : Nat} {r : SReply} (hk : kindOf n r ≠ .other) :
    (r.telegram).map (viewOf n) = (kindOf n r).view ∧ (∀ t, r.telegram = some t → RxOk t) := by
  cases r with
  | silent => simp [kindOf, SReply.telegram, RK.view]
  | sc => simp [kindOf, SReply.telegram, RK.view, viewOf, RxOk]
  | data h pdu =>
    cases hfc : h.fc with
    | request f q => simp [kindOf, hfc] at hk
    | response st ss =>
      refine ⟨?_, fun t ht => by simp only [SReply.telegram, Option.some.injEq] at ht; subst ht; exact ⟨st, ss, hfc⟩⟩
      simp only [kindOf, hfc] at hk ⊢
      simp only [SReply.telegram, Option.map_some, viewOf, hfc]
      by_cases hsap : h.dsap = some 62 ∧ h.ssap = some 60
      · rw [if_pos hsap] at hk ⊢
        by_cases hd : ss = .dataLow ∧ 6 ≤ pdu.length ∧ flagsOf (.data h pdu) &&& PARAMETER_FAULT = 0 ∧
            flagsOf (.data h pdu) &&& CONFIGURATION_FAULT = 0
        · rw [if_pos hd]
          obtain ⟨rfl, hl, h1, h2⟩ := hd
          have ha : Diag.Spec.accepts (.data h pdu) = true := by
            simp [Diag.Spec.accepts, hsap.1, hsap.2, hl]
          rw [if_pos ha]
          simp only [RK.view, dflagsOf, sclsOf, h1, h2, ne_eq, not_true_eq_false, if_false, Option.some.injEq,
            View.diag.injEq, and_true]
          by_cases h3 : flagsOf (.data h pdu) &&& PARAMETER_REQUIRED = 0
          · by_cases h4 : flagsOf (.data h pdu) &&& STATION_NOT_READY = 0 <;> simp [h3, h4]
          · simp [h3]
        · rw [if_neg hd] at hk; exact absurd rfl hk
      · rw [if_neg hsap] at hk ⊢
        have ha : Diag.Spec.accepts (.data h pdu) = false := by
          simp only [Diag.Spec.accepts, decide_eq_false_iff_not]
          intro hc; exact hsap ⟨hc.1, hc.2.1⟩
        rw [ha]
        simp only [Bool.false_eq_true, if_false]
        by_cases hn : h.dsap = none ∧ h.ssap = none
        · rw [if_pos hn] at hk ⊢
          cases ss <;> simp only [] at hk ⊢ <;>
            first
            | exact absurd rfl hk
            | (by_cases hl : pdu.length = n
               · simp [RK.view, sclsOf, dataOkStatus, hn.1, hn.2, hl]
               · rw [if_neg hl] at hk; exact absurd rfl hk)
            | simp [RK.view, sclsOf, dataOkStatus]
        · rw [if_neg hn] at hk; exact absurd rfl hk

theorem deliver_abs {n : Nat} {r : SReply} (hk : kindOf n r ≠ .other) {d : Delivery}
    (hd : ∀ t, d = .sub t → RxOk t) :
    (d.deliver r).map (viewOf n) = (absD n d).deliver (kindOf n r) ∧ (∀ t, d.deliver r = some t → RxOk t) := by
  obtain ⟨h1, h2⟩ := view_of_kind hk
  cases d with
  | ok => exact ⟨h1, h2⟩
  | lossReq => simp [Delivery.deliver, absD, AD.deliver]
  | lossRep => simp [Delivery.deliver, absD, AD.deliver]
  | sub t =>
    have ht := hd t rfl
    cases r with
    | silent => simp [Delivery.deliver, absD, AD.deliver, kindOf]
    | sc => simp [Delivery.deliver, absD, AD.deliver, kindOf, ht]
    | data h pdu =>
      have : kindOf n (.data h pdu) ≠ .silent := fun hc => by simpa using kindOf_silent.mp hc
      simp [Delivery.deliver, absD, AD.deliver, this, ht]

theorem pinv_reqDiag {fp : FdlParams} {p : Peripheral} (h : PInv fp p) : PInv fp (reqDiag p) :=
  ⟨h.retry_le, h.off_retry, h.fcb, h.ext, h.prm, h.cfg, h.piq, h.addr⟩

theorem matched_of_eq {p p' : Peripheral} {c : SlaveCfg} (h : Matched p c) (ha : p'.address = p.address)
    (ho : p'.opts = p.opts) (hq : p'.piQ = p.piQ) (hi : p'.piI.length = p.piI.length) : Matched p' c :=
  ⟨by rw [ha]; exact h.addr, by rw [ho]; exact h.prm, by rw [ho]; exact h.ident, h.identLt,
   by rw [ho]; exact h.cfg, by rw [hq]; exact h.qlen, by rw [hi]; exact h.ilen⟩

theorem memOf_first (s : Slave) : memOf s .first = none := by
  simp [memOf, isRetransmission, FrameCountBit.fcv]

/-! ## The master's half of a visit

`tx_ctl` says what `transmit_telegram` does; when a request goes out, `visit_request` says what the visit makes of
whatever comes back, for ANY slave: the peripheral that sent (`PJ.sent`) stays as it is on a lost request or a
time-out, and a reply `t` is taken by `receive_reply` as `mrx` says of its view (`RxFacts`). -/

/-- The new `diag_in_flight` of the peripheral of `j`. -/
def PJ.fl (j : PJ) : Bool := flAfter j.p.state j.p.diagNeeded j.p.diagInFlight (rcls j.fp.maxRetry j.p.retry)

/-- The peripheral of `j` after its request went out and the optional user call behind it. -/
def PJ.sent (j : PJ) (mid : Bool) : Peripheral := if mid then reqDiag (sentP j.p j.fl) else sentP j.p j.fl

theorem PJ.sent_eq (j : PJ) (mid : Bool) :
    (j.sent mid).state = j.p.state ∧ (j.sent mid).fcb = j.p.fcb ∧ (j.sent mid).diagNeeded = (j.p.diagNeeded || mid) ∧
      (j.sent mid).diagInFlight = j.fl ∧ (j.sent mid).retry = j.p.retry + 1 ∧ (j.sent mid).address = j.p.address ∧
      (j.sent mid).opts = j.p.opts ∧ (j.sent mid).piQ = j.p.piQ ∧ (j.sent mid).piI = j.p.piI := by
  cases mid <;> simp [PJ.sent, sentP, reqDiag]

/-- What `receive_reply` made of `t` (`rx_ctl`), in terms of the peripheral before the visit. -/
structure RxFacts (j : PJ) (mid : Bool) (t : Telegram) (p2 : Peripheral) (ev : Option PEvent) : Prop where
  pinv : PInv j.fp p2
  st : p2.state = (mrx (j.p.piI.length == 0) j.p.state (j.p.diagNeeded || mid) j.fl (viewOf j.p.piI.length t)).st
  fcb : p2.fcb = (if (mrx (j.p.piI.length == 0) j.p.state (j.p.diagNeeded || mid) j.fl (viewOf j.p.piI.length t)).cycled
                  then cycA j.p.fcb else j.p.fcb)
  retry : p2.retry = (if (mrx (j.p.piI.length == 0) j.p.state (j.p.diagNeeded || mid) j.fl (viewOf j.p.piI.length t)).reset
                      then 0 else j.p.retry + 1)
  ev : ev = (mrx (j.p.piI.length == 0) j.p.state (j.p.diagNeeded || mid) j.fl (viewOf j.p.piI.length t)).ev
  addr : p2.address = j.p.address
  opts : p2.opts = j.p.opts
  ilen : p2.piI.length = j.p.piI.length
  piQ : p2.piQ = j.p.piQ
  dn : p2.diagNeeded = (mrx (j.p.piI.length == 0) j.p.state (j.p.diagNeeded || mid) j.fl (viewOf j.p.piI.length t)).dn
  fl : p2.diagInFlight = j.fl

theorem visit_request {j : PJ} (hfp : FpOk j.fp) (hop : j.op ≠ .stop) (hI : PInv j.fp j.p) {h : Header} {pdu : Bytes}
    (htx : j.p.transmit j.fp j.op = .send (sentP j.p j.fl) h pdu) (mid : Bool) (d : Delivery) :
    PInv j.fp (j.sent mid) ∧
    (d = .lossReq → j.visit mid d = some ({ j with p := j.sent mid }, none)) ∧
    (d ≠ .lossReq → d.deliver (j.s.receive h pdu).2 = none →
      j.visit mid d = some ({ j with p := j.sent mid, s := (j.s.receive h pdu).1 }, none)) ∧
    (d ≠ .lossReq → ∀ t, d.deliver (j.s.receive h pdu).2 = some t → RxOk t →
      ∃ p2 ev, j.visit mid d = some ({ j with p := p2, s := (j.s.receive h pdu).1 }, ev) ∧ RxFacts j mid t p2 ev) := by
  have hI1 : PInv j.fp (j.sent mid) := by
    obtain ⟨p'', hafter, hI''⟩ := tx_pinv (tx_spec hfp hop hI) hI
    rw [htx] at hafter
    simp only [PTx.after, Option.some.injEq] at hafter
    subst hafter
    unfold PJ.sent
    cases mid
    · exact hI''
    · exact pinv_reqDiag hI''
  have hvis := PJ.visit_of_request htx mid d
  refine ⟨hI1, fun hl => by rw [hvis, if_pos hl]; rfl, fun hl hdel => ?_, fun hl t hdel ht => ?_⟩
  · rw [hvis, if_neg hl, hdel]; rfl
  · obtain ⟨e1, e2, e3, e4, e5, e6, e7, e8, e9⟩ := j.sent_eq mid
    obtain ⟨p2, ev, hrcv, hI2, f1, f2, f3, f4, f5, f6, f7, f8, f9, f10⟩ := rx_ctl hI1 ht
    rw [e9, e1, e3, e4] at f1 f2 f3 f4 f5
    refine ⟨p2, ev, ?_,
      { pinv := hI2, st := f1, fcb := by rw [f3, e2], retry := by rw [f4, e5], ev := f5,
        addr := f7.trans e6, opts := f8.trans e7, ilen := by rw [f10, e9], piQ := f9.trans e8, dn := f2,
        fl := f6.trans e4 }⟩
    rw [hvis, if_neg hl, hdel]
    show (match (j.sent mid).receiveReply t with
      | .panic => none
      | .ok p2 ev => some ({ j with p := p2, s := (j.s.receive h pdu).1 }, ev)) = _
    rw [hrcv]

theorem visit_sim {j : PJ} (hg : Good j) (mid : Bool) {d : Delivery} (hd : ∀ t, d = .sub t → RxOk t) :
    ∃ j' ev, j.visit mid d = some (j', ev) ∧ Good j' ∧ j'.fp = j.fp ∧ j'.op = j.op ∧ j'.s.cfg = j.s.cfg ∧
      (ctl j', ev) = cstep j.fp.maxRetry (j.s.cfg.inLen == 0) (ctl j) (.visit mid (absD j.s.cfg.inLen d)) := by
  obtain ⟨hfp, hop, hI, hm, hs⟩ := hg
  obtain ⟨p'', hafter, hI''⟩ := tx_pinv (tx_spec hfp hop hI) hI
  rcases tx_ctl hfp hop hI hm with ⟨hr, htx⟩ | ⟨hr, hq, htx⟩ | ⟨hr, k, h, pdu, hq, htx, hreq⟩
  · rw [htx] at hafter
    simp only [PTx.after, Option.some.injEq] at hafter
    refine ⟨{ j with p := p'' }, some .offline, ?_, ⟨hfp, hop, hI'', ?_, hs⟩, rfl, rfl, rfl, ?_⟩
    · unfold PJ.visit; rw [htx, hafter]
    · subst hafter; exact matched_of_eq hm rfl rfl rfl rfl
    · subst hafter
      simp only [cstep, cstepCore, ctl, rcls_over hr, cvisit_over, RAct.apply]
      simp [coreOf, memOf_first]
  · rw [htx] at hafter
    simp only [PTx.after, Option.some.injEq] at hafter
    have hno : rcls j.fp.maxRetry j.p.retry ≠ .over := rcls_ne_over hr
    refine ⟨{ j with p := p'' }, none, ?_, ⟨hfp, hop, hI'', ?_, hs⟩, rfl, rfl, rfl, ?_⟩
    · unfold PJ.visit; rw [htx, hafter]
    · subst hafter; exact matched_of_eq hm rfl rfl rfl rfl
    · subst hafter
      simp only [cstep, cstepCore, ctl]
      rw [cvisit_none hno mid _ hq]
      simp [coreOf, RAct.apply]
  · -- a request goes out: the master's half is `visit_request`, the slave's `receive_ctl`
    have hno : rcls j.fp.maxRetry j.p.retry ≠ .over := rcls_ne_over hr
    obtain ⟨hI1, hvl, hvt, hvr⟩ := visit_request hfp hop hI htx mid d
    obtain ⟨e1, e2, e3, e4, e5, e6, e7, e8, e9⟩ := j.sent_eq mid
    have hm1 : Matched (j.sent mid) j.s.cfg := matched_of_eq hm e6 e7 e8 (by rw [e9])
    by_cases hloss : d = .lossReq
    · refine ⟨{ j with p := j.sent mid }, none, hvl hloss, ⟨hfp, hop, hI1, hm1, hs⟩, rfl, rfl, rfl, ?_⟩
      subst hloss
      simp only [cstep, cstepCore, ctl, absD]
      rw [cvisit_lossReq hno mid hq]
      simp [coreOf, RAct.apply, e1, e2, e3, e4, e5, PJ.fl]
    · obtain ⟨hre, hs', hcfg', hstored, hkind⟩ := receive_ctl hs hreq
      obtain ⟨hdv, hrx⟩ := deliver_abs hkind hd
      have hd' : absD j.s.cfg.inLen d ≠ .lossReq := by cases d <;> simp [absD] <;> exact hloss rfl
      cases hdel : d.deliver (j.s.receive h pdu).2 with
      | none =>
        rw [hdel] at hdv
        simp only [Option.map_none] at hdv
        refine ⟨{ j with p := j.sent mid, s := (j.s.receive h pdu).1 }, none, hvt hloss hdel,
          ⟨hfp, hop, hI1, by simp only [hcfg']; exact hm1, hs'⟩, rfl, rfl, hcfg', ?_⟩
        simp only [cstep, cstepCore, ctl]
        rw [cvisit_timeout (c := coreOf j.p j.s) hno mid hq hd' hre.symm hdv.symm]
        simp [coreOf, RAct.apply, e1, e2, e3, e4, e5, PJ.fl]
      | some t =>
        rw [hdel] at hdv
        simp only [Option.map_some] at hdv
        obtain ⟨p2, ev, hvis, hF⟩ := hvr hloss t hdel (hrx t hdel)
        have fst := hF.st
        have ffcb := hF.fcb
        have fretry := hF.retry
        have fev := hF.ev
        have fdn := hF.dn
        rw [hm.ilen] at fst fdn ffcb fretry fev
        refine ⟨{ j with p := p2, s := (j.s.receive h pdu).1 }, ev, hvis,
          ⟨hfp, hop, hF.pinv, by simp only [hcfg']; exact matched_of_eq hm hF.addr hF.opts hF.piQ hF.ilen, hs'⟩,
          rfl, rfl, hcfg', ?_⟩
        obtain ⟨r, hr⟩ : ∃ r, mrx (j.s.cfg.inLen == 0) j.p.state (j.p.diagNeeded || mid) j.fl
          (viewOf j.s.cfg.inLen t) = r := ⟨_, rfl⟩
        rw [hr] at fst fdn ffcb fretry fev
        simp only [cstep, cstepCore, ctl]
        rw [cvisit_reply (c := coreOf j.p j.s) hno mid hq hd' hre.symm hdv.symm hr]
        have hmem : memOf (j.s.receive h pdu).1 p2.fcb =
            (if r.cycled then none else memOf (j.s.receive h pdu).1 j.p.fcb) := by
          rw [ffcb]
          split
          · simp only [memOf]; rw [isRetransmission_cyc hstored]; rfl
          · rfl
        simp only [coreOf]
        rw [Prod.mk.injEq]; refine ⟨?_, fev⟩
        rw [Ctl.mk.injEq]; refine ⟨?_, ?_⟩
        · rw [Core.mk.injEq]; exact ⟨fst, ffcb, fdn, hF.fl, rfl, hmem, rfl⟩
        · rw [fretry]; cases r.reset <;> simp [RAct.apply]

theorem memOf_congr {s s' : Slave} (h1 : s'.stored = s.stored) (h2 : s'.last = s.last) (h3 : s'.cfg = s.cfg)
    (f : FrameCountBit) : memOf s' f = memOf s f := by
  simp [memOf, h1, h2, h3]

/-- **Simulation of every environment step** (what `C07.control_abstraction` states). -/
theorem step_sim {j : PJ} (hg : Good j) {e : PEnv} (he : e.WellFormed) :
    ∃ j' ev, j.step e = some (j', ev) ∧ Good j' ∧ j'.fp = j.fp ∧ j'.op = j.op ∧ j'.s.cfg = j.s.cfg ∧
      (ctl j', ev) = cstep j.fp.maxRetry (j.s.cfg.inLen == 0) (ctl j) (absEnv j.s.cfg.inLen e) := by
  cases e with
  | visit mid d =>
    have hd : ∀ t, d = .sub t → RxOk t := by
      intro t ht; subst ht; exact he
    exact visit_sim hg mid hd
  | power =>
    obtain ⟨hfp, hop, hI, hm, hs⟩ := hg
    refine ⟨_, _, rfl, ⟨hfp, hop, hI, hm, ⟨hs.inputs, rfl, rfl, by simp [Slave.power, Slave.init, kindOf]⟩⟩,
      rfl, rfl, rfl, ?_⟩
    simp [cstep, cstepCore, ctl, coreOf, absEnv, RAct.apply, Slave.power, Slave.init, memOf, isRetransmission]
  | fault ext =>
    obtain ⟨hfp, hop, hI, hm, hs⟩ := hg
    refine ⟨_, _, rfl, ⟨hfp, hop, hI, hm, ⟨hs.inputs, hs.prmFault, hs.cfgFault, hs.last⟩⟩, rfl, rfl, rfl, ?_⟩
    simp [cstep, cstepCore, ctl, coreOf, absEnv, RAct.apply, Slave.reportFault, memOf] <;> rfl
  | diagReq =>
    obtain ⟨hfp, hop, hI, hm, hs⟩ := hg
    refine ⟨_, _, rfl, ⟨hfp, hop, pinv_reqDiag hI, matched_of_eq hm rfl rfl rfl rfl, hs⟩, rfl, rfl, rfl, ?_⟩
    simp [cstep, cstepCore, ctl, coreOf, absEnv, RAct.apply, reqDiag]
  | piq bs =>
    obtain ⟨hfp, hop, hI, hm, hs⟩ := hg
    by_cases hl : bs.length = j.p.piQ.length
    · refine ⟨_, _, rfl, ⟨hfp, hop, ?_, ?_, hs⟩, rfl, rfl, rfl, ?_⟩
      · simp only [hl, if_true]
        exact ⟨hI.retry_le, hI.off_retry, hI.fcb, hI.ext, hI.prm, hI.cfg, by simp only [hl]; exact hI.piq, hI.addr⟩
      · simp only [hl, if_true]
        exact ⟨hm.addr, hm.prm, hm.ident, hm.identLt, hm.cfg, by simp only [hl]; exact hm.qlen, hm.ilen⟩
      · simp [cstep, cstepCore, ctl, coreOf, absEnv, RAct.apply, hl]
    · refine ⟨_, _, rfl, ⟨hfp, hop, by simp only [hl, if_false]; exact hI, by simp only [hl, if_false]; exact hm, hs⟩,
        rfl, rfl, rfl, ?_⟩
      simp [cstep, cstepCore, ctl, coreOf, absEnv, RAct.apply, hl]
  | inputs bs =>
    obtain ⟨hfp, hop, hI, hm, hs⟩ := hg
    by_cases hl : bs.length = j.s.cfg.inLen
    · refine ⟨_, _, rfl, ⟨hfp, hop, hI, by simp only [Slave.setInputs, hl, if_true]; exact hm,
        ⟨by simp [Slave.setInputs, hl], by simp [Slave.setInputs, hl, hs.prmFault],
         by simp [Slave.setInputs, hl, hs.cfgFault], by simp only [Slave.setInputs, hl, if_true]; exact hs.last⟩⟩,
        rfl, rfl, by simp [Slave.setInputs, hl], ?_⟩
      simp [cstep, cstepCore, ctl, coreOf, absEnv, RAct.apply, Slave.setInputs, hl, memOf]
    · refine ⟨_, _, rfl, ⟨hfp, hop, hI, by simp only [Slave.setInputs, hl, if_false]; exact hm,
        by simp only [Slave.setInputs, hl, if_false]; exact hs⟩, rfl, rfl, by simp [Slave.setInputs, hl], ?_⟩
      simp [cstep, cstepCore, ctl, coreOf, absEnv, RAct.apply, Slave.setInputs, hl]

def crun (mr : Nat) (iz : Bool) (ilen : Nat) (c : Ctl) : List PEnv → Ctl × List PEvent
  | [] => (c, [])
  | e :: es =>
    let r := cstep mr iz c (absEnv ilen e)
    let r2 := crun mr iz ilen r.1 es
    (r2.1, r.2.toList ++ r2.2)

theorem run_sim : ∀ (es : List PEnv) {j : PJ}, Good j → (∀ e ∈ es, e.WellFormed) →
    ∃ j' evs, j.run es = some (j', evs) ∧ Good j' ∧ j'.fp = j.fp ∧ j'.op = j.op ∧ j'.s.cfg = j.s.cfg ∧
      (ctl j', evs) = crun j.fp.maxRetry (j.s.cfg.inLen == 0) j.s.cfg.inLen (ctl j) es := by
  intro es
  induction es with
  | nil => intro j hg _; exact ⟨j, [], rfl, hg, rfl, rfl, rfl, rfl⟩
  | cons e es ih =>
    intro j hg hw
    obtain ⟨j1, ev, h1, hg1, a1, a2, a3, hc1⟩ := step_sim hg (hw e (by simp))
    obtain ⟨j2, evs, h2, hg2, b1, b2, b3, hc2⟩ := ih hg1 (fun e' he' => hw e' (by simp [he']))
    refine ⟨j2, ev.toList ++ evs, ?_, hg2, by rw [b1, a1], by rw [b2, a2], by rw [b3, a3], ?_⟩
    · simp only [PJ.run, h1, h2]
    · rw [a1, a3] at hc2
      rw [Prod.mk.injEq] at hc1 hc2
      simp only [crun, ← hc1.1, ← hc1.2, ← hc2.1, ← hc2.2]

theorem crun_replicate (mr : Nat) (iz : Bool) (ilen : Nat) (e : PEnv) : ∀ (n : Nat) (c : Ctl),
    crun mr iz ilen c (List.replicate n e) = crunN mr iz (absEnv ilen e) n c := by
  intro n
  induction n with
  | zero => intro c; rfl
  | succ n ih => intro c; simp only [List.replicate, crun, crunN, ih]

theorem replicate_sim (n : Nat) {j : PJ} (hg : Good j) {e : PEnv} (he : e.WellFormed) :
    ∃ j' evs, j.run (List.replicate n e) = some (j', evs) ∧ Good j' ∧ j'.fp = j.fp ∧ j'.op = j.op ∧
      j'.s.cfg = j.s.cfg ∧
      (ctl j', evs) = crunN j.fp.maxRetry (j.s.cfg.inLen == 0) (absEnv j.s.cfg.inLen e) n (ctl j) := by
  obtain ⟨j', evs, h1, h2, h3, h4, h5, h6⟩ := run_sim (List.replicate n e) hg
    (by intro e' he'; rw [List.eq_of_mem_replicate he']; exact he)
  exact ⟨j', evs, h1, h2, h3, h4, h5, by rw [h6, crun_replicate]⟩

theorem quiet_eq_run : ∀ (n : Nat) (j : PJ), j.quiet n = j.run (List.replicate n (.visit false .ok)) := by
  intro n
  induction n with
  | zero => intro j; rfl
  | succ n ih => intro j; simp only [PJ.quiet, List.replicate, PJ.run, PJ.step, ih]

theorem quiet_run_sim (n : Nat) {j : PJ} (hg : Good j) :
    ∃ j' evs, j.quiet n = some (j', evs) ∧ Good j' ∧ j'.fp = j.fp ∧ j'.op = j.op ∧ j'.s.cfg = j.s.cfg ∧
      (ctl j', evs) = crunN j.fp.maxRetry (j.s.cfg.inLen == 0) (.visit false .ok) n (ctl j) := by
  rw [quiet_eq_run]
  exact replicate_sim n hg (e := .visit false .ok) trivial

theorem quiet_sim (n : Nat) {j : PJ} (hg : Good j) :
    ∃ j' evs, j.quiet n = some (j', evs) ∧ Good j' ∧ j'.fp = j.fp ∧ j'.op = j.op ∧ j'.s.cfg = j.s.cfg ∧
      ctl j' = iterQ j.fp.maxRetry (j.s.cfg.inLen == 0) n (ctl j) := by
  obtain ⟨j', evs, h1, h2, h3, h4, h5, h6⟩ := quiet_run_sim n hg
  exact ⟨j', evs, h1, h2, h3, h4, h5, by rw [← crunN_fst, ← h6]⟩

theorem run_append : ∀ (a b : List PEnv) {j j1 j2 : PJ} {e1 e2 : List PEvent}, j.run a = some (j1, e1) →
    j1.run b = some (j2, e2) → j.run (a ++ b) = some (j2, e1 ++ e2) := by
  intro a
  induction a with
  | nil =>
    intro b j j1 j2 e1 e2 h1 h2
    simp only [PJ.run, Option.some.injEq, Prod.mk.injEq] at h1
    obtain ⟨rfl, rfl⟩ := h1
    simpa using h2
  | cons x a ih =>
    intro b j j1 j2 e1 e2 h1 h2
    simp only [List.cons_append, PJ.run] at h1 ⊢
    cases hs : j.step x with
    | none => rw [hs] at h1; cases h1
    | some y =>
      obtain ⟨jy, ev⟩ := y
      rw [hs] at h1
      simp only at h1 ⊢
      cases hr : jy.run a with
      | none => rw [hr] at h1; cases h1
      | some z =>
        obtain ⟨jz, evs⟩ := z
        rw [hr] at h1
        simp only [Option.some.injEq, Prod.mk.injEq] at h1
        obtain ⟨rfl, rfl⟩ := h1
        rw [ih b hr h2]
        simp [List.append_assoc]

theorem run_single {j j' : PJ} {e : PEnv} {ev : Option PEvent} (h : j.step e = some (j', ev)) :
    j.run [e] = some (j', ev.toList ++ []) := by
  simp only [PJ.run, h]

theorem run_diag (j : PJ) : j.run [.diagReq] = some ({ j with p := reqDiag j.p }, [] ++ []) := by
  simp only [PJ.run, PJ.step, Option.toList]

theorem run_visit_diag {j j' : PJ} {mid : Bool} {d : Delivery} {ev : Option PEvent} (h : j.visit mid d = some (j', ev)) :
    j.run [.visit mid d, .diagReq] = some ({ j' with p := reqDiag j'.p }, ev.toList ++ ([] ++ [])) := by
  simp only [PJ.run, PJ.step, h, Option.toList]

theorem quiet_add (a b : Nat) {j j1 j2 : PJ} {e1 e2 : List PEvent} (h1 : j.quiet a = some (j1, e1))
    (h2 : j1.quiet b = some (j2, e2)) : j.quiet (a + b) = some (j2, e1 ++ e2) := by
  rw [quiet_eq_run] at h1 h2 ⊢
  rw [← List.replicate_append_replicate]
  exact run_append _ _ h1 h2

theorem step_jinv {j : PJ} (hg : Good j) (hj : jinv j.fp.maxRetry (j.s.cfg.inLen == 0) (ctl j) = true)
    {e : PEnv} (he : e.WellFormed) :
    ∃ j' ev, j.step e = some (j', ev) ∧ Good j' ∧ j'.fp = j.fp ∧ j'.op = j.op ∧ j'.s.cfg = j.s.cfg ∧
      jinv j'.fp.maxRetry (j'.s.cfg.inLen == 0) (ctl j') = true := by
  obtain ⟨j', ev, h1, h2, h3, h4, h5, h6⟩ := step_sim hg he
  refine ⟨j', ev, h1, h2, h3, h4, h5, ?_⟩
  have h7 : ctl j' = (cstep j.fp.maxRetry (j.s.cfg.inLen == 0) (ctl j) (absEnv j.s.cfg.inLen e)).1 :=
    congrArg Prod.fst h6
  rw [h3, h5, h7]
  exact jinv_step hg.fp.retry_lo hj _

theorem crun_jinv {mr : Nat} (hmr : 1 ≤ mr) {iz : Bool} (ilen : Nat) : ∀ (es : List PEnv) {c : Ctl},
    jinv mr iz c = true → jinv mr iz (crun mr iz ilen c es).1 = true := by
  intro es
  induction es with
  | nil => intro c h; exact h
  | cons e es ih => intro c h; exact ih (jinv_step hmr h _)

theorem run_jinv (es : List PEnv) {j : PJ} (hg : Good j)
    (hj : jinv j.fp.maxRetry (j.s.cfg.inLen == 0) (ctl j) = true) (hw : ∀ e ∈ es, e.WellFormed) :
    ∃ j' evs, j.run es = some (j', evs) ∧ Good j' ∧ j'.fp = j.fp ∧ j'.op = j.op ∧ j'.s.cfg = j.s.cfg ∧
      jinv j'.fp.maxRetry (j'.s.cfg.inLen == 0) (ctl j') = true := by
  obtain ⟨j', evs, h1, h2, h3, h4, h5, h6⟩ := run_sim es hg hw
  refine ⟨j', evs, h1, h2, h3, h4, h5, ?_⟩
  have h7 : ctl j' = (crun j.fp.maxRetry (j.s.cfg.inLen == 0) j.s.cfg.inLen (ctl j) es).1 := congrArg Prod.fst h6
  rw [h3, h5, h7]
  exact crun_jinv hg.fp.retry_lo _ es hj

/-- A global-control broadcast: something was sent and no reply is expected. -/
def TurnObs.isBroadcast (o : TurnObs) : Bool := o.tx.isSome && o.expect.isNone

def nonBroadcast (os : List TurnObs) : Nat := (os.filter fun o => !o.isBroadcast).length

end PV.Live
