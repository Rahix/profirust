/-
Dense peripheral storage (`DpMaster::add` into an empty master: peripherals in slots `0 … n-1`, free slots
behind) and the `loop` of `transmit_telegram` over it (property C07, several peripherals).
-/
import ProfiVerif.Lemmas.DpSlots

namespace PV.Live
open PV PV.Dp

def denseSlots (ps : List Peripheral) (k : Nat) : List (Option Peripheral) :=
  ps.map some ++ List.replicate k none

theorem dense_getElem? (ps : List Peripheral) (k j : Nat) :
    (denseSlots ps k)[j]? =
      if h : j < ps.length then some (some ps[j]) else if j < ps.length + k then some none else none := by
  unfold denseSlots
  by_cases h : j < ps.length
  · rw [dif_pos h, List.getElem?_append_left (by simpa using h)]; simp [h]
  · rw [dif_neg h, List.getElem?_append_right (by simpa using h)]
    simp only [List.length_map, List.getElem?_replicate]
    by_cases h2 : j < ps.length + k
    · rw [if_pos h2, if_pos (by omega)]
    · rw [if_neg h2, if_neg (by omega)]

theorem firstFrom_dense (ps : List Peripheral) (k index : Nat) :
    firstFrom (denseSlots ps k) 0 index =
      (if h : index < ps.length then some (index, ps[index]) else none) := by
  show curSlot (denseSlots ps k) index = _
  by_cases h : index < ps.length
  · rw [dif_pos h]
    exact curSlot_self (by rw [dense_getElem?, dif_pos h])
  · rw [dif_neg h]
    cases hc : curSlot (denseSlots ps k) index with
    | none => rfl
    | some jp =>
      -- an occupied slot at or behind `index` would lie among the peripherals
      obtain ⟨h1, -, h3, -⟩ := curSlot_spec (j := jp.1) (p := jp.2) hc
      rw [dense_getElem?, dif_neg (by omega)] at h3
      split at h3 <;> cases h3

theorem getAtIndex_dense {ps : List Peripheral} (k : Nat) {i : Nat} (hi : i < ps.length) (hn : ps.length ≤ 256) :
    getAtIndex (denseSlots ps k) i = .ok (some (i, ps[i])) := by
  simp only [getAtIndex, firstFrom_dense, hi, dite_true]
  rw [if_neg (by omega)]

theorem nextCycle_dense {ps : List Peripheral} (k : Nat) {i : Nat} (hi : i < ps.length) (hn : ps.length ≤ 256) :
    nextCycle (denseSlots ps k) i =
      .ok (if i + 1 < ps.length then (.dx (i + 1), false) else (.completed, true)) := by
  simp only [nextCycle, getNextIndex, firstFrom_dense, hi, dite_true]
  by_cases h1 : i + 1 < ps.length
  · simp only [h1, dite_true, if_true]
    rw [if_neg (by omega)]
  · simp only [h1, dite_false, if_false]

theorem set_dense {ps : List Peripheral} (k : Nat) {i : Nat} (hi : i < ps.length) (p' : Peripheral) :
    (denseSlots ps k).set i (some p') = denseSlots (ps.set i p') k := by
  unfold denseSlots
  rw [List.set_append_left _ _ (by simpa using hi), List.map_set]

theorem getD_dense_lt {ps : List Peripheral} (k : Nat) {i : Nat} (hi : i < ps.length) :
    (denseSlots ps k).getD i none = some ps[i] := by
  rw [List.getD_eq_getElem?_getD, dense_getElem?, dif_pos hi]; rfl

theorem getD_dense_ge {ps : List Peripheral} (k : Nat) {i : Nat} (hi : ¬ i < ps.length) :
    (denseSlots ps k).getD i none = none := by
  rw [List.getD_eq_getElem?_getD, dense_getElem?, dif_neg hi]
  split <;> rfl

theorem txLoop_dense_step {fp : FdlParams} {m : Master} {ps : List Peripheral} {k i : Nat}
    (hs : m.slots = denseSlots ps k) (hc : m.cycle = .dx i) (hi : i < ps.length) (hn : ps.length ≤ 256)
    (fuel : Nat) :
    Master.txLoop fp (fuel + 1) m =
      match ps[i].transmit fp m.op with
      | .panic => .panic
      | .send p' h pdu => .send { m with slots := denseSlots (ps.set i p') k, lastEvents := {} } h pdu
      | .decline p' (some ev) =>
        .none { m with slots := denseSlots (ps.set i p') k,
                       cycle := if i + 1 < ps.length then .dx (i + 1) else .dx 0,
                       lastEvents := { cycleCompleted := !decide (i + 1 < ps.length),
                                       peripheral := some { index := i, address := ps[i].address, ev := ev } } }
      | .decline p' none =>
        if i + 1 < ps.length then
          Master.txLoop fp fuel { m with slots := denseSlots (ps.set i p') k, cycle := .dx (i + 1) }
        else .none { m with slots := denseSlots (ps.set i p') k, cycle := .dx 0, lastEvents := { cycleCompleted := true } } := by
  simp only [Master.txLoop, hc, Master.visit, hs, getAtIndex_dense k hi hn]
  cases ht : ps[i].transmit fp m.op with
  | panic => rfl
  | send p' h pdu => simp only [set_dense k hi]
  | decline p' ev =>
    have hi' : i < (ps.set i p').length := by simpa using hi
    have hn' : (ps.set i p').length ≤ 256 := by simpa using hn
    cases ev with
    | some e =>
      simp only [set_dense k hi, nextCycle_dense k hi' hn', List.length_set]
      by_cases h1 : i + 1 < ps.length <;> simp [h1]
    | none =>
      simp only [set_dense k hi, nextCycle_dense k hi' hn', List.length_set]
      by_cases h1 : i + 1 < ps.length <;> simp [h1]

end PV.Live
