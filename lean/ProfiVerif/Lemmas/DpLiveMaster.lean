/-
From the peripheral-level joint model `PJ` (theorems of C07) to the master-level joint model `Joint` (what the
`dplive` correspondence runs against the real `DpMaster`).  `Joint` is `JointN` with a single slave on the bus
(`Joint.turn_eq_turnN`), so for a master holding exactly one peripheral the turn form of `Lemmas/DpLiveTurn` reads
(`TurnKind`, `turn_single`): one `transmit_telegram` call (`Joint.turn`) is a global-control broadcast the slave
ignores, a turn that only closes the DP cycle, or exactly one visit `PJ.visit` of the peripheral with the same
delivery, after which the cycle is closed by the reply or still points at the peripheral.  So at most one
cycle-closing turn lies between two visits: `2 (mr + 8) + 1` non-broadcast turns contain `mr + 8` visits.
-/
import ProfiVerif.Lemmas.DpLiveTurn

namespace PV.Live
open PV PV.Dp

def singleSlots (p : Peripheral) (k : Nat) : List (Option Peripheral) := some p :: List.replicate k none

theorem singleSlots_eq_dense (p : Peripheral) (k : Nat) : singleSlots p k = denseSlots [p] k := rfl

theorem getAtIndex_single_succ (p : Peripheral) (k n : Nat) : getAtIndex (singleSlots p k) (n + 1) = .ok none := by
  simp [getAtIndex, singleSlots_eq_dense, firstFrom_dense]

theorem set_single (p p' : Peripheral) (k : Nat) : (singleSlots p k).set 0 (some p') = singleSlots p' k := rfl

/-- A master in Operate whose only peripheral sits in slot 0. -/
structure Single (m : Master) (p : Peripheral) : Prop where
  slots : ∃ k, m.slots = singleSlots p k
  op : m.op = .operate
  cycle : m.cycle = .dx 0 ∨ m.cycle = .completed

inductive TurnKind (J : Joint) (p : Peripheral) (now : Int) (mid : Bool) (d : Delivery) : Joint → TurnObs → Prop
  /-- global-control broadcast: the slave ignores it -/
  | gc (m' : Master) (o : TurnObs) (p' : Peripheral) :
      Single m' p' → p' = (if mid then reqDiag p else p) → m'.cycle = J.m.cycle → o.expect = none → o.tx.isSome = true →
      m'.lastGc = some now →
      TurnKind J p now mid d { J with m := m' } o
  | close (m' : Master) : Single m' p → J.m.cycle = .completed → m'.cycle = .dx 0 → m'.lastGc = J.m.lastGc →
      TurnKind J p now mid d { J with m := m' } {}
  | visit (m' : Master) (s' : Slave) (o : TurnObs) (p' : Peripheral) (ev : Option PEvent) :
      Single m' p' → J.m.cycle = .dx 0 →
      PJ.visit ⟨J.fp, J.m.op, p, J.s⟩ mid d = some (⟨J.fp, J.m.op, p', s'⟩, ev) →
      m'.lastEvents.peripheral = ev.map (fun e => { index := 0, address := p.address, ev := e }) →
      -- a reply closes the cycle; otherwise the next turn visits the peripheral again
      (m'.cycle = .completed ∨ m'.cycle = .dx 0) → m'.lastGc = J.m.lastGc →
      -- not a broadcast: nothing was sent, or a reply is expected
      (o.tx = none ∨ o.expect.isSome = true) →
      TurnKind J p now mid d { J with m := m', s := s' } o

def Joint.toN (J : Joint) : JointN := ⟨J.fp, J.m, [J.s]⟩

def TurnResN.toJoint (slot : Nat) : TurnResN → TurnRes
  | .ok J o => .ok ⟨J.fp, J.m, J.ss.getD 0 default, slot⟩ o
  | .panic => .panic
  | .hang => .hang

theorem busReceive_single (s : Slave) (h : Header) (pdu : Bytes) :
    busReceive [s] h pdu = ([(s.receive h pdu).1], (s.receive h pdu).2) := by
  simp only [busReceive]
  cases (s.receive h pdu).2 <;> rfl

theorem Joint.turn_eq_turnN (J : Joint) (now : Int) (mid : Bool) (d : Delivery) :
    J.turn now mid d = (J.toN.turn now (if mid then some J.slot else none) d).toJoint J.slot := by
  have hm : ∀ m' : Master, midDiag m' (if mid then some J.slot else none) =
      if mid then (m'.requestDiagnostics J.slot).getD m' else m' := by
    intro m'; cases mid <;> rfl
  unfold Joint.turn JointN.turn
  simp only [Joint.toN, hm, busReceive_single]
  cases Master.transmit J.fp now false J.m with
  | panic => rfl
  | hang => rfl
  | none m' => rfl
  | send m' h pdu =>
    simp only
    cases h.serialize pdu with
    | panic => rfl
    | ok bytes =>
      simp only
      generalize (if mid = true then (m'.requestDiagnostics J.slot).getD m' else m') = m1
      cases expectsReplyOf h with
      | none => cases d <;> rfl
      | some a =>
        have key : ∀ dl : Option Telegram,
            (match dl with
             | none => TurnRes.ok { J with m := m1.handleTimeout a, s := (J.s.receive h pdu).1 }
                 { tx := some bytes, expect := some a, seen := true, reply := (J.s.receive h pdu).2 }
             | some t =>
               match m1.receiveReply a t with
               | .panic => .panic
               | .ok m2 => .ok { J with m := m2, s := (J.s.receive h pdu).1 }
                   { tx := some bytes, expect := some a, seen := true, reply := (J.s.receive h pdu).2, delivered := some t }) =
            TurnResN.toJoint J.slot
              (match dl with
               | none => .ok { fp := J.fp, m := m1.handleTimeout a, ss := [(J.s.receive h pdu).1] }
                   { tx := some bytes, expect := some a, seen := true, reply := (J.s.receive h pdu).2 }
               | some t =>
                 match m1.receiveReply a t with
                 | .panic => .panic
                 | .ok m2 => .ok { fp := J.fp, m := m2, ss := [(J.s.receive h pdu).1] }
                     { tx := some bytes, expect := some a, seen := true, reply := (J.s.receive h pdu).2, delivered := some t }) := by
          intro dl
          cases dl with
          | none => rfl
          | some t => simp only; cases m1.receiveReply a t <;> rfl
        cases d <;> first | rfl | exact key _

/-- **One `transmit_telegram` of a single-peripheral master** against the slave, under any delivery: the turn
form at `n = 1`. -/
theorem turn_single {J : Joint} {p : Peripheral} (hS : Single J.m p) (hslot : J.slot = 0)
    (hg : Good ⟨J.fp, J.m.op, p, J.s⟩) (ha : J.s.cfg.address ≠ 127) {now : Int} (hnow : timeB now)
    (hgc : ∀ t, J.m.lastGc = some t → timeB t) (mid : Bool) {d : Delivery} (hd : ∀ t, d = .sub t → RxOk t) :
    ∃ J' o, J.turn now mid d = .ok J' o ∧ TurnKind J p now mid d J' o := by
  obtain ⟨fp, m, s, slot⟩ := J
  simp only at hslot hS hg ha hgc
  subst hslot
  obtain ⟨k, hk⟩ := hS.slots
  have hop := hS.op
  rw [hop] at hg
  have hW : NWf (Joint.toN ⟨fp, m, s, 0⟩) [p] k :=
    ⟨hk, hop, rfl, by simp, by simp, hg.fp,
     by rcases hS.cycle with h | h
        · exact Or.inr ⟨0, h, by simp⟩
        · exact Or.inl h,
     by intro l hl; obtain rfl : l = 0 := by simpa using hl
        exact hg,
     by intro l hl; obtain rfl : l = 0 := by simpa using hl
        exact ha,
     by intro l l' hl hl' hne; simp at hl hl'; omega, hgc⟩
  have hmid : ∀ j : Nat, j < 1 → decide ((if mid then some 0 else none : Option Nat) = some j) = mid := by
    intro j hj; obtain rfl : j = 0 := by omega
    cases mid <;> simp
  have hF := turnN_form hW hnow (if mid then some 0 else none) hd
  rw [Joint.turn_eq_turnN]
  generalize (Joint.toN ⟨fp, m, s, 0⟩).turn now _ d = r at hF
  cases hF with
  | gc o hb =>
    simp only [TurnObs.isBroadcast, Bool.and_eq_true, Option.isNone_iff_eq_none] at hb
    refine ⟨_, o, rfl, .gc _ o (if mid then reqDiag p else p) ⟨⟨k, ?_⟩, hop, hS.cycle⟩ rfl rfl hb.2 hb.1 rfl⟩
    cases mid <;> rfl
  | close hc =>
    exact ⟨_, _, rfl, .close _ ⟨⟨k, hk⟩, hop, Or.inl rfl⟩ hc rfl rfl⟩
  | stop i j ps' ev hc hP hstop hend =>
    have hj : j = 0 := by have := hP.lt; simpa using this
    have hi : i = 0 := by have := hP.le; omega
    subst hj hi
    have hps' : ps' = [ps'.getD 0 default] := length_one hP.len
    refine ⟨_, _, rfl, .visit _ s {} (ps'.getD 0 default) ev ⟨⟨k, by rw [hps']; rfl⟩, hop, Or.inl rfl⟩ hc ?_ rfl
      (Or.inr rfl) rfl (Or.inl rfl)⟩
    rw [hop]
    exact visit_decline_any (j := ⟨fp, .operate, p, s⟩) hstop mid d
  | exchange i j ps' h pdu p2 s2 ev o m' hc hP hsend hvis hexp htx hslots hop' hgc' hcy hev =>
    have hj : j = 0 := by have := hP.lt; simpa using this
    have hi : i = 0 := by have := hP.le; omega
    subst hj hi
    rw [hmid 0 Nat.zero_lt_one] at hvis
    have hset : (applyMid ps' (if mid then some 0 else none)).set 0 p2 = [p2] := by
      have := length_one (xs := (applyMid ps' (if mid then some 0 else none)).set 0 p2)
        (by simp [applyMid_length, hP.len])
      rw [this]; simp [applyMid_length, hP.len]
    rw [hset] at hslots
    refine ⟨_, o, rfl, .visit m' s2 o p2 ev ⟨⟨k, hslots⟩, hop', ?_⟩ hc (by rw [hop]; exact hvis) hev ?_ hgc'
      (Or.inr (by rw [hexp]; rfl))⟩
    · rw [hcy]; split
      · exact Or.inr rfl
      · exact Or.inl rfl
    · rw [hcy]; split
      · exact Or.inl rfl
      · exact Or.inr rfl

end PV.Live
