/-
Sequences of `transmit_telegram` turns of a `DpMaster` with one peripheral (slot 0) against the reference
slave (property C07, master level).  Fault-free turns that are not global-control broadcasts are visits of
the peripheral alternating with cycle-closing turns, so `nonBroadcast ≤ 2 · visits + 1`
(`quietTurns_visits`); along any master-level history the master stays a well-formed single-peripheral
master and the pair stays good and within the joint invariant (`mrun_good`: a step of such a history is a step
of the history of a master with one slot, `Joint.step_eq_stepN`, `stepN_good`).
-/
import ProfiVerif.Lemmas.DpLiveMaster
import ProfiVerif.Lemmas.DpLiveNHist

namespace PV.Live
open PV PV.Dp

/-- Fault-free turns at the given times: the final joint state and what each turn put on the bus. -/
def Joint.quietTurns (J : Joint) : List Int → Option (Joint × List TurnObs)
  | [] => some (J, [])
  | now :: rest =>
    match J.turn now false .ok with
    | .ok J' o =>
      match J'.quietTurns rest with
      | some (J'', os) => some (J'', o :: os)
      | none => none
    | _ => none

/-- The peripheral / slave pair of a single-peripheral joint state. -/
def Joint.pj (J : Joint) (p : Peripheral) : PJ := ⟨J.fp, .operate, p, J.s⟩

/-- 1 if the cycle is completed (the next non-broadcast turn only closes it), else 0. -/
def Joint.closing (J : Joint) : Nat := if J.m.cycle = .completed then 1 else 0

structure MGood (J : Joint) (p : Peripheral) : Prop where
  single : Single J.m p
  slot : J.slot = 0
  good : Good (J.pj p)
  addr : J.s.cfg.address ≠ 127
  gc : ∀ t, J.m.lastGc = some t → timeB t

theorem MGood.good' {J : Joint} {p : Peripheral} (h : MGood J p) : Good ⟨J.fp, J.m.op, p, J.s⟩ := by
  have := h.good; unfold Joint.pj at this; rw [h.single.op]; exact this

theorem turn_pj {J : Joint} {p : Peripheral} (hM : MGood J p) {now : Int} (hnow : timeB now) (mid : Bool)
    {d : Delivery} (hd : ∀ t, d = .sub t → RxOk t) :
    ∃ J' o p', J.turn now mid d = .ok J' o ∧ MGood J' p' ∧ J'.fp = J.fp ∧
      ((o.isBroadcast = true ∧ J'.closing = J.closing ∧
          J'.pj p' = (if mid then { J.pj p with p := reqDiag p } else J.pj p)) ∨
       (o.isBroadcast = false ∧ J.closing = 1 ∧ J'.closing = 0 ∧ J'.pj p' = J.pj p) ∨
       (o.isBroadcast = false ∧ J.closing = 0 ∧ ∃ ev, (J.pj p).visit mid d = some (J'.pj p', ev))) := by
  obtain ⟨J', o, hturn, hk⟩ := turn_single hM.single hM.slot hM.good' hM.addr hnow hM.gc mid hd
  have hop := hM.single.op
  cases hk with
  | gc m' o p' hS' hp' hcy hexp htx hgc =>
    refine ⟨_, o, p', hturn, ⟨hS', hM.slot, ?_, hM.addr, ?_⟩, rfl, Or.inl ⟨?_, ?_, ?_⟩⟩
    · subst hp'
      cases mid with
      | false => exact hM.good
      | true =>
        obtain ⟨j', ev, h1, h2, _⟩ := step_sim hM.good (e := .diagReq) trivial
        simp only [PJ.step, Option.some.injEq, Prod.mk.injEq] at h1
        rw [← h1.1] at h2; exact h2
    · intro t ht; simp only at ht; rw [hgc] at ht; cases ht; exact hnow
    · simp [TurnObs.isBroadcast, hexp, htx]
    · simp only [Joint.closing, hcy]
    · subst hp'; cases mid <;> rfl
  | close m' hS' hc hc' hgc =>
    refine ⟨_, _, p, hturn, ⟨hS', hM.slot, hM.good, hM.addr, ?_⟩, rfl, Or.inr (Or.inl ⟨rfl, ?_, ?_, rfl⟩)⟩
    · intro t ht; simp only at ht; rw [hgc] at ht; exact hM.gc t ht
    · simp [Joint.closing, hc]
    · simp [Joint.closing, hc']
  | visit m' s' o p' ev hS' hc hvis hev hcy hgc hobs =>
    have hvis' : (J.pj p).visit mid d = some (⟨J.fp, .operate, p', s'⟩, ev) := by
      unfold Joint.pj; rw [← hop]; exact hvis
    obtain ⟨j', ev', h1, h2, _, _, h5, _⟩ := visit_sim hM.good mid hd
    rw [hvis'] at h1
    simp only [Option.some.injEq, Prod.mk.injEq] at h1
    obtain ⟨rfl, rfl⟩ := h1
    refine ⟨_, o, p', hturn, ⟨hS', hM.slot, h2, ?_, ?_⟩, rfl, Or.inr (Or.inr ⟨?_, ?_, ev, hvis'⟩)⟩
    · have : s'.cfg = J.s.cfg := h5
      simp only; rw [this]; exact hM.addr
    · intro t ht; simp only at ht; rw [hgc] at ht; exact hM.gc t ht
    · rcases hobs with h | h
      · simp [TurnObs.isBroadcast, h]
      · cases he : o.expect with
        | none => rw [he] at h; cases h
        | some a => simp [TurnObs.isBroadcast, he]
    · simp [Joint.closing, hc]

/-- **Fault-free master turns are visits.**  After any sequence of fault-free turns (times within
±2^62 µs, otherwise arbitrary — broadcasts may fall anywhere), the pair is in the state after `v`
fault-free visits, where the number of non-broadcast turns is at most `2 v + 1` (at most `2 v` if the
sequence starts with the cycle index on the peripheral). -/
theorem quietTurns_visits : ∀ (nows : List Int), (∀ t ∈ nows, timeB t) → ∀ {J : Joint} {p : Peripheral}, MGood J p →
    ∃ J' os p' v evs, J.quietTurns nows = some (J', os) ∧ MGood J' p' ∧ J'.fp = J.fp ∧ os.length = nows.length ∧
      (J.pj p).quiet v = some (J'.pj p', evs) ∧ nonBroadcast os + J'.closing ≤ 2 * v + J.closing := by
  intro nows
  induction nows with
  | nil => intro _ J p hM; exact ⟨J, [], p, 0, [], rfl, hM, rfl, rfl, rfl, by simp [nonBroadcast]⟩
  | cons now rest ih =>
    intro ht J p hM
    obtain ⟨J1, o, p1, hturn, hM1, hfp1, hkind⟩ :=
      turn_pj hM (ht now (by simp)) false (d := .ok) (by intro t h; cases h)
    obtain ⟨J2, os, p2, v, evs, hq, hM2, hfp2, hlen, hquiet, hcount⟩ := ih (fun t h => ht t (by simp [h])) hM1
    have hrun : J.quietTurns (now :: rest) = some (J2, o :: os) := by
      simp only [Joint.quietTurns, hturn, hq]
    rcases hkind with ⟨hb, hcl, hpj⟩ | ⟨hb, hc0, hc1, hpj⟩ | ⟨hb, hc0, ev, hvis⟩
    · simp only [Bool.false_eq_true, if_false] at hpj
      refine ⟨J2, o :: os, p2, v, evs, hrun, hM2, by rw [hfp2, hfp1], by simp [hlen], by rw [← hpj]; exact hquiet, ?_⟩
      have : nonBroadcast (o :: os) = nonBroadcast os := by simp [nonBroadcast, hb]
      rw [this, ← hcl]; exact hcount
    · refine ⟨J2, o :: os, p2, v, evs, hrun, hM2, by rw [hfp2, hfp1], by simp [hlen], by rw [← hpj]; exact hquiet, ?_⟩
      have : nonBroadcast (o :: os) = nonBroadcast os + 1 := by simp [nonBroadcast, hb]
      rw [this, hc0]; rw [hc1] at hcount; omega
    · refine ⟨J2, o :: os, p2, v + 1, ev.toList ++ evs, hrun, hM2, by rw [hfp2, hfp1], by simp [hlen], ?_, ?_⟩
      · simp only [PJ.quiet, hvis, hquiet]
      · have : nonBroadcast (o :: os) = nonBroadcast os + 1 := by simp [nonBroadcast, hb]
        rw [this, hc0]
        have : J1.closing ≤ 1 := by unfold Joint.closing; split <;> omega
        omega

inductive JEnv
  | turn (now : Int) (mid : Bool) (d : Delivery)
  | power
  | fault (ext : Bytes)
  | diagReq
  | piq (bs : Bytes)
  | inputs (bs : Bytes)
  deriving Repr

/-- Times in range; a substituted reply is a well-formed response (FDL contract). -/
def JEnv.WellFormed : JEnv → Prop
  | .turn now _ d => timeB now ∧ ∀ t, d = .sub t → RxOk t
  | _ => True

def Joint.step (J : Joint) : JEnv → Option Joint
  | .turn now mid d =>
    match J.turn now mid d with
    | .ok J' _ => some J'
    | _ => none
  | .power => some { J with s := J.s.power }
  | .fault ext => some { J with s := J.s.reportFault ext }
  | .diagReq => some { J with m := (J.m.requestDiagnostics J.slot).getD J.m }
  | .piq bs => some { J with m := (J.m.writePiQ J.slot bs).getD J.m }
  | .inputs bs => some { J with s := J.s.setInputs bs }

def Joint.mrun (J : Joint) : List JEnv → Option Joint
  | [] => some J
  | e :: es =>
    match J.step e with
    | some J' => J'.mrun es
    | none => none

def JEnv.toN : JEnv → NEnv
  | .turn now mid d => .turn now (if mid then some 0 else none) d
  | .power => .power 0
  | .fault ext => .fault 0 ext
  | .diagReq => .diagReq 0
  | .piq bs => .piq 0 bs
  | .inputs bs => .inputs 0 bs

def JointN.toJoint (J : JointN) : Joint := ⟨J.fp, J.m, J.ss.getD 0 default, 0⟩

theorem Joint.step_eq_stepN (J : Joint) (hslot : J.slot = 0) (e : JEnv) :
    J.step e = (J.toN.step e.toN).map JointN.toJoint := by
  obtain ⟨fp, m, s, slot⟩ := J
  simp only at hslot
  subst hslot
  cases e with
  | turn now mid d =>
    simp only [Joint.step, JointN.step, JEnv.toN, Joint.turn_eq_turnN]
    cases (Joint.toN ⟨fp, m, s, 0⟩).turn now (if mid then some 0 else none) d <;> rfl
  | power => rfl
  | fault ext => rfl
  | diagReq => rfl
  | piq bs => rfl
  | inputs bs => rfl

theorem MGood.ngood {J : Joint} {p : Peripheral} (hM : MGood J p)
    (hj : jinv J.fp.maxRetry (J.s.cfg.inLen == 0) (ctl (J.pj p)) = true) : ∃ k, NGood J.toN [p] k := by
  obtain ⟨k, hk⟩ := hM.single.slots
  have h0 : ∀ l, l < [p].length → l = 0 := by intro l hl; simpa using hl
  refine ⟨k, hk, hM.single.op, rfl, by simp, by simp, hM.good.fp, ?_, ?_, ?_, ?_, hM.gc⟩
  · rcases hM.single.cycle with h | h
    · exact Or.inr ⟨0, h, by simp⟩
    · exact Or.inl h
  · intro l hl; obtain rfl := h0 l hl; exact ⟨hM.good, hj⟩
  · intro l hl; obtain rfl := h0 l hl; exact hM.addr
  · intro l l' hl hl' hne; rw [h0 l hl, h0 l' hl'] at hne; exact absurd rfl hne

theorem NGood.mgood {J : JointN} {ps : List Peripheral} {k : Nat} (hN : NGood J ps k) (hlen : ps.length = 1) :
    MGood J.toJoint (ps.getD 0 default) ∧
      jinv J.fp.maxRetry ((J.ss.getD 0 default).cfg.inLen == 0) (ctl (J.toJoint.pj (ps.getD 0 default))) = true := by
  have h1 : 0 < ps.length := by omega
  refine ⟨⟨⟨⟨k, ?_⟩, hN.op, ?_⟩, rfl, (hN.ok 0 h1).1, hN.addr 0 h1, hN.gc⟩, (hN.ok 0 h1).2⟩
  · have := hN.slots; rw [length_one hlen] at this; exact this
  · rcases hN.cycle with h | ⟨i, h, hi⟩
    · exact Or.inr h
    · obtain rfl : i = 0 := by omega
      exact Or.inl h

theorem mstep_good {J : Joint} {p : Peripheral} (hM : MGood J p)
    (hj : jinv J.fp.maxRetry (J.s.cfg.inLen == 0) (ctl (J.pj p)) = true) {e : JEnv} (he : e.WellFormed) :
    ∃ J' p', J.step e = some J' ∧ MGood J' p' ∧ J'.fp = J.fp ∧ J'.s.cfg = J.s.cfg ∧
      jinv J'.fp.maxRetry (J'.s.cfg.inLen == 0) (ctl (J'.pj p')) = true := by
  obtain ⟨k, hN⟩ := hM.ngood hj
  have he' : e.toN.WellFormed := by cases e <;> exact he
  obtain ⟨J1, ps1, h1, hN1, hfp, hlen, hr⟩ := stepN_good hN he'
  obtain ⟨es, hrun⟩ := hr 0 (by simp)
  obtain ⟨hM1, hj1⟩ := hN1.mgood hlen
  exact ⟨J1.toJoint, ps1.getD 0 default, by rw [Joint.step_eq_stepN J hM.slot, h1]; rfl, hM1, hfp,
    (slotOk_run (hN.ok 0 (by simp)) hrun).2, hj1⟩

theorem mrun_good : ∀ (es : List JEnv), (∀ e ∈ es, e.WellFormed) → ∀ {J : Joint} {p : Peripheral}, MGood J p →
    jinv J.fp.maxRetry (J.s.cfg.inLen == 0) (ctl (J.pj p)) = true →
    ∃ J' p', J.mrun es = some J' ∧ MGood J' p' ∧ J'.fp = J.fp ∧
      jinv J'.fp.maxRetry (J'.s.cfg.inLen == 0) (ctl (J'.pj p')) = true := by
  intro es
  induction es with
  | nil => intro _ J p hM hj; exact ⟨J, p, rfl, hM, rfl, hj⟩
  | cons e es ih =>
    intro hw J p hM hj
    obtain ⟨J1, p1, h1, hM1, hfp1, _, hj1⟩ := mstep_good hM hj (hw e (by simp))
    obtain ⟨J2, p2, h2, hM2, hfp2, hj2⟩ := ih (fun e' he' => hw e' (by simp [he'])) hM1 hj1
    exact ⟨J2, p2, by simp only [Joint.mrun, h1, h2], hM2, by rw [hfp2, hfp1], hj2⟩

end PV.Live
