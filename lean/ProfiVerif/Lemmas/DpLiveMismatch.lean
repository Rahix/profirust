/-
The complement of C07's scope: a slave whose configuration does NOT match the master's (property C07,
`mismatch_cycle`).  The control abstraction of `Lemmas/DpLive.lean` assumes matching contents; here the
visits are followed on the real model directly.
-/
import ProfiVerif.Lemmas.DpLive

namespace PV.Live
open PV PV.Dp

theorem next_request {fp : FdlParams} (hfp : FpOk fp) {op : OpState} (hop : op ≠ .stop) {p : Peripheral}
    (hI : PInv fp p) {c : SlaveCfg} (hm : Matched p c) (hr : p.retry ≤ fp.maxRetry) {k : ReqK}
    (hq : reqOf p.state p.diagNeeded p.diagInFlight (rcls fp.maxRetry p.retry) = some k) :
    ∃ h pdu, p.transmit fp op = .send (sentP p (flAfter p.state p.diagNeeded p.diagInFlight (rcls fp.maxRetry p.retry))) h pdu ∧
      IsReq k c p.fcb h pdu ∧
      PInv fp (sentP p (flAfter p.state p.diagNeeded p.diagInFlight (rcls fp.maxRetry p.retry))) := by
  obtain ⟨p'', hafter, hI''⟩ := tx_pinv (tx_spec hfp hop hI) hI
  rcases tx_ctl hfp hop hI hm with ⟨h1, _⟩ | ⟨_, h1, _⟩ | ⟨_, k', h, pdu, hq', htx, hreq⟩
  · omega
  · rw [hq] at h1; cases h1
  · rw [hq] at hq'
    simp only [Option.some.injEq] at hq'
    subst hq'
    rw [htx] at hafter
    simp only [PTx.after, Option.some.injEq] at hafter
    subst hafter
    exact ⟨h, pdu, htx, hreq, hI''⟩

/-- Static agreement of everything but the configuration bytes. -/
structure CfgMismatch (j : PJ) : Prop where
  fp : FpOk j.fp
  op : j.op ≠ .stop
  pinv : PInv j.fp j.p
  addr : j.p.address = j.s.cfg.address
  prm : ∃ up, j.p.opts.userPrm = some up ∧ up.length = j.s.cfg.prmLen
  ident : j.p.opts.ident = j.s.cfg.ident
  identLt : j.s.cfg.ident < 65536
  cfg : ∃ c, j.p.opts.config = some c ∧ c ≠ j.s.cfg.config
  prmFault : j.s.prmFault = false

/-- The master is about to probe an offline peripheral, and the slave will take the probe for a new
request. -/
structure Probing (j : PJ) : Prop where
  state : j.p.state = .offline
  retry : j.p.retry = 0
  fresh : isRetransmission j.s.stored j.p.fcb = false

/-- The slave configuration the master believes in. -/
def believed (j : PJ) (c : Bytes) : SlaveCfg :=
  { address := j.s.cfg.address, ident := j.s.cfg.ident, prmLen := j.s.cfg.prmLen, config := c,
    inLen := j.p.piI.length, outLen := j.p.piQ.length }

theorem CfgMismatch.matched {j : PJ} (h : CfgMismatch j) {c : Bytes} (hc : j.p.opts.config = some c) :
    Matched j.p (believed j c) :=
  ⟨h.addr, h.prm, h.ident, h.identLt, hc, rfl, rfl⟩

/-- A fault-free visit with a request (new for the slave, or a retransmission), for any slave
configuration the master's options agree with. -/
theorem exchange_gen {j : PJ} (hfp : FpOk j.fp) (hop : j.op ≠ .stop) (hI : PInv j.fp j.p) {c : SlaveCfg}
    (hmat : Matched j.p c) (hda : c.address = j.s.cfg.address) (hr : j.p.retry ≤ j.fp.maxRetry) {k : ReqK}
    (hq : reqOf j.p.state j.p.diagNeeded j.p.diagInFlight (rcls j.fp.maxRetry j.p.retry) = some k) :
    ∃ h pdu, IsReq k c j.p.fcb h pdu ∧
      (isRetransmission j.s.stored j.p.fcb = false →
        ∀ t, (j.s.serve h pdu).2.telegram = some t → RxOk t →
          ∃ p2 ev, j.visit false .ok =
              some ({ j with p := p2, s := { (j.s.serve h pdu).1 with stored := storedAfter j.p.fcb, last := (j.s.serve h pdu).2 } }, ev) ∧
            RxFacts j false t p2 ev) ∧
      (isRetransmission j.s.stored j.p.fcb = true →
        ∀ t, j.s.last.telegram = some t → RxOk t →
          ∃ p2 ev, j.visit false .ok = some ({ j with p := p2 }, ev) ∧ RxFacts j false t p2 ev) := by
  obtain ⟨h, pdu, htx, hreq, _⟩ := next_request hfp hop hI hmat hr hq
  obtain ⟨hda', hfc⟩ := isReq_fc hreq
  have hda2 : h.da = j.s.cfg.address := by rw [hda', hda]
  obtain ⟨_, _, _, hvr⟩ := visit_request hfp hop hI htx false .ok
  refine ⟨h, pdu, hreq, ?_, ?_⟩
  · intro hfresh t htel ht
    have hrecv := receive_serve (pdu := pdu) hda2 hfc hfresh
    obtain ⟨p2, ev, hvis, hf⟩ := hvr (by decide) t (by rw [hrecv]; exact htel) ht
    rw [hrecv] at hvis
    exact ⟨p2, ev, hvis, hf⟩
  · intro hre t htel ht
    have hrecv := receive_repeat (pdu := pdu) hda2 hfc hre
    obtain ⟨p2, ev, hvis, hf⟩ := hvr (by decide) t (by rw [hrecv]; exact htel) ht
    rw [hrecv] at hvis
    exact ⟨p2, ev, hvis, hf⟩

theorem CfgMismatch.next {j : PJ} (hm : CfgMismatch j) {p2 : Peripheral} {s2 : Slave} (hI2 : PInv j.fp p2)
    (ha : p2.address = j.p.address) (ho : p2.opts = j.p.opts) (hs : s2.cfg = j.s.cfg)
    (hf : s2.prmFault = false) : CfgMismatch { j with p := p2, s := s2 } :=
  ⟨hm.fp, hm.op, hI2, by simp only [ha, hs]; exact hm.addr, by simp only [ho, hs]; exact hm.prm,
   by simp only [ho, hs]; exact hm.ident, by simp only [hs]; exact hm.identLt, by simp only [ho, hs]; exact hm.cfg, hf⟩

theorem diagReply_accepts (s : Slave) (h : Header) :
    Diag.Spec.accepts (.data (replyHeader s h (some 62) (some 60) .dataLow) s.diagPdu) = true := by
  simp [Diag.Spec.accepts, replyHeader, Slave.diagPdu]

theorem fresh_after_cycle (f : FrameCountBit) : isRetransmission (storedAfter f) (cycA f) = false :=
  isRetransmission_cyc (Or.inr rfl)

/-- Visit 1: the probe is answered, the peripheral is reported `Online`. -/
theorem cfgm_probe {j : PJ} (hm : CfgMismatch j) (hp : Probing j) :
    ∃ j', j.visit false .ok = some (j', some .online) ∧ CfgMismatch j' ∧ j'.fp = j.fp ∧
      j'.p.state = .waitForParam ∧ j'.p.retry = 0 ∧ isRetransmission j'.s.stored j'.p.fcb = false := by
  obtain ⟨c, hc, hne⟩ := hm.cfg
  have hq : reqOf j.p.state j.p.diagNeeded j.p.diagInFlight (rcls j.fp.maxRetry j.p.retry) = some .diag := by
    simp [reqOf, hp.state, hp.retry, rcls_zero]
  obtain ⟨h, pdu, hreq, hex, _⟩ := exchange_gen hm.fp hm.op hm.pinv (hm.matched hc) rfl (by rw [hp.retry]; omega) hq
  obtain ⟨_, h1, h2, _⟩ := hreq
  have hserve := serve_diag j.s pdu h1 h2
  obtain ⟨cv, hview⟩ := viewOf_acc (n := j.p.piI.length) (t := .data (replyHeader j.s h (some 62) (some 60) .dataLow) j.s.diagPdu)
    ⟨.slave, .dataLow, rfl⟩ (diagReply_accepts j.s h)
  obtain ⟨p2, ev, hvis, hF⟩ :=
    hex hp.fresh (.data (replyHeader j.s h (some 62) (some 60) .dataLow) j.s.diagPdu) (by rw [hserve]; rfl) ⟨.slave, .dataLow, rfl⟩
  have est := hF.st
  have efcb := hF.fcb
  have eretry := hF.retry
  have eev := hF.ev
  rw [hview, hp.state] at est efcb eretry eev
  simp only [mrx, if_true] at est efcb eretry eev
  subst eev
  rw [hserve] at hvis
  refine ⟨_, hvis, hm.next hF.pinv hF.addr hF.opts rfl hm.prmFault, rfl, est, eretry, ?_⟩
  simp only [efcb]; exact fresh_after_cycle _

/-- Visit 2: `Set_Prm` is accepted (ident and parameter length match). -/
theorem cfgm_setprm {j : PJ} (hm : CfgMismatch j) (hst : j.p.state = .waitForParam) (hr : j.p.retry = 0)
    (hf : isRetransmission j.s.stored j.p.fcb = false) :
    ∃ j', j.visit false .ok = some (j', none) ∧ CfgMismatch j' ∧ j'.fp = j.fp ∧
      j'.p.state = .waitForConfig ∧ j'.p.retry = 0 ∧ isRetransmission j'.s.stored j'.p.fcb = false ∧
      j'.s.state ≠ .waitPrm := by
  obtain ⟨c, hc, hne⟩ := hm.cfg
  have hq : reqOf j.p.state j.p.diagNeeded j.p.diagInFlight (rcls j.fp.maxRetry j.p.retry) = some .setPrm := by
    simp [reqOf, hst]
  obtain ⟨h, pdu, hreq, hex, _⟩ := exchange_gen hm.fp hm.op hm.pinv (hm.matched hc) rfl (by rw [hr]; omega) hq
  obtain ⟨_, h1, h2, _, h4, h5⟩ := hreq
  have hserve := (serve_setPrm j.s pdu h1 h2).trans (if_pos ⟨h4, h5⟩)
  obtain ⟨p2, ev, hvis, hF⟩ := hex hf .sc (by rw [hserve]; rfl) trivial
  have est := hF.st
  have efcb := hF.fcb
  have eretry := hF.retry
  have eev := hF.ev
  rw [hst] at est efcb eretry eev
  simp only [viewOf, mrx, if_true] at est efcb eretry eev
  subst eev
  rw [hserve] at hvis
  refine ⟨_, hvis, hm.next hF.pinv hF.addr hF.opts rfl rfl, rfl, est, eretry, ?_, ?_⟩
  · simp only [efcb]; exact fresh_after_cycle _
  · simp only; split <;> simp

/-- Visit 3: `Chk_Cfg` carries other configuration bytes than the slave's: acknowledged, `Cfg_Fault` set,
back to `Wait_Prm`. -/
theorem cfgm_chkcfg {j : PJ} (hm : CfgMismatch j) (hst : j.p.state = .waitForConfig) (hr : j.p.retry = 0)
    (hf : isRetransmission j.s.stored j.p.fcb = false) (hs : j.s.state ≠ .waitPrm) :
    ∃ j', j.visit false .ok = some (j', none) ∧ CfgMismatch j' ∧ j'.fp = j.fp ∧
      j'.p.state = .validateConfig ∧ j'.p.retry = 0 ∧ isRetransmission j'.s.stored j'.p.fcb = false ∧
      j'.s.state = .waitPrm ∧ j'.s.cfgFault = true := by
  obtain ⟨c, hc, hne⟩ := hm.cfg
  have hq : reqOf j.p.state j.p.diagNeeded j.p.diagInFlight (rcls j.fp.maxRetry j.p.retry) = some .chkCfg := by
    simp [reqOf, hst]
  obtain ⟨h, pdu, hreq, hex, _⟩ := exchange_gen hm.fp hm.op hm.pinv (hm.matched hc) rfl (by rw [hr]; omega) hq
  obtain ⟨_, h1, h2, _, h4⟩ := hreq
  have hpdu : pdu ≠ j.s.cfg.config := by rw [h4]; exact hne
  have hserve := ((serve_chkCfg j.s pdu h1 h2).trans (if_neg hs)).trans (if_neg hpdu)
  obtain ⟨p2, ev, hvis, hF⟩ := hex hf .sc (by rw [hserve]; rfl) trivial
  have est := hF.st
  have efcb := hF.fcb
  have eretry := hF.retry
  have eev := hF.ev
  rw [hst] at est efcb eretry eev
  simp only [viewOf, mrx, if_true] at est efcb eretry eev
  subst eev
  rw [hserve] at hvis
  refine ⟨_, hvis, hm.next hF.pinv hF.addr hF.opts rfl hm.prmFault, rfl, est, eretry, ?_, rfl, rfl⟩
  simp only [efcb]; exact fresh_after_cycle _

/-- Visit 4: the diagnostics reply reports `Cfg_Fault`: `ConfigError`, the peripheral is offline again. -/
theorem cfgm_validate {j : PJ} (hm : CfgMismatch j) (hst : j.p.state = .validateConfig) (hr : j.p.retry = 0)
    (hf : isRetransmission j.s.stored j.p.fcb = false) (hcf : j.s.cfgFault = true) :
    ∃ j', j.visit false .ok = some (j', some .configError) ∧ CfgMismatch j' ∧ j'.fp = j.fp ∧ Probing j' := by
  obtain ⟨c, hc, hne⟩ := hm.cfg
  have hq : reqOf j.p.state j.p.diagNeeded j.p.diagInFlight (rcls j.fp.maxRetry j.p.retry) = some .diag := by
    simp [reqOf, hst]
  obtain ⟨h, pdu, hreq, hex, _⟩ := exchange_gen hm.fp hm.op hm.pinv (hm.matched hc) rfl (by rw [hr]; omega) hq
  obtain ⟨_, h1, h2, _⟩ := hreq
  have hserve := serve_diag j.s pdu h1 h2
  obtain ⟨cv, hview⟩ := viewOf_acc (n := j.p.piI.length) (t := .data (replyHeader j.s h (some 62) (some 60) .dataLow) j.s.diagPdu)
    ⟨.slave, .dataLow, rfl⟩ (diagReply_accepts j.s h)
  have hflags : dflagsOf (flagsOf (.data (replyHeader j.s h (some 62) (some 60) .dataLow) j.s.diagPdu)) = .cfgFault := by
    obtain ⟨f1, f2, _, _⟩ := diagPdu_flags j.s (replyHeader j.s h (some 62) (some 60) .dataLow)
    rw [hm.prmFault] at f1
    rw [hcf] at f2
    unfold dflagsOf
    rw [if_neg (by simpa using f1), if_pos (by simpa using f2)]
  obtain ⟨p2, ev, hvis, hF⟩ :=
    hex hf (.data (replyHeader j.s h (some 62) (some 60) .dataLow) j.s.diagPdu) (by rw [hserve]; rfl) ⟨.slave, .dataLow, rfl⟩
  have est := hF.st
  have efcb := hF.fcb
  have eretry := hF.retry
  have eev := hF.ev
  rw [hview, hflags, hst] at est efcb eretry eev
  simp only [mrx, if_true] at est efcb eretry eev
  subst eev
  rw [hserve] at hvis
  refine ⟨_, hvis, hm.next hF.pinv hF.addr hF.opts rfl hm.prmFault, rfl, ⟨est, eretry, ?_⟩⟩
  simp only [efcb]; exact fresh_after_cycle _

/-- **One round of a configuration mismatch**: probe, `Set_Prm`, `Chk_Cfg`, diagnostics — four visits,
the events `Online`, `ConfigError`, and the master is probing again. -/
theorem cfgm_round {j : PJ} (hm : CfgMismatch j) (hp : Probing j) :
    ∃ j', j.quiet 4 = some (j', [.online, .configError]) ∧ CfgMismatch j' ∧ Probing j' ∧ j'.fp = j.fp := by
  obtain ⟨j1, v1, m1, f1, a1, b1, c1⟩ := cfgm_probe hm hp
  obtain ⟨j2, v2, m2, f2, a2, b2, c2, d2⟩ := cfgm_setprm m1 a1 b1 c1
  obtain ⟨j3, v3, m3, f3, a3, b3, c3, d3, e3⟩ := cfgm_chkcfg m2 a2 b2 c2 d2
  obtain ⟨j4, v4, m4, f4, p4⟩ := cfgm_validate m3 a3 b3 c3 e3
  refine ⟨j4, ?_, m4, p4, by rw [f4, f3, f2, f1]⟩
  simp [PJ.quiet, v1, v2, v3, v4]

/-- Where a round can stand. -/
def CfgStage (j : PJ) : Prop :=
  Probing j ∨
  (j.p.state = .waitForParam ∧ j.p.retry = 0 ∧ isRetransmission j.s.stored j.p.fcb = false) ∨
  (j.p.state = .waitForConfig ∧ j.p.retry = 0 ∧ isRetransmission j.s.stored j.p.fcb = false ∧ j.s.state ≠ .waitPrm) ∨
  (j.p.state = .validateConfig ∧ j.p.retry = 0 ∧ isRetransmission j.s.stored j.p.fcb = false ∧
    j.s.state = .waitPrm ∧ j.s.cfgFault = true)

theorem cfgStage_not_running {j : PJ} (h : CfgStage j) : j.p.isRunning = false := by
  rcases h with h | h | h | h
  · simp [Peripheral.isRunning, h.state]
  · simp [Peripheral.isRunning, h.1]
  · simp [Peripheral.isRunning, h.1]
  · simp [Peripheral.isRunning, h.1]

theorem cfgStage_step {j : PJ} (hm : CfgMismatch j) (h : CfgStage j) :
    ∃ j' ev, j.visit false .ok = some (j', ev) ∧ CfgMismatch j' ∧ CfgStage j' := by
  rcases h with h | ⟨a, b, c⟩ | ⟨a, b, c, d⟩ | ⟨a, b, c, d, e⟩
  · obtain ⟨j', v, m, _, a', b', c'⟩ := cfgm_probe hm h
    exact ⟨j', _, v, m, Or.inr (Or.inl ⟨a', b', c'⟩)⟩
  · obtain ⟨j', v, m, _, a', b', c', d'⟩ := cfgm_setprm hm a b c
    exact ⟨j', _, v, m, Or.inr (Or.inr (Or.inl ⟨a', b', c', d'⟩))⟩
  · obtain ⟨j', v, m, _, a', b', c', d', e'⟩ := cfgm_chkcfg hm a b c d
    exact ⟨j', _, v, m, Or.inr (Or.inr (Or.inr ⟨a', b', c', d', e'⟩))⟩
  · obtain ⟨j', v, m, _, p'⟩ := cfgm_validate hm a b c e
    exact ⟨j', _, v, m, Or.inl p'⟩

/-- With a configuration mismatch the peripheral is never in data exchange, and nothing panics. -/
theorem cfgm_never_running : ∀ (n : Nat) {j : PJ}, CfgMismatch j → CfgStage j →
    ∃ j' evs, j.quiet n = some (j', evs) ∧ CfgMismatch j' ∧ CfgStage j' ∧ j'.p.isRunning = false := by
  intro n
  induction n with
  | zero => intro j hm hs; exact ⟨j, [], rfl, hm, hs, cfgStage_not_running hs⟩
  | succ n ih =>
    intro j hm hs
    obtain ⟨j1, ev, hv, hm1, hs1⟩ := cfgStage_step hm hs
    obtain ⟨j2, evs, hq, hm2, hs2, hr⟩ := ih hm1 hs1
    exact ⟨j2, ev.toList ++ evs, by simp only [PJ.quiet, hv, hq], hm2, hs2, hr⟩

theorem cfgm_rounds : ∀ (r : Nat) {j : PJ}, CfgMismatch j → Probing j →
    ∃ j', j.quiet (4 * r) = some (j', (List.replicate r [PEvent.online, PEvent.configError]).flatten) ∧
      CfgMismatch j' ∧ Probing j' := by
  intro r
  induction r with
  | zero => intro j hm hp; exact ⟨j, rfl, hm, hp⟩
  | succ r ih =>
    intro j hm hp
    obtain ⟨j1, hq1, hm1, hp1, _⟩ := cfgm_round hm hp
    obtain ⟨j2, hq2, hm2, hp2⟩ := ih hm1 hp1
    refine ⟨j2, ?_, hm2, hp2⟩
    have : 4 * (r + 1) = 4 + 4 * r := by omega
    rw [this]
    rw [quiet_add 4 (4 * r) hq1 hq2]
    simp [List.replicate_succ]

end PV.Live
