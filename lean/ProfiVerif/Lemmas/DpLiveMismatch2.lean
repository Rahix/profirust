/-
Ident-number / parameter-length mismatch (property C07, `mismatch_cycle_ident`): the reference slave
rejects `Set_Prm` (still acknowledging it), answers `Chk_Cfg` with "SAP not enabled", the master
retransmits until the retry limit is exceeded, declares the peripheral offline and starts over.
-/
import ProfiVerif.Lemmas.DpLiveMismatch

namespace PV.Live
open PV PV.Dp

/-- Address agrees, the master has parameters and a configuration to send, but the slave rejects the
`Set_Prm` (other ident number or other parameter length). -/
structure PrmMismatch (j : PJ) : Prop where
  fp : FpOk j.fp
  op : j.op ≠ .stop
  pinv : PInv j.fp j.p
  addr : j.p.address = j.s.cfg.address
  identLt : j.p.opts.ident < 65536
  prm : ∃ up, j.p.opts.userPrm = some up ∧ (up.length ≠ j.s.cfg.prmLen ∨ j.p.opts.ident ≠ j.s.cfg.ident)
  cfg : ∃ c, j.p.opts.config = some c

def believed2 (j : PJ) (up c : Bytes) : SlaveCfg :=
  { address := j.s.cfg.address, ident := j.p.opts.ident, prmLen := up.length, config := c,
    inLen := j.p.piI.length, outLen := j.p.piQ.length }

theorem PrmMismatch.matched {j : PJ} (h : PrmMismatch j) {up c : Bytes} (hu : j.p.opts.userPrm = some up)
    (hc : j.p.opts.config = some c) : Matched j.p (believed2 j up c) :=
  ⟨h.addr, ⟨up, hu, rfl⟩, rfl, h.identLt, hc, rfl, rfl⟩

theorem PrmMismatch.next {j : PJ} (hm : PrmMismatch j) {p2 : Peripheral} {s2 : Slave} (hI2 : PInv j.fp p2)
    (ha : p2.address = j.p.address) (ho : p2.opts = j.p.opts) (hs : s2.cfg = j.s.cfg) :
    PrmMismatch { j with p := p2, s := s2 } :=
  ⟨hm.fp, hm.op, hI2, by simp only [ha, hs]; exact hm.addr, by simp only [ho]; exact hm.identLt,
   by simp only [ho, hs]; exact hm.prm, by simp only [ho]; exact hm.cfg⟩

def isRs (r : SReply) : Prop := ∃ hdr, r = .data hdr [] ∧ hdr.fc = .response .slave .sapNotEnabled

theorem rs_reply {r : SReply} (h : isRs r) : ∃ t, r.telegram = some t ∧ RxOk t ∧ t ≠ .sc := by
  obtain ⟨hdr, rfl, hfc⟩ := h
  exact ⟨.data hdr [], rfl, ⟨_, _, hfc⟩, by simp⟩

/-- The master in `WaitForConfig` ignores anything but a short confirmation. -/
theorem mrx_cfg_reject {iz dn fl : Bool} {v : View} (h : v ≠ .sc) :
    mrx iz .waitForConfig dn fl v = ⟨.waitForConfig, dn, false, false, none⟩ := by
  cases v <;> first | exact absurd rfl h | rfl

theorem cycA_fcv {f : FrameCountBit} (h : f ≠ .inactive) : (cycA f).fcv = true := by
  rw [← cyc_eq_cycA]; exact (cyc_bits h).1

/-- Visit 1: probe answered, `Online`. -/
theorem prmm_probe {j : PJ} (hm : PrmMismatch j) (hp : Probing j) :
    ∃ j', j.visit false .ok = some (j', some .online) ∧ PrmMismatch j' ∧ j'.fp = j.fp ∧
      j'.p.state = .waitForParam ∧ j'.p.retry = 0 ∧ isRetransmission j'.s.stored j'.p.fcb = false ∧
      j'.p.fcb.fcv = true := by
  obtain ⟨up, hu, _⟩ := hm.prm
  obtain ⟨c, hc⟩ := hm.cfg
  have hq : reqOf j.p.state j.p.diagNeeded j.p.diagInFlight (rcls j.fp.maxRetry j.p.retry) = some .diag := by
    simp [reqOf, hp.state, hp.retry, rcls_zero]
  obtain ⟨h, pdu, hreq, hex, _⟩ := exchange_gen hm.fp hm.op hm.pinv (hm.matched hu hc) rfl (by rw [hp.retry]; omega) hq
  obtain ⟨_, h1, h2, _⟩ := hreq
  have hserve := serve_diag j.s pdu h1 h2
  obtain ⟨cv, hview⟩ := viewOf_acc (n := j.p.piI.length) (t := .data (replyHeader j.s h (some 62) (some 60) .dataLow) j.s.diagPdu)
    ⟨.slave, .dataLow, rfl⟩ (diagReply_accepts j.s h)
  obtain ⟨p2, ev, hvis, hF⟩ :=
    hex hp.fresh (.data (replyHeader j.s h (some 62) (some 60) .dataLow) j.s.diagPdu) (by rw [hserve]; rfl) ⟨.slave, .dataLow, rfl⟩
  have est := hF.st
  have efcb := hF.fcb
  have eretry := hF.retry
  have eev := hF.ev
  rw [hview, hp.state] at est efcb eretry eev
  simp only [mrx, if_true] at est efcb eretry eev
  subst eev
  rw [hserve] at hvis
  refine ⟨_, hvis, hm.next hF.pinv hF.addr hF.opts rfl, rfl, est, eretry, ?_, ?_⟩
  · simp only [efcb]; exact fresh_after_cycle _
  · simp only [efcb]; exact cycA_fcv hm.pinv.fcb

/-- Visit 2: `Set_Prm` is rejected by the slave (`Prm_Fault`, stays in `Wait_Prm`) but acknowledged: the
master moves on to `WaitForConfig`. -/
theorem prmm_setprm {j : PJ} (hm : PrmMismatch j) (hst : j.p.state = .waitForParam) (hr : j.p.retry = 0)
    (hf : isRetransmission j.s.stored j.p.fcb = false) :
    ∃ j', j.visit false .ok = some (j', none) ∧ PrmMismatch j' ∧ j'.fp = j.fp ∧
      j'.p.state = .waitForConfig ∧ j'.p.retry = 0 ∧ isRetransmission j'.s.stored j'.p.fcb = false ∧
      j'.s.state = .waitPrm ∧ j'.p.fcb.fcv = true := by
  obtain ⟨up, hu, hbad⟩ := hm.prm
  obtain ⟨c, hc⟩ := hm.cfg
  have hq : reqOf j.p.state j.p.diagNeeded j.p.diagInFlight (rcls j.fp.maxRetry j.p.retry) = some .setPrm := by
    simp [reqOf, hst]
  obtain ⟨h, pdu, hreq, hex, _⟩ := exchange_gen hm.fp hm.op hm.pinv (hm.matched hu hc) rfl (by rw [hr]; omega) hq
  obtain ⟨_, h1, h2, _, h4, h5⟩ := hreq
  have hno : ¬ (pdu.length = 7 + j.s.cfg.prmLen ∧ (pdu.getD 4 0).toNat * 256 + (pdu.getD 5 0).toNat = j.s.cfg.ident) := by
    rintro ⟨a, b⟩
    simp only [believed2] at h4 h5
    rcases hbad with hb | hb
    · omega
    · exact hb (by rw [← h5, b])
  have hserve := (serve_setPrm j.s pdu h1 h2).trans (if_neg hno)
  obtain ⟨p2, ev, hvis, hF⟩ := hex hf .sc (by rw [hserve]; rfl) trivial
  have est := hF.st
  have efcb := hF.fcb
  have eretry := hF.retry
  have eev := hF.ev
  rw [hst] at est efcb eretry eev
  simp only [viewOf, mrx, if_true] at est efcb eretry eev
  subst eev
  rw [hserve] at hvis
  refine ⟨_, hvis, hm.next hF.pinv hF.addr hF.opts rfl, rfl, est, eretry, ?_, rfl, ?_⟩
  · simp only [efcb]; exact fresh_after_cycle _
  · simp only [efcb]; exact cycA_fcv hm.pinv.fcb

/-- Visit 3: `Chk_Cfg` reaches a slave in `Wait_Prm`: "SAP not enabled"; the master ignores the reply. -/
theorem prmm_chkcfg {j : PJ} (hm : PrmMismatch j) (hst : j.p.state = .waitForConfig) (hr : j.p.retry = 0)
    (hf : isRetransmission j.s.stored j.p.fcb = false) (hs : j.s.state = .waitPrm) (hfcv : j.p.fcb.fcv = true) :
    ∃ j', j.visit false .ok = some (j', none) ∧ PrmMismatch j' ∧ j'.fp = j.fp ∧
      j'.p.state = .waitForConfig ∧ j'.p.retry = 1 ∧ isRetransmission j'.s.stored j'.p.fcb = true ∧
      isRs j'.s.last := by
  obtain ⟨up, hu, _⟩ := hm.prm
  obtain ⟨c, hc⟩ := hm.cfg
  have hq : reqOf j.p.state j.p.diagNeeded j.p.diagInFlight (rcls j.fp.maxRetry j.p.retry) = some .chkCfg := by
    simp [reqOf, hst]
  obtain ⟨h, pdu, hreq, hex, _⟩ := exchange_gen hm.fp hm.op hm.pinv (hm.matched hu hc) rfl (by rw [hr]; omega) hq
  obtain ⟨_, h1, h2, hfc, _⟩ := hreq
  have hserve := (serve_chkCfg j.s pdu h1 h2).trans (if_pos hs)
  have hrs : isRs (j.s.rs h) := ⟨_, rfl, rfl⟩
  obtain ⟨t, htel, hok, hne⟩ := rs_reply hrs
  obtain ⟨p2, ev, hvis, hF⟩ := hex hf t (by rw [hserve]; exact htel) hok
  have est := hF.st
  have efcb := hF.fcb
  have eretry := hF.retry
  have eev := hF.ev
  rw [hst, mrx_cfg_reject (viewOf_not_sc hok hne)] at est efcb eretry eev
  simp only [Bool.false_eq_true, if_false, hr] at est efcb eretry eev
  subst eev
  rw [hserve] at hvis
  refine ⟨_, hvis, hm.next hF.pinv hF.addr hF.opts rfl, rfl, est, eretry, ?_, hrs⟩
  simp only [efcb]
  -- the master repeats the frame count bit the slave has just stored
  rw [isRetransmission_after]; exact hfcv

/-- A retransmission of `Chk_Cfg`: the slave repeats "SAP not enabled", the master ignores it again. -/
theorem prmm_retx {j : PJ} (hm : PrmMismatch j) (hst : j.p.state = .waitForConfig) (hr : j.p.retry ≤ j.fp.maxRetry)
    (hre : isRetransmission j.s.stored j.p.fcb = true) (hrs : isRs j.s.last) :
    ∃ j', j.visit false .ok = some (j', none) ∧ PrmMismatch j' ∧ j'.fp = j.fp ∧
      j'.p.state = .waitForConfig ∧ j'.p.retry = j.p.retry + 1 ∧ isRetransmission j'.s.stored j'.p.fcb = true ∧
      isRs j'.s.last := by
  obtain ⟨up, hu, _⟩ := hm.prm
  obtain ⟨c, hc⟩ := hm.cfg
  have hq : reqOf j.p.state j.p.diagNeeded j.p.diagInFlight (rcls j.fp.maxRetry j.p.retry) = some .chkCfg := by
    simp [reqOf, hst]
  obtain ⟨h, pdu, hreq, _, hex⟩ := exchange_gen hm.fp hm.op hm.pinv (hm.matched hu hc) rfl hr hq
  obtain ⟨t, htel, hok, hne⟩ := rs_reply hrs
  obtain ⟨p2, ev, hvis, hF⟩ := hex hre t htel hok
  have est := hF.st
  have efcb := hF.fcb
  have eretry := hF.retry
  have eev := hF.ev
  rw [hst, mrx_cfg_reject (viewOf_not_sc hok hne)] at est efcb eretry eev
  simp only [Bool.false_eq_true, if_false] at est efcb eretry eev
  subst eev
  refine ⟨_, hvis, hm.next hF.pinv hF.addr hF.opts rfl, rfl, est, eretry, ?_, hrs⟩
  simp only [efcb]; exact hre

theorem prmm_stutter : ∀ (k : Nat) {j : PJ}, PrmMismatch j → j.p.state = .waitForConfig →
    j.p.retry + k ≤ j.fp.maxRetry + 1 → isRetransmission j.s.stored j.p.fcb = true → isRs j.s.last →
    ∃ j', j.quiet k = some (j', []) ∧ PrmMismatch j' ∧ j'.fp = j.fp ∧ j'.p.state = .waitForConfig ∧
      j'.p.retry = j.p.retry + k := by
  intro k
  induction k with
  | zero => intro j hm hst _ _ _; exact ⟨j, rfl, hm, rfl, hst, rfl⟩
  | succ k ih =>
    intro j hm hst hr hre hrs
    obtain ⟨j1, hv, hm1, hfp1, a1, b1, c1, d1⟩ := prmm_retx hm hst (by omega) hre hrs
    obtain ⟨j2, hq, hm2, hfp2, a2, b2⟩ := ih hm1 a1 (by rw [b1, hfp1]; omega) c1 d1
    refine ⟨j2, by simp only [PJ.quiet, hv, hq, Option.toList, List.nil_append], hm2, by rw [hfp2, hfp1], a2, by rw [b2, b1]; omega⟩

/-- The retry limit is exceeded: the peripheral is declared offline, the frame count bit reset. -/
theorem prmm_offline {j : PJ} (hm : PrmMismatch j) (hr : j.fp.maxRetry < j.p.retry) :
    ∃ j', j.visit false .ok = some (j', some .offline) ∧ PrmMismatch j' ∧ j'.fp = j.fp ∧ Probing j' := by
  obtain ⟨up, hu, _⟩ := hm.prm
  obtain ⟨c, hc⟩ := hm.cfg
  obtain ⟨p'', hafter, hI''⟩ := tx_pinv (tx_spec hm.fp hm.op hm.pinv) hm.pinv
  rcases tx_ctl hm.fp hm.op hm.pinv (hm.matched hu hc) with ⟨_, htx⟩ | ⟨h1, _⟩ | ⟨h1, _⟩
  · rw [htx] at hafter
    simp only [PTx.after, Option.some.injEq] at hafter
    subst hafter
    refine ⟨{ j with p := { j.p with state := .offline, fcb := .first, retry := 0 } }, ?_, hm.next hI'' rfl rfl rfl, rfl,
      ⟨rfl, rfl, by simp [isRetransmission, FrameCountBit.fcv]⟩⟩
    unfold PJ.visit; simp only [htx]
  · omega
  · omega

/-- **One round of an ident / parameter-length mismatch**: probe (`Online`), `Set_Prm` (rejected by the
slave, acknowledged), `Chk_Cfg` and its `max_retry_limit` retransmissions (all answered "SAP not
enabled"), and the visit that declares the peripheral `Offline` — `max_retry_limit + 4` visits. -/
theorem prmm_round {j : PJ} (hm : PrmMismatch j) (hp : Probing j) :
    ∃ j', j.quiet (j.fp.maxRetry + 4) = some (j', [.online, .offline]) ∧ PrmMismatch j' ∧ Probing j' ∧ j'.fp = j.fp := by
  obtain ⟨j1, v1, m1, f1, a1, b1, c1, d1⟩ := prmm_probe hm hp
  obtain ⟨j2, v2, m2, f2, a2, b2, c2, s2, d2⟩ := prmm_setprm m1 a1 b1 c1
  obtain ⟨j3, v3, m3, f3, a3, b3, c3, r3⟩ := prmm_chkcfg m2 a2 b2 c2 s2 d2
  have hfp3 : j3.fp = j.fp := by rw [f3, f2, f1]
  obtain ⟨j4, q4, m4, f4, a4, b4⟩ := prmm_stutter j.fp.maxRetry m3 a3 (by rw [b3, hfp3]; omega) c3 r3
  obtain ⟨j5, v5, m5, f5, p5⟩ := prmm_offline m4 (by rw [b4, b3, f4, hfp3]; omega)
  refine ⟨j5, ?_, m5, p5, by rw [f5, f4, hfp3]⟩
  have h3 : j.quiet 3 = some (j3, [.online]) := by simp [PJ.quiet, v1, v2, v3]
  have h1 : j4.quiet 1 = some (j5, [.offline]) := by simp [PJ.quiet, v5]
  have h34 := quiet_add 3 j.fp.maxRetry h3 q4
  have := quiet_add (3 + j.fp.maxRetry) 1 h34 h1
  rw [show j.fp.maxRetry + 4 = 3 + j.fp.maxRetry + 1 by omega]
  simpa using this

end PV.Live
