/-
Several peripherals on one master (property C07): the `loop` of `transmit_telegram` over dense storage
visits consecutive slots — each exactly once — until one of them sends or ends the turn (`Passed`, `LoopRes`);
only the addressed slave reacts to a request (`busReceive_at`); what it means for such a master and its slaves to
be well-formed (`NGood`) and for a slot's pair to have gone through steps of its own (`SlotRun`).  The turn as a
whole is `Lemmas/DpLiveTurn`.
-/
import ProfiVerif.Lemmas.DpLive
import ProfiVerif.Lemmas.DpLiveDense
import ProfiVerif.Model.Dp.LiveN

namespace PV.Live
open PV PV.Dp

theorem getD_set_ne {α : Type} [Inhabited α] {xs : List α} {i l : Nat} (x : α) (h : l ≠ i) :
    (xs.set i x).getD l default = xs.getD l default := by
  simp [List.getD_eq_getElem?_getD, Ne.symm h]

theorem getD_set_eq {α : Type} [Inhabited α] {xs : List α} {i : Nat} (x : α) (h : i < xs.length) :
    (xs.set i x).getD i default = x := by
  simp [List.getD_eq_getElem?_getD, h]

theorem getD_getElem {ps : List Peripheral} {i : Nat} (h : i < ps.length) : ps.getD i default = ps[i] := by
  simp [List.getD_eq_getElem?_getD, h]

theorem set_getD_self {α : Type} [Inhabited α] {xs : List α} {i : Nat} (h : i < xs.length) :
    xs.set i (xs.getD i default) = xs := by
  rw [List.getD_eq_getElem?_getD, List.getElem?_eq_getElem h]
  exact List.set_getElem_self h

theorem length_one {α : Type} [Inhabited α] {xs : List α} (h : xs.length = 1) : xs = [xs.getD 0 default] := by
  match xs, h with
  | [a], _ => rfl

/-- The loop passed the slots `i ≤ l < j`: each declined without an event; slot `j` is where it ended (what
`ps'` holds there is said by whoever uses this); the others are as they were. -/
structure Passed (fp : FdlParams) (op : OpState) (ps ps' : List Peripheral) (i j : Nat) : Prop where
  le : i ≤ j
  lt : j < ps.length
  len : ps'.length = ps.length
  dec : ∀ l, i ≤ l → l < j → (ps.getD l default).transmit fp op = .decline (ps'.getD l default) none
  out : ∀ l, l < i ∨ j < l → ps'.getD l default = ps.getD l default

theorem Passed.here {fp : FdlParams} {op : OpState} {ps : List Peripheral} {i : Nat} (hi : i < ps.length)
    (p' : Peripheral) : Passed fp op ps (ps.set i p') i i :=
  ⟨Nat.le_refl i, hi, by simp, by intro l h1 h2; omega, by intro l hl; exact getD_set_ne p' (by omega)⟩

theorem Passed.cons {fp : FdlParams} {op : OpState} {ps ps' : List Peripheral} {i j : Nat} {p' : Peripheral}
    (hi : i < ps.length) (ht : (ps.getD i default).transmit fp op = .decline p' none)
    (h : Passed fp op (ps.set i p') ps' (i + 1) j) : Passed fp op ps ps' i j := by
  have hlen : (ps.set i p').length = ps.length := by simp
  have hle := h.le
  refine ⟨by omega, by rw [← hlen]; exact h.lt, h.len.trans hlen, ?_, ?_⟩
  · intro l hl1 hl2
    by_cases hli : l = i
    · subst hli
      rw [h.out l (Or.inl (by omega)), getD_set_eq p' hi]; exact ht
    · have := h.dec l (by omega) hl2
      rw [getD_set_ne p' hli] at this; exact this
  · intro l hl'
    rw [h.out l (by omega), getD_set_ne p' (by omega)]

inductive LoopRes (fp : FdlParams) (op : OpState) (ps : List Peripheral) (k i : Nat) (m : Master) : MTx → Prop
  | send (j : Nat) (ps' : List Peripheral) (h : Header) (pdu : Bytes) :
      Passed fp op ps ps' i j →
      (ps.getD j default).transmit fp op = .send (ps'.getD j default) h pdu →
      LoopRes fp op ps k i m (.send { m with slots := denseSlots ps' k, cycle := .dx j, lastEvents := {} } h pdu)
  | stop (j : Nat) (ps' : List Peripheral) (ev : Option PEvent) :
      Passed fp op ps ps' i j →
      (ps.getD j default).transmit fp op = .decline (ps'.getD j default) ev →
      (ev = none → j + 1 = ps.length) →
      LoopRes fp op ps k i m
        (.none { m with slots := denseSlots ps' k,
                        cycle := if j + 1 < ps.length then .dx (j + 1) else .dx 0,
                        lastEvents := { cycleCompleted := !decide (j + 1 < ps.length),
                                        peripheral := ev.map fun e => { index := j, address := (ps.getD j default).address, ev := e } } })

theorem txLoop_dense {fp : FdlParams} {k : Nat} : ∀ (d : Nat) (ps : List Peripheral) (i : Nat) (m : Master) (fuel : Nat),
    ps.length - i = d → i < ps.length → ps.length ≤ 256 → d < fuel →
    m.slots = denseSlots ps k → m.cycle = .dx i →
    (∀ l, i ≤ l → l < ps.length → (ps.getD l default).transmit fp m.op ≠ .panic) →
    LoopRes fp m.op ps k i m (Master.txLoop fp fuel m) := by
  intro d
  induction d with
  | zero => intro ps i m fuel hd hi; omega
  | succ d ih =>
    intro ps i m fuel hd hi hn hf hs hc hnp
    obtain ⟨fuel', rfl⟩ : ∃ f, fuel = f + 1 := ⟨fuel - 1, by omega⟩
    rw [txLoop_dense_step hs hc hi hn]
    have hpi := getD_getElem hi
    have hnpi := hnp i (Nat.le_refl i) hi
    rw [hpi] at hnpi
    cases ht : ps[i].transmit fp m.op with
    | panic => exact absurd ht hnpi
    | send p' h pdu =>
      simp only
      have := LoopRes.send (k := k) (m := m) i (ps.set i p') h pdu (Passed.here (fp := fp) (op := m.op) hi p')
        (by rw [hpi, getD_set_eq p' hi]; exact ht)
      rw [hc]
      exact this
    | decline p' ev =>
      cases ev with
      | some e =>
        simp only
        have := LoopRes.stop (k := k) (m := m) i (ps.set i p') (some e) (Passed.here (fp := fp) (op := m.op) hi p')
          (by rw [hpi, getD_set_eq p' hi]; exact ht) (by intro h; cases h)
        simp only [Option.map_some, hpi] at this
        exact this
      | none =>
        simp only
        by_cases h1 : i + 1 < ps.length
        · rw [if_pos h1]
          have hlen : (ps.set i p').length = ps.length := by simp
          have hrec := ih (ps.set i p') (i + 1)
            { m with slots := denseSlots (ps.set i p') k, cycle := .dx (i + 1) } fuel'
            (by rw [hlen]; omega) (by rw [hlen]; exact h1) (by rw [hlen]; exact hn) (by omega) rfl rfl
            (by intro l hl1 hl2
                rw [getD_set_ne p' (by omega)]
                exact hnp l (by omega) (by rw [hlen] at hl2; exact hl2))
          have hti : (ps.getD i default).transmit fp m.op = .decline p' none := by rw [hpi]; exact ht
          generalize Master.txLoop fp fuel'
            { m with slots := denseSlots (ps.set i p') k, cycle := .dx (i + 1) } = res at hrec ⊢
          -- slot `i` joins the slots passed; slot `j > i` is untouched by the update of slot `i`
          cases hrec with
          | send j ps' h pdu hP hsend =>
            have hji : j ≠ i := by have := hP.le; omega
            rw [getD_set_ne p' hji] at hsend
            exact .send j ps' h pdu (Passed.cons hi hti hP) hsend
          | stop j ps' ev hP hstop hend =>
            have hji : j ≠ i := by have := hP.le; omega
            rw [getD_set_ne p' hji] at hstop
            rw [hlen] at hend
            have := LoopRes.stop (k := k) (m := m) j ps' ev (Passed.cons hi hti hP) hstop hend
            simp only [hlen, getD_set_ne p' hji] at this ⊢
            exact this
        · rw [if_neg h1]
          have := LoopRes.stop (k := k) (m := m) i (ps.set i p') none (Passed.here (fp := fp) (op := m.op) hi p')
            (by rw [hpi, getD_set_eq p' hi]; exact ht) (by intro _; omega)
          simp only [Option.map_none, h1, if_false, decide_false, Bool.not_false] at this
          exact this

theorem busReceive_none : ∀ (ss : List Slave) (h : Header) (pdu : Bytes),
    (∀ s ∈ ss, h.da ≠ s.cfg.address) → busReceive ss h pdu = (ss, .silent) := by
  intro ss
  induction ss with
  | nil => intro h pdu _; rfl
  | cons s rest ih =>
    intro h pdu hall
    simp only [busReceive, receive_other pdu (hall s (by simp)), ih h pdu (fun s' hs' => hall s' (by simp [hs']))]

theorem busReceive_at : ∀ (ss : List Slave) (j : Nat) (h : Header) (pdu : Bytes), j < ss.length →
    h.da = (ss.getD j default).cfg.address →
    (∀ l, l < ss.length → l ≠ j → (ss.getD l default).cfg.address ≠ (ss.getD j default).cfg.address) →
    busReceive ss h pdu =
      (ss.set j ((ss.getD j default).receive h pdu).1, ((ss.getD j default).receive h pdu).2) := by
  intro ss
  induction ss with
  | nil => intro j h pdu hj; simp at hj
  | cons s rest ih =>
    intro j h pdu hj hda hdist
    cases j with
    | zero =>
      simp only [List.getD_cons_zero] at hda hdist ⊢
      have hrest : busReceive rest h pdu = (rest, .silent) := by
        apply busReceive_none
        intro s' hs'
        obtain ⟨l, hl, rfl⟩ := List.getElem_of_mem hs'
        have := hdist (l + 1) (by simp; omega) (by omega)
        have hg : (s :: rest).getD (l + 1) default = rest[l] := by simp [hl]
        rw [hg] at this
        rw [hda]; exact fun h => this h.symm
      simp only [busReceive, hrest, List.set_cons_zero]
      cases (s.receive h pdu).2 <;> rfl
    | succ j =>
      simp only [List.getD_cons_succ] at hda hdist ⊢
      have hs : s.receive h pdu = (s, .silent) := by
        apply receive_other
        have := hdist 0 (by simp) (by omega)
        simp only [List.getD_cons_zero] at this
        rw [hda]; exact fun h => this h.symm
      have hrec := ih j h pdu (by simpa using hj) hda
        (by intro l hl hne
            have := hdist (l + 1) (by simp; omega) (by omega)
            simpa using this)
      simp only [busReceive, hs, hrec, List.set_cons_succ]

theorem receiveReply_dense {m : Master} {ps : List Peripheral} {k j : Nat} (hs : m.slots = denseSlots ps k)
    (hc : m.cycle = .dx j) (hj : j < ps.length) (hn : ps.length ≤ 256) (t : Telegram) :
    m.receiveReply ps[j].address t =
      match ps[j].receiveReply t with
      | .panic => .panic
      | .ok p' ev =>
        .ok { m with slots := denseSlots (ps.set j p') k,
                     cycle := if j + 1 < ps.length then .dx (j + 1) else .completed,
                     lastEvents := { cycleCompleted := !decide (j + 1 < ps.length),
                                     peripheral := ev.map fun e => { index := j, address := ps[j].address, ev := e } } } := by
  simp only [Master.receiveReply, hc, hs, getAtIndex_dense k hj hn, ne_eq, not_true_eq_false, if_false]
  cases ps[j].receiveReply t with
  | panic => rfl
  | ok p' ev =>
    have hj' : j < (ps.set j p').length := by simpa using hj
    have hn' : (ps.set j p').length ≤ 256 := by simpa using hn
    simp only [set_dense k hj, nextCycle_dense k hj' hn', List.length_set]
    by_cases h1 : j + 1 < ps.length <;> simp [h1]

/-- The pair of slot `l`.  Its master state is written `.operate`: `NGood.op` says so of the master. -/
def pjAt (fp : FdlParams) (ps : List Peripheral) (ss : List Slave) (l : Nat) : PJ :=
  ⟨fp, .operate, ps.getD l default, ss.getD l default⟩

def SlotOk (fp : FdlParams) (ps : List Peripheral) (ss : List Slave) (l : Nat) : Prop :=
  Good (pjAt fp ps ss l) ∧
  jinv fp.maxRetry ((ss.getD l default).cfg.inLen == 0) (ctl (pjAt fp ps ss l)) = true

/-- The master holds `ps` in slots `0 … n-1` (`k` free slots behind), slave `l` faces slot `l`, every pair is good and
within the joint invariant: what every master-level step keeps (`stepN_good`).  No slave has address 127, so all
ignore the global-control broadcast; the addresses differ, so only the addressed slave reacts (`busReceive_at`). -/
structure NGood (J : JointN) (ps : List Peripheral) (k : Nat) : Prop where
  slots : J.m.slots = denseSlots ps k
  op : J.m.op = .operate
  len : J.ss.length = ps.length
  n256 : ps.length ≤ 256
  pos : 0 < ps.length
  fpok : FpOk J.fp
  cycle : J.m.cycle = .completed ∨ ∃ i, J.m.cycle = .dx i ∧ i < ps.length
  ok : ∀ l, l < ps.length → SlotOk J.fp ps J.ss l
  addr : ∀ l, l < ps.length → (J.ss.getD l default).cfg.address ≠ 127
  distinct : ∀ l l', l < ps.length → l' < ps.length → l ≠ l' →
    (J.ss.getD l default).cfg.address ≠ (J.ss.getD l' default).cfg.address
  gc : ∀ t, J.m.lastGc = some t → timeB t

/-- The slots `a ≤ l < b` were visited once each (fault-free), all others are untouched. -/
def VisitedRange (fp : FdlParams) (ps : List Peripheral) (ss : List Slave) (ps' : List Peripheral) (ss' : List Slave)
    (a b : Nat) : Prop :=
  ps'.length = ps.length ∧ ss'.length = ss.length ∧
  (∀ l, a ≤ l → l < b → ∃ ev, (pjAt fp ps ss l).visit false .ok = some (pjAt fp ps' ss' l, ev)) ∧
  (∀ l, l < a ∨ b ≤ l → ps'.getD l default = ps.getD l default ∧ ss'.getD l default = ss.getD l default)

/-- The pair of slot `l` went from `(ps, ss)` to `(ps', ss')` by the environment steps `es`. -/
def SlotRun (fp : FdlParams) (ps : List Peripheral) (ss : List Slave) (ps' : List Peripheral) (ss' : List Slave)
    (l : Nat) (es : List PEnv) : Prop :=
  (∀ e ∈ es, e.WellFormed) ∧ ∃ evs, (pjAt fp ps ss l).run es = some (pjAt fp ps' ss' l, evs)

theorem slotOk_run {fp : FdlParams} {ps ps' : List Peripheral} {ss ss' : List Slave} {l : Nat} {es : List PEnv}
    (h : SlotOk fp ps ss l) (hr : SlotRun fp ps ss ps' ss' l es) :
    SlotOk fp ps' ss' l ∧ (ss'.getD l default).cfg = (ss.getD l default).cfg := by
  obtain ⟨hw, evs, hrun⟩ := hr
  obtain ⟨j', evs', h1, h2, _, _, h5, h6⟩ := run_jinv es h.1 h.2 hw
  rw [hrun] at h1
  simp only [Option.some.injEq, Prod.mk.injEq] at h1
  obtain ⟨rfl, rfl⟩ := h1
  exact ⟨⟨h2, h6⟩, h5⟩

theorem ngood_of_runs {J J' : JointN} {ps ps' : List Peripheral} {k : Nat} (hN : NGood J ps k)
    (hfp : J'.fp = J.fp) (hslots : J'.m.slots = denseSlots ps' k) (hop : J'.m.op = .operate)
    (hl1 : ps'.length = ps.length) (hl2 : J'.ss.length = J.ss.length)
    (hruns : ∀ l, l < ps.length → ∃ es, SlotRun J.fp ps J.ss ps' J'.ss l es)
    (hcy : J'.m.cycle = .completed ∨ ∃ i, J'.m.cycle = .dx i ∧ i < ps.length)
    (hgc : ∀ t, J'.m.lastGc = some t → timeB t) : NGood J' ps' k := by
  have hcfg : ∀ l, l < ps.length → (J'.ss.getD l default).cfg = (J.ss.getD l default).cfg := by
    intro l hl
    obtain ⟨es, hr⟩ := hruns l hl
    exact (slotOk_run (hN.ok l hl) hr).2
  refine ⟨hslots, hop, by rw [hl2, hN.len, hl1], by rw [hl1]; exact hN.n256, by rw [hl1]; exact hN.pos,
    by rw [hfp]; exact hN.fpok, by rw [hl1]; exact hcy, ?_, ?_, ?_, hgc⟩
  · intro l hl
    rw [hl1] at hl
    obtain ⟨es, hr⟩ := hruns l hl
    rw [hfp]; exact (slotOk_run (hN.ok l hl) hr).1
  · intro l hl; rw [hl1] at hl; rw [hcfg l hl]; exact hN.addr l hl
  · intro l l' hl hl' hne
    rw [hl1] at hl hl'
    rw [hcfg l hl, hcfg l' hl']; exact hN.distinct l l' hl hl' hne

theorem slotRun_same {fp : FdlParams} {ps ps' : List Peripheral} {ss ss' : List Slave} {l : Nat}
    (h1 : ps'.getD l default = ps.getD l default) (h2 : ss'.getD l default = ss.getD l default) :
    SlotRun fp ps ss ps' ss' l [] :=
  ⟨(by intro e h; cases h), [], (by simp only [PJ.run, pjAt, h1, h2])⟩

theorem ngood_after {J J' : JointN} {ps ps' : List Peripheral} {k a b : Nat} (hN : NGood J ps k)
    (hfp : J'.fp = J.fp) (hslots : J'.m.slots = denseSlots ps' k) (hop : J'.m.op = .operate)
    (hv : VisitedRange J.fp ps J.ss ps' J'.ss a b)
    (hcy : J'.m.cycle = .completed ∨ ∃ i, J'.m.cycle = .dx i ∧ i < ps.length)
    (hgc : ∀ t, J'.m.lastGc = some t → timeB t) : NGood J' ps' k := by
  obtain ⟨hl1, hl2, hvis, hout⟩ := hv
  refine ngood_of_runs hN hfp hslots hop hl1 hl2 (fun l _ => ?_) hcy hgc
  by_cases hr : a ≤ l ∧ l < b
  · obtain ⟨ev, hv⟩ := hvis l hr.1 hr.2
    exact ⟨[.visit false .ok], by intro e he; simp at he; subst he; trivial, _, run_single (e := .visit false .ok) hv⟩
  · exact ⟨[], slotRun_same (hout l (by omega)).1 (hout l (by omega)).2⟩

end PV.Live
