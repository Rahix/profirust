/-
One `transmit_telegram` turn of a master with several peripherals under ANY delivery fault and any
mid-request user call (property C07, `multi_live_after_any_history`): the turn decomposes into steps of the
individual slots' pairs — the slots the loop passes decline (a visit whose delivery is irrelevant), the
slot that sends undergoes `PJ.visit mid d` with its own slave, the slot a mid-request
`request_diagnostics()` aims at gets a `diagReq` step — and no slot is touched otherwise (independence).
-/
import ProfiVerif.Lemmas.DpLiveTurn

namespace PV.Live
open PV PV.Dp

theorem wf_visit_any (mid : Bool) {d : Delivery} (hd : ∀ t, d = .sub t → RxOk t) : (PEnv.visit mid d).WellFormed := by
  cases d <;> first | trivial | exact hd _ rfl

/-- Shape of the steps slot `l` undergoes in one turn: at most one visit — a decline (recorded with the
irrelevant delivery `lossReq`) or, for the slot whose request went out, the visit with the turn's delivery
— and at most one `request_diagnostics()` aimed at it. -/
def StepShape (ps : List Peripheral) (mid : Option Nat) (d : Delivery) (o : TurnObs) (l : Nat) (es : List PEnv) : Prop :=
  ∃ a b, es = a ++ b ∧
    (a = [] ∨ a = [.visit false .lossReq] ∨
      (a = [.visit (decide (mid = some l)) d] ∧ o.expect = some (ps.getD l default).address)) ∧
    (b = [] ∨ (b = [.diagReq] ∧ mid = some l))

/-- A slot that did not send in this turn: it declined (if the loop passed it) and / or got the
mid-request user call. -/
theorem slot_other {fp : FdlParams} {ps ps' psF : List Peripheral} {ss ssF : List Slave} {i0 j' l : Nat}
    {mid : Option Nat} (hl : l < ps.length) (hlen : ps'.length = ps.length)
    (hdec : i0 ≤ l → l < j' → ∃ ev, (ps.getD l default).transmit fp .operate = .decline (ps'.getD l default) ev)
    (hout : l < i0 ∨ j' ≤ l → ps'.getD l default = ps.getD l default)
    (hp : psF.getD l default = (applyMid ps' mid).getD l default) (hs : ssF.getD l default = ss.getD l default) :
    ∃ es, SlotRun fp ps ss psF ssF l es ∧ ∃ a b, es = a ++ b ∧ (a = [] ∨ a = [.visit false .lossReq]) ∧
      (b = [] ∨ (b = [.diagReq] ∧ mid = some l)) := by
  rw [applyMid_getD, hlen] at hp
  by_cases hr : i0 ≤ l ∧ l < j'
  · obtain ⟨ev, hd⟩ := hdec hr.1 hr.2
    have hv : (pjAt fp ps ss l).visit false .lossReq = some (⟨fp, .operate, ps'.getD l default, ss.getD l default⟩, ev) :=
      visit_decline_any (j := pjAt fp ps ss l) hd false .lossReq
    by_cases hm : mid = some l
    · rw [if_pos ⟨hm, hl⟩] at hp
      refine ⟨[.visit false .lossReq, .diagReq], ⟨?_, ev.toList ++ ([] ++ []), ?_⟩, [.visit false .lossReq], [.diagReq], rfl, Or.inr rfl, Or.inr ⟨rfl, hm⟩⟩
      · intro e he; simp at he; rcases he with rfl | rfl <;> trivial
      · rw [run_visit_diag hv]; simp only [pjAt, hp, hs, reqDiag]
    · rw [if_neg (by intro h; exact hm h.1)] at hp
      refine ⟨[.visit false .lossReq], ⟨?_, ev.toList ++ [], ?_⟩, [.visit false .lossReq], [], rfl, Or.inr rfl, Or.inl rfl⟩
      · intro e he; simp at he; subst he; trivial
      · rw [run_single (e := .visit false .lossReq) hv]; simp only [pjAt, hp, hs]
  · have ho := hout (by omega)
    by_cases hm : mid = some l
    · rw [if_pos ⟨hm, hl⟩, ho] at hp
      refine ⟨[.diagReq], ⟨?_, [] ++ [], ?_⟩, [], [.diagReq], rfl, Or.inl rfl, Or.inr ⟨rfl, hm⟩⟩
      · intro e he; simp at he; subst he; trivial
      · rw [run_diag]; simp only [pjAt, hp, hs, reqDiag]
    · rw [if_neg (by intro h; exact hm h.1), ho] at hp
      exact ⟨[], slotRun_same hp hs, [], [], rfl, Or.inl rfl, Or.inl rfl⟩

theorem shape_of_other {ps : List Peripheral} {mid mid' : Option Nat} {d : Delivery} {o : TurnObs} {l : Nat} {es : List PEnv}
    (h : ∃ a b, es = a ++ b ∧ (a = [] ∨ a = [.visit false .lossReq]) ∧ (b = [] ∨ (b = [.diagReq] ∧ mid' = some l)))
    (hm : mid' = mid ∨ mid' = none) : StepShape ps mid d o l es := by
  obtain ⟨a, b, rfl, ha, hb⟩ := h
  refine ⟨a, b, rfl, ?_, ?_⟩
  · rcases ha with h | h
    · exact Or.inl h
    · exact Or.inr (Or.inl h)
  · rcases hb with h | ⟨h1, h2⟩
    · exact Or.inl h
    · rcases hm with rfl | rfl
      · exact Or.inr ⟨h1, h2⟩
      · cases h2

/-- **One `transmit_telegram` of a master with `n` peripherals under any delivery fault and any
mid-request user call**: no panic, the master stays well-formed, every slot's pair stays good and within
the joint invariant, and the turn is — slot by slot — a run of at most two environment steps of that
slot's own pair (`StepShape`); in particular a fault concerning slot `i` does not change slot `j ≠ i`. -/
theorem turnN_any {J : JointN} {ps : List Peripheral} {k : Nat} (hN : NGood J ps k) {now : Int} (hnow : timeB now)
    (mid : Option Nat) {d : Delivery} (hd : ∀ t, d = .sub t → RxOk t) :
    ∃ J' o ps', J.turn now mid d = .ok J' o ∧ NGood J' ps' k ∧ J'.fp = J.fp ∧ ps'.length = ps.length ∧
      ∀ l, l < ps.length → ∃ es, SlotRun J.fp ps J.ss ps' J'.ss l es ∧ StepShape ps mid d o l es := by
  -- once every slot's steps are known, `NGood` follows (`ngood_of_runs`)
  have fin : ∀ {J' : JointN} {o : TurnObs} {ps' : List Peripheral}, J'.fp = J.fp → J'.m.slots = denseSlots ps' k →
      J'.m.op = .operate → ps'.length = ps.length → J'.ss.length = J.ss.length →
      (J'.m.cycle = .completed ∨ ∃ i, J'.m.cycle = .dx i ∧ i < ps.length) → (∀ t, J'.m.lastGc = some t → timeB t) →
      (∀ l, l < ps.length → ∃ es, SlotRun J.fp ps J.ss ps' J'.ss l es ∧ StepShape ps mid d o l es) →
      ∃ J'' o' ps'', TurnResN.ok J' o = .ok J'' o' ∧ NGood J'' ps'' k ∧ J''.fp = J.fp ∧ ps''.length = ps.length ∧
        ∀ l, l < ps.length → ∃ es, SlotRun J.fp ps J.ss ps'' J''.ss l es ∧ StepShape ps mid d o' l es :=
    fun hfp hs hop hl1 hl2 hcy hgc hr =>
      ⟨_, _, _, rfl, ngood_of_runs hN hfp hs hop hl1 hl2 (fun l hl => let ⟨es, h1, _⟩ := hr l hl; ⟨es, h1⟩) hcy hgc,
        hfp, hl1, hr⟩
  have hF := turnN_form hN.wf hnow mid hd
  generalize J.turn now mid d = r at hF
  cases hF with
  | gc o hb =>
    refine fin rfl rfl hN.op (applyMid_length ps mid) rfl hN.cycle (by intro t ht; cases ht; exact hnow) fun l hl => ?_
    obtain ⟨es, h1, h2⟩ := slot_other (fp := J.fp) (ss := J.ss) (ssF := J.ss) (i0 := 0) (j' := 0) (mid := mid) hl rfl
      (by intro h1 h2; omega) (by intro _; rfl) rfl rfl
    exact ⟨es, h1, shape_of_other h2 (Or.inl rfl)⟩
  | close hc =>
    exact fin rfl hN.slots hN.op rfl rfl (Or.inr ⟨0, rfl, hN.pos⟩) hN.gc fun l _ =>
      ⟨[], slotRun_same rfl rfl, [], [], rfl, Or.inl rfl, Or.inl rfl⟩
  | stop i j ps' ev hc hP hstop hend =>
    refine fin rfl rfl hN.op hP.len rfl ?_ hN.gc fun l hl => ?_
    · rcases cycleBehind_cases hP.lt (.dx 0) with ⟨h1, h2⟩ | ⟨_, h2⟩
      · exact Or.inr ⟨j + 1, h2, h1⟩
      · exact Or.inr ⟨0, h2, hN.pos⟩
    · obtain ⟨es, h1, h2⟩ := slot_other (fp := J.fp) (ss := J.ss) (ssF := J.ss) (i0 := i) (j' := j + 1) (mid := none) hl hP.len
        (by intro h1 h2
            by_cases hlj : l < j
            · exact ⟨none, hP.dec l h1 hlj⟩
            · obtain rfl : l = j := by omega
              exact ⟨ev, hstop⟩)
        (by intro h; exact hP.out l (by omega)) rfl rfl
      exact ⟨es, h1, shape_of_other h2 (Or.inr rfl)⟩
  | exchange i j ps' h pdu p2 s2 ev o m' hc hP hsend hvis hexp htx hslots hop hgc hcy hev =>
    have hj' : j < (applyMid ps' mid).length := by rw [applyMid_length, hP.len]; exact hP.lt
    have hjs : j < J.ss.length := by rw [hN.len]; exact hP.lt
    refine fin rfl hslots hop (by simp [applyMid_length, hP.len]) (by simp) ?_ (by rw [hgc]; exact hN.gc) fun l hl => ?_
    · rw [hcy]
      split
      · rcases cycleBehind_cases hP.lt .completed with ⟨h1, h2⟩ | ⟨_, h2⟩
        · exact Or.inr ⟨j + 1, h2, h1⟩
        · exact Or.inl h2
      · exact Or.inr ⟨j, rfl, hP.lt⟩
    · by_cases hlj : l = j
      · subst hlj
        refine ⟨[.visit (decide (mid = some l)) d], ⟨?_, ev.toList ++ [], ?_⟩, _, [], rfl, Or.inr (Or.inr ⟨rfl, hexp⟩), Or.inl rfl⟩
        · intro e he; simp at he; subst he; exact wf_visit_any _ hd
        · rw [run_single (e := .visit _ d) hvis]
          simp only [pjAt, getD_set_eq p2 hj', getD_set_eq s2 hjs]
      · obtain ⟨es, h1, h2⟩ := slot_other (fp := J.fp) (ss := J.ss) (ssF := J.ss.set j s2)
          (psF := (applyMid ps' mid).set j p2) (i0 := i) (j' := j) (mid := mid) hl hP.len
          (fun h1 h2 => ⟨none, hP.dec l h1 h2⟩) (by intro h; exact hP.out l (by omega))
          (getD_set_ne p2 hlj) (getD_set_ne s2 hlj)
        exact ⟨es, h1, shape_of_other h2 (Or.inl rfl)⟩

end PV.Live
