/-
Master-level histories of a master with several peripherals (property C07): every environment step
projects to runs of the individual slots' pairs (`mrunN_project`), so the per-pair theorems (invariant,
liveness, offline / online) lift to the multi-peripheral master.
-/
import ProfiVerif.Lemmas.DpLiveNAny

namespace PV.Live
open PV PV.Dp

inductive NEnv
  | turn (now : Int) (mid : Option Nat) (d : Delivery)
  | power (l : Nat)
  | fault (l : Nat) (ext : Bytes)
  | diagReq (l : Nat)
  | piq (l : Nat) (bs : Bytes)
  | inputs (l : Nat) (bs : Bytes)
  deriving Repr

def NEnv.WellFormed : NEnv → Prop
  | .turn now _ d => timeB now ∧ ∀ t, d = .sub t → RxOk t
  | _ => True

def JointN.step (J : JointN) : NEnv → Option JointN
  | .turn now mid d =>
    match J.turn now mid d with
    | .ok J' _ => some J'
    | _ => none
  | .power l => some { J with ss := J.ss.set l (J.ss.getD l default).power }
  | .fault l ext => some { J with ss := J.ss.set l ((J.ss.getD l default).reportFault ext) }
  | .diagReq l => some { J with m := midDiag J.m (some l) }
  | .piq l bs => some { J with m := (J.m.writePiQ l bs).getD J.m }
  | .inputs l bs => some { J with ss := J.ss.set l ((J.ss.getD l default).setInputs bs) }

def JointN.mrun (J : JointN) : List NEnv → Option JointN
  | [] => some J
  | e :: es =>
    match J.step e with
    | some J' => J'.mrun es
    | none => none

theorem slotRun_trans {fp : FdlParams} {ps0 ps1 ps2 : List Peripheral} {ss0 ss1 ss2 : List Slave} {l : Nat}
    {a b : List PEnv} (h1 : SlotRun fp ps0 ss0 ps1 ss1 l a) (h2 : SlotRun fp ps1 ss1 ps2 ss2 l b) :
    SlotRun fp ps0 ss0 ps2 ss2 l (a ++ b) := by
  obtain ⟨w1, e1, r1⟩ := h1
  obtain ⟨w2, e2, r2⟩ := h2
  refine ⟨?_, e1 ++ e2, run_append a b r1 r2⟩
  intro e he
  rcases List.mem_append.mp he with h | h
  · exact w1 e h
  · exact w2 e h

theorem writePiQ_dense {m : Master} {ps : List Peripheral} {k i : Nat} (hs : m.slots = denseSlots ps k) (bs : Bytes) :
    (m.writePiQ i bs).getD m =
      (if h : i < ps.length then
        (if bs.length = ps[i].piQ.length then { m with slots := denseSlots (ps.set i { ps[i] with piQ := bs }) k } else m)
       else m) := by
  unfold Master.writePiQ Master.peripheral?
  by_cases hi : i < ps.length
  · rw [hs, getD_dense_lt k hi, dif_pos hi]
    by_cases hl : bs.length = ps[i].piQ.length
    · simp only [hl, if_true, Option.getD_some, set_dense k hi]
    · simp only [hl, if_false, Option.getD_none]
  · rw [hs, getD_dense_ge k hi, dif_neg hi]; rfl

theorem ngood_one_slot {J J' : JointN} {ps ps' : List Peripheral} {k l0 : Nat} (hN : NGood J ps k)
    (hfp : J'.fp = J.fp) (hslots : J'.m.slots = denseSlots ps' k) (hop : J'.m.op = .operate)
    (hl1 : ps'.length = ps.length) (hl2 : J'.ss.length = J.ss.length)
    (hcy : J'.m.cycle = J.m.cycle) (hgc : J'.m.lastGc = J.m.lastGc)
    (hoth : ∀ l, l ≠ l0 → ps'.getD l default = ps.getD l default ∧ J'.ss.getD l default = J.ss.getD l default)
    (e : PEnv) (he : e.WellFormed)
    (hstep : l0 < ps.length → ∃ ev, (pjAt J.fp ps J.ss l0).step e = some (pjAt J.fp ps' J'.ss l0, ev)) :
    NGood J' ps' k ∧ ∀ l, l < ps.length → SlotRun J.fp ps J.ss ps' J'.ss l (if l = l0 then [e] else []) := by
  have hruns : ∀ l, l < ps.length → SlotRun J.fp ps J.ss ps' J'.ss l (if l = l0 then [e] else []) := by
    intro l hl
    by_cases h : l = l0
    · subst h
      rw [if_pos rfl]
      obtain ⟨ev, hs⟩ := hstep hl
      exact ⟨by intro e' he'; simp at he'; subst he'; exact he, ev.toList ++ [], run_single hs⟩
    · rw [if_neg h]
      exact slotRun_same (hoth l h).1 (hoth l h).2
  refine ⟨ngood_of_runs hN hfp hslots hop hl1 hl2 (fun l hl => ⟨_, hruns l hl⟩) (by rw [hcy]; exact hN.cycle)
    (by rw [hgc]; exact hN.gc), hruns⟩

/-- The steps slot `l` undergoes in an environment step that is not a turn. -/
def NEnv.slotSteps : NEnv → Nat → List PEnv
  | .turn _ _ _, _ => []
  | .power l0, l => if l = l0 then [.power] else []
  | .fault l0 ext, l => if l = l0 then [.fault ext] else []
  | .diagReq l0, l => if l = l0 then [.diagReq] else []
  | .piq l0 bs, l => if l = l0 then [.piq bs] else []
  | .inputs l0 bs, l => if l = l0 then [.inputs bs] else []

theorem stepN_slave {J : JointN} {ps : List Peripheral} {k : Nat} (hN : NGood J ps k) (l0 : Nat)
    (f : Slave → Slave) (e : PEnv) (he : e.WellFormed)
    (hf : ∀ j : PJ, j.step e = some ({ j with s := f j.s }, none)) :
    NGood { J with ss := J.ss.set l0 (f (J.ss.getD l0 default)) } ps k ∧
      ∀ l, l < ps.length →
        SlotRun J.fp ps J.ss ps (J.ss.set l0 (f (J.ss.getD l0 default))) l (if l = l0 then [e] else []) :=
  ngood_one_slot (J' := { J with ss := J.ss.set l0 (f (J.ss.getD l0 default)) }) (l0 := l0) hN rfl hN.slots
    hN.op rfl (by simp) rfl rfl (fun l h => ⟨rfl, getD_set_ne _ h⟩) e he
    (by intro hl
        exact ⟨none, by rw [hf]; simp only [pjAt, getD_set_eq _ (show l0 < J.ss.length by rw [hN.len]; exact hl)]⟩)

theorem stepN_env {J : JointN} {ps : List Peripheral} {k : Nat} (hN : NGood J ps k) (e : NEnv)
    (hne : ∀ now mid d, e ≠ .turn now mid d) :
    ∃ J' ps', J.step e = some J' ∧ NGood J' ps' k ∧ J'.fp = J.fp ∧ ps'.length = ps.length ∧
      J'.m.cycle = J.m.cycle ∧
      ∀ l, l < ps.length → SlotRun J.fp ps J.ss ps' J'.ss l (e.slotSteps l) := by
  cases e with
  | turn now mid d => exact absurd rfl (hne now mid d)
  | power l0 =>
    obtain ⟨h1, h2⟩ := stepN_slave hN l0 Slave.power .power trivial (fun _ => rfl)
    exact ⟨_, ps, rfl, h1, rfl, rfl, rfl, h2⟩
  | fault l0 ext =>
    obtain ⟨h1, h2⟩ := stepN_slave hN l0 (·.reportFault ext) (.fault ext) trivial (fun _ => rfl)
    exact ⟨_, ps, rfl, h1, rfl, rfl, rfl, h2⟩
  | inputs l0 bs =>
    obtain ⟨h1, h2⟩ := stepN_slave hN l0 (·.setInputs bs) (.inputs bs) trivial (fun _ => rfl)
    exact ⟨_, ps, rfl, h1, rfl, rfl, rfl, h2⟩
  | diagReq l0 =>
    have hm := master_applyMid (m := J.m) hN.slots (some l0)
    obtain ⟨h1, h2⟩ := ngood_one_slot (J' := { J with m := midDiag J.m (some l0) }) (ps' := applyMid ps (some l0)) (l0 := l0) hN rfl
      (by simp only [hm]) (by simp only [hm]; exact hN.op) (applyMid_length _ _) rfl (by simp only [hm]) (by simp only [hm])
      (fun l h => ⟨by rw [applyMid_getD, if_neg (by intro hc; exact h (Option.some.inj hc.1).symm)], rfl⟩) .diagReq trivial
      (by intro hl; exact ⟨none, by simp only [PJ.step, pjAt, applyMid_getD, hl, and_self, if_true, reqDiag]⟩)
    exact ⟨_, _, rfl, h1, rfl, applyMid_length _ _, by simp only [hm], h2⟩
  | piq l0 bs =>
    have hw := writePiQ_dense (m := J.m) (i := l0) hN.slots bs
    by_cases hi : l0 < ps.length
    · rw [dif_pos hi] at hw
      by_cases hl : bs.length = ps[l0].piQ.length
      · rw [if_pos hl] at hw
        obtain ⟨h1, h2⟩ := ngood_one_slot (J' := { J with m := (J.m.writePiQ l0 bs).getD J.m }) (ps' := ps.set l0 { ps[l0] with piQ := bs }) (l0 := l0) hN rfl
          (by simp only [hw]) (by simp only [hw]; exact hN.op) (by simp) rfl (by simp only [hw]) (by simp only [hw])
          (fun l h => ⟨getD_set_ne _ h, rfl⟩) (.piq bs) trivial
          (by intro _; exact ⟨none, by
                simp only [PJ.step, pjAt, getD_set_eq _ hi, getD_getElem hi, hl, if_true]⟩)
        exact ⟨_, _, rfl, h1, rfl, by simp, by simp only [hw], h2⟩
      · rw [if_neg hl] at hw
        obtain ⟨h1, h2⟩ := ngood_one_slot (J' := { J with m := (J.m.writePiQ l0 bs).getD J.m }) (ps' := ps) (l0 := l0) hN rfl
          (by simp only [hw]; exact hN.slots) (by simp only [hw]; exact hN.op) rfl rfl (by simp only [hw]) (by simp only [hw])
          (fun l h => ⟨rfl, rfl⟩) (.piq bs) trivial
          (by intro _; exact ⟨none, by simp only [PJ.step, pjAt, getD_getElem hi, hl, if_false]⟩)
        exact ⟨_, _, rfl, h1, rfl, rfl, by simp only [hw], h2⟩
    · rw [dif_neg hi] at hw
      obtain ⟨h1, h2⟩ := ngood_one_slot (J' := { J with m := (J.m.writePiQ l0 bs).getD J.m }) (ps' := ps) (l0 := l0) hN rfl
        (by simp only [hw]; exact hN.slots) (by simp only [hw]; exact hN.op) rfl rfl (by simp only [hw]) (by simp only [hw])
        (fun l h => ⟨rfl, rfl⟩) (.piq bs) trivial (by intro h; exact absurd h hi)
      exact ⟨_, _, rfl, h1, rfl, rfl, by simp only [hw], h2⟩

theorem stepN_good {J : JointN} {ps : List Peripheral} {k : Nat} (hN : NGood J ps k) {e : NEnv} (he : e.WellFormed) :
    ∃ J1 ps1, J.step e = some J1 ∧ NGood J1 ps1 k ∧ J1.fp = J.fp ∧ ps1.length = ps.length ∧
      ∀ l, l < ps.length → ∃ es, SlotRun J.fp ps J.ss ps1 J1.ss l es := by
  by_cases ht : ∃ now mid d, e = .turn now mid d
  · obtain ⟨now, mid, d, rfl⟩ := ht
    obtain ⟨hnow, hd⟩ := he
    obtain ⟨J1, o, ps1, h1, h2, h3, h4, h5⟩ := turnN_any hN hnow mid hd
    exact ⟨J1, ps1, by simp only [JointN.step, h1], h2, h3, h4, fun l hl => let ⟨es, r, _⟩ := h5 l hl; ⟨es, r⟩⟩
  · obtain ⟨J1, ps1, h1, h2, h3, h4, _, h5⟩ := stepN_env hN e (by intro now mid d hc; exact ht ⟨now, mid, d, hc⟩)
    exact ⟨J1, ps1, h1, h2, h3, h4, fun l hl => ⟨_, h5 l hl⟩⟩

/-- **Projection of a master-level history to the slots**: after any well-formed history the master is
still well-formed (`NGood`: in particular every pair good and within the joint invariant), and every
slot's pair went through a run of its own environment steps. -/
theorem mrunN_project {k : Nat} : ∀ (H : List NEnv), (∀ e ∈ H, e.WellFormed) →
    ∀ {J : JointN} {ps : List Peripheral}, NGood J ps k →
    ∃ J' ps', J.mrun H = some J' ∧ NGood J' ps' k ∧ J'.fp = J.fp ∧ ps'.length = ps.length ∧
      ∀ l, l < ps.length → ∃ es, SlotRun J.fp ps J.ss ps' J'.ss l es := by
  intro H
  induction H with
  | nil => intro _ J ps hN; exact ⟨J, ps, rfl, hN, rfl, rfl, fun l _ => ⟨[], slotRun_same rfl rfl⟩⟩
  | cons e H ih =>
    intro hw J ps hN
    obtain ⟨J1, ps1, h1, hN1, hfp1, hl1, hr1⟩ := stepN_good hN (hw e (by simp))
    obtain ⟨J2, ps2, h2, hN2, hfp2, hl2, hr2⟩ := ih (fun e' he' => hw e' (by simp [he'])) hN1
    refine ⟨J2, ps2, by simp only [JointN.mrun, h1, h2], hN2, by rw [hfp2, hfp1], by rw [hl2, hl1], ?_⟩
    intro l hl
    obtain ⟨a, ra⟩ := hr1 l hl
    obtain ⟨b, rb⟩ := hr2 l (by rw [hl1]; exact hl)
    rw [hfp1] at rb
    exact ⟨a ++ b, slotRun_trans ra rb⟩

end PV.Live
