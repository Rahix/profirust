/-
Sequences of fault-free turns of a master with several peripherals (property C07): the cycle index walks
through the slots round-robin, every non-broadcast turn moves it on, so after `K (n + 1) + n` non-broadcast
turns every slot has been visited at least `K` times.
-/
import ProfiVerif.Lemmas.DpLiveTurn

namespace PV.Live
open PV PV.Dp

/-- Position of the cycle index: slots below it have had their visit in the current cycle. -/
def posOf (n : Nat) : Cycle → Nat
  | .dx i => i
  | .completed => n

def indicator (b : Prop) [Decidable b] : Nat := if b then 1 else 0

theorem indicator_pos {b : Prop} [Decidable b] (h : b) : indicator b = 1 := if_pos h

theorem indicator_range {i j l : Nat} (hij : i ≤ j) :
    indicator (i ≤ l ∧ l < j + 1) + indicator (l < i) = indicator (l < j + 1) := by
  unfold indicator
  by_cases a1 : l < i
  · rw [if_neg (by omega), if_pos a1, if_pos (by omega)]
  · by_cases a2 : l < j + 1
    · rw [if_pos ⟨by omega, a2⟩, if_neg a1, if_pos a2]
    · rw [if_neg (by omega), if_neg a1, if_neg a2]

/-- Progress from `(J0, ps0)` to `(J, ps)` with `nb` non-broadcast turns: for some number `c` of cycle
wrap-arounds, slot `l` has had at least `c + [l < pos] - [l < pos0]` fault-free visits, and
`nb + pos0 ≤ c (n + 1) + pos`.  Both parts are additive along a sequence of turns (`progress_trans`); with
`nb ≥ K (n + 1) + n` the second forces `c ≥ K` up to the position terms (`count_bound`), and the first then
gives every slot `K` visits. -/
def Progress (n : Nat) (J0 : JointN) (ps0 : List Peripheral) (J : JointN) (ps : List Peripheral) (nb : Nat) : Prop :=
  ∃ c, (∀ l, l < n → ∃ v evs, (pjAt J0.fp ps0 J0.ss l).quiet v = some (pjAt J0.fp ps J.ss l, evs) ∧
          c + indicator (l < posOf n J.m.cycle) ≤ v + indicator (l < posOf n J0.m.cycle)) ∧
    nb + posOf n J0.m.cycle ≤ c * (n + 1) + posOf n J.m.cycle

theorem progress_refl (n : Nat) (J : JointN) (ps : List Peripheral) : Progress n J ps J ps 0 :=
  ⟨0, fun l _ => ⟨0, [], rfl, by omega⟩, by omega⟩

theorem progress_trans {n : Nat} {J0 J1 J2 : JointN} {ps0 ps1 ps2 : List Peripheral} {a b : Nat}
    (hfp : J1.fp = J0.fp) (h1 : Progress n J0 ps0 J1 ps1 a) (h2 : Progress n J1 ps1 J2 ps2 b) :
    Progress n J0 ps0 J2 ps2 (a + b) := by
  obtain ⟨c1, hv1, hn1⟩ := h1
  obtain ⟨c2, hv2, hn2⟩ := h2
  refine ⟨c1 + c2, ?_, ?_⟩
  · intro l hl
    obtain ⟨v1, e1, q1, i1⟩ := hv1 l hl
    obtain ⟨v2, e2, q2, i2⟩ := hv2 l hl
    rw [hfp] at q2
    exact ⟨v1 + v2, e1 ++ e2, quiet_add v1 v2 q1 q2, by omega⟩
  · rw [Nat.add_mul]; omega

theorem progress_turn {J : JointN} {ps : List Peripheral} {k : Nat} (hN : NGood J ps k) {now : Int} (hnow : timeB now) :
    ∃ J' o ps', J.turn now none .ok = .ok J' o ∧ NGood J' ps' k ∧ J'.fp = J.fp ∧ ps'.length = ps.length ∧
      Progress ps.length J ps J' ps' (if o.isBroadcast then 0 else 1) := by
  obtain ⟨J', o, ps', hturn, hN', hfp, hkind⟩ := turnN_quiet hN hnow
  have hlen : ps'.length = ps.length := by
    rcases hkind with ⟨_, rfl, _, _⟩ | ⟨_, _, _, rfl, _⟩ | ⟨_, i, j, _, _, _, hv, _⟩
    · rfl
    · rfl
    · exact hv.1
  refine ⟨J', o, ps', hturn, hN', hfp, hlen, ?_⟩
  rcases hkind with ⟨hb, rfl, hss, hcy⟩ | ⟨hb, hc, hc', rfl, hss⟩ | ⟨hb, i, j, hc, hij, hj, hv, hcy⟩
  · rw [hb]; simp only [if_true]
    refine ⟨0, fun l _ => ⟨0, [], by rw [hss]; rfl, by rw [hcy]; omega⟩, by rw [hcy]; omega⟩
  · rw [hb]; simp only [Bool.false_eq_true, if_false]
    refine ⟨1, fun l hl => ⟨0, [], by rw [hss]; rfl, ?_⟩, ?_⟩
    · rw [hc, hc']; simp only [posOf, indicator, Nat.not_lt_zero, if_false, hl, if_true]; omega
    · rw [hc, hc']; simp only [posOf]; omega
  · rw [hb]; simp only [Bool.false_eq_true, if_false]
    obtain ⟨_, _, hvis, hout⟩ := hv
    have hslot : ∀ l, l < ps.length → ∃ v evs, (pjAt J.fp ps J.ss l).quiet v = some (pjAt J.fp ps' J'.ss l, evs) ∧
        v = indicator (i ≤ l ∧ l < j + 1) := by
      intro l hl
      by_cases hr : i ≤ l ∧ l < j + 1
      · obtain ⟨ev, hv⟩ := hvis l hr.1 hr.2
        exact ⟨1, ev.toList ++ [], by simp only [PJ.quiet, hv], by simp [indicator, hr]⟩
      · obtain ⟨e1, e2⟩ := hout l (by omega)
        exact ⟨0, [], by simp only [PJ.quiet, pjAt, e1, e2], by simp [indicator, hr]⟩
    -- the cycle index ends behind slot `j`: at `j + 1`, or wrapped (then `j + 1` is the number of slots)
    rcases hcy with ⟨h1, hcy⟩ | ⟨h1, hcy | hcy⟩
    · refine ⟨0, fun l hl => ?_, by rw [hc, hcy]; simp only [posOf]; omega⟩
      obtain ⟨v, evs, hq, hv⟩ := hslot l hl
      refine ⟨v, evs, hq, ?_⟩
      rw [hc, hcy]
      show 0 + indicator (l < j + 1) ≤ v + indicator (l < i)
      rw [hv, indicator_range hij]; omega
    · refine ⟨0, fun l hl => ?_, by rw [hc, hcy]; simp only [posOf]; omega⟩
      obtain ⟨v, evs, hq, hv⟩ := hslot l hl
      refine ⟨v, evs, hq, ?_⟩
      rw [hc, hcy]
      show 0 + indicator (l < ps.length) ≤ v + indicator (l < i)
      rw [hv, indicator_range hij, indicator_pos hl, indicator_pos (show l < j + 1 by omega)]; omega
    · refine ⟨1, fun l hl => ?_, by rw [hc, hcy]; simp only [posOf]; omega⟩
      obtain ⟨v, evs, hq, hv⟩ := hslot l hl
      refine ⟨v, evs, hq, ?_⟩
      rw [hc, hcy]
      show 1 + indicator (l < 0) ≤ v + indicator (l < i)
      rw [hv, indicator_range hij, indicator_pos (show l < j + 1 by omega)]
      unfold indicator; rw [if_neg (Nat.not_lt_zero l)]; omega

theorem quietTurnsN_progress {k : Nat} : ∀ (nows : List Int), (∀ t ∈ nows, timeB t) →
    ∀ {J : JointN} {ps : List Peripheral}, NGood J ps k →
    ∃ J' os ps', J.quietTurns nows = some (J', os) ∧ NGood J' ps' k ∧ J'.fp = J.fp ∧ ps'.length = ps.length ∧
      os.length = nows.length ∧ Progress ps.length J ps J' ps' (nonBroadcast os) := by
  intro nows
  induction nows with
  | nil => intro _ J ps hN; exact ⟨J, [], ps, rfl, hN, rfl, rfl, rfl, progress_refl _ _ _⟩
  | cons now rest ih =>
    intro ht J ps hN
    obtain ⟨J1, o, ps1, hturn, hN1, hfp1, hl1, hp1⟩ := progress_turn hN (ht now (by simp))
    obtain ⟨J2, os, ps2, hq, hN2, hfp2, hl2, hlen, hp2⟩ := ih (fun t h => ht t (by simp [h])) hN1
    refine ⟨J2, o :: os, ps2, by simp only [JointN.quietTurns, hturn, hq], hN2, by rw [hfp2, hfp1],
      by rw [hl2, hl1], by simp [hlen], ?_⟩
    rw [hl1] at hp2
    have := progress_trans hfp1 hp1 hp2
    have hnb : nonBroadcast (o :: os) = (if o.isBroadcast then 0 else 1) + nonBroadcast os := by
      cases hb : o.isBroadcast <;> simp [nonBroadcast, hb] <;> omega
    rw [hnb]; exact this

theorem count_bound {c pos pos0 n K nb : Nat} (h1 : nb + pos0 ≤ c * (n + 1) + pos) (h2 : pos ≤ n)
    (h3 : K * (n + 1) + n ≤ nb) : K + 1 ≤ c ∨ (c = K ∧ pos0 = 0 ∧ pos = n) := by
  by_cases hc : K + 1 ≤ c
  · exact Or.inl hc
  · right
    by_cases hk : c = K
    · subst hk; omega
    · exfalso
      have hlt : c + 1 ≤ K := by omega
      have := Nat.mul_le_mul_right (n + 1) hlt
      rw [Nat.add_mul, Nat.one_mul] at this
      omega

/-- **Fault-free turns are visits of every slot.**  Once a sequence of fault-free turns contains
`K (n + 1) + n` turns that are not broadcasts, every slot's pair has had at least `K` fault-free visits
(and nothing else). -/
theorem quietTurnsN_visits {k : Nat} (nows : List Int) (ht : ∀ t ∈ nows, timeB t) {J : JointN}
    {ps : List Peripheral} (hN : NGood J ps k) :
    ∃ J' os ps', J.quietTurns nows = some (J', os) ∧ NGood J' ps' k ∧ os.length = nows.length ∧
      ∀ K, K * (ps.length + 1) + ps.length ≤ nonBroadcast os → ∀ l, l < ps.length →
        ∃ v evs, K ≤ v ∧ (pjAt J.fp ps J.ss l).quiet v = some (pjAt J.fp ps' J'.ss l, evs) := by
  obtain ⟨J', os, ps', hq, hN', _, hlen', hlen, c, hv, hcount⟩ := quietTurnsN_progress nows ht hN
  refine ⟨J', os, ps', hq, hN', hlen, fun K hk l hl => ?_⟩
  have hpos : posOf ps.length J'.m.cycle ≤ ps.length := by
    rcases hN'.cycle with h | ⟨i, h, hi⟩
    · rw [h]; exact Nat.le_refl _
    · rw [h]; simp only [posOf]; omega
  obtain ⟨v, evs, hquiet, hvc⟩ := hv l hl
  refine ⟨v, evs, ?_, hquiet⟩
  rcases count_bound hcount hpos hk with h | ⟨h1, h2, h3⟩
  · -- `K + 1 ≤ c`, and the two position terms differ by at most 1
    unfold indicator at hvc; split at hvc <;> split at hvc <;> omega
  · rw [h2, h3] at hvc
    simp only [indicator, hl, if_true, Nat.not_lt_zero, if_false] at hvc
    omega

end PV.Live
