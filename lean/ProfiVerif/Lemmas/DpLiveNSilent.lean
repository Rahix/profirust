/-
A silent slave among several (property C07): turns whose delivery depends on the station addressed
(`turnF`), a slave that never answers (`df a = lossReq` for its address `a`) while the others are served
in any way: the silent slot's pair sees nothing but lost requests — `replicate v (visit false lossReq)`.
-/
import ProfiVerif.Lemmas.DpLiveNHist

namespace PV.Live
open PV PV.Dp

/-- The address a reply is expected from in the turn that starts now (`none`: no telegram, or a
broadcast). -/
def JointN.expecting (J : JointN) (now : Int) : Option UInt8 :=
  match Master.transmit J.fp now false J.m with
  | .send _ h _ => expectsReplyOf h
  | _ => none

/-- One turn under a fault plan by address: what happens to the exchange depends on who is addressed. -/
def JointN.turnF (J : JointN) (now : Int) (df : UInt8 → Delivery) : TurnResN :=
  J.turn now none (match J.expecting now with | some a => df a | none => .ok)

def JointN.runF (J : JointN) : List (Int × (UInt8 → Delivery)) → Option JointN
  | [] => some J
  | (now, df) :: rest =>
    match J.turnF now df with
    | .ok J' _ => J'.runF rest
    | _ => none

theorem turn_expect {J J' : JointN} {now : Int} {mid : Option Nat} {d : Delivery} {o : TurnObs}
    (h : J.turn now mid d = .ok J' o) : o.expect = J.expecting now := by
  unfold JointN.expecting
  cases ht : Master.transmit J.fp now false J.m with
  | panic => simp only [JointN.turn, ht] at h; cases h
  | hang => simp only [JointN.turn, ht] at h; cases h
  | none m' => simp only [JointN.turn, ht] at h; cases h; rfl
  | send m' hd pdu =>
    show o.expect = expectsReplyOf hd
    cases hs : hd.serialize pdu with
    | panic => simp only [JointN.turn, ht, hs] at h; cases h
    | ok bytes =>
      -- every observation of such a turn records the address the reply is expected from
      cases he : expectsReplyOf hd with
      | none =>
        rw [JointN.turn_of_broadcast ht hs he] at h
        split at h <;> (cases h; rfl)
      | some a =>
        rw [JointN.turn_of_request ht hs he] at h
        split at h
        · cases h; rfl
        · split at h
          · cases h; rfl
          · split at h
            · cases h
            · cases h; rfl

/-- A fault plan is well-formed: times in range, substituted replies are well-formed responses. -/
def PlanOk (F : List (Int × (UInt8 → Delivery))) : Prop :=
  ∀ x ∈ F, timeB x.1 ∧ ∀ b t, x.2 b = .sub t → RxOk t

/-- **The silent slot sees only lost requests.**  Whatever happens to the other slots, if every exchange
addressed to slave `l` is lost, the pair of slot `l` goes through `v` visits with lost requests and
nothing else, for some `v`. -/
theorem silent_slot {k : Nat} : ∀ (F : List (Int × (UInt8 → Delivery))), PlanOk F →
    ∀ {J : JointN} {ps : List Peripheral}, NGood J ps k → ∀ {l : Nat}, l < ps.length →
    (∀ x ∈ F, x.2 (J.ss.getD l default).cfg.address = .lossReq) →
    ∃ J' ps' v, J.runF F = some J' ∧ NGood J' ps' k ∧ J'.fp = J.fp ∧ ps'.length = ps.length ∧
      SlotRun J.fp ps J.ss ps' J'.ss l (List.replicate v (.visit false .lossReq)) := by
  intro F
  induction F with
  | nil => intro _ J ps hN l _ _; exact ⟨J, ps, 0, rfl, hN, rfl, rfl, slotRun_same rfl rfl⟩
  | cons x F ih =>
    intro hok J ps hN l hl hsil
    obtain ⟨now, df⟩ := x
    obtain ⟨hnow, hsub⟩ := hok (now, df) (by simp)
    have hd : ∀ t, (match J.expecting now with | some a => df a | none => Delivery.ok) = .sub t → RxOk t := by
      intro t ht
      cases he : J.expecting now with
      | none => rw [he] at ht; cases ht
      | some a => rw [he] at ht; exact hsub a t ht
    obtain ⟨J1, o, ps1, h1, hN1, hfp1, hl1, hsl⟩ := turnN_any hN hnow none hd
    obtain ⟨es, hr, a, b, rfl, ha, hb⟩ := hsl l hl
    have hb' : b = [] := by
      rcases hb with h | ⟨_, h⟩
      · exact h
      · cases h
    subst hb'
    have hes : a ++ [] = [] ∨ a ++ [] = [.visit false .lossReq] := by
      rcases ha with h | h | ⟨h, hexp⟩
      · left; simp [h]
      · right; simp [h]
      · right
        have he := turn_expect h1
        rw [hexp] at he
        have haddr : (ps.getD l default).address = (J.ss.getD l default).cfg.address := (hN.ok l hl).1.m.addr
        have hdl : (match J.expecting now with | some a => df a | none => Delivery.ok) = .lossReq := by
          rw [← he]; simp only; rw [haddr]; exact hsil (now, df) (by simp)
        rw [h, hdl]; simp
    have hcfg : (J1.ss.getD l default).cfg = (J.ss.getD l default).cfg := (slotOk_run (hN.ok l hl) hr).2
    obtain ⟨J2, ps2, v, h2, hN2, hfp2, hl2, hr2⟩ := ih (fun y hy => hok y (by simp [hy])) hN1 (l := l) (by rw [hl1]; exact hl)
      (by intro y hy; rw [hcfg]; exact hsil y (by simp [hy]))
    rw [hfp1] at hr2
    have hrun : J.runF ((now, df) :: F) = some J2 := by
      simp only [JointN.runF, JointN.turnF, h1, h2]
    rcases hes with h | h
    · rw [h] at hr
      exact ⟨J2, ps2, v, hrun, hN2, by rw [hfp2, hfp1], by rw [hl2, hl1], by simpa using slotRun_trans hr hr2⟩
    · rw [h] at hr
      refine ⟨J2, ps2, v + 1, hrun, hN2, by rw [hfp2, hfp1], by rw [hl2, hl1], ?_⟩
      have := slotRun_trans hr hr2
      rw [List.replicate_succ]
      simpa using this

end PV.Live
