/-
In the fault-free continuation every request gets a reply (property C07, several peripherals): from an invariant
control state the reference slave's reaction to the master's request is never silence (`replyOk` of the
kernel-checked certificate), hence a fault-free visit in which a request goes out is a complete request / reply
exchange — never a time-out, so the cycle index always moves on (`quiet_reply`).
-/
import ProfiVerif.Lemmas.DpLive

namespace PV.Live
open PV PV.Dp

theorem reply_of_jinv {iz : Bool} {c : Core} {rc : RCls} (h : jinvCore iz c rc = true) (hrc : rc ≠ .over)
    {k : ReqK} (hk : reqOf c.st c.dn c.fl rc = some k) :
    (AD.ok.deliver (sreact iz c.ss c.dp c.mem c.fcb.fcv k).2.2.1).isSome = true := by
  have h1 := (certOk_of_jinv h).2.2
  unfold replyOk at h1
  rw [hk] at h1
  cases rc <;> first | exact absurd rfl hrc | simpa using h1

theorem quiet_reply {j : PJ} (hg : Good j) (hj : jinv j.fp.maxRetry (j.s.cfg.inLen == 0) (ctl j) = true)
    {p' : Peripheral} {h : Header} {pdu : Bytes} (htx : j.p.transmit j.fp j.op = .send p' h pdu) :
    ((j.s.receive h pdu).2.telegram).isSome = true := by
  rcases tx_ctl hg.fp hg.op hg.pinv hg.m with ⟨_, h1⟩ | ⟨_, _, h1⟩ | ⟨hr, k, h2, pdu2, hq, h1, hreq⟩
  · rw [htx] at h1; cases h1
  · rw [htx] at h1; cases h1
  · rw [htx] at h1
    simp only [PTx.send.injEq] at h1
    obtain ⟨_, rfl, rfl⟩ := h1
    obtain ⟨hre, _, _, _, hkind⟩ := receive_ctl hg.s hreq
    have hdv : (Delivery.ok.deliver (j.s.receive h pdu).2).map (viewOf j.s.cfg.inLen) =
        AD.ok.deliver (kindOf j.s.cfg.inLen (j.s.receive h pdu).2) :=
      (deliver_abs (n := j.s.cfg.inLen) hkind (d := .ok) (by intro t ht; cases ht)).1
    have hjc : jinvCore (j.s.cfg.inLen == 0) (ctl j).core (rcls j.fp.maxRetry j.p.retry) = true := (jinv_iff.mp hj).1
    have hab := reply_of_jinv hjc (rcls_ne_over hr) (k := k) hq
    -- the kind of the slave's reply is the one `sreact` computes, and its view is what `AD.ok` delivers
    have hk2 : kindOf j.s.cfg.inLen (j.s.receive h pdu).2 =
        (sreact (j.s.cfg.inLen == 0) j.s.state j.s.diagPending (memOf j.s j.p.fcb) j.p.fcb.fcv k).2.2.1 := by
      rw [← hre]
    have hab' : (AD.ok.deliver (kindOf j.s.cfg.inLen (j.s.receive h pdu).2)).isSome = true := by rw [hk2]; exact hab
    rw [← hdv] at hab'
    cases hd : (j.s.receive h pdu).2.telegram with
    | none => simp [Delivery.deliver, hd] at hab'
    | some t => rfl

end PV.Live
