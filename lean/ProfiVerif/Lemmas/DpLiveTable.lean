/-
The finite certificate of property C07, evaluated by the kernel (`decide +kernel`; no `native_decide`): `coreOk`
in `Lemmas/DpLiveTableInd{F,T}.lean`, the two small tables `views_covered` and `steady_closed` here.  For every
control core and retry class within the joint invariant `jinvCore`, `certOk` says: every visit keeps the
invariant (`stepsOk`); data exchange is reached within
`max_retry_limit + 8` fault-free visits, from an offline peripheral with the events `Online`, `Configured`, then
data-exchange events only (`liveOk`); the slave answers the request of a fault-free visit (`replyOk`).  Evaluated
are only cores inside the invariant (`forallInv`) and of the visits one per distinct behaviour (`visitsOk`); the
steps that are no visits are argued (`stepOk_env`); `stepOk_of_stepsOk` recovers every abstract environment step.
-/
import ProfiVerif.Lemmas.DpLiveCtl

namespace PV.Live
open PV PV.Dp

theorem mem_allBool (b : Bool) : b ∈ allBool := by cases b <;> simp [allBool]
theorem mem_allFcb (f : FrameCountBit) : f ∈ allFcb := by cases f <;> simp [allFcb]
theorem mem_allSState (s : SState) : s ∈ allSState := by cases s <;> simp [allSState]
theorem mem_allPState (s : PState) : s ∈ allPState := by cases s <;> simp [allPState]
theorem mem_allRCls (s : RCls) : s ∈ allRCls := by cases s <;> simp [allRCls]
theorem mem_allDFlags (s : DFlags) : s ∈ allDFlags := by cases s <;> simp [allDFlags]
theorem mem_allSCls (s : SCls) : s ∈ allSCls := by cases s <;> simp [allSCls]
theorem mem_allRK (k : RK) : k ∈ allRK := by
  cases k with
  | diag a b => cases a <;> cases b <;> simp [allRK]
  | _ => simp [allRK]

theorem mem_allView (v : View) : v ∈ allView := by
  unfold allView
  cases v with
  | sc => simp
  | diag f c =>
    apply List.mem_append_left; apply List.mem_append_right
    exact List.mem_flatMap.mpr ⟨f, mem_allDFlags f, List.mem_map.mpr ⟨c, mem_allSCls c, rfl⟩⟩
  | data c b =>
    apply List.mem_append_right
    exact List.mem_flatMap.mpr ⟨c, mem_allSCls c, List.mem_map.mpr ⟨b, mem_allBool b, rfl⟩⟩

theorem mem_allAD (d : AD) : d ∈ allAD := by
  unfold allAD
  cases d with
  | sub v => exact List.mem_append_right _ (List.mem_map.mpr ⟨v, mem_allView v, rfl⟩)
  | _ => simp

theorem mem_allAEnv (e : AEnv) : e ∈ allAEnv := by
  unfold allAEnv
  cases e with
  | visit mid d =>
    apply List.mem_append_left
    exact List.mem_flatMap.mpr ⟨mid, mem_allBool mid, List.mem_map.mpr ⟨d, mem_allAD d, rfl⟩⟩
  | _ => simp

theorem mem_allMem (m : Option RK) : m ∈ [none] ++ allRK.map some := by
  cases m with
  | none => simp
  | some k => exact List.mem_append_right _ (List.mem_map.mpr ⟨k, mem_allRK k, rfl⟩)

theorem mem_coresOf (c : Core) : c ∈ coresOf c.st := by
  obtain ⟨st, fcb, dn, fl, ss, mem, dp⟩ := c
  unfold coresOf
  exact List.mem_flatMap.mpr ⟨fcb, mem_allFcb fcb, List.mem_flatMap.mpr ⟨dn, mem_allBool dn,
    List.mem_flatMap.mpr ⟨fl, mem_allBool fl, List.mem_flatMap.mpr ⟨ss, mem_allSState ss,
    List.mem_flatMap.mpr ⟨mem, mem_allMem mem, List.mem_map.mpr ⟨dp, mem_allBool dp, rfl⟩⟩⟩⟩⟩⟩

/-- `P` holds of every core with peripheral state `st` inside `jinvCore · · .over` (the weakest class,
`jinvCore_over`).  Each conjunct of the invariant is tested as soon as the fields it reads are chosen, so the
kernel never builds a core outside it. -/
def forallInv (iz : Bool) (st : PState) (P : Core → Bool) : Bool :=
  allFcb.all fun fcb => !(fcb != .inactive && (fcb != .first || st == .offline)) ||
  allSState.all fun ss => !(ss != .waitCfg || st == .offline || st == .waitForParam || st == .waitForConfig) ||
  allBool.all fun fl => ([none] ++ allRK.map some).all fun mem =>
    !(match mem with | none => true | some k => fcb.fcv && allowed iz st fl ss k) ||
  allBool.all fun dn => allBool.all fun dp => P { st, fcb, dn, fl, ss, mem, dp }

theorem forallInv_elim {iz : Bool} {st : PState} {P : Core → Bool} (h : forallInv iz st P = true) (c : Core)
    (hc : c.st = st) (hj : jinvCore iz c .over = true) : P c = true := by
  obtain ⟨st', fcb, dn, fl, ss, mem, dp⟩ := c
  simp only at hc
  subst hc
  unfold forallInv at h
  unfold jinvCore at hj
  simp only [Bool.and_eq_true] at hj
  obtain ⟨⟨hA, hC⟩, hM⟩ := hj
  have h1 := List.all_eq_true.mp h fcb (mem_allFcb fcb)
  rw [(Bool.and_eq_true _ _).mpr hA, Bool.not_true, Bool.false_or] at h1
  have h2 := List.all_eq_true.mp h1 ss (mem_allSState ss)
  rw [hC, Bool.not_true, Bool.false_or] at h2
  have h3 := List.all_eq_true.mp h2 fl (mem_allBool fl)
  have h4 := List.all_eq_true.mp h3 mem (mem_allMem mem)
  have h5 : (allBool.all fun dn => allBool.all fun dp => P { st := st', fcb, dn, fl, ss, mem, dp }) = true := by
    cases mem with
    | none => simpa using h4
    | some k =>
      have hk : (fcb.fcv && allowed iz st' fl ss k) = true := by simpa using hM
      simpa [hk] using h4
  exact List.all_eq_true.mp (List.all_eq_true.mp h5 dn (mem_allBool dn)) dp (mem_allBool dp)

theorem cvisit_over (iz : Bool) (c : Core) (mid : Bool) (d : AD) :
    cvisit iz c .over mid d = ({ c with st := .offline, fcb := .first, mem := none }, .reset, some .offline) := rfl

theorem cvisit_none {iz : Bool} {c : Core} {rc : RCls} (h : rc ≠ .over) (mid : Bool) (d : AD)
    (hq : reqOf c.st c.dn c.fl rc = none) : cvisit iz c rc mid d = (c, .reset, none) := by
  cases rc <;> first | exact absurd rfl h | simp [cvisit, hq]

theorem cvisit_lossReq {iz : Bool} {c : Core} {rc : RCls} (h : rc ≠ .over) (mid : Bool) {k : ReqK}
    (hq : reqOf c.st c.dn c.fl rc = some k) :
    cvisit iz c rc mid .lossReq =
      ({ c with dn := c.dn || mid, fl := flAfter c.st c.dn c.fl rc }, .inc, none) := by
  cases rc <;> first | exact absurd rfl h | simp [cvisit, hq]

theorem cvisit_timeout {iz : Bool} {c : Core} {rc : RCls} (h : rc ≠ .over) (mid : Bool) {d : AD} {k : ReqK}
    (hq : reqOf c.st c.dn c.fl rc = some k) (hd : d ≠ .lossReq) {ss' : SState} {dp' : Bool} {rk : RK}
    {mem1 : Option RK} (hsr : sreact iz c.ss c.dp c.mem c.fcb.fcv k = (ss', dp', rk, mem1))
    (hdel : d.deliver rk = none) :
    cvisit iz c rc mid d =
      ({ c with dn := c.dn || mid, fl := flAfter c.st c.dn c.fl rc, ss := ss', dp := dp', mem := mem1 },
       .inc, none) := by
  cases rc <;> first
    | exact absurd rfl h
    | (cases d <;> first | exact absurd rfl hd | simp [cvisit, hq, hsr, hdel])

theorem cvisit_reply {iz : Bool} {c : Core} {rc : RCls} (h : rc ≠ .over) (mid : Bool) {d : AD} {k : ReqK}
    (hq : reqOf c.st c.dn c.fl rc = some k) (hd : d ≠ .lossReq) {ss' : SState} {dp' : Bool} {rk : RK}
    {mem1 : Option RK} (hsr : sreact iz c.ss c.dp c.mem c.fcb.fcv k = (ss', dp', rk, mem1))
    {v : View} (hdel : d.deliver rk = some v) {r : MRx}
    (hr : mrx iz c.st (c.dn || mid) (flAfter c.st c.dn c.fl rc) v = r) :
    cvisit iz c rc mid d =
      ({ st := r.st, fcb := if r.cycled then cycA c.fcb else c.fcb, dn := r.dn,
         fl := flAfter c.st c.dn c.fl rc, ss := ss', dp := dp', mem := if r.cycled then none else mem1 },
       if r.reset then .reset else .inc, r.ev) := by
  subst hr
  cases rc <;> first
    | exact absurd rfl h
    | (cases d <;> first | exact absurd rfl hd | simp [cvisit, hq, hsr, hdel])

/-- One environment step from an invariant (core, class): the invariant holds again for every class
the counter can then be in; the peripheral becomes offline only with a reset counter; an offline
peripheral with a non-zero counter does not transmit (so its counter stays ≤ 1).  The last two conjuncts
are what `jinv_step` needs for the counter part of `jinv` (`retry ≤ 1` while offline). -/
def stepOk (inZero : Bool) (c : Core) (rc : RCls) (e : AEnv) : Bool :=
  match cstepCore inZero c rc e with
  | (c', act, _) =>
    ((succCls rc act).all fun rc' => jinvCore inZero c' rc') &&
    (c.st == .offline || c'.st != .offline || act == .reset) &&
    (c.st != .offline || rc != .pos || act != .inc)

theorem stepOk_congr {iz : Bool} {c : Core} {rc : RCls} {mid mid' : Bool} {d d' : AD}
    (h : cvisit iz c rc mid d = cvisit iz c rc mid' d') :
    stepOk iz c rc (.visit mid d) = stepOk iz c rc (.visit mid' d') := by
  simp only [stepOk, cstepCore, h]

theorem cvisit_sub_congr {iz : Bool} {c : Core} {rc : RCls} {v v' : View}
    (h : ∀ dn, mrx iz c.st dn (flAfter c.st c.dn c.fl rc) v = mrx iz c.st dn (flAfter c.st c.dn c.fl rc) v')
    (mid : Bool) : cvisit iz c rc mid (.sub v) = cvisit iz c rc mid (.sub v') := by
  cases rc with
  | over => rfl
  | zero | pos =>
    simp only [cvisit, AD.deliver]
    split
    · rfl
    · rename_i _ k _
      by_cases hs : (sreact iz c.ss c.dp c.mem c.fcb.fcv k).2.2.1 = RK.silent
      · simp only [hs, if_true]
      · simp only [hs, if_false, h]

/-- Replies that `receive_reply` tells apart in state `st` (`fl`: a diagnostics request is in flight):
one view for each. -/
def viewReps (st : PState) (fl : Bool) : List View :=
  match st with
  | .offline => [.sc, .diag .ready .okLow]
  | .waitForParam | .waitForConfig => [.sc, .data .okLow false]
  | .validateConfig => .sc :: allDFlags.map fun f => .diag f .okLow
  | .preDataExchange | .dataExchange =>
    if fl then [.sc, .diag .ready .okLow]
    else [.sc, .diag .ready .rs, .diag .ready .high, .diag .ready .okLow, .data .rs false,
          .data .okLow true, .data .high true, .data .high false, .data .okLow false]

def viewsCovered : Bool :=
  allPState.all fun st => allBool.all fun fl => allView.all fun v => (viewReps st fl).any fun v' =>
    allBool.all fun iz => allBool.all fun dn => mrx iz st dn fl v == mrx iz st dn fl v'

theorem views_covered : viewsCovered = true := by decide +kernel

theorem viewReps_complete (st : PState) (fl : Bool) (v : View) :
    ∃ v' ∈ viewReps st fl, ∀ iz dn, mrx iz st dn fl v = mrx iz st dn fl v' := by
  have h := views_covered
  unfold viewsCovered at h
  have h1 := List.all_eq_true.mp h st (mem_allPState st)
  have h2 := List.all_eq_true.mp h1 fl (mem_allBool fl)
  obtain ⟨v', hv', h3⟩ := List.any_eq_true.mp (List.all_eq_true.mp h2 v (mem_allView v))
  refine ⟨v', hv', fun iz dn => ?_⟩
  have h4 := List.all_eq_true.mp h3 iz (mem_allBool iz)
  exact eq_of_beq (List.all_eq_true.mp h4 dn (mem_allBool dn))

/-- The steps that are no visits keep the invariant: `jinvCore` reads neither `dn` nor `dp`, and a power cycle
clears the memory and leaves the slave in `Wait_Prm`. -/
theorem stepOk_env {iz : Bool} {c : Core} {rc : RCls} (h : jinvCore iz c rc = true) {e : AEnv}
    (he : ∀ mid d, e ≠ .visit mid d) : stepOk iz c rc e = true := by
  have hst : (c.st == .offline || c.st != .offline) = true := by cases c.st <;> rfl
  cases e with
  | visit mid d => exact absurd rfl (he mid d)
  | power =>
    have : jinvCore iz { c with ss := .waitPrm, mem := none, dp := false } rc = true := by
      unfold jinvCore at h ⊢
      simp only [Bool.and_eq_true] at h ⊢
      exact ⟨⟨h.1.1, by simp⟩, trivial⟩
    simp [stepOk, cstepCore, succCls, this, hst]
  | fault => simp [stepOk, cstepCore, succCls, hst]; exact h
  | diagReq => simp [stepOk, cstepCore, succCls, hst]; exact h
  | noop => simp [stepOk, cstepCore, succCls, hst]; exact h

/-- `receive_reply` hands `diag_needed` through or overwrites it; nothing else depends on it. -/
theorem mrx_dn (iz : Bool) (st : PState) (dn dn' fl : Bool) (v : View) :
    (mrx iz st dn fl v).st = (mrx iz st dn' fl v).st ∧ (mrx iz st dn fl v).cycled = (mrx iz st dn' fl v).cycled ∧
    (mrx iz st dn fl v).reset = (mrx iz st dn' fl v).reset ∧ (mrx iz st dn fl v).ev = (mrx iz st dn' fl v).ev := by
  unfold mrx
  cases st <;> simp only <;> (repeat' split) <;> exact ⟨rfl, rfl, rfl, rfl⟩

/-- A core with `diag_needed` forgotten: what `jinvCore` reads of it. -/
def Core.noDn (c : Core) : Core := { c with dn := false }

/-- A `request_diagnostics()` between request and reply changes nothing but `diag_needed`. -/
theorem cvisit_mid (iz : Bool) (c : Core) (rc : RCls) (mid : Bool) (d : AD) :
    (cvisit iz c rc mid d).1.noDn = (cvisit iz c rc false d).1.noDn ∧
      (cvisit iz c rc mid d).2 = (cvisit iz c rc false d).2 := by
  by_cases hrc : rc = .over
  · subst hrc; exact ⟨rfl, rfl⟩
  cases hq : reqOf c.st c.dn c.fl rc with
  | none => rw [cvisit_none hrc mid d hq, cvisit_none hrc false d hq]; exact ⟨rfl, rfl⟩
  | some k =>
    by_cases hd : d = .lossReq
    · subst hd; rw [cvisit_lossReq hrc mid hq, cvisit_lossReq hrc false hq]; exact ⟨rfl, rfl⟩
    obtain ⟨ss', dp', rk, mem1, hsr⟩ : ∃ ss' dp' rk mem1, sreact iz c.ss c.dp c.mem c.fcb.fcv k = (ss', dp', rk, mem1) :=
      ⟨_, _, _, _, rfl⟩
    cases hdel : d.deliver rk with
    | none => rw [cvisit_timeout hrc mid hq hd hsr hdel, cvisit_timeout hrc false hq hd hsr hdel]; exact ⟨rfl, rfl⟩
    | some v =>
      rw [cvisit_reply hrc mid hq hd hsr hdel rfl, cvisit_reply hrc false hq hd hsr hdel rfl]
      obtain ⟨e1, e2, e3, e4⟩ := mrx_dn iz c.st (c.dn || mid) (c.dn || false) (flAfter c.st c.dn c.fl rc) v
      simp only [Core.noDn, e1, e2, e3, e4, and_self]

theorem stepOk_mid (iz : Bool) (c : Core) (rc : RCls) (mid : Bool) (d : AD) :
    stepOk iz c rc (.visit mid d) = stepOk iz c rc (.visit false d) := by
  obtain ⟨h1, h2⟩ := cvisit_mid iz c rc mid d
  have hst : (cvisit iz c rc mid d).1.st = (cvisit iz c rc false d).1.st := by
    have := congrArg Core.st h1; exact this
  have hj : ∀ rc', jinvCore iz (cvisit iz c rc mid d).1 rc' = jinvCore iz (cvisit iz c rc false d).1 rc' := by
    intro rc'; have := congrArg (fun x => jinvCore iz x rc') h1; exact this
  simp only [stepOk, cstepCore]
  rw [show (cvisit iz c rc mid d) = ((cvisit iz c rc mid d).1, (cvisit iz c rc mid d).2.1, (cvisit iz c rc mid d).2.2) from rfl,
    show (cvisit iz c rc false d) = ((cvisit iz c rc false d).1, (cvisit iz c rc false d).2.1, (cvisit iz c rc false d).2.2) from rfl]
  simp only [hst, hj, h2]

/-- The visits from `(c, rc)`, each distinct behaviour once: lost request, lost reply, delivered reply, and of the
substituted replies one per class of `viewReps`. -/
def visitsOk (iz : Bool) (c : Core) (rc : RCls) : Bool :=
  stepOk iz c rc (.visit false .lossReq) && stepOk iz c rc (.visit false .lossRep) &&
  stepOk iz c rc (.visit false .ok) &&
  (viewReps c.st (flAfter c.st c.dn c.fl rc)).all fun v => stepOk iz c rc (.visit false (.sub v))

/-- Every visit from `(c, rc)`.  With the retry limit exceeded a visit does not look at the bus at all. -/
def stepsOk (iz : Bool) (c : Core) (rc : RCls) : Bool :=
  match rc with
  | .over => stepOk iz c .over (.visit false .ok)
  | rc => visitsOk iz c rc

theorem stepOk_of_stepsOk {iz : Bool} {c : Core} {rc : RCls} (hj : jinvCore iz c rc = true)
    (h : stepsOk iz c rc = true) (e : AEnv) : stepOk iz c rc e = true := by
  cases e with
  | visit mid d =>
    rw [stepOk_mid]
    cases rc with
    | over =>
      rw [stepOk_congr (show cvisit iz c .over false d = cvisit iz c .over false .ok from rfl)]
      exact h
    | zero | pos =>
      simp only [stepsOk, visitsOk, Bool.and_eq_true, List.all_eq_true] at h
      obtain ⟨⟨⟨h1, h2⟩, h3⟩, h4⟩ := h
      cases d with
      | ok => exact h3
      | lossReq => exact h1
      | lossRep => exact h2
      | sub v =>
        obtain ⟨v', hv', hm⟩ := viewReps_complete c.st (flAfter c.st c.dn c.fl _) v
        rw [stepOk_congr (cvisit_sub_congr (fun dn => hm iz dn) false)]
        exact h4 v' hv'
  | power => exact stepOk_env hj (by intro _ _ h; cases h)
  | fault => exact stepOk_env hj (by intro _ _ h; cases h)
  | diagReq => exact stepOk_env hj (by intro _ _ h; cases h)
  | noop => exact stepOk_env hj (by intro _ _ h; cases h)

/-- The slave's reaction to the request of a fault-free visit reaches the master. -/
def replyOk (iz : Bool) (c : Core) (rc : RCls) : Bool :=
  rc == .over ||
    match reqOf c.st c.dn c.fl rc with
    | none => true
    | some k => (AD.ok.deliver (sreact iz c.ss c.dp c.mem c.fcb.fcv k).2.2.1).isSome

def isDxEvent : PEvent → Bool
  | .dataExchanged => true
  | .diagnostics => true
  | _ => false

/-- Follow the fault-free run for `n` visits as long as every visit resets the retry counter (then the
class before each further visit is `zero`, whatever the retry limit).  Result: the events and the final
core. -/
def evRun (iz : Bool) : Nat → Core → RCls → Option (List PEvent × Core)
  | 0, c, _ => some ([], c)
  | n + 1, c, rc =>
    match cvisit iz c rc false .ok with
    | (c1, .reset, ev) =>
      match evRun iz n c1 .zero with
      | some (evs, c') => some (ev.toList ++ evs, c')
      | none => none
    | _ => none

def backCert (iz : Bool) (c : Core) (rc : RCls) : Bool :=
  match evRun iz 8 c rc with
  | some (e1 :: e2 :: rest, c') => e1 == .online && e2 == .configured && rest.all isDxEvent && steady c'
  | _ => false

/-- Liveness certificate.  An offline peripheral is followed visit by visit (`backCert`: running after 8
visits, which also gives the events); a peripheral whose retry limit is exceeded is offline after the next
visit; for the others `liveCert`. -/
def liveOk (iz : Bool) (c : Core) : RCls → Bool
  | .over => true
  | rc => if c.st = .offline then backCert iz c rc else liveCert iz c rc

def certOk (iz : Bool) (c : Core) (rc : RCls) : Bool :=
  stepsOk iz c rc && liveOk iz c rc && replyOk iz c rc

def steadyOk (iz : Bool) (c : Core) : Bool :=
  match cvisit iz c .zero false .ok with
  | (c', act, ev) => act == .reset && steady c' && (match ev with | some e => isDxEvent e | none => false)

/- The class enters `jinvCore` only in the `mem` case, as `rc ≠ zero`: a stored reply that the next request would
hit means that a retransmission is under way.  Two states are exempt: in `ValidateConfig` `receive_reply` clears the
counter whatever arrives and cycles the bit only on a diagnostics reply; an `Offline` peripheral declines every
second visit, which clears the counter while the probe's reply is still stored. -/
theorem jinvCore_over {iz : Bool} {c : Core} {rc : RCls} (h : jinvCore iz c rc = true) :
    jinvCore iz c .over = true := by
  unfold jinvCore at h ⊢
  cases hm : c.mem with
  | none => simpa [hm] using h
  | some k =>
    simp only [hm, Bool.and_eq_true] at h ⊢
    exact ⟨h.1, h.2.1, by simp⟩

def coreOk (iz : Bool) (c : Core) : Bool :=
  allRCls.all fun rc => !jinvCore iz c rc || certOk iz c rc

/-- The steady cores — they need not lie inside the invariant (`fcb` may be `First`) — are closed under
fault-free visits. -/
def steadyClosed : Bool :=
  allBool.all fun iz => allFcb.all fun fcb => fcb == .inactive ||
    allBool.all fun dn => allBool.all fun fl => allBool.all fun dp =>
      steadyOk iz { st := .dataExchange, fcb, dn, fl, ss := .dataExch, mem := none, dp }

theorem steady_closed : steadyClosed = true := by decide +kernel

theorem steadyOk_of_steady (iz : Bool) {c : Core} (h : steady c = true) : steadyOk iz c = true := by
  obtain ⟨st, fcb, dn, fl, ss, mem, dp⟩ := c
  simp only [steady, Bool.and_eq_true, beq_iff_eq, bne_iff_ne, ne_eq] at h
  obtain ⟨⟨⟨rfl, rfl⟩, rfl⟩, hf⟩ := h
  have h0 := steady_closed
  unfold steadyClosed at h0
  have h1 := List.all_eq_true.mp h0 iz (mem_allBool iz)
  have h2 := List.all_eq_true.mp h1 fcb (mem_allFcb fcb)
  rw [Bool.or_eq_true, beq_iff_eq] at h2
  have h3 := List.all_eq_true.mp (h2.resolve_left hf) dn (mem_allBool dn)
  have h4 := List.all_eq_true.mp h3 fl (mem_allBool fl)
  exact List.all_eq_true.mp h4 dp (mem_allBool dp)

end PV.Live
