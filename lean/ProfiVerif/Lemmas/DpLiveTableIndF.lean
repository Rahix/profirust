/-
The certificate `coreOk` of property C07 (see `Lemmas/DpLiveTable.lean`) for a slave with inputs, one kernel
evaluation per peripheral state.
-/
import ProfiVerif.Lemmas.DpLiveTable

namespace PV.Live

theorem cert_f_off : forallInv false .offline (coreOk false) = true := by decide +kernel
theorem cert_f_prm : forallInv false .waitForParam (coreOk false) = true := by decide +kernel
theorem cert_f_cfg : forallInv false .waitForConfig (coreOk false) = true := by decide +kernel
theorem cert_f_val : forallInv false .validateConfig (coreOk false) = true := by decide +kernel
theorem cert_f_pre : forallInv false .preDataExchange (coreOk false) = true := by decide +kernel
theorem cert_f_dx : forallInv false .dataExchange (coreOk false) = true := by decide +kernel

end PV.Live
