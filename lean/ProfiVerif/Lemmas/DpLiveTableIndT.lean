/-
The certificate `coreOk` of property C07 (see `Lemmas/DpLiveTable.lean`) for a slave without inputs, one
kernel evaluation per peripheral state.
-/
import ProfiVerif.Lemmas.DpLiveTable

namespace PV.Live

theorem cert_t_off : forallInv true .offline (coreOk true) = true := by decide +kernel
theorem cert_t_prm : forallInv true .waitForParam (coreOk true) = true := by decide +kernel
theorem cert_t_cfg : forallInv true .waitForConfig (coreOk true) = true := by decide +kernel
theorem cert_t_val : forallInv true .validateConfig (coreOk true) = true := by decide +kernel
theorem cert_t_pre : forallInv true .preDataExchange (coreOk true) = true := by decide +kernel
theorem cert_t_dx : forallInv true .dataExchange (coreOk true) = true := by decide +kernel

end PV.Live
