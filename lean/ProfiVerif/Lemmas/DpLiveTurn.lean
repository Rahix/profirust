/-
One `transmit_telegram` turn of a master with several peripherals (property C07): `TurnForm` lists what a turn can
be — a global-control broadcast, the closing of a completed cycle, or the loop passing the slots `i … j-1` (each
declines) and ending at slot `j`, which declines with an event, is the last one, or sends; in the last case the pair
of slot `j` undergoes `PJ.visit` with the turn's delivery and the cycle index moves on iff a reply was delivered.
`turnN_form` proves it for every delivery and every mid-request user call from `NWf` (`NGood` without the joint
invariant).  Fault-free turns (`turnN_quiet`), turns under faults (`turnN_any`, `Lemmas/DpLiveNAny`) and the
single-peripheral master (`turn_single`, `Lemmas/DpLiveMaster`) are read off it.
-/
import ProfiVerif.Lemmas.DpLiveN
import ProfiVerif.Lemmas.DpLiveReply

namespace PV.Live
open PV PV.Dp

theorem requestDiagnostics_dense {m : Master} {ps : List Peripheral} {k i : Nat} (hs : m.slots = denseSlots ps k) :
    (m.requestDiagnostics i).getD m =
      (if h : i < ps.length then { m with slots := denseSlots (ps.set i (reqDiag ps[i])) k } else m) := by
  unfold Master.requestDiagnostics Master.peripheral?
  by_cases hi : i < ps.length
  · rw [hs, getD_dense_lt k hi, dif_pos hi]
    simp only [Option.getD_some, set_dense k hi]
    rfl
  · rw [hs, getD_dense_ge k hi, dif_neg hi]; rfl

/-- The peripherals after an optional `request_diagnostics()` on slot `mid`. -/
def applyMid (ps : List Peripheral) : Option Nat → List Peripheral
  | some i => if h : i < ps.length then ps.set i (reqDiag ps[i]) else ps
  | none => ps

theorem applyMid_length (ps : List Peripheral) (mid : Option Nat) : (applyMid ps mid).length = ps.length := by
  cases mid with
  | none => rfl
  | some i => simp only [applyMid]; split <;> simp

theorem applyMid_getD (ps : List Peripheral) (mid : Option Nat) (l : Nat) :
    (applyMid ps mid).getD l default =
      (if mid = some l ∧ l < ps.length then reqDiag (ps.getD l default) else ps.getD l default) := by
  cases mid with
  | none => simp [applyMid]
  | some i =>
    simp only [applyMid, Option.some.injEq]
    by_cases hi : i < ps.length
    · rw [dif_pos hi]
      by_cases hl : i = l
      · subst hl
        rw [if_pos ⟨rfl, hi⟩, getD_set_eq _ hi, getD_getElem hi]
      · rw [if_neg (by intro h; exact hl h.1), getD_set_ne _ (Ne.symm hl)]
    · rw [dif_neg hi]
      rw [if_neg]
      intro h; obtain ⟨rfl, h2⟩ := h; exact hi h2

theorem master_applyMid {m : Master} {ps : List Peripheral} {k : Nat} (hs : m.slots = denseSlots ps k) (mid : Option Nat) :
    midDiag m mid = { m with slots := denseSlots (applyMid ps mid) k } := by
  cases mid with
  | none => simp only [midDiag, applyMid, ← hs]
  | some i =>
    simp only [midDiag, requestDiagnostics_dense hs, applyMid]
    split
    · rfl
    · simp only [← hs]

theorem JointN.turn_of_request {J : JointN} {now : Int} {mid : Option Nat} {m' : Master} {h : Header}
    {pdu bytes : Bytes} {a : UInt8} (ht : Master.transmit J.fp now false J.m = .send m' h pdu)
    (hs : h.serialize pdu = .ok bytes) (he : expectsReplyOf h = some a) (d : Delivery) :
    J.turn now mid d =
      if d = .lossReq then
        .ok { J with m := (midDiag m' mid).handleTimeout a } { tx := some bytes, expect := some a }
      else
        match d.deliver (busReceive J.ss h pdu).2 with
        | none =>
          .ok { J with m := (midDiag m' mid).handleTimeout a, ss := (busReceive J.ss h pdu).1 }
              { tx := some bytes, expect := some a, seen := true, reply := (busReceive J.ss h pdu).2 }
        | some t =>
          match (midDiag m' mid).receiveReply a t with
          | .panic => .panic
          | .ok m2 =>
            .ok { J with m := m2, ss := (busReceive J.ss h pdu).1 }
                { tx := some bytes, expect := some a, seen := true, reply := (busReceive J.ss h pdu).2,
                  delivered := some t } := by
  unfold JointN.turn
  simp only [ht, hs, he]
  cases d <;> rfl

theorem JointN.turn_of_broadcast {J : JointN} {now : Int} {mid : Option Nat} {m' : Master} {h : Header}
    {pdu bytes : Bytes} (ht : Master.transmit J.fp now false J.m = .send m' h pdu)
    (hs : h.serialize pdu = .ok bytes) (he : expectsReplyOf h = none) (d : Delivery) :
    J.turn now mid d =
      if d = .lossReq then .ok { J with m := midDiag m' mid } { tx := some bytes, expect := none }
      else
        .ok { J with m := midDiag m' mid, ss := (busReceive J.ss h pdu).1 }
            { tx := some bytes, expect := none, seen := true, reply := (busReceive J.ss h pdu).2 } := by
  unfold JointN.turn
  simp only [ht, hs, he]
  cases d <;> rfl

/-- A well-formed master with `n` peripherals and their slaves: `NGood` without the joint invariant
(what `master_turn` assumes of a single-peripheral master). -/
structure NWf (J : JointN) (ps : List Peripheral) (k : Nat) : Prop where
  slots : J.m.slots = denseSlots ps k
  op : J.m.op = .operate
  len : J.ss.length = ps.length
  n256 : ps.length ≤ 256
  pos : 0 < ps.length
  fpok : FpOk J.fp
  cycle : J.m.cycle = .completed ∨ ∃ i, J.m.cycle = .dx i ∧ i < ps.length
  good : ∀ l, l < ps.length → Good (pjAt J.fp ps J.ss l)
  addr : ∀ l, l < ps.length → (J.ss.getD l default).cfg.address ≠ 127
  distinct : ∀ l l', l < ps.length → l' < ps.length → l ≠ l' →
    (J.ss.getD l default).cfg.address ≠ (J.ss.getD l' default).cfg.address
  gc : ∀ t, J.m.lastGc = some t → timeB t

theorem NGood.wf {J : JointN} {ps : List Peripheral} {k : Nat} (h : NGood J ps k) : NWf J ps k :=
  ⟨h.slots, h.op, h.len, h.n256, h.pos, h.fpok, h.cycle, fun l hl => (h.ok l hl).1, h.addr, h.distinct, h.gc⟩

/-- Where the cycle index stands behind slot `j` once its turn is over (`fin`: what a finished cycle
leaves — `completed` after a reply, `dx 0` after a decline). -/
def cycleBehind (n j : Nat) (fin : Cycle) : Cycle := if j + 1 < n then .dx (j + 1) else fin

theorem cycleBehind_cases {n j : Nat} (hj : j < n) (fin : Cycle) :
    (j + 1 < n ∧ cycleBehind n j fin = .dx (j + 1)) ∨ (j + 1 = n ∧ cycleBehind n j fin = fin) := by
  unfold cycleBehind
  by_cases h1 : j + 1 < n
  · exact Or.inl ⟨h1, if_pos h1⟩
  · exact Or.inr ⟨by omega, if_neg h1⟩

/-- **What one `transmit_telegram` turn does**, under any delivery and any mid-request user call. -/
inductive TurnForm (J : JointN) (ps : List Peripheral) (k : Nat) (now : Int) (mid : Option Nat) (d : Delivery) :
    TurnResN → Prop
  /-- global-control broadcast: no slave reacts; only the user call touches a peripheral -/
  | gc (o : TurnObs) : o.isBroadcast = true →
      TurnForm J ps k now mid d
        (.ok { J with m := { J.m with slots := denseSlots (applyMid ps mid) k, lastGc := some now, lastEvents := {} } } o)
  | close : J.m.cycle = .completed →
      TurnForm J ps k now mid d (.ok { J with m := { J.m with cycle := .dx 0, lastEvents := {} } } {})
  /-- the loop passes `i … j-1`, slot `j` declines with an event or is the last one: nothing is sent -/
  | stop (i j : Nat) (ps' : List Peripheral) (ev : Option PEvent) :
      J.m.cycle = .dx i → Passed J.fp .operate ps ps' i j →
      (ps.getD j default).transmit J.fp .operate = .decline (ps'.getD j default) ev →
      (ev = none → j + 1 = ps.length) →
      TurnForm J ps k now mid d
        (.ok { J with m := { J.m with slots := denseSlots ps' k, cycle := cycleBehind ps.length j (.dx 0),
                                      lastEvents := { cycleCompleted := !decide (j + 1 < ps.length),
                                                      peripheral := ev.map fun e =>
                                                        { index := j, address := (ps.getD j default).address, ev := e } } } } {})
  /-- the loop passes `i … j-1`, slot `j` sends: its pair undergoes `PJ.visit` with the turn's delivery (and the
  user call, if aimed at it); the index moves on iff a reply was delivered -/
  | exchange (i j : Nat) (ps' : List Peripheral) (h : Header) (pdu : Bytes) (p2 : Peripheral) (s2 : Slave)
      (ev : Option PEvent) (o : TurnObs) (m' : Master) :
      J.m.cycle = .dx i → Passed J.fp .operate ps ps' i j →
      (ps.getD j default).transmit J.fp .operate = .send (ps'.getD j default) h pdu →
      (pjAt J.fp ps J.ss j).visit (decide (mid = some j)) d = some (⟨J.fp, .operate, p2, s2⟩, ev) →
      o.expect = some (ps.getD j default).address → o.tx.isSome = true →
      m'.slots = denseSlots ((applyMid ps' mid).set j p2) k → m'.op = .operate → m'.lastGc = J.m.lastGc →
      m'.cycle = (if (d.deliver ((J.ss.getD j default).receive h pdu).2).isSome
                  then cycleBehind ps.length j .completed else .dx j) →
      m'.lastEvents.peripheral = ev.map (fun e => { index := j, address := (ps.getD j default).address, ev := e }) →
      TurnForm J ps k now mid d (.ok { J with m := m', ss := J.ss.set j s2 } o)

/-- `Master.transmit` of a well-formed master: broadcast, cycle close, or the loop (that no slot panics needs
`Good` only, not the joint invariant). -/
theorem transmitW {J : JointN} {ps : List Peripheral} {k : Nat} (hW : NWf J ps k) {now : Int} (hnow : timeB now) :
    (Master.transmit J.fp now false J.m =
        .send { J.m with lastGc := some now, lastEvents := {} } (gcHeader J.fp) [0x00, 0x00] ∧
      busReceive J.ss (gcHeader J.fp) [0x00, 0x00] = (J.ss, .silent)) ∨
    (J.m.cycle = .completed ∧
      Master.transmit J.fp now false J.m = .none { J.m with cycle := .dx 0, lastEvents := {} }) ∨
    (∃ i, J.m.cycle = .dx i ∧ i < ps.length ∧
      LoopRes J.fp .operate ps k i J.m (Master.transmit J.fp now false J.m)) := by
  rcases transmit_cases hW.fpok hW.op hW.gc hnow false with ⟨_, _, htr⟩ | ⟨_, htr⟩
  · refine Or.inl ⟨htr, ?_⟩
    apply busReceive_none
    intro s hs
    obtain ⟨l, hl, rfl⟩ := List.getElem_of_mem hs
    have := hW.addr l (by rw [← hW.len]; exact hl)
    rw [List.getD_eq_getElem?_getD, List.getElem?_eq_getElem hl] at this
    simpa [gcHeader] using fun h => this h.symm
  · rcases hW.cycle with hc | ⟨i, hc, hi⟩
    · exact Or.inr (Or.inl ⟨hc, by rw [htr]; simp only [Master.txLoop, hc]⟩)
    · have hnp : ∀ l, i ≤ l → l < ps.length → (ps.getD l default).transmit J.fp J.m.op ≠ .panic := by
        intro l _ hl
        rw [hW.op]
        obtain ⟨_, _, hv, _⟩ := visit_sim (hW.good l hl) false (d := .lossReq) (by intro t ht; cases ht)
        intro hc'
        unfold PJ.visit at hv
        simp only [pjAt, hc'] at hv
        cases hv
      have hlen : J.m.slots.length = ps.length + k := by rw [hW.slots]; simp [denseSlots]
      have hloop := txLoop_dense (fp := J.fp) (k := k) (ps.length - i) ps i J.m (J.m.slots.length + 1) rfl hi hW.n256
        (by omega) hW.slots hc hnp
      rw [hW.op, ← htr] at hloop
      exact Or.inr (Or.inr ⟨i, hc, hi, hloop⟩)

theorem turnN_form {J : JointN} {ps : List Peripheral} {k : Nat} (hW : NWf J ps k) {now : Int} (hnow : timeB now)
    (mid : Option Nat) {d : Delivery} (hd : ∀ t, d = .sub t → RxOk t) :
    TurnForm J ps k now mid d (J.turn now mid d) := by
  rcases transmitW hW hnow with ⟨htr, hbus⟩ | ⟨hc, htr⟩ | ⟨i, hc, hi, hloop⟩
  · have hser : (gcHeader J.fp).serialize [0x00, 0x00] = .ok (frameSpec (gcHeader J.fp) [0x00, 0x00]) :=
      gcHeader_serialize J.fp [0x00, 0x00] rfl
    have hexp : expectsReplyOf (gcHeader J.fp) = none := rfl
    have hm1 := master_applyMid (m := { J.m with lastGc := some now, lastEvents := {} }) (ps := ps) (k := k) hW.slots mid
    unfold JointN.turn
    simp only [htr, hser, hexp, hbus, hm1]
    cases d <;> exact .gc _ rfl
  · unfold JointN.turn
    rw [htr]
    exact .close hc
  · generalize htr : Master.transmit J.fp now false J.m = res at hloop
    cases hloop with
    | stop j ps' ev hP hstop hend =>
      unfold JointN.turn
      rw [htr]
      exact .stop i j ps' ev hc hP hstop hend
    | send j ps' h pdu hP hsend =>
      have hj2 := hP.lt
      have hl := hP.len
      have hj' : j < ps'.length := by rw [hl]; exact hj2
      have hjs : j < J.ss.length := by rw [hW.len]; exact hj2
      obtain ⟨hda, hexp, hser, hpa⟩ := send_facts (j := pjAt J.fp ps J.ss j) (hW.good j hj2) hsend
      have hexp' : expectsReplyOf h = some (ps.getD j default).address := hexp
      have hda' : h.da = (J.ss.getD j default).cfg.address := hda
      have hm1 := master_applyMid (m := { J.m with slots := denseSlots ps' k, cycle := .dx j, lastEvents := {} })
        (ps := ps') (k := k) rfl mid
      have hp1 : (applyMid ps' mid).getD j default =
          (if decide (mid = some j) then reqDiag (ps'.getD j default) else ps'.getD j default) := by
        rw [applyMid_getD]
        by_cases hm : mid = some j
        · rw [if_pos ⟨hm, hj'⟩]; simp [hm]
        · rw [if_neg (by intro h; exact hm h.1)]; simp [hm]
      have hvform := PJ.visit_of_request (j := pjAt J.fp ps J.ss j) hsend (decide (mid = some j)) d
      obtain ⟨jv, evv, hvis, _⟩ := visit_sim (hW.good j hj2) (decide (mid = some j)) hd
      have hlen1 : (applyMid ps' mid).length = ps.length := by rw [applyMid_length, hl]
      have hj1' : j < (applyMid ps' mid).length := by rw [hlen1]; exact hj2
      have hself : (applyMid ps' mid).set j ((applyMid ps' mid).getD j default) = applyMid ps' mid := set_getD_self hj1'
      rw [JointN.turn_of_request htr hser hexp', hm1]
      by_cases hloss : d = .lossReq
      · subst hloss
        rw [if_pos rfl] at hvform ⊢
        have hss : J.ss = J.ss.set j (J.ss.getD j default) := (set_getD_self hjs).symm
        have := TurnForm.exchange (J := J) (ps := ps) (k := k) (now := now) (mid := mid) (d := .lossReq) i j ps' h pdu
          ((applyMid ps' mid).getD j default) (J.ss.getD j default) none
          { tx := some (frameSpec h pdu), expect := some (ps.getD j default).address }
          (({ J.m with slots := denseSlots (applyMid ps' mid) k, cycle := .dx j, lastEvents := {} } : Master).handleTimeout
            (ps.getD j default).address)
          hc hP hsend (by rw [hvform]; simp only [pjAt, hp1]) rfl rfl
          (by rw [hself]; rfl) hW.op rfl (by simp [Master.handleTimeout, Delivery.deliver]) rfl
        rw [← hss] at this
        exact this
      · have hbus := busReceive_at J.ss j h pdu hjs hda'
          (by intro l hl' hne; exact hW.distinct l j (by rw [← hW.len]; exact hl') hj2 hne)
        have hvform2 : (pjAt J.fp ps J.ss j).visit (decide (mid = some j)) d =
            (match d.deliver ((J.ss.getD j default).receive h pdu).2 with
             | none => some (⟨J.fp, .operate, (applyMid ps' mid).getD j default, ((J.ss.getD j default).receive h pdu).1⟩, none)
             | some t =>
               match ((applyMid ps' mid).getD j default).receiveReply t with
               | .panic => none
               | .ok p2 ev => some (⟨J.fp, .operate, p2, ((J.ss.getD j default).receive h pdu).1⟩, ev)) := by
          rw [hvform, if_neg hloss, hp1]
          rfl
        have hpj : (applyMid ps' mid).getD j default = (applyMid ps' mid)[j] := getD_getElem hj1'
        have haddr : (ps.getD j default).address = (applyMid ps' mid)[j].address := by
          rw [← hpj, hp1]
          have : (ps'.getD j default).address = (ps.getD j default).address := hpa
          by_cases hm : mid = some j <;>
            simp only [hm, reqDiag, decide_true, decide_false, if_true, Bool.false_eq_true, if_false] <;> exact this.symm
        rw [if_neg hloss, hbus]
        simp only
        cases hdel : d.deliver ((J.ss.getD j default).receive h pdu).2 with
        | none =>
          rw [hdel] at hvform2
          exact .exchange i j ps' h pdu ((applyMid ps' mid).getD j default) _ none _
            (({ J.m with slots := denseSlots (applyMid ps' mid) k, cycle := .dx j, lastEvents := {} } : Master).handleTimeout
              (ps.getD j default).address)
            hc hP hsend hvform2 rfl rfl (by rw [hself]; rfl) hW.op rfl
            (by simp only [Master.handleTimeout, hdel, Option.isSome_none, Bool.false_eq_true, if_false]) rfl
        | some t =>
          rw [hdel] at hvform2
          have hrec := receiveReply_dense (m := { J.m with slots := denseSlots (applyMid ps' mid) k, cycle := .dx j, lastEvents := {} })
            (ps := applyMid ps' mid) (k := k) (j := j) rfl rfl hj1' (by rw [hlen1]; exact hW.n256) t
          simp only [haddr, hrec]
          cases hrr : (applyMid ps' mid)[j].receiveReply t with
          | panic =>
            simp only [hpj, hrr] at hvform2
            rw [hvform2] at hvis; cases hvis
          | ok p2 ev =>
            simp only [hpj, hrr] at hvform2
            simp only at hvform2 ⊢
            refine .exchange i j ps' h pdu p2 _ ev _ _ hc hP hsend hvform2 (congrArg some haddr.symm) rfl rfl hW.op rfl ?_ ?_
            · simp only [hdel, Option.isSome_some, if_true, cycleBehind, hlen1]
            · simp only [haddr]

theorem turnN_quiet {J : JointN} {ps : List Peripheral} {k : Nat} (hN : NGood J ps k) {now : Int} (hnow : timeB now) :
    ∃ J' o ps', J.turn now none .ok = .ok J' o ∧ NGood J' ps' k ∧ J'.fp = J.fp ∧
      ((o.isBroadcast = true ∧ ps' = ps ∧ J'.ss = J.ss ∧ J'.m.cycle = J.m.cycle) ∨
       (o.isBroadcast = false ∧ J.m.cycle = .completed ∧ J'.m.cycle = .dx 0 ∧ ps' = ps ∧ J'.ss = J.ss) ∨
       (o.isBroadcast = false ∧ ∃ i j, J.m.cycle = .dx i ∧ i ≤ j ∧ j < ps.length ∧
          VisitedRange J.fp ps J.ss ps' J'.ss i (j + 1) ∧
          ((j + 1 < ps.length ∧ J'.m.cycle = .dx (j + 1)) ∨
           (j + 1 = ps.length ∧ (J'.m.cycle = .completed ∨ J'.m.cycle = .dx 0))))) := by
  have hvr0 : VisitedRange J.fp ps J.ss ps J.ss 0 0 :=
    ⟨rfl, rfl, by intro l h1 h2; omega, by intro l _; exact ⟨rfl, rfl⟩⟩
  have hF := turnN_form hN.wf hnow none (d := .ok) (by intro t h; cases h)
  generalize J.turn now none .ok = r at hF
  cases hF with
  | gc o hb =>
    exact ⟨_, o, ps, rfl, ngood_after hN rfl rfl hN.op hvr0 hN.cycle (by intro t ht; cases ht; exact hnow), rfl,
      Or.inl ⟨hb, rfl, rfl, rfl⟩⟩
  | close hc =>
    exact ⟨_, _, ps, rfl, ngood_after hN rfl hN.slots hN.op hvr0 (Or.inr ⟨0, rfl, hN.pos⟩) hN.gc, rfl,
      Or.inr (Or.inl ⟨rfl, hc, rfl, rfl, rfl⟩)⟩
  | stop i j ps' ev hc hP hstop hend =>
    have hvr : VisitedRange J.fp ps J.ss ps' J.ss i (j + 1) := by
      refine ⟨hP.len, rfl, ?_, fun l hl' => ⟨hP.out l (by omega), rfl⟩⟩
      intro l hl1 hl2
      by_cases hlj : l < j
      · exact ⟨none, visit_decline_any (j := pjAt J.fp ps J.ss l) (hP.dec l hl1 hlj) false .ok⟩
      · obtain rfl : l = j := by omega
        exact ⟨ev, visit_decline_any (j := pjAt J.fp ps J.ss l) hstop false .ok⟩
    have hcy := cycleBehind_cases hP.lt (.dx 0)
    refine ⟨_, _, ps', rfl, ngood_after hN rfl rfl hN.op hvr ?_ hN.gc, rfl,
      Or.inr (Or.inr ⟨rfl, i, j, hc, hP.le, hP.lt, hvr, ?_⟩)⟩
    · rcases hcy with ⟨h1, h2⟩ | ⟨_, h2⟩
      · exact Or.inr ⟨j + 1, h2, h1⟩
      · exact Or.inr ⟨0, h2, hN.pos⟩
    · rcases hcy with ⟨h1, h2⟩ | ⟨h1, h2⟩
      · exact Or.inl ⟨h1, h2⟩
      · exact Or.inr ⟨h1, Or.inr h2⟩
  | exchange i j ps' h pdu p2 s2 ev o m' hc hP hsend hvis hexp htx hslots hop hgc hcy hev =>
    have hj' : j < ps'.length := by rw [hP.len]; exact hP.lt
    have hjs : j < J.ss.length := by rw [hN.len]; exact hP.lt
    simp only [reduceCtorEq, decide_false] at hvis
    -- the reply arrives (`replyOk` of the certificate, through `quiet_reply`)
    have hgot : (Delivery.ok.deliver ((J.ss.getD j default).receive h pdu).2).isSome = true :=
      quiet_reply (j := pjAt J.fp ps J.ss j) (hN.ok j hP.lt).1 (hN.ok j hP.lt).2 hsend
    rw [hgot] at hcy
    simp only [if_true] at hcy
    have hvr : VisitedRange J.fp ps J.ss (ps'.set j p2) (J.ss.set j s2) i (j + 1) := by
      refine ⟨by simp [hP.len], by simp, ?_, ?_⟩
      · intro l hl1 hl2
        by_cases hlj : l < j
        · refine ⟨none, ?_⟩
          rw [visit_decline_any (j := pjAt J.fp ps J.ss l) (hP.dec l hl1 hlj) false .ok]
          simp only [pjAt, getD_set_ne p2 (show l ≠ j by omega), getD_set_ne s2 (show l ≠ j by omega)]
        · obtain rfl : l = j := by omega
          exact ⟨ev, by rw [hvis]; simp only [pjAt, getD_set_eq p2 hj', getD_set_eq s2 hjs]⟩
      · intro l hl'
        have hne : l ≠ j := by have := hP.le; omega
        exact ⟨by rw [getD_set_ne p2 hne]; exact hP.out l (by omega), getD_set_ne s2 hne⟩
    have hcy' : (j + 1 < ps.length ∧ m'.cycle = .dx (j + 1)) ∨ (j + 1 = ps.length ∧ m'.cycle = .completed) := by
      rw [hcy]; exact cycleBehind_cases hP.lt .completed
    have hb : o.isBroadcast = false := by simp [TurnObs.isBroadcast, hexp]
    refine ⟨_, o, ps'.set j p2, rfl, ngood_after hN rfl hslots hop hvr ?_ (by rw [hgc]; exact hN.gc), rfl,
      Or.inr (Or.inr ⟨hb, i, j, hc, hP.le, hP.lt, hvr, ?_⟩)⟩
    · rcases hcy' with ⟨h1, h2⟩ | ⟨_, h2⟩
      · exact Or.inr ⟨j + 1, h2, h1⟩
      · exact Or.inl h2
    · rcases hcy' with ⟨h1, h2⟩ | ⟨h1, h2⟩
      · exact Or.inl ⟨h1, h2⟩
      · exact Or.inr ⟨h1, Or.inl h2⟩

end PV.Live
