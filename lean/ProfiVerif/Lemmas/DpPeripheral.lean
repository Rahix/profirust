/-
One peripheral of the DP master (`Model/Dp/Peripheral.lean`) case by case: `receive_reply` in closed form (`RxSpec`)
for a peripheral satisfying `PInv`; `transmit_telegram` has its closed form `TxSpec` in `Lemmas/DpBytes.lean`, which
holds under `PInv` (`tx_spec`).  Both keep `PInv`.
-/
import ProfiVerif.Lemmas.Diag
import ProfiVerif.Lemmas.DpBytes

namespace PV.Dp
open PV

/-- `FrameCountBit::cycle` as a total function (identity on `Inactive`, where the code panics). -/
def cyc : FrameCountBit → FrameCountBit
  | .first => .low | .high => .low | .low => .high | .inactive => .inactive

theorem cycle_eq {f : FrameCountBit} (h : f ≠ .inactive) : f.cycle = some (cyc f) := by
  cases f <;> simp_all [FrameCountBit.cycle, cyc]

theorem cyc_ne_inactive {f : FrameCountBit} (h : f ≠ .inactive) : cyc f ≠ .inactive := by
  cases f <;> simp_all [cyc]

theorem cyc_ne_self {f : FrameCountBit} (h : f ≠ .inactive) : cyc f ≠ f := by
  cases f <;> simp_all [cyc]

theorem cyc_bits {f : FrameCountBit} (h : f ≠ .inactive) : (cyc f).fcv = true ∧ (cyc f).fcb = !f.fcb := by
  cases f <;> simp_all [cyc, FrameCountBit.fcv, FrameCountBit.fcb]

/-- Parameters the properties quantify over (`ParametersBuilder`: retry limit 1..15). -/
structure FpOk (fp : FdlParams) : Prop where
  retry_lo : 1 ≤ fp.maxRetry
  retry_hi : fp.maxRetry ≤ 15
  slot : fp.slotUs * 50 < 2 ^ 64
  addr : fp.address < 128

/-- `retry_le`: a request goes out while `retry_count ≤ max_retry_limit` and counts up, so `limit + 1` is reached after
the last transmission; the next turn declares the peripheral offline and resets the counter.  `off_retry`: an offline
peripheral is probed at 0 only (then 1, and the next turn resets it), so with a limit ≥ 1 it never exceeds the limit:
the Offline event is raised for live peripherals only.  The length bounds are those of `Sendable`. -/
structure PInv (fp : FdlParams) (p : Peripheral) : Prop where
  retry_le : p.retry ≤ fp.maxRetry + 1
  off_retry : p.state = .offline → p.retry ≤ 1
  fcb : p.fcb ≠ .inactive
  ext : p.diag.ext.Valid
  prm : ∀ up, p.opts.userPrm = some up → up.length ≤ 237
  cfg : ∀ c, p.opts.config = some c → c.length ≤ 244
  piq : p.piQ.length ≤ 244
  addr : p.address < 128

theorem pinv_new (fp : FdlParams) (a : UInt8) (o : Options) (i q : Bytes) (d : Nat)
    (hp : ∀ up, o.userPrm = some up → up.length ≤ 237) (hc : ∀ c, o.config = some c → c.length ≤ 244)
    (hq : q.length ≤ 244) (ha : a < 128) : PInv fp (Peripheral.new a o i q d) where
  retry_le := by simp [Peripheral.new]
  off_retry := by simp [Peripheral.new]
  fcb := by simp [Peripheral.new]
  ext := by simp [Peripheral.new, Diag.PState.init, Diag.valid_ofSize]
  prm := hp
  cfg := hc
  piq := hq
  addr := ha

def pduOf : Telegram → Bytes
  | .data _ pdu => pdu
  | _ => []

/-- `diag` / `ext_diag` after an accepted diagnostics reply (C17: `handle_spec`). -/
def diagAfter (d : Diag.PState) (t : Telegram) : Diag.PState :=
  { info := some (Diag.infoOf (pduOf t)),
    ext := if Diag.Spec.extFlag (pduOf t) then (d.ext.fill ((pduOf t).drop 6)).1 else d.ext }

def flagsOf (t : Telegram) : UInt16 := (Diag.infoOf (pduOf t)).flags

theorem diagAfter_valid {d : Diag.PState} (hv : d.ext.Valid) (t : Telegram) : (diagAfter d t).ext.Valid := by
  unfold diagAfter
  simp only
  split
  · exact (Diag.fill_valid hv _).1
  · exact hv

theorem handleDiag_spec (p : Peripheral) (hv : p.diag.ext.Valid) (hf : p.fcb ≠ .inactive) (t : Telegram) :
    p.handleDiag t =
      if Diag.Spec.accepts t then .accepted { p with diag := diagAfter p.diag t, fcb := cyc p.fcb } (flagsOf t)
      else .rejected := by
  unfold Peripheral.handleDiag
  rw [Diag.handle_spec p.diag hv t]
  cases t with
  | token da sa => simp [Diag.Spec.accepts]
  | sc => simp [Diag.Spec.accepts]
  | data h pdu =>
    by_cases ha : Diag.Spec.accepts (.data h pdu) = true
    · simp only [ha, if_true, cycle_eq hf]
      rfl
    · simp [ha]

/-- Replies the FDL station may hand to `receive_reply` (C15): a short confirmation or a data
telegram with a *response* function code. -/
def RxOk : Telegram → Prop
  | .sc => True
  | .data h _ => ∃ st ss, h.fc = .response st ss
  | .token _ _ => False

def dataOkStatus : ResponseStatus → Bool
  | .ok | .dataLow | .dataHigh => true
  | _ => false

/-- `receive_reply` case by case (for a peripheral satisfying `PInv` and a reply the contract allows). -/
inductive RxSpec : Peripheral → Telegram → Peripheral → Option PEvent → Prop
  | offAcc (p t) : p.state = .offline → Diag.Spec.accepts t = true →
      RxSpec p t { p with diag := diagAfter p.diag t, fcb := cyc p.fcb, retry := 0, state := .waitForParam } (some .online)
  | offRej (p t) : p.state = .offline → Diag.Spec.accepts t = false → RxSpec p t p none
  | prmSc (p) : p.state = .waitForParam →
      RxSpec p .sc { p with fcb := cyc p.fcb, state := .waitForConfig, retry := 0 } none
  | prmRej (p t) : p.state = .waitForParam → t ≠ .sc → RxSpec p t p none
  | cfgSc (p) : p.state = .waitForConfig →
      RxSpec p .sc { p with fcb := cyc p.fcb, state := .validateConfig, retry := 0 } none
  | cfgRej (p t) : p.state = .waitForConfig → t ≠ .sc → RxSpec p t p none
  | valRej (p t) : p.state = .validateConfig → Diag.Spec.accepts t = false →
      RxSpec p t { p with retry := 0 } none
  | valPrmFault (p t) : p.state = .validateConfig → Diag.Spec.accepts t = true →
      flagsOf t &&& PARAMETER_FAULT ≠ 0 →
      RxSpec p t { p with retry := 0, diag := diagAfter p.diag t, fcb := cyc p.fcb, state := .offline } (some .parameterError)
  | valCfgFault (p t) : p.state = .validateConfig → Diag.Spec.accepts t = true →
      flagsOf t &&& PARAMETER_FAULT = 0 → flagsOf t &&& CONFIGURATION_FAULT ≠ 0 →
      RxSpec p t { p with retry := 0, diag := diagAfter p.diag t, fcb := cyc p.fcb, state := .offline } (some .configError)
  | valPrmReq (p t) : p.state = .validateConfig → Diag.Spec.accepts t = true →
      flagsOf t &&& PARAMETER_FAULT = 0 → flagsOf t &&& CONFIGURATION_FAULT = 0 →
      flagsOf t &&& PARAMETER_REQUIRED ≠ 0 →
      RxSpec p t { p with retry := 0, diag := diagAfter p.diag t, fcb := cyc p.fcb, state := .waitForParam } none
  | valReady (p t) : p.state = .validateConfig → Diag.Spec.accepts t = true →
      flagsOf t &&& PARAMETER_FAULT = 0 → flagsOf t &&& CONFIGURATION_FAULT = 0 →
      flagsOf t &&& PARAMETER_REQUIRED = 0 → flagsOf t &&& STATION_NOT_READY = 0 →
      RxSpec p t { p with retry := 0, diag := diagAfter p.diag t, fcb := cyc p.fcb, state := .preDataExchange } (some .configured)
  | valNotReady (p t) : p.state = .validateConfig → Diag.Spec.accepts t = true →
      flagsOf t &&& PARAMETER_FAULT = 0 → flagsOf t &&& CONFIGURATION_FAULT = 0 →
      flagsOf t &&& PARAMETER_REQUIRED = 0 → flagsOf t &&& STATION_NOT_READY ≠ 0 →
      RxSpec p t { p with retry := 0, diag := diagAfter p.diag t, fcb := cyc p.fcb } none
  | dxDiagAcc (p t) : (p.state = .preDataExchange ∨ p.state = .dataExchange) → p.diagInFlight = true →
      Diag.Spec.accepts t = true →
      RxSpec p t { p with diag := diagAfter p.diag t, fcb := cyc p.fcb, retry := 0, diagNeeded := false } (some .diagnostics)
  | dxDiagRej (p t) : (p.state = .preDataExchange ∨ p.state = .dataExchange) → p.diagInFlight = true →
      Diag.Spec.accepts t = false → RxSpec p t p none
  | dxScData (p) : (p.state = .preDataExchange ∨ p.state = .dataExchange) → p.diagInFlight = false →
      p.piI.length ≠ 0 → RxSpec p .sc { p with retry := 0, fcb := cyc p.fcb } none
  | dxScOk (p) : (p.state = .preDataExchange ∨ p.state = .dataExchange) → p.diagInFlight = false →
      p.piI.length = 0 →
      RxSpec p .sc { p with state := .dataExchange, retry := 0, fcb := cyc p.fcb } (some .dataExchanged)
  | dxSapNotEnabled (p h pdu st) : (p.state = .preDataExchange ∨ p.state = .dataExchange) →
      p.diagInFlight = false → h.fc = .response st .sapNotEnabled →
      RxSpec p (.data h pdu) { p with state := .validateConfig, retry := 0, fcb := cyc p.fcb } none
  | dxOther (p h pdu st ss) : (p.state = .preDataExchange ∨ p.state = .dataExchange) →
      p.diagInFlight = false → h.fc = .response st ss → dataOkStatus ss = false → ss ≠ .sapNotEnabled →
      RxSpec p (.data h pdu) { p with retry := 0, fcb := cyc p.fcb } none
  | dxSaps (p h pdu st ss) : (p.state = .preDataExchange ∨ p.state = .dataExchange) →
      p.diagInFlight = false → h.fc = .response st ss → dataOkStatus ss = true →
      (h.dsap ≠ none ∨ h.ssap ≠ none) →
      RxSpec p (.data h pdu)
        { p with diagNeeded := if ss = .dataHigh then true else p.diagNeeded, retry := 0, fcb := cyc p.fcb } none
  | dxLen (p h pdu st ss) : (p.state = .preDataExchange ∨ p.state = .dataExchange) →
      p.diagInFlight = false → h.fc = .response st ss → dataOkStatus ss = true →
      h.dsap = none → h.ssap = none → pdu.length ≠ p.piI.length →
      RxSpec p (.data h pdu)
        { p with diagNeeded := if ss = .dataHigh then true else p.diagNeeded, retry := 0, fcb := cyc p.fcb } none
  | dxData (p h pdu st ss) : (p.state = .preDataExchange ∨ p.state = .dataExchange) →
      p.diagInFlight = false → h.fc = .response st ss → dataOkStatus ss = true →
      h.dsap = none → h.ssap = none → pdu.length = p.piI.length →
      RxSpec p (.data h pdu)
        { p with diagNeeded := if ss = .dataHigh then true else p.diagNeeded, piI := pdu, state := .dataExchange,
                 retry := 0, fcb := cyc p.fcb } (some .dataExchanged)

theorem rx_spec_dx {fp : FdlParams} {p : Peripheral} (hI : PInv fp p) {t : Telegram} (ht : RxOk t)
    (hs : p.state = .preDataExchange ∨ p.state = .dataExchange) :
    ∃ p' ev, p.receiveReply t = .ok p' ev ∧ RxSpec p t p' ev := by
  have hd := handleDiag_spec p hI.ext hI.fcb t
  have hc := cycle_eq hI.fcb
  obtain ⟨address, state, retry, fcb, piI, piQ, diag, diagNeeded, diagInFlight, opts⟩ := p
  simp only at hd hc hs
  rcases hs with rfl | rfl
  all_goals
    unfold Peripheral.receiveReply
    simp only [hd]
    cases diagInFlight with
    | true =>
      cases ha : Diag.Spec.accepts t with
      | true => exact ⟨_, _, rfl, .dxDiagAcc _ t (by simp) rfl ha⟩
      | false => exact ⟨_, _, rfl, .dxDiagRej _ t (by simp) rfl ha⟩
    | false =>
      simp only [Bool.false_eq_true, if_false]
      cases t with
      | token a b => exact absurd ht (by simp [RxOk])
      | sc =>
        by_cases hl : piI.length ≠ 0
        · simp only [hl, if_true, ne_eq, not_false_eq_true, Peripheral.dxDone, hc]
          exact ⟨_, _, rfl, .dxScData _ (by simp) rfl hl⟩
        · have hl' : piI.length = 0 := by simpa using hl
          simp only [hl', ne_eq, not_true_eq_false, if_false, Peripheral.dxDone, hc]
          exact ⟨_, _, rfl, .dxScOk _ (by simp) rfl hl'⟩
      | data h pdu =>
        obtain ⟨st, ss, hfc⟩ := ht
        simp only [hfc]
        cases ss with
        | sapNotEnabled =>
          simp only [Peripheral.dxDone, hc, Bool.false_and, Bool.false_eq_true, if_false]
          exact ⟨_, _, rfl, .dxSapNotEnabled _ h pdu st (by simp) rfl hfc⟩
        | userError | noResources | noDataReady | notReceivedDataLow | notReceivedDataHigh =>
          simp only [Peripheral.dxDone, hc, Bool.false_and, Bool.false_eq_true, if_false]
          exact ⟨_, _, rfl, .dxOther _ h pdu st _ (by simp) rfl hfc rfl (by simp)⟩
        | ok | dataLow | dataHigh =>
          simp only [Bool.true_and]
          by_cases hsap : (h.dsap != SAP_DATA_EXCHANGE || h.ssap != SAP_DATA_EXCHANGE) = true
          · simp only [hsap, if_true, Peripheral.dxDone, hc]
            have hs2 : h.dsap ≠ none ∨ h.ssap ≠ none := by
              simpa [SAP_DATA_EXCHANGE] using hsap
            exact ⟨_, _, rfl, .dxSaps _ h pdu st _ (by simp) rfl hfc rfl hs2⟩
          · have hs2 : h.dsap = none ∧ h.ssap = none := by
              simpa [SAP_DATA_EXCHANGE] using hsap
            simp only [hsap, Bool.false_eq_true, if_false, if_true]
            by_cases hl : pdu.length = piI.length
            · simp only [hl, if_true, Peripheral.dxDone, hc]
              exact ⟨_, _, rfl, .dxData _ h pdu st _ (by simp) rfl hfc rfl hs2.1 hs2.2 hl⟩
            · simp only [hl, if_false, Peripheral.dxDone, hc]
              exact ⟨_, _, rfl, .dxLen _ h pdu st _ (by simp) rfl hfc rfl hs2.1 hs2.2 hl⟩


theorem rx_spec {fp : FdlParams} {p : Peripheral} (hI : PInv fp p) {t : Telegram} (ht : RxOk t) :
    ∃ p' ev, p.receiveReply t = .ok p' ev ∧ RxSpec p t p' ev := by
  have hI0 := hI
  have hd := handleDiag_spec p hI.ext hI.fcb t
  have hd0 := handleDiag_spec { p with retry := 0 } hI.ext hI.fcb t
  have hc := cycle_eq hI.fcb
  obtain ⟨address, state, retry, fcb, piI, piQ, diag, diagNeeded, diagInFlight, opts⟩ := p
  simp only at hd hd0 hc
  cases state with
  | offline =>
    unfold Peripheral.receiveReply; simp only [hd]
    cases ha : Diag.Spec.accepts t with
    | true => exact ⟨_, _, rfl, .offAcc _ t rfl ha⟩
    | false => exact ⟨_, _, rfl, .offRej _ t rfl ha⟩
  | waitForParam =>
    cases t with
    | sc => unfold Peripheral.receiveReply; simp only [hc]; exact ⟨_, _, rfl, .prmSc _ rfl⟩
    | data h pdu => exact ⟨_, _, rfl, .prmRej _ _ rfl (by simp)⟩
    | token a b => exact ⟨_, _, rfl, .prmRej _ _ rfl (by simp)⟩
  | waitForConfig =>
    cases t with
    | sc => unfold Peripheral.receiveReply; simp only [hc]; exact ⟨_, _, rfl, .cfgSc _ rfl⟩
    | data h pdu => exact ⟨_, _, rfl, .cfgRej _ _ rfl (by simp)⟩
    | token a b => exact ⟨_, _, rfl, .cfgRej _ _ rfl (by simp)⟩
  | validateConfig =>
    unfold Peripheral.receiveReply; simp only [hd0]
    cases ha : Diag.Spec.accepts t with
    | false => exact ⟨_, _, rfl, .valRej _ t rfl ha⟩
    | true =>
      simp only [if_true]
      -- the chain of flag tests, in the order of the code
      split
      · rename_i h1
        exact ⟨_, _, rfl, .valPrmFault _ t rfl ha h1⟩
      · rename_i h1
        have h1' := Decidable.of_not_not h1
        split
        · rename_i h2
          exact ⟨_, _, rfl, .valCfgFault _ t rfl ha h1' h2⟩
        · rename_i h2
          have h2' := Decidable.of_not_not h2
          split
          · rename_i h3
            exact ⟨_, _, rfl, .valPrmReq _ t rfl ha h1' h2' h3⟩
          · rename_i h3
            have h3' := Decidable.of_not_not h3
            split
            · rename_i h4
              exact ⟨_, _, rfl, .valReady _ t rfl ha h1' h2' h3' h4⟩
            · rename_i h4
              exact ⟨_, _, rfl, .valNotReady _ t rfl ha h1' h2' h3' h4⟩
  | preDataExchange => exact rx_spec_dx hI0 ht (Or.inl rfl)
  | dataExchange => exact rx_spec_dx hI0 ht (Or.inr rfl)


theorem pinv_sendable {fp : FdlParams} (hfp : FpOk fp) {p : Peripheral} (hI : PInv fp p)
    (hr : p.retry ≤ fp.maxRetry) : p.Sendable fp :=
  ⟨hr, by have := hfp.retry_hi; omega, hI.addr, hfp.addr, hI.prm, hI.cfg, hI.piq⟩

theorem tx_spec {fp : FdlParams} (hfp : FpOk fp) {op : OpState} (hop : op ≠ .stop) {p : Peripheral}
    (hI : PInv fp p) : TxSpec fp op p (p.transmit fp op) := by
  by_cases hr : fp.maxRetry < p.retry
  · exact tx_spec_of_sendable hop (.inl hr)
  · exact tx_spec_of_sendable hop (.inr (pinv_sendable hfp hI (by omega)))

def PTx.after : PTx → Option Peripheral
  | .send p _ _ => some p
  | .decline p _ => some p
  | .panic => none

theorem tx_pinv {fp : FdlParams} {op : OpState} {p : Peripheral} {r : PTx}
    (h : TxSpec fp op p r) (hI : PInv fp p) : ∃ p', r.after = some p' ∧ PInv fp p' := by
  cases h with
  | goOffline hr =>
    exact ⟨_, rfl, ⟨by simp, by simp, by simp, hI.ext, hI.prm, hI.cfg, hI.piq, hI.addr⟩⟩
  | probe hr hs h0 =>
    exact ⟨_, rfl, ⟨by simp, by simp, hI.fcb, hI.ext, hI.prm, hI.cfg, hI.piq, hI.addr⟩⟩
  | probeWait hr hs h0 =>
    exact ⟨_, rfl, ⟨by simp, by simp, hI.fcb, hI.ext, hI.prm, hI.cfg, hI.piq, hI.addr⟩⟩
  | setPrm up hr hs hu =>
    exact ⟨_, rfl, ⟨by simp; omega, by simp [hs], hI.fcb, hI.ext, hI.prm, hI.cfg, hI.piq, hI.addr⟩⟩
  | noPrm hr hs hu =>
    exact ⟨_, rfl, ⟨by simp, by simp, hI.fcb, hI.ext, hI.prm, hI.cfg, hI.piq, hI.addr⟩⟩
  | chkCfg c hr hs hu =>
    exact ⟨_, rfl, ⟨by simp; omega, by simp [hs], hI.fcb, hI.ext, hI.prm, hI.cfg, hI.piq, hI.addr⟩⟩
  | noCfg hr hs hu =>
    exact ⟨_, rfl, ⟨by simp, by simp, hI.fcb, hI.ext, hI.prm, hI.cfg, hI.piq, hI.addr⟩⟩
  | validate hr hs =>
    exact ⟨_, rfl, ⟨by simp; omega, by simp [hs], hI.fcb, hI.ext, hI.prm, hI.cfg, hI.piq, hI.addr⟩⟩
  | dxDiag hr hs hd =>
    refine ⟨_, rfl, ⟨by simp; omega, ?_, hI.fcb, hI.ext, hI.prm, hI.cfg, hI.piq, hI.addr⟩⟩
    rcases hs with hs | hs <;> simp [hs]
  | dx hr hs hd =>
    refine ⟨_, rfl, ⟨by simp; omega, ?_, hI.fcb, hI.ext, hI.prm, hI.cfg, hI.piq, hI.addr⟩⟩
    rcases hs with hs | hs <;> simp [hs]

theorem rx_pinv {fp : FdlParams} {p p' : Peripheral} {t : Telegram} {ev : Option PEvent}
    (h : RxSpec p t p' ev) (hI : PInv fp p) : PInv fp p' := by
  have hc := cyc_ne_inactive hI.fcb
  have hv := diagAfter_valid hI.ext t
  -- a case leaves `p` as it is, or sets `retry := 0` (both retry bounds are then trivial) — alone, with the bit cycled
  -- (`hc`), or with the bit cycled and the diagnostics refilled (`hv`); nothing else `PInv` speaks of changes
  cases h <;>
    first
    | exact hI
    | exact ⟨by simp, by simp, hc, hv, hI.prm, hI.cfg, hI.piq, hI.addr⟩
    | exact ⟨by simp, by simp, hc, hI.ext, hI.prm, hI.cfg, hI.piq, hI.addr⟩
    | exact ⟨by simp, by simp, hI.fcb, hI.ext, hI.prm, hI.cfg, hI.piq, hI.addr⟩

end PV.Dp
