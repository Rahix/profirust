/-
One poll of the DP master (`Master.transmit`, `Model/Dp/Master.lean`): the master invariant `MInv`, one loop iteration
by what the peripheral under the cycle index answers (`visit_cases`), the loop unrolled (`ReachV`, `txVisits_reachV`,
`txLoop_no_hang`), what the iterations that move on leave behind (`Declined`) — and the loop in closed form,
`loop_spec`: started with the cycle index at the occupied slot `o` it visits exactly the occupied slots from `o` to
the slot `e` that ends it (`Passed`), and the peripheral in `e` decides the outcome.  `IdleEnd` lists the ways a poll
ends without telegram and without event.
-/
import ProfiVerif.Lemmas.DpSlots
import ProfiVerif.Lemmas.DpPeripheral

namespace PV.Dp
open PV

/-- `op`: the properties are about the master in Operate (`enter_state` of any other state is `todo!()` in the source).  `len`:
`PeripheralSet` holds at most 256 peripherals, so a slot index always converts to the `u8` of a handle
(`getAtIndex_eq`, `nextCycle_eq`). -/
structure MInv (fp : FdlParams) (m : Master) : Prop where
  op : m.op = .operate
  len : m.slots.length ≤ 256
  pinv : ∀ (i : Nat) (p : Peripheral), m.slots[i]? = some (some p) → PInv fp p

theorem minv_set {fp : FdlParams} {m : Master} (hM : MInv fp m) {i : Nat} {q : Peripheral}
    (hq : PInv fp q) (m' : Master) (hop : m'.op = m.op) (hs : m'.slots = m.slots.set i (some q)) :
    MInv fp m' where
  op := by rw [hop]; exact hM.op
  len := by rw [hs, List.length_set]; exact hM.len
  pinv := by
    rw [hs]
    exact set_pres (fun _ p => PInv fp p) (fun _ p => PInv fp p) hM.pinv hq (fun _ _ _ h => h)

/-- The events a declining peripheral leaves in `last_events`, and where the cycle goes. -/
def afterDecline (m : Master) (index i : Nat) (p p' : Peripheral) (ev : Option PEvent) : Master :=
  let slots' := m.slots.set i (some p')
  match nextSlot m.slots index, ev with
  | some n, some e =>
    { m with slots := slots', cycle := .dx n,
             lastEvents := { cycleCompleted := false, peripheral := some { index := i, address := p.address, ev := e } } }
  | none, some e =>
    { m with slots := slots', cycle := .dx 0,
             lastEvents := { cycleCompleted := true, peripheral := some { index := i, address := p.address, ev := e } } }
  | some n, none => { m with slots := slots', cycle := .dx n }
  | none, none => { m with slots := slots', cycle := .dx 0, lastEvents := { cycleCompleted := true } }

theorem afterDecline_slots (m : Master) (index i : Nat) (p p' : Peripheral) (ev : Option PEvent) :
    (afterDecline m index i p p' ev).slots = m.slots.set i (some p') := by
  unfold afterDecline
  cases nextSlot m.slots index <;> cases ev <;> rfl

theorem afterDecline_op (m : Master) (index i : Nat) (p p' : Peripheral) (ev : Option PEvent) :
    (afterDecline m index i p p' ev).op = m.op := by
  unfold afterDecline
  cases nextSlot m.slots index <;> cases ev <;> rfl

theorem afterDecline_lastGc (m : Master) (index i : Nat) (p p' : Peripheral) (ev : Option PEvent) :
    (afterDecline m index i p p' ev).lastGc = m.lastGc := by
  unfold afterDecline
  cases nextSlot m.slots index <;> cases ev <;> rfl

theorem afterDecline_event (m : Master) (index i : Nat) (p p' : Peripheral) (e : PEvent) :
    (afterDecline m index i p p' (some e)).lastEvents.peripheral = some { index := i, address := p.address, ev := e } := by
  unfold afterDecline
  cases nextSlot m.slots index <;> rfl

theorem visit_eq {fp : FdlParams} {m : Master} (hM : MInv fp m) (index : Nat) :
    m.visit fp index =
      match curSlot m.slots index with
      | none => .empty { m with cycle := .dx 0, lastEvents := { cycleCompleted := true } }
      | some (i, p) =>
        match p.transmit fp m.op with
        | .panic => .panic
        | .send p' h pdu => .send i { m with slots := m.slots.set i (some p'), lastEvents := {} } h pdu
        | .decline p' (some ev) => .event i (afterDecline m index i p p' (some ev))
        | .decline p' none =>
          match nextSlot m.slots index with
          | some _ => .next i (afterDecline m index i p p' none)
          | none => .last i (afterDecline m index i p p' none) := by
  unfold Master.visit
  rw [getAtIndex_eq hM.len]
  cases hc : curSlot m.slots index with
  | none => rfl
  | some ip =>
    obtain ⟨i, p⟩ := ip
    have hi := (curSlot_spec hc).2.2.1
    simp only
    cases ht : p.transmit fp m.op with
    | panic => rfl
    | send p' h pdu => rfl
    | decline p' ev =>
      have hl : (m.slots.set i (some p')).length ≤ 256 := by rw [List.length_set]; exact hM.len
      cases ev with
      | some e =>
        simp only [nextCycle_eq hl, nextSlot_set hi, afterDecline]
        cases nextSlot m.slots index <;> rfl
      | none =>
        simp only [nextCycle_eq hl, nextSlot_set hi, afterDecline]
        cases nextSlot m.slots index <;> rfl


theorem decline_none {fp : FdlParams} {op : OpState} {p p' : Peripheral}
    (h : TxSpec fp op p (.decline p' none)) : p' = { p with retry := 0 } := by
  cases h <;> rfl

/-- The only event `transmit_telegram` produces is Offline. -/
theorem decline_event {fp : FdlParams} {op : OpState} {p p' : Peripheral} {ev : PEvent}
    (h : TxSpec fp op p (.decline p' (some ev))) :
    ev = .offline ∧ fp.maxRetry < p.retry ∧ p' = { p with state := .offline, fcb := .first, retry := 0 } := by
  cases h; exact ⟨rfl, by assumption, rfl⟩

/-- Loop iterations that move on, with the slots whose `transmit_telegram` was invoked. -/
inductive ReachV (fp : FdlParams) : Master → Master → List Nat → Prop
  | refl (m : Master) : ReachV fp m m []
  | step {m m' m'' : Master} {index i : Nat} {vs : List Nat} :
      m.cycle = .dx index → m.visit fp index = .next i m' → ReachV fp m' m'' vs → ReachV fp m m'' (i :: vs)

/-- Outcome of a loop iteration that ends the loop. -/
def final (fp : FdlParams) (m : Master) : Option MTx :=
  match m.cycle with
  | .completed => some (.none { m with cycle := .dx 0, lastEvents := {} })
  | .dx index =>
    match m.visit fp index with
    | .panic => some .panic
    | .empty m' => some (.none m')
    | .send _ m' h pdu => some (.send m' h pdu)
    | .event _ m' => some (.none m')
    | .last _ m' => some (.none m')
    | .next _ _ => none

/-- The slots on which the loop of `transmit_telegram` invokes `Peripheral::transmit_telegram`, in
order (mirrors `Master.txLoop`). -/
def txVisits (fp : FdlParams) : Nat → Master → List Nat
  | 0, _ => []
  | fuel + 1, m =>
    match m.cycle with
    | .completed => []
    | .dx index =>
      match m.visit fp index with
      | .panic => []
      | .empty _ => []
      | .send i _ _ _ => [i]
      | .event i _ => [i]
      | .last i _ => [i]
      | .next i m' => i :: txVisits fp fuel m'

/-- The visit that ends the loop, if it is one. -/
def lastVisit (fp : FdlParams) (m : Master) : List Nat :=
  match m.cycle with
  | .completed => []
  | .dx index =>
    match m.visit fp index with
    | .send i _ _ _ => [i]
    | .event i _ => [i]
    | .last i _ => [i]
    | _ => []

/-- The loop unrolled: the iterations that move on, then the one that ends it. -/
theorem txVisits_reachV (fp : FdlParams) : ∀ (fuel : Nat) (m : Master),
    Master.txLoop fp fuel m = .hang ∨
      ∃ m1 vs, ReachV fp m m1 vs ∧ final fp m1 = some (Master.txLoop fp fuel m) ∧
        txVisits fp fuel m = vs ++ lastVisit fp m1 := by
  intro fuel
  induction fuel with
  | zero => intro m; left; rfl
  | succ fuel ih =>
    intro m
    unfold Master.txLoop txVisits
    cases hc : m.cycle with
    | completed => right; exact ⟨m, [], .refl m, by simp [final, hc], by simp [lastVisit, hc]⟩
    | dx index =>
      simp only
      cases hv : m.visit fp index with
      | panic => right; exact ⟨m, [], .refl m, by simp [final, hc, hv], by simp [lastVisit, hc, hv]⟩
      | empty m' => right; exact ⟨m, [], .refl m, by simp [final, hc, hv], by simp [lastVisit, hc, hv]⟩
      | send i m' h pdu => right; exact ⟨m, [], .refl m, by simp [final, hc, hv], by simp [lastVisit, hc, hv]⟩
      | event i m' => right; exact ⟨m, [], .refl m, by simp [final, hc, hv], by simp [lastVisit, hc, hv]⟩
      | last i m' => right; exact ⟨m, [], .refl m, by simp [final, hc, hv], by simp [lastVisit, hc, hv]⟩
      | next i m' =>
        simp only
        rcases ih m' with h | ⟨m1, vs, hr, hf, hvs⟩
        · left; exact h
        · right; exact ⟨m1, i :: vs, .step hc hv hr, hf, by rw [hvs]; rfl⟩

theorem visit_cases {fp : FdlParams} (hfp : FpOk fp) {m : Master} (hM : MInv fp m) {index i : Nat} {p : Peripheral}
    (hc : curSlot m.slots index = some (i, p)) :
    (∃ p' h pdu, p.transmit fp m.op = .send p' h pdu ∧ TxSpec fp m.op p (.send p' h pdu) ∧
      m.visit fp index = .send i { m with slots := m.slots.set i (some p'), lastEvents := {} } h pdu) ∨
    (fp.maxRetry < p.retry ∧
      p.transmit fp m.op = .decline { p with state := .offline, fcb := .first, retry := 0 } (some .offline) ∧
      m.visit fp index =
        .event i (afterDecline m index i p { p with state := .offline, fcb := .first, retry := 0 } (some .offline))) ∨
    (p.transmit fp m.op = .decline { p with retry := 0 } none ∧
      TxSpec fp m.op p (.decline { p with retry := 0 } none) ∧ PInv fp { p with retry := 0 } ∧
      m.visit fp index =
        match nextSlot m.slots index with
        | some _ => .next i (afterDecline m index i p { p with retry := 0 } none)
        | none => .last i (afterDecline m index i p { p with retry := 0 } none)) := by
  have hP := hM.pinv i p (curSlot_spec hc).2.2.1
  have hts := tx_spec hfp (by rw [hM.op]; decide : m.op ≠ .stop) hP
  rw [visit_eq hM, hc]
  simp only
  cases ht : p.transmit fp m.op with
  | panic => rw [ht] at hts; cases hts
  | send p' h pdu => rw [ht] at hts; exact .inl ⟨p', h, pdu, rfl, hts, rfl⟩
  | decline p' ev =>
    rw [ht] at hts
    cases ev with
    | some e =>
      obtain ⟨rfl, hr, rfl⟩ := decline_event hts
      exact .inr (.inl ⟨hr, rfl, rfl⟩)
    | none =>
      have hp' := decline_none hts
      subst hp'
      obtain ⟨q, hq1, hq2⟩ := tx_pinv hts hP
      simp only [PTx.after, Option.some.injEq] at hq1
      subst hq1
      exact .inr (.inr ⟨rfl, hts, hq2, rfl⟩)

theorem next_inv {fp : FdlParams} (hfp : FpOk fp) {m m' : Master} (hM : MInv fp m) {index i : Nat}
    (hv : m.visit fp index = .next i m') :
    ∃ p n, curSlot m.slots index = some (i, p) ∧ nextSlot m.slots index = some n ∧
      p.transmit fp m.op = .decline { p with retry := 0 } none ∧
      m' = { m with slots := m.slots.set i (some { p with retry := 0 }), cycle := .dx n } ∧
      MInv fp m' := by
  cases hc : curSlot m.slots index with
  | none => rw [visit_eq hM, hc] at hv; cases hv
  | some ip =>
    obtain ⟨j, p⟩ := ip
    rcases visit_cases hfp hM hc with ⟨_, _, _, _, _, he⟩ | ⟨_, _, he⟩ | ⟨ht, _, hq, he⟩
    · rw [he] at hv; cases hv
    · rw [he] at hv; cases hv
    · rw [he] at hv
      cases hn : nextSlot m.slots index with
      | none => rw [hn] at hv; cases hv
      | some n =>
        rw [hn] at hv
        simp only [Visit.next.injEq] at hv
        obtain ⟨rfl, rfl⟩ := hv
        refine ⟨p, n, rfl, rfl, ht, by simp [afterDecline, hn], ?_⟩
        exact minv_set (i := j) hM hq _ (afterDecline_op ..) (afterDecline_slots ..)

theorem reach_minv {fp : FdlParams} (hfp : FpOk fp) {m m1 : Master} {vs : List Nat} (hr : ReachV fp m m1 vs)
    (hM : MInv fp m) :
    MInv fp m1 := by
  induction hr with
  | refl => exact hM
  | step hc hv _ ih =>
    obtain ⟨_, _, _, _, _, _, hM'⟩ := next_inv hfp hM hv
    exact ih hM'

/-- F4 / `turn_ends`: with at least `slots.length + 1` iterations the loop never runs out of fuel. -/
theorem txLoop_no_hang {fp : FdlParams} (hfp : FpOk fp) : ∀ (fuel : Nat) (m : Master), MInv fp m →
    1 ≤ fuel → (∀ index, m.cycle = .dx index → m.slots.length < fuel + index) →
    Master.txLoop fp fuel m ≠ .hang := by
  intro fuel
  induction fuel with
  | zero => intro m _ h; omega
  | succ fuel ih =>
    intro m hM _ hlen
    unfold Master.txLoop
    cases hc : m.cycle with
    | completed => simp
    | dx index =>
      simp only
      cases hv : m.visit fp index with
      | next i m' =>
        simp only
        obtain ⟨p, n, hcs, hns, _, hm', hM'⟩ := next_inv hfp hM hv
        obtain ⟨h1, h2, _⟩ := nextSlot_gt hcs hns
        have h0 := (curSlot_spec hcs).1
        have hl := hlen index hc
        have hlen' : m'.slots.length = m.slots.length := by rw [hm']; simp
        apply ih m' hM'
        · omega
        · intro idx hidx
          rw [hm'] at hidx
          simp only [Cycle.dx.injEq] at hidx
          subst hidx
          omega
      | panic => simp
      | empty m' => simp
      | send i m' h pdu => simp
      | event i m' => simp
      | last i m' => simp

/-- The peripheral the cycle index points at. -/
def Master.cur (m : Master) : Option (Nat × Peripheral) :=
  match m.cycle with
  | .dx index => curSlot m.slots index
  | .completed => none

theorem cur_slot {m : Master} {i : Nat} {p : Peripheral} (hc : m.cur = some (i, p)) :
    m.slots[i]? = some (some p) := by
  unfold Master.cur at hc
  cases hcy : m.cycle with
  | completed => rw [hcy] at hc; cases hc
  | dx index => rw [hcy] at hc; exact (curSlot_spec hc).2.2.1

theorem cur_of_set {m : Master} {j : Nat} {p0 q : Peripheral} (hj : m.slots[j]? = some (some p0))
    (m' : Master) (hs : m'.slots = m.slots.set j (some q)) (hc : m'.cycle = m.cycle) :
    m'.cur = m.cur.map fun ip => if ip.1 = j then (ip.1, q) else ip := by
  unfold Master.cur
  rw [hc, hs]
  cases m.cycle with
  | completed => rfl
  | dx index => simp only; rw [curSlot_set hj]

theorem cur_exists_set {m : Master} {j : Nat} {p0 q : Peripheral} (hj : m.slots[j]? = some (some p0))
    (m' : Master) (hs : m'.slots = m.slots.set j (some q)) (hc : m'.cycle = m.cycle)
    (h : ∃ i p, m.cur = some (i, p)) : ∃ i p, m'.cur = some (i, p) := by
  obtain ⟨i, p, h1⟩ := h
  rw [cur_of_set hj m' hs hc, h1]
  exact ⟨_, _, rfl⟩

theorem cur_set {m : Master} {i : Nat} {p p' : Peripheral} (hc : m.cur = some (i, p)) (ev : Events) :
    Master.cur { m with slots := m.slots.set i (some p'), lastEvents := ev } = some (i, p') := by
  rw [cur_of_set (q := p') (cur_slot hc) { m with slots := m.slots.set i (some p'), lastEvents := ev } rfl rfl, hc]
  simp

theorem cur_set_inj {m : Master} {i j : Nat} {p p' q : Peripheral} (hc : m.cur = some (i, p)) {ev : Events}
    (h : Master.cur { m with slots := m.slots.set i (some p'), lastEvents := ev } = some (j, q)) : i = j ∧ p' = q := by
  rw [cur_set hc] at h
  simp only [Option.some.injEq, Prod.mk.injEq] at h
  exact h

theorem cur_set_cases {m : Master} {j : Nat} {p0 q : Peripheral} (hj : m.slots[j]? = some (some p0))
    {i : Nat} {p' : Peripheral} (h : Master.cur { m with slots := m.slots.set j (some q) } = some (i, p')) :
    (i = j ∧ p' = q ∧ m.cur = some (j, p0)) ∨ (i ≠ j ∧ m.cur = some (i, p')) := by
  rw [cur_of_set (q := q) hj { m with slots := m.slots.set j (some q) } rfl rfl] at h
  cases hcur : m.cur with
  | none => rw [hcur] at h; cases h
  | some ip =>
    obtain ⟨i0, p1⟩ := ip
    rw [hcur] at h
    simp only [Option.map_some, Option.some.injEq] at h
    by_cases hij : i0 = j
    · subst hij
      have := cur_slot hcur
      rw [hj] at this
      simp only [Option.some.injEq] at this
      subst this
      simp only [if_true, Prod.mk.injEq] at h
      exact .inl ⟨h.1.symm, h.2.symm, rfl⟩
    · simp only [hij, if_false, Prod.mk.injEq] at h
      obtain ⟨rfl, rfl⟩ := h
      exact .inr ⟨hij, rfl⟩

/-- Instants within ±2⁶² µs: the difference of two of them fits the `i64` of `Instant - Instant` (`gcDue_ok`). -/
def timeB (t : Int) : Prop := -(2:Int)^62 < t ∧ t < (2:Int)^62

/-- `m'` differs from `m` only by peripherals that declined to transmit (`retry_count = 0`, nothing else).
One decline per slot is all there is to record: declining twice leaves what declining once leaves. -/
structure Declined (fp : FdlParams) (m m' : Master) : Prop where
  len : m'.slots.length = m.slots.length
  op : m'.op = m.op
  gc : m'.lastGc = m.lastGc
  slot : ∀ j : Nat, m'.slots[j]? = m.slots[j]? ∨
    ∃ p, m.slots[j]? = some (some p) ∧ TxSpec fp m.op p (.decline { p with retry := 0 } none) ∧
      m'.slots[j]? = some (some { p with retry := 0 })

theorem declined_refl (fp : FdlParams) (m : Master) : Declined fp m m :=
  ⟨rfl, rfl, rfl, fun _ => .inl rfl⟩

theorem declined_trans {fp : FdlParams} {m m' m'' : Master} (h1 : Declined fp m m') (h2 : Declined fp m' m'') :
    Declined fp m m'' := by
  refine ⟨h2.len.trans h1.len, h2.op.trans h1.op, h2.gc.trans h1.gc, fun j => ?_⟩
  rcases h1.slot j with e1 | ⟨p, hp, ht, e1⟩
  · rcases h2.slot j with e2 | ⟨p', hp', ht', e2⟩
    · exact .inl (e2.trans e1)
    · exact .inr ⟨p', by rw [← e1]; exact hp', by rw [← h1.op]; exact ht', e2⟩
  · rcases h2.slot j with e2 | ⟨p', hp', _, e2⟩
    · exact .inr ⟨p, hp, ht, e2.trans e1⟩
    · rw [e1] at hp'
      simp only [Option.some.injEq] at hp'
      subst hp'
      exact .inr ⟨p, hp, ht, e2⟩

theorem declined_step {fp : FdlParams} {m : Master} {i : Nat} {p : Peripheral}
    (hi : m.slots[i]? = some (some p)) (ht : TxSpec fp m.op p (.decline { p with retry := 0 } none))
    (m' : Master) (hs : m'.slots = m.slots.set i (some { p with retry := 0 })) (hop : m'.op = m.op)
    (hgc : m'.lastGc = m.lastGc) : Declined fp m m' := by
  refine ⟨by rw [hs]; simp, hop, hgc, fun j => ?_⟩
  rw [hs, List.getElem?_set]
  by_cases hij : i = j
  · subst hij
    rw [if_pos rfl, if_pos (lt_of_getElem?_some hi)]
    exact .inr ⟨p, hi, ht, rfl⟩
  · rw [if_neg hij]
    exact .inl rfl

theorem reach_declined {fp : FdlParams} (hfp : FpOk fp) {m m1 : Master} {vs : List Nat} (hr : ReachV fp m m1 vs)
    (hM : MInv fp m) :
    Declined fp m m1 := by
  induction hr with
  | refl => exact declined_refl fp _
  | @step m m' m'' index i vs hc hv _ ih =>
    obtain ⟨p, n, hcs, _, ht, hm', hM'⟩ := next_inv hfp hM hv
    have hi := (curSlot_spec hcs).2.2.1
    have hts : TxSpec fp m.op p (.decline { p with retry := 0 } none) := by
      have hop : m.op ≠ .stop := by rw [hM.op]; decide
      have := tx_spec hfp hop (hM.pinv i p hi)
      rw [ht] at this; exact this
    exact declined_trans (declined_step hi hts m' (by rw [hm']) (by rw [hm']) (by rw [hm'])) (ih hM')


theorem declined_back {fp : FdlParams} {m m' : Master} (hD : Declined fp m m') {j : Nat} {p' : Peripheral}
    (hy : m'.slots[j]? = some (some p')) : ∃ p, m.slots[j]? = some (some p) ∧ p' = { p with retry := p'.retry } := by
  rcases hD.slot j with e | ⟨p, hp, _, e⟩
  · exact ⟨p', by rw [← e]; exact hy, rfl⟩
  · rw [e] at hy
    simp only [Option.some.injEq] at hy
    subst hy
    exact ⟨p, hp, rfl⟩


theorem declined_pres {fp : FdlParams} {m m' : Master} (hD : Declined fp m m') (J : Nat → Peripheral → Prop)
    (hstep : ∀ i p, J i p → TxSpec fp m.op p (.decline { p with retry := 0 } none) → J i { p with retry := 0 })
    (hJ : ∀ (i : Nat) (p : Peripheral), m.slots[i]? = some (some p) → J i p) :
    ∀ (i : Nat) (p' : Peripheral), m'.slots[i]? = some (some p') → J i p' := by
  intro i p' hp'
  rcases hD.slot i with e | ⟨p, hp, ht, e⟩
  · exact hJ i p' (by rw [← e]; exact hp')
  · rw [e] at hp'
    simp only [Option.some.injEq] at hp'
    subst hp'
    exact hstep i p (hJ i p hp) ht


theorem gcHeader_serialize (fp : FdlParams) (pdu : Bytes) (h : pdu.length = 2) :
    (gcHeader fp).serialize pdu 256 = .ok (frameSpec (gcHeader fp) pdu) := by
  apply serialize_ok
  simp [Header.lengthByte, Header.saps, gcHeader, SAP_SLAVE_GLOBAL_CONTROL, SAP_MASTER_MS0, h]

theorem gcDue_ok {fp : FdlParams} (hfp : FpOk fp) {now : Int} (hn : timeB now) {last : Option Int}
    (hl : ∀ t, last = some t → timeB t) :
    gcDue fp now last = some (match last with
      | none => true
      | some t => decide ((now - t).natAbs ≥ fp.slotUs * 50)) := by
  cases last with
  | none => rfl
  | some t =>
    have ht := hl t rfl
    unfold timeB at hn ht
    have h1 : i64Ok (now - t) = true := by
      unfold i64Ok; simp only [decide_eq_true_eq]; omega
    have h2 : ¬ (fp.slotUs * 50 ≥ 2 ^ 64) := by have := hfp.slot; omega
    simp [gcDue, h1, h2]

theorem transmit_cases {fp : FdlParams} (hfp : FpOk fp) {m : Master} (hop : m.op = .operate)
    (hgc : ∀ t, m.lastGc = some t → timeB t) {now : Int} (hnow : timeB now) (hp : Bool) :
    (hp = false ∧ gcDue fp now m.lastGc = some true ∧
      Master.transmit fp now hp m = .send { m with lastGc := some now, lastEvents := {} } (gcHeader fp) [0x00, 0x00]) ∨
    ((hp = true ∨ gcDue fp now m.lastGc = some false) ∧
      Master.transmit fp now hp m = Master.txLoop fp (m.slots.length + 1) m) := by
  have hdue := gcDue_ok hfp hnow hgc
  by_cases hg : hp = false ∧ gcDue fp now m.lastGc = some true
  · obtain ⟨hp0, hg1⟩ := hg
    refine .inl ⟨hp0, hg1, ?_⟩
    unfold Master.transmit
    simp only [hop, reduceCtorEq, if_false, hp0, Bool.false_eq_true, hg1, gcPdu]
    rw [gcHeader_serialize fp _ rfl]
  · have hh : hp = true ∨ gcDue fp now m.lastGc = some false := by
      cases hp with
      | true => left; rfl
      | false =>
        right
        rw [hdue] at hg ⊢
        simp only [true_and, Option.some.injEq] at hg ⊢
        simpa using hg
    refine .inr ⟨hh, ?_⟩
    unfold Master.transmit
    simp only [hop, reduceCtorEq, if_false]
    rcases hh with hh | hh
    · simp [hh]
    · cases hp with
      | true => simp
      | false => simp [hh]

theorem visit_len {fp : FdlParams} {m m' : Master} {index i : Nat} {h : Header} {pdu : Bytes}
    (hv : m.visit fp index = .send i m' h pdu) : h.lengthByte pdu.length ≤ 249 := by
  unfold Master.visit at hv
  cases hg : getAtIndex m.slots index with
  | panic => rw [hg] at hv; cases hv
  | ok o =>
    rw [hg] at hv
    cases o with
    | none => cases hv
    | some jp =>
      obtain ⟨j, p⟩ := jp
      simp only at hv
      cases ht : p.transmit fp m.op with
      | panic => rw [ht] at hv; cases hv
      | send p' h' pdu' =>
        rw [ht] at hv
        cases hv
        exact ptransmit_len ht
      | decline p' ev =>
        rw [ht] at hv
        cases ev with
        | some e =>
          simp only at hv
          split at hv <;> cases hv
        | none =>
          simp only at hv
          split at hv
          · cases hv
          · split at hv <;> cases hv

theorem txLoop_len {fp : FdlParams} : ∀ (fuel : Nat) (m m' : Master) (h : Header) (pdu : Bytes),
    Master.txLoop fp fuel m = .send m' h pdu → h.lengthByte pdu.length ≤ 249 := by
  intro fuel
  induction fuel with
  | zero => intro m m' h pdu ht; cases ht
  | succ n ih =>
    intro m m' h pdu ht
    unfold Master.txLoop at ht
    cases hc : m.cycle with
    | completed => rw [hc] at ht; cases ht
    | dx index =>
      rw [hc] at ht
      simp only at ht
      cases hv : m.visit fp index with
      | panic => rw [hv] at ht; cases ht
      | empty m1 => rw [hv] at ht; cases ht
      | event i m1 => rw [hv] at ht; cases ht
      | last i m1 => rw [hv] at ht; cases ht
      | next i m1 => rw [hv] at ht; exact ih m1 m' h pdu ht
      | send i m1 h1 pdu1 =>
        rw [hv] at ht
        cases ht
        exact visit_len hv

theorem transmit_len {fp : FdlParams} {now : Int} {hp : Bool} {m m' : Master} {h : Header} {pdu : Bytes}
    (ht : Master.transmit fp now hp m = .send m' h pdu) : h.lengthByte pdu.length ≤ 249 := by
  unfold Master.transmit at ht
  split at ht
  · cases ht
  · split at ht
    · cases ht
    · split at ht
      · cases ht
      · rename_i pdu0 _
        split at ht
        · cases ht
        · rename_i b hser
          cases ht
          exact serialize_ok_len hser
    · exact txLoop_len _ _ _ _ _ ht

/-- The slots on which `Master.transmit` invokes `Peripheral::transmit_telegram`, in order: those of its loop
(`txVisits`); none when stopped or when the global-control telegram is sent. -/
def visits (fp : FdlParams) (now : Int) (hp : Bool) (m : Master) : List Nat :=
  if m.op = .stop then [] else
  match (if hp then some false else gcDue fp now m.lastGc) with
  | some false => txVisits fp (m.slots.length + 1) m
  | _ => []

theorem visits_cases {fp : FdlParams} {m : Master} {now : Int} {hp : Bool} (hop : m.op = .operate) :
    (hp = false → gcDue fp now m.lastGc = some true → visits fp now hp m = []) ∧
    ((hp = true ∨ gcDue fp now m.lastGc = some false) → visits fp now hp m = txVisits fp (m.slots.length + 1) m) := by
  unfold visits
  simp only [hop, reduceCtorEq, if_false]
  refine ⟨fun hp0 hg => by simp only [hp0, Bool.false_eq_true, if_false, hg], fun hh => ?_⟩
  rcases hh with hh | hh
  · simp [hh]
  · cases hp with
    | true => simp
    | false => simp [hh]

/-- The iterations that move on visit the occupied slots from `o` up to (excluding) the slot `o1` the cycle index ends
at, none skipped, none twice; occupancy never changes. -/
theorem reachV_order {fp : FdlParams} (hfp : FpOk fp) {m m1 : Master} {vs : List Nat}
    (hr : ReachV fp m m1 vs) : MInv fp m → ∀ (index o : Nat) (p : Peripheral), m.cycle = .dx index →
      curSlot m.slots index = some (o, p) →
      (∀ j, occupied m1.slots j = occupied m.slots j) ∧
      (vs = [] → m1 = m) ∧
      (vs ≠ [] → ∃ o1 p1, m1.cycle = .dx o1 ∧ curSlot m1.slots o1 = some (o1, p1) ∧ o < o1 ∧
        vs = occIn m.slots o o1) := by
  induction hr with
  | refl m =>
    intro _ index o p _ _
    exact ⟨fun _ => rfl, fun _ => rfl, fun h => absurd rfl h⟩
  | @step m m' m'' index' i vs hc hv hrest ih =>
    intro hM index o p hcy hcur
    rw [hcy] at hc
    simp only [Cycle.dx.injEq] at hc
    subst hc
    obtain ⟨p0, n, hcs, hns, _, hm', hM'⟩ := next_inv hfp hM hv
    rw [hcur] at hcs
    simp only [Option.some.injEq, Prod.mk.injEq] at hcs
    obtain ⟨rfl, rfl⟩ := hcs
    have hi := (curSlot_spec hcur).2.2.1
    obtain ⟨hon, hnl, q, hcn⟩ := nextSlot_gt hcur hns
    have hocc' : ∀ j, occupied m'.slots j = occupied m.slots j := by
      intro j; rw [hm']; exact occupied_set m.slots hi j
    -- the pointer of m' sits exactly at the occupied slot n
    have hcn' : ∃ q', curSlot m'.slots n = some (n, q') := by
      rw [hm']
      simp only
      rw [curSlot_set hi, hcn]
      simp only [Option.map_some]
      by_cases hno : n = o
      · omega
      · exact ⟨q, by simp [hno]⟩
    obtain ⟨q', hcn''⟩ := hcn'
    have hcy' : m'.cycle = .dx n := by rw [hm']
    obtain ⟨hocc, hnil, hcons⟩ := ih hM' n n q' hcy' hcn''
    have hgap := (nextSlot_is_next hcur hns).2.2
    have hoo := (curSlot_occupied hcur).1
    refine ⟨fun j => (hocc j).trans (hocc' j), (by intro h; cases h), fun _ => ?_⟩
    cases vs with
    | nil =>
      have := hnil rfl
      subst this
      refine ⟨n, q', hcy', hcn'', hon, ?_⟩
      rw [occIn_cons m.slots hoo hon (Nat.le_refl _) hgap]
      simp [occIn, occFrom]
    | cons v vs' =>
      obtain ⟨o1, p1, h1, h2, h3, h4⟩ := hcons (by simp)
      refine ⟨o1, p1, h1, h2, by omega, ?_⟩
      rw [occIn_cons m.slots hoo hon (by omega) hgap, h4]
      simp only [occIn]
      rw [occFrom_congr hocc']

/-- When the loop ends without a telegram (the last peripheral visited declined, with or without
an Offline event), `cycle_completed` is reported exactly when no occupied slot follows it — then the
cycle index wraps to 0; otherwise the index moves to the next occupied slot.  (`afterDecline` is the
master state the loop leaves; without event it only ends the loop when nothing follows, `loop_spec`.) -/
theorem afterDecline_cycle (m1 : Master) (index1 e : Nat) (pe p' : Peripheral) (ev : Option PEvent)
    (hend : ev = none → nextSlot m1.slots index1 = none) :
    ((afterDecline m1 index1 e pe p' ev).lastEvents.cycleCompleted = true ↔ nextSlot m1.slots index1 = none) ∧
    (nextSlot m1.slots index1 = none → (afterDecline m1 index1 e pe p' ev).cycle = .dx 0) ∧
    (∀ n, nextSlot m1.slots index1 = some n → (afterDecline m1 index1 e pe p' ev).cycle = .dx n) := by
  unfold afterDecline
  cases hn : nextSlot m1.slots index1 with
  | none => cases ev <;> simp
  | some n =>
    cases ev with
    | none => rw [hend rfl] at hn; cases hn
    | some e' => simp

/-- The loop of `transmit_telegram`, started with the cycle index `index` at the occupied slot `o`, has reached the
occupied slot `e` (master `m1`, cycle index `index1`): the peripherals in the occupied slots in between declined
and were passed, nothing else changed. -/
structure Passed (fp : FdlParams) (m : Master) (index o : Nat) (m1 : Master) (index1 e : Nat) (pe : Peripheral) : Prop where
  /-- the iterations that moved on, with the slots they visited: the occupied ones from `o` up to (excluding) `e` -/
  reach : ∃ vs, ReachV fp m m1 vs ∧ vs ++ [e] = occIn m.slots o (e + 1)
  decl : Declined fp m m1
  minv : MInv fp m1
  cyc : m1.cycle = .dx index1
  cur : curSlot m1.slots index1 = some (e, pe)
  le : o ≤ e
  idx : (index1 = index ∧ e = o) ∨ index1 = e
  occ : ∀ j, occupied m1.slots j = occupied m.slots j

/-- **The loop.**  Started with the cycle index at the occupied slot `o`, it invokes `Peripheral::transmit_telegram`
on exactly the occupied slots from `o` up to the slot `e` that ends it, and the peripheral in `e` decides the outcome. -/
theorem loop_spec {fp : FdlParams} (hfp : FpOk fp) {m : Master} (hM : MInv fp m) {index o : Nat} {p : Peripheral}
    (hcy : m.cycle = .dx index) (hc : curSlot m.slots index = some (o, p)) :
    ∃ m1 index1 e pe, Passed fp m index o m1 index1 e pe ∧ txVisits fp (m.slots.length + 1) m = occIn m.slots o (e + 1) ∧
      ((∃ p' h pdu, pe.transmit fp m1.op = .send p' h pdu ∧ TxSpec fp .operate pe (.send p' h pdu) ∧
          Master.txLoop fp (m.slots.length + 1) m = .send { m1 with slots := m1.slots.set e (some p'), lastEvents := {} } h pdu) ∨
       (fp.maxRetry < pe.retry ∧
          pe.transmit fp m1.op = .decline { pe with state := .offline, fcb := .first, retry := 0 } (some .offline) ∧
          Master.txLoop fp (m.slots.length + 1) m =
            .none (afterDecline m1 index1 e pe { pe with state := .offline, fcb := .first, retry := 0 } (some .offline))) ∨
       (pe.transmit fp m1.op = .decline { pe with retry := 0 } none ∧
          TxSpec fp .operate pe (.decline { pe with retry := 0 } none) ∧ nextSlot m1.slots index1 = none ∧
          Master.txLoop fp (m.slots.length + 1) m = .none (afterDecline m1 index1 e pe { pe with retry := 0 } none))) := by
  have hnh := txLoop_no_hang hfp (m.slots.length + 1) m hM (by omega) (by intro i _; omega)
  rcases txVisits_reachV fp (m.slots.length + 1) m with hh | ⟨m1, vs, hr, hf, hvis⟩
  · exact absurd hh hnh
  · obtain ⟨hocc, hnil, hcons⟩ := reachV_order hfp hr hM index o p hcy hc
    have hM1 : MInv fp m1 := reach_minv hfp hr hM
    -- where the cycle index stands when the loop ends
    have hptr : ∃ index1 e pe, m1.cycle = .dx index1 ∧ curSlot m1.slots index1 = some (e, pe) ∧ o ≤ e ∧
        ((index1 = index ∧ e = o) ∨ index1 = e) ∧ vs ++ [e] = occIn m.slots o (e + 1) := by
      cases hvs : vs with
      | nil =>
        have := hnil hvs; subst this
        refine ⟨index, o, p, hcy, hc, Nat.le_refl _, .inl ⟨rfl, rfl⟩, ?_⟩
        have hoo := (curSlot_occupied hc).1
        simp [occIn, occFrom, hoo]
      | cons v vs' =>
        obtain ⟨o1, p1, h1, h2, h3, h4⟩ := hcons (by rw [hvs]; simp)
        refine ⟨o1, o1, p1, h1, h2, by omega, .inr rfl, ?_⟩
        have ho1 : occupied m.slots o1 = true := by rw [← hocc]; exact (curSlot_occupied h2).1
        rw [occIn_snoc m.slots (by omega) ho1, ← hvs, h4]
    obtain ⟨index1, e, pe, hcy1, hc1, hoe, hidx, hvse⟩ := hptr
    refine ⟨m1, index1, e, pe, ⟨⟨vs, hr, hvse⟩, reach_declined hfp hr hM, hM1, hcy1, hc1, hoe, hidx, hocc⟩, ?_⟩
    -- the iteration that ends the loop, by what the peripheral in `e` answers
    unfold final at hf
    unfold lastVisit at hvis
    rw [hcy1] at hf hvis
    simp only at hf hvis
    rcases visit_cases hfp hM1 hc1 with ⟨p', h, pdu, htr, hts, he⟩ | ⟨hret, htr, he⟩ | ⟨htr, hts, _, he⟩
    · rw [he] at hf hvis
      simp only [Option.some.injEq] at hf
      rw [hM1.op] at hts
      exact ⟨by rw [hvis, hvse], .inl ⟨p', h, pdu, htr, hts, hf.symm⟩⟩
    · rw [he] at hf hvis
      simp only [Option.some.injEq] at hf
      exact ⟨by rw [hvis, hvse], .inr (.inl ⟨hret, htr, hf.symm⟩)⟩
    · rw [he] at hf hvis
      rw [hM1.op] at hts
      cases hn : nextSlot m1.slots index1 with
      | some n => rw [hn] at hf; cases hf
      | none =>
        rw [hn] at hf hvis
        simp only [Option.some.injEq] at hf
        exact ⟨by rw [hvis, hvse], .inr (.inr ⟨htr, hts, rfl, hf.symm⟩)⟩

/-- How a poll that returns no telegram and reports no peripheral event ended, with the master it leaves and the
slots it visited: the cycle was completed; no peripheral at or behind the cycle index; or the last peripheral declined. -/
inductive IdleEnd (fp : FdlParams) (m : Master) : Master → List Nat → Prop
  | completed : m.cycle = .completed → IdleEnd fp m { m with cycle := .dx 0, lastEvents := {} } []
  | empty (index : Nat) : m.cycle = .dx index → curSlot m.slots index = none →
      IdleEnd fp m { m with cycle := .dx 0, lastEvents := { cycleCompleted := true } } []
  | last (index o : Nat) (p : Peripheral) (m1 : Master) (index1 e : Nat) (pe : Peripheral) :
      m.cycle = .dx index → curSlot m.slots index = some (o, p) → Passed fp m index o m1 index1 e pe →
      TxSpec fp .operate pe (.decline { pe with retry := 0 } none) → nextSlot m1.slots index1 = none →
      IdleEnd fp m (afterDecline m1 index1 e pe { pe with retry := 0 } none) (occIn m.slots o (e + 1))

/-- What the invariants over histories (`Lemmas/Dp.lean` and the files on it) need of such a poll. -/
theorem IdleEnd.coarse {fp : FdlParams} {m m' : Master} {vs : List Nat} (hM : MInv fp m) (h : IdleEnd fp m m' vs) :
    Declined fp m m' ∧ MInv fp m' ∧ m'.lastEvents.peripheral = none := by
  cases h with
  | completed => exact ⟨⟨rfl, rfl, rfl, fun _ => .inl rfl⟩, ⟨hM.op, hM.len, hM.pinv⟩, rfl⟩
  | empty => exact ⟨⟨rfl, rfl, rfl, fun _ => .inl rfl⟩, ⟨hM.op, hM.len, hM.pinv⟩, rfl⟩
  | last index o p m1 index1 e pe hcy hc hP hts hn =>
    have hi := (curSlot_spec hP.cur).2.2.1
    have hts' : TxSpec fp m1.op pe (.decline { pe with retry := 0 } none) := by rw [hP.minv.op]; exact hts
    obtain ⟨q, hq1, hq2⟩ := tx_pinv hts (hP.minv.pinv e pe hi)
    cases hq1
    exact ⟨declined_trans hP.decl (declined_step hi hts' _ (afterDecline_slots ..) (afterDecline_op ..) (afterDecline_lastGc ..)),
      minv_set (i := e) hP.minv hq2 _ (afterDecline_op ..) (afterDecline_slots ..), by simp [afterDecline, hn]⟩

end PV.Dp
