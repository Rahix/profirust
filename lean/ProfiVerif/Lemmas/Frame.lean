/-
The decoder in three stages: the first bytes *announce* a frame length (`announced`), the decoder
*waits* until that many bytes are there, then *judges* the complete frame (`telegram?`).
`decode_normal` is that normal form of `deserialize`.  Read off it here: the three verdicts (`decode_cases`), acceptance
(`decode_accept_iff`), stability under extension (`decode_append`), the single-byte theorem (`data_single_byte`); in
Props/C10: `needMore` per start code and the inversion of acceptance; in Lemmas/Codec: the round trip.
-/
import ProfiVerif.Lemmas.Decoder
namespace PV

/-- The five start codes are distinct (stated in the order the decoder tests them). -/
theorem start_ne : ¬ SD4 = SC ∧ ¬ SD1 = SC ∧ ¬ SD1 = SD4 ∧ ¬ SD2 = SC ∧ ¬ SD2 = SD4 ∧ ¬ SD2 = SD1 ∧
    ¬ SD3 = SC ∧ ¬ SD3 = SD4 ∧ ¬ SD3 = SD1 ∧ ¬ SD3 = SD2 ∧ ¬ SD1 = SD2 := by decide

theorem start_cases (v : UInt8) : v = SC ∨ v = SD4 ∨ v = SD1 ∨ v = SD2 ∨ v = SD3 ∨ NotStartCode v := by
  by_cases a : v = SC; · exact .inl a
  by_cases b : v = SD4; · exact .inr (.inl b)
  by_cases c : v = SD1; · exact .inr (.inr (.inl c))
  by_cases d : v = SD2; · exact .inr (.inr (.inr (.inl d)))
  by_cases e : v = SD3; · exact .inr (.inr (.inr (.inr (.inl e))))
  exact .inr (.inr (.inr (.inr (.inr ⟨a, b, c, d, e⟩))))

/-- A valid SD2 header: LE = LEr ≥ 3 and the repeated start delimiter. -/
def Sd2Ok (bs : Bytes) : Prop := bs.getD 1 0 = bs.getD 2 0 ∧ ¬ (bs.getD 1 0 < 3) ∧ bs.getD 3 0 = SD2

instance (bs : Bytes) : Decidable (Sd2Ok bs) := by unfold Sd2Ok; infer_instance

section
variable {bs : Bytes} (h0 : bs.length ≠ 0)
include h0

theorem announced_sc (h : bs.getD 0 0 = SC) : announced bs = some 1 := by
  simp only [announced, h0, h, if_true, if_false]
theorem announced_sd4 (h : bs.getD 0 0 = SD4) : announced bs = some 3 := by
  simp only [announced, h0, h, start_ne, if_true, if_false]
theorem announced_sd1 (h : bs.getD 0 0 = SD1) : announced bs = some 6 := by
  simp only [announced, h0, h, start_ne, if_true, if_false]
theorem announced_sd3 (h : bs.getD 0 0 = SD3) : announced bs = some 14 := by
  simp only [announced, h0, h, start_ne, if_true, if_false]
theorem announced_sd2 (h : bs.getD 0 0 = SD2) : announced bs =
    if bs.length < 6 then some 6 else if Sd2Ok bs then some ((bs.getD 1 0).toNat + 6) else none := by
  simp only [announced, h0, h, start_ne, if_true, if_false, Sd2Ok]
theorem announced_other (h : NotStartCode (bs.getD 0 0)) : announced bs = none := by
  obtain ⟨a, b, c, d, e⟩ := h
  simp only [announced, h0, a, b, c, d, e, if_false]

theorem announced_sd2_complete {n : Nat} (h : bs.getD 0 0 = SD2) (ha : announced bs = some n) (hn : n ≤ bs.length) :
    Sd2Ok bs ∧ n = (bs.getD 1 0).toNat + 6 ∧ 9 ≤ n := by
  rw [announced_sd2 h0 h] at ha
  split at ha
  · have := Option.some.inj ha; omega
  split at ha
  · next hh =>
    have := Option.some.inj ha
    have := mt UInt8.lt_iff_toNat_lt.mpr hh.2.1
    simp only [UInt8.reduceToNat, Nat.not_lt] at this
    exact ⟨hh, by omega, by omega⟩
  · cases ha
end

/-- Judge of a complete data frame: `b` from its (repeated) start delimiter, `len` announced payload
bytes (incl. SAPs). -/
def frame? (b : Bytes) (len : Nat) : Option Telegram :=
  match FunctionCode.fromByte (b.getD 3 0) with
  | .error _ => none
  | .ok fc =>
    if sapCount b ≤ len ∧ b.getD (len + 4) 0 = checksum ((b.drop 1).take (len + 3)) ∧ b.getD (len + 5) 0 = ED
    then some (.data (headerOf b fc) ((b.drop (4 + sapCount b)).take (len - sapCount b)))
    else none

theorem frame?_eq_some {b : Bytes} {len : Nat} {t : Telegram} :
    frame? b len = some t ↔
      sapCount b ≤ len ∧ b.getD (len + 4) 0 = checksum ((b.drop 1).take (len + 3)) ∧ b.getD (len + 5) 0 = ED ∧
      ∃ fc, FunctionCode.fromByte (b.getD 3 0) = .ok fc ∧
        t = .data (headerOf b fc) ((b.drop (4 + sapCount b)).take (len - sapCount b)) := by
  unfold frame?
  cases FunctionCode.fromByte (b.getD 3 0) with
  | error e => simp
  | ok fc =>
    by_cases h : sapCount b ≤ len ∧ b.getD (len + 4) 0 = checksum ((b.drop 1).take (len + 3)) ∧ b.getD (len + 5) 0 = ED
    · simp only [h, and_self, if_true, Option.some.injEq, Except.ok.injEq, exists_eq_left', true_and]
      exact eq_comm
    · simp only [h, if_false]
      constructor
      · intro h'; cases h'
      · rintro ⟨a, b, c, -⟩; exact absurd ⟨a, b, c⟩ h

theorem bodySpec_eq (b : Bytes) (len total : Nat) :
    bodySpec b len total =
      if b.length < len + 6 then .needMore else
      match frame? b len with
      | none => .reject
      | some t => .accept t total := by
  unfold bodySpec frame?
  split
  · rfl
  · cases FunctionCode.fromByte (b.getD 3 0) with
    | error e => rfl
    | ok fc =>
      simp only
      by_cases h1 : len < sapCount b
      · rw [if_pos h1, if_neg (fun h => absurd h.1 (by omega))]
      · rw [if_neg h1]
        by_cases h2 : b.getD (len + 4) 0 = checksum ((b.drop 1).take (len + 3))
        · by_cases h3 : b.getD (len + 5) 0 = ED
          · rw [if_neg (fun h => h h2), if_neg (fun h => h h3), if_pos ⟨by omega, h2, h3⟩]
          · rw [if_neg (fun h => h h2), if_pos h3, if_neg (fun h => h3 h.2.2)]
        · rw [if_pos h2, if_neg (fun h => h2 h.2.1)]

/-- The telegram in a buffer that holds the complete frame of `n` bytes its head announces. -/
def telegram? (bs : Bytes) (n : Nat) : Option Telegram :=
  if bs.getD 0 0 = SC then some .sc
  else if bs.getD 0 0 = SD4 then some (.token (bs.getD 1 0) (bs.getD 2 0))
  else if bs.getD 0 0 = SD2 then frame? (bs.drop 3) (n - 9)
  else frame? bs (n - 6)

theorem telegram?_sc {bs : Bytes} (n : Nat) (h : bs.getD 0 0 = SC) : telegram? bs n = some .sc := by
  simp only [telegram?, h, if_true]
theorem telegram?_sd4 {bs : Bytes} (n : Nat) (h : bs.getD 0 0 = SD4) :
    telegram? bs n = some (.token (bs.getD 1 0) (bs.getD 2 0)) := by
  simp only [telegram?, h, start_ne, if_true, if_false]
theorem telegram?_sd1 {bs : Bytes} (n : Nat) (h : bs.getD 0 0 = SD1) : telegram? bs n = frame? bs (n - 6) := by
  simp only [telegram?, h, start_ne, if_false]
theorem telegram?_sd3 {bs : Bytes} (n : Nat) (h : bs.getD 0 0 = SD3) : telegram? bs n = frame? bs (n - 6) := by
  simp only [telegram?, h, start_ne, if_false]
theorem telegram?_sd2 {bs : Bytes} (n : Nat) (h : bs.getD 0 0 = SD2) :
    telegram? bs n = frame? (bs.drop 3) (n - 9) := by
  simp only [telegram?, h, start_ne, if_true, if_false]

/-- Stages two and three, for a buffer whose head announces `n` bytes: wait for them, then judge. -/
def verdict (bs : Bytes) (n : Nat) : Decoded :=
  if bs.length < n then .needMore else
  match telegram? bs n with
  | none => .reject
  | some t => .accept t n

theorem decode_normal (bs : Bytes) :
    deserialize bs = match announced bs with
      | none => .reject
      | some n => verdict bs n := by
  rw [decode_eq_spec]
  by_cases h0 : bs.length = 0
  · simp [decodeSpec, announced, verdict, h0]
  unfold decodeSpec dataSpec verdict telegram?
  rw [if_neg h0]
  simp only [bodySpec_eq]
  rcases start_cases (bs.getD 0 0) with s | s | s | s | s | s
  · rw [announced_sc h0 s]
    simp only [s, if_true]
    rw [if_neg (by omega)]
  · rw [announced_sd4 h0 s]
    simp only [s, start_ne, if_true, if_false]
  · rw [announced_sd1 h0 s]
    simp only [s, start_ne, true_or, if_true, if_false]
    split <;> rfl
  · rw [announced_sd2 h0 s]
    simp only [s, start_ne, true_or, or_true, if_true, if_false]
    by_cases h6 : bs.length < 6
    · simp only [h6, if_true]
    simp only [h6, if_false]
    by_cases hh : Sd2Ok bs
    · have ⟨a, b, c⟩ := hh
      have b' : 3 ≤ (bs.getD 1 0).toNat := by
        have := mt UInt8.lt_iff_toNat_lt.mpr b; simpa using this
      rw [if_neg (fun h => h a), if_neg b, if_neg (fun h => h c), if_pos hh]
      simp only [List.length_drop]
      rw [show (bs.getD 1 0).toNat + 6 - 9 = (bs.getD 1 0).toNat - 3 by omega]
      by_cases hl : bs.length < (bs.getD 1 0).toNat + 6
      · rw [if_pos (by omega), if_pos hl]
      · rw [if_neg (by omega), if_neg hl]
    · rw [if_neg hh]
      by_cases a : bs.getD 1 0 = bs.getD 2 0
      · by_cases b : bs.getD 1 0 < 3
        · rw [if_neg (fun h => h a), if_pos b]
        · rw [if_neg (fun h => h a), if_neg b, if_pos (fun c => hh ⟨a, b, c⟩)]
      · rw [if_pos a]
  · rw [announced_sd3 h0 s]
    simp only [s, start_ne, or_true, if_true, if_false]
    split
    · rw [if_pos (by omega)]
    · rfl
  · rw [announced_other h0 s]
    obtain ⟨a, b, c, d, e⟩ := s
    simp only [a, b, c, d, e, or_self, if_false]

theorem decode_none {bs : Bytes} (h : announced bs = none) : deserialize bs = .reject := by
  rw [decode_normal, h]

theorem decode_some {bs : Bytes} {n : Nat} (h : announced bs = some n) : deserialize bs = verdict bs n := by
  rw [decode_normal, h]

theorem verdict_cases (bs : Bytes) (n : Nat) :
    (verdict bs n = .needMore ∧ bs.length < n) ∨
    (verdict bs n = .reject ∧ n ≤ bs.length ∧ telegram? bs n = none) ∨
    (∃ t, verdict bs n = .accept t n ∧ n ≤ bs.length ∧ telegram? bs n = some t) := by
  unfold verdict
  by_cases h : bs.length < n
  · exact .inl ⟨if_pos h, h⟩
  · rw [if_neg h]
    cases ht : telegram? bs n with
    | none => exact .inr (.inl ⟨rfl, by omega, rfl⟩)
    | some t => exact .inr (.inr ⟨t, rfl, by omega, rfl⟩)

theorem decode_nil : deserialize [] = .needMore := by rfl

theorem decode_cases (bs : Bytes) :
    deserialize bs = .needMore ∨ deserialize bs = .reject ∨ ∃ t n, deserialize bs = .accept t n := by
  cases ha : announced bs with
  | none => exact .inr (.inl (decode_none ha))
  | some n =>
    rw [decode_some ha]
    rcases verdict_cases bs n with c | c | ⟨t, c⟩
    · exact .inl c.1
    · exact .inr (.inl c.1)
    · exact .inr (.inr ⟨t, n, c.1⟩)

theorem decode_accept_iff (bs : Bytes) (t : Telegram) (n : Nat) :
    deserialize bs = .accept t n ↔ announced bs = some n ∧ n ≤ bs.length ∧ telegram? bs n = some t := by
  cases ha : announced bs with
  | none =>
    rw [decode_none ha]
    exact ⟨fun h => (by cases h), fun h => (by cases h.1)⟩
  | some m =>
    rw [decode_some ha]
    constructor
    · intro h
      rcases verdict_cases bs m with c | c | ⟨t', c⟩
      · rw [c.1] at h; cases h
      · rw [c.1] at h; cases h
      · rw [c.1] at h; cases h; exact ⟨rfl, c.2⟩
    · rintro ⟨hm, hl, ht⟩
      cases hm
      unfold verdict
      rw [if_neg (by omega), ht]

/-- Something is announced even by the empty buffer (one byte), so a complete announced frame is not empty. -/
theorem announced_pos {bs : Bytes} {n : Nat} (ha : announced bs = some n) : 1 ≤ n := by
  by_cases h0 : bs.length = 0
  · simp only [announced, h0, if_true] at ha; cases ha; omega
  rcases start_cases (bs.getD 0 0) with s | s | s | s | s | s
  · rw [announced_sc h0 s] at ha; cases ha; omega
  · rw [announced_sd4 h0 s] at ha; cases ha; omega
  · rw [announced_sd1 h0 s] at ha; cases ha; omega
  · rw [announced_sd2 h0 s] at ha
    split at ha
    · cases ha; omega
    · split at ha
      · cases ha; omega
      · cases ha
  · rw [announced_sd3 h0 s] at ha; cases ha; omega
  · rw [announced_other h0 s] at ha; cases ha

theorem length_ne_zero_of_complete {bs : Bytes} {n : Nat} (ha : announced bs = some n) (hn : n ≤ bs.length) :
    bs.length ≠ 0 := by
  have := announced_pos ha; omega

theorem decode_accept_inside {bs : Bytes} {t : Telegram} {n : Nat} (h : deserialize bs = .accept t n) :
    1 ≤ n ∧ n ≤ bs.length := by
  obtain ⟨ha, hn, -⟩ := (decode_accept_iff bs t n).mp h
  exact ⟨announced_pos ha, hn⟩

/-! ### Locality: announcement and judgement look at the announced bytes only -/

theorem announced_append (bs ext : Bytes) (h : ∀ n, announced bs = some n → n ≤ bs.length) :
    announced (bs ++ ext) = announced bs := by
  have g := fun i (hi : i < bs.length) => getD_append_lt bs ext i hi
  by_cases h0 : bs.length = 0
  · have := h 1 (by simp [announced, h0]); omega
  have h0' : (bs ++ ext).length ≠ 0 := by rw [List.length_append]; omega
  have g0 := g 0 (by omega)
  rcases start_cases (bs.getD 0 0) with s | s | s | s | s | s
  · rw [announced_sc h0 s, announced_sc h0' (g0.trans s)]
  · rw [announced_sd4 h0 s, announced_sd4 h0' (g0.trans s)]
  · rw [announced_sd1 h0 s, announced_sd1 h0' (g0.trans s)]
  · rw [announced_sd2 h0 s] at h ⊢
    rw [announced_sd2 h0' (g0.trans s)]
    by_cases h6 : bs.length < 6
    · have := h 6 (by rw [if_pos h6]); omega
    · rw [if_neg h6, if_neg (by rw [List.length_append]; omega)]
      simp only [Sd2Ok, g 1 (by omega), g 2 (by omega), g 3 (by omega)]
  · rw [announced_sd3 h0 s, announced_sd3 h0' (g0.trans s)]
  · rw [announced_other h0 s, announced_other h0' (by rw [g0]; exact s)]

theorem frame?_append (b ext : Bytes) (len : Nat) (h : len + 6 ≤ b.length) :
    frame? (b ++ ext) len = frame? b len := by
  have g := fun i (hi : i < b.length) => getD_append_lt b ext i hi
  have hD : hasDsapBit (b ++ ext) = hasDsapBit b := by unfold hasDsapBit; rw [g 1 (by omega)]
  have hS : hasSsapBit (b ++ ext) = hasSsapBit b := by unfold hasSsapBit; rw [g 2 (by omega)]
  have hk : sapCount (b ++ ext) = sapCount b := by unfold sapCount; rw [hD, hS]
  have hk2 : sapCount b ≤ 2 := by unfold sapCount; split <;> split <;> omega
  have hh : ∀ fc, headerOf (b ++ ext) fc = headerOf b fc := by
    intro fc; unfold headerOf
    rw [hD, hS, g 1 (by omega), g 2 (by omega), g 4 (by omega)]
    have : (b ++ ext).getD (if hasDsapBit b = true then 5 else 4) 0 = b.getD (if hasDsapBit b = true then 5 else 4) 0 := by
      split <;> exact g _ (by omega)
    rw [this]
  unfold frame?
  rw [g 3 (by omega), hk, g (len + 4) (by omega), g (len + 5) (by omega), take_drop_append b ext 1 (len + 3) (by omega)]
  cases FunctionCode.fromByte (b.getD 3 0) with
  | error e => rfl
  | ok fc =>
    simp only [hh]
    by_cases hlk : sapCount b ≤ len
    · rw [take_drop_append b ext (4 + sapCount b) (len - sapCount b) (by omega)]
    · rw [if_neg (fun h => hlk h.1), if_neg (fun h => hlk h.1)]

theorem telegram?_append (bs ext : Bytes) (n : Nat) (ha : announced bs = some n) (hn : n ≤ bs.length) :
    telegram? (bs ++ ext) n = telegram? bs n := by
  have g := fun i (hi : i < bs.length) => getD_append_lt bs ext i hi
  have h0 := length_ne_zero_of_complete ha hn
  unfold telegram?
  rw [g 0 (by omega)]
  rcases start_cases (bs.getD 0 0) with s | s | s | s | s | s
  · rw [if_pos s, if_pos s]
  · rw [announced_sd4 h0 s] at ha; cases ha
    simp only [s, start_ne, if_true, if_false]
    rw [g 1 (by omega), g 2 (by omega)]
  · rw [announced_sd1 h0 s] at ha; cases ha
    simp only [s, start_ne, if_false]
    exact frame?_append _ _ _ (by omega)
  · obtain ⟨-, -, h9⟩ := announced_sd2_complete h0 s ha hn
    simp only [s, start_ne, if_true, if_false]
    rw [List.drop_append_of_le_length (by omega)]
    exact frame?_append _ _ _ (by rw [List.length_drop]; omega)
  · rw [announced_sd3 h0 s] at ha; cases ha
    simp only [s, start_ne, if_false]
    exact frame?_append _ _ _ (by omega)
  · rw [announced_other h0 s] at ha; cases ha

/-- A verdict other than "need more" is final: it is the verdict on every extension of the input. -/
theorem decode_append (bs ext : Bytes) (h : deserialize bs ≠ .needMore) :
    deserialize (bs ++ ext) = deserialize bs := by
  -- the announced frame is there, and neither the announcement nor the judgement looks beyond it
  have hle : ∀ n, announced bs = some n → n ≤ bs.length := fun n hn =>
    Nat.le_of_not_lt fun hlt => h (by rw [decode_some hn, verdict, if_pos hlt])
  rw [decode_normal, decode_normal, announced_append bs ext hle]
  cases ha : announced bs with
  | none => rfl
  | some n =>
    have := hle n ha
    simp only [verdict, telegram?_append bs ext n ha this]
    rw [if_neg (by rw [List.length_append]; omega), if_neg (by omega)]

theorem decode_accept_data {bs : Bytes} {t : Telegram} {n : Nat} (h : deserialize bs = .accept t n)
    (hd : bs.getD 0 0 = SD1 ∨ bs.getD 0 0 = SD2 ∨ bs.getD 0 0 = SD3) :
    ∃ off len, Shape bs off len ∧ n = off + len + 6 ∧ n ≤ bs.length ∧ frame? (bs.drop off) len = some t := by
  obtain ⟨ha, hn, ht⟩ := (decode_accept_iff bs t n).mp h
  have h0 := length_ne_zero_of_complete ha hn
  rcases hd with s | s | s
  · rw [announced_sd1 h0 s] at ha; cases ha
    exact ⟨0, 0, .inl ⟨s, rfl, rfl⟩, rfl, hn, by rwa [telegram?_sd1 _ s] at ht⟩
  · obtain ⟨hh, rfl, h9⟩ := announced_sd2_complete h0 s ha hn
    refine ⟨3, (bs.getD 1 0).toNat - 3, .inr (.inr ⟨s, rfl, hh.1, hh.2.1, hh.2.2, rfl⟩), by omega, hn, ?_⟩
    rw [telegram?_sd2 _ s] at ht
    rwa [show (bs.getD 1 0).toNat + 6 - 9 = (bs.getD 1 0).toNat - 3 by omega] at ht
  · rw [announced_sd3 h0 s] at ha; cases ha
    exact ⟨0, 8, .inr (.inl ⟨s, rfl, rfl⟩), rfl, hn, by rwa [telegram?_sd3 _ s] at ht⟩

/-- The conditions of `frame?` on `bs.drop off`, at absolute indices. -/
theorem frame?_drop {bs : Bytes} {off len : Nat} {t : Telegram} (h : frame? (bs.drop off) len = some t) :
    bs.getD (off + len + 4) 0 = checksum ((bs.drop (off + 1)).take (len + 3)) ∧
    bs.getD (off + len + 5) 0 = ED ∧
    ∃ fc, FunctionCode.fromByte (bs.getD (off + 3) 0) = .ok fc ∧
      t = .data (headerOf (bs.drop off) fc)
        (((bs.drop off).drop (4 + sapCount (bs.drop off))).take (len - sapCount (bs.drop off))) := by
  obtain ⟨-, hcs, hed, fc, hfc, ht⟩ := frame?_eq_some.mp h
  rw [getD_drop] at hcs hed hfc
  rw [List.drop_drop] at hcs
  exact ⟨by rwa [Nat.add_assoc], by rwa [Nat.add_assoc], fc, hfc, ht⟩

/-- One substituted byte behind the start delimiter of an exact, well-formed data frame: the judge
says no, whatever follows (the end delimiter, the checksum byte, or a summand of the checksum changed). -/
theorem frame?_set (b ext : Bytes) (len : Nat) (t : Telegram) (hb : b.length = len + 6) (hf : frame? b len = some t)
    (j : Nat) (v : UInt8) (hj1 : 1 ≤ j) (hj : j < b.length) (hv : v ≠ b.getD j 0) :
    frame? (b.set j v ++ ext) len = none := by
  obtain ⟨-, hcs, hed, -⟩ := frame?_eq_some.mp hf
  cases hf' : frame? (b.set j v ++ ext) len with
  | none => rfl
  | some t' =>
    exfalso
    obtain ⟨-, hcs', hed', -⟩ := frame?_eq_some.mp hf'
    have g := fun k (hk : k < b.length) (hne : k ≠ j) => getD_set_append_ne b ext j k v hk hne
    have ge := getD_set_append_eq b ext j v hj
    rw [take_drop_append _ _ _ _ (by rw [List.length_set]; omega), List.drop_set, if_neg (by omega), List.take_set] at hcs'
    by_cases c1 : j = len + 5
    · subst c1; rw [ge] at hed'; exact hv (hed'.trans hed.symm)
    by_cases c2 : j = len + 4
    · subst c2
      rw [ge, List.set_eq_of_length_le (by simp; omega)] at hcs'
      exact hv (hcs'.trans hcs.symm)
    · rw [g _ (by omega) (by omega), hcs] at hcs'
      refine checksum_set_ne _ (j - 1) v (by simp; omega) ?_ hcs'.symm
      rw [region_getD _ _ _ _ (by omega) (by omega)]; exact hv

/-- Any buffer `F` that is exactly one accepted data frame; substitute one byte (not: byte 0 by another
start code); whatever follows, nothing is accepted. -/
theorem data_single_byte (F ext : Bytes) (t : Telegram) (hF : deserialize F = .accept t F.length)
    (hsd : F.getD 0 0 = SD1 ∨ F.getD 0 0 = SD2 ∨ F.getD 0 0 = SD3)
    (i : Nat) (v : UInt8) (hi : i < F.length) (hv : v ≠ F.getD i 0)
    (hK : i = 0 → NotStartCode v) (t' : Telegram) (n' : Nat) :
    deserialize (F.set i v ++ ext) ≠ .accept t' n' := by
  intro hacc
  obtain ⟨ha, -, ht⟩ := (decode_accept_iff _ _ _).mp hF
  obtain ⟨ha', hn', ht'⟩ := (decode_accept_iff _ _ _).mp hacc
  have h0 : F.length ≠ 0 := by omega
  have h0' : (F.set i v ++ ext).length ≠ 0 := by rw [List.length_append, List.length_set]; omega
  have g := fun j (hj : j < F.length) (hne : j ≠ i) => getD_set_append_ne F ext i j v hj hne
  have ge := getD_set_append_eq F ext i v hi
  by_cases hi0 : i = 0
  · subst hi0
    rw [announced_other h0' (by rw [ge]; exact hK rfl)] at ha'; cases ha'
  have g0 := g 0 (by omega) (by omega)
  -- the corrupted buffer announces the same frame, and what is judged is the judged part of `F` with one byte substituted
  rcases hsd with s | s | s
  · have e := Option.some.inj ((announced_sd1 h0 s).symm.trans ha)
    have e' := Option.some.inj ((announced_sd1 h0' (g0.trans s)).symm.trans ha')
    rw [telegram?_sd1 _ s, ← e] at ht; rw [telegram?_sd1 _ (g0.trans s), ← e'] at ht'
    rw [frame?_set F ext 0 t e.symm ht i v (by omega) hi hv] at ht'; cases ht'
  · obtain ⟨⟨e12, -, e3⟩, e, h9⟩ := announced_sd2_complete h0 s ha (Nat.le_refl _)
    obtain ⟨⟨e12', -, e3'⟩, e', -⟩ := announced_sd2_complete h0' (g0.trans s) ha' hn'
    have i4 : 4 ≤ i := by
      refine Nat.le_of_not_lt fun hlt => ?_
      have : i = 1 ∨ i = 2 ∨ i = 3 := by omega
      rcases this with rfl | rfl | rfl
      · rw [ge, g 2 (by omega) (by omega)] at e12'; exact hv (e12'.trans e12.symm)
      · rw [ge, g 1 (by omega) (by omega)] at e12'; exact hv (e12'.symm.trans e12)
      · rw [ge] at e3'; exact hv (e3'.trans e3.symm)
    rw [g 1 (by omega) (by omega), ← e] at e'
    rw [telegram?_sd2 _ s] at ht
    rw [e', telegram?_sd2 _ (g0.trans s), List.drop_append_of_le_length (by rw [List.length_set]; omega),
      List.drop_set, if_neg (by omega),
      frame?_set (F.drop 3) ext _ t (by rw [List.length_drop]; omega) ht (i - 3) v (by omega)
        (by rw [List.length_drop]; omega) (by rw [getD_drop, show 3 + (i - 3) = i by omega]; exact hv)] at ht'
    cases ht'
  · have e := Option.some.inj ((announced_sd3 h0 s).symm.trans ha)
    have e' := Option.some.inj ((announced_sd3 h0' (g0.trans s)).symm.trans ha')
    rw [telegram?_sd3 _ s, ← e] at ht; rw [telegram?_sd3 _ (g0.trans s), ← e'] at ht'
    rw [frame?_set F ext 8 t e.symm ht i v (by omega) hi hv] at ht'; cases ht'

end PV
