/-
`next_gap_poll` and the GAP sweep it drives (C12).  The code's in-GAP test is `Between ts ns` (`Lemmas/Cyclic.lean`) of the
cursor's cyclic successor, for all arguments (`nextGapPoll_eq'`); the bounds `cur < hsa ≤ 126` only say that no `u8`
overflows and that the successor stays below HSA.  The sweep is read through cyclic offsets from TS (`off`): its `j`-th
address lies `j + 1` places behind the cursor (`sweepFrom_getElem?`).
-/
import ProfiVerif.Model.Gap
import ProfiVerif.Lemmas.Cyclic

namespace PV
open TokenRing

/-- Cyclic successor below HSA, as `next_gap_poll` computes it. -/
def succAddr (hsa c : Nat) : Nat := if c = hsa - 1 then 0 else c + 1

/-- How many places `x` lies behind TS in the cyclic order of `0 .. hsa - 1` (0 for TS itself): the order in which a
sweep that starts at TS meets the addresses. -/
def off (ts hsa x : Nat) : Nat := if x ≥ ts then x - ts else x + hsa - ts

theorem off_succ (ts hsa c : Nat) (hts : ts < hsa) (hc : c < hsa) (hne : succAddr hsa c ≠ ts) :
    off ts hsa (succAddr hsa c) = off ts hsa c + 1 := by
  unfold off succAddr at *
  -- the successor is 0 (wrap at HSA) or `c + 1`; once the `≥ ts` tests of `off` are split, each case is linear
  by_cases h1 : c = hsa - 1
  · simp only [if_pos h1] at hne ⊢
    repeat' split
    all_goals omega
  · simp only [if_neg h1] at hne ⊢
    repeat' split
    all_goals omega

theorem off_of_succ_eq (ts hsa c : Nat) (hts : ts < hsa) (h : succAddr hsa c = ts) :
    off ts hsa c = hsa - 1 := by
  unfold succAddr at h
  unfold off
  split at h <;> split <;> omega

theorem succ_lt (hsa c : Nat) (hc : c < hsa) : succAddr hsa c < hsa := by
  unfold succAddr; split <;> omega

theorem off_lt (ts hsa x : Nat) (hts : ts < hsa) (hx : x < hsa) : off ts hsa x < hsa := by
  unfold off; split <;> omega

theorem off_zero_iff (ts hsa x : Nat) (hts : ts < hsa) (hx : x < hsa) : off ts hsa x = 0 ↔ x = ts := by
  unfold off; split <;> omega

/-- The GAP is a cyclic interval that starts right behind TS: it is closed under going back
towards TS. -/
theorem inGap_prefix (ts ns hsa x y : Nat) (hts : ts < hsa) (hy : y < hsa) (hyts : y ≠ ts)
    (hx : InGap ts ns hsa x) (hle : off ts hsa y ≤ off ts hsa x) : InGap ts ns hsa y := by
  unfold InGap off at *
  obtain ⟨hx1, hx2, hx3⟩ := hx
  refine ⟨hy, hyts, ?_⟩
  split at hx3
  · rw [if_pos (by assumption)]
    split at hle <;> split at hle <;> omega
  · split at hx3
    · rw [if_neg (by assumption), if_pos (by assumption)]
      split at hle <;> split at hle <;> omega
    · rw [if_neg (by assumption), if_neg (by assumption)]; trivial

/-- The general form; `nextGapPoll_eq` / `nextGapPoll_poll` below read it through `InGap`, under `cur < hsa ≤ 126`. -/
theorem nextGapPoll_eq' (ts ns hsa cur : Nat) :
    nextGapPoll ts ns hsa cur =
      if hsa = 0 ∨ (cur ≠ hsa - 1 ∧ cur ≥ 255) then .panic
      else if Between ts ns (succAddr hsa cur) then .poll (succAddr hsa cur) else .waiting := by
  unfold nextGapPoll
  by_cases h0 : hsa = 0
  · rw [if_pos h0, if_pos (.inl h0)]
  rw [if_neg h0]
  by_cases h1 : cur ≠ hsa - 1 ∧ cur ≥ 255
  · rw [if_pos h1, if_pos (.inr h1)]
  rw [if_neg h1, if_neg (show ¬ (hsa = 0 ∨ (cur ≠ hsa - 1 ∧ cur ≥ 255)) from fun c => c.elim h0 h1)]
  show (if (if ns > ts then decide (succAddr hsa cur > ts ∧ succAddr hsa cur < ns)
      else if ns < ts then decide (succAddr hsa cur > ts ∨ succAddr hsa cur < ns)
      else decide (succAddr hsa cur ≠ ts)) = true then GapNext.poll (succAddr hsa cur) else .waiting) = _
  generalize succAddr hsa cur = nx
  have e : (if ns > ts then decide (nx > ts ∧ nx < ns) else if ns < ts then decide (nx > ts ∨ nx < ns)
      else decide (nx ≠ ts)) = decide (Between ts ns nx) := by
    have ba := between_arith ts ns nx
    by_cases c1 : ns > ts
    · rw [if_pos c1]; exact decide_eq_decide.mpr (by rw [ba]; omega)
    · rw [if_neg c1]
      by_cases c2 : ns < ts
      · rw [if_pos c2]; exact decide_eq_decide.mpr (by rw [ba]; omega)
      · rw [if_neg c2]; exact decide_eq_decide.mpr (by rw [ba]; omega)
  rw [e]
  by_cases hb : Between ts ns nx
  · rw [if_pos hb, if_pos (decide_eq_true hb)]
  · rw [if_neg hb, if_neg (by simpa using hb)]

theorem nextGapPoll_poll' {ts ns hsa cur a : Nat} (h : nextGapPoll ts ns hsa cur = .poll a) :
    Between ts ns a ∧ a = succAddr hsa cur := by
  rw [nextGapPoll_eq'] at h
  split at h
  · cases h
  · split at h
    · next hb => cases h; exact ⟨hb, rfl⟩
    · cases h

theorem inGap_iff (ts ns hsa a : Nat) : InGap ts ns hsa a ↔ a < hsa ∧ Between ts ns a := Iff.rfl

/-- The code's in-GAP test agrees with the specification. -/
theorem nextGapPoll_eq (ts ns hsa cur : Nat) (hh : 0 < hsa) (hh2 : hsa ≤ 126) (hc : cur < hsa) :
    nextGapPoll ts ns hsa cur =
      if InGap ts ns hsa (succAddr hsa cur) then .poll (succAddr hsa cur) else .waiting := by
  rw [nextGapPoll_eq', if_neg (by omega)]
  have hs := succ_lt hsa cur hc
  by_cases hb : Between ts ns (succAddr hsa cur)
  · rw [if_pos hb, if_pos ⟨hs, hb⟩]
  · rw [if_neg hb, if_neg fun c => hb c.2]

theorem nextGapPoll_poll (ts ns hsa cur a : Nat) (hh : 0 < hsa) (hh2 : hsa ≤ 126) (hc : cur < hsa)
    (h : nextGapPoll ts ns hsa cur = .poll a) : InGap ts ns hsa a ∧ a = succAddr hsa cur := by
  rw [nextGapPoll_eq ts ns hsa cur hh hh2 hc] at h
  split at h
  · cases h; exact ⟨by assumption, rfl⟩
  · cases h

theorem nextGapPoll_no_panic (ts ns hsa cur : Nat) (hh : 0 < hsa) (hh2 : hsa ≤ 126) (hc : cur < hsa) :
    nextGapPoll ts ns hsa cur ≠ .panic := by
  rw [nextGapPoll_eq ts ns hsa cur hh hh2 hc]; split <;> simp

theorem inGap_ne (ts ns hsa a : Nat) (h : InGap ts ns hsa a) : a ≠ ts ∧ a ≠ ns ∧ a < hsa := by
  unfold InGap at h
  obtain ⟨h1, h2, h3⟩ := h
  refine ⟨h2, ?_, h1⟩
  split at h3
  · omega
  · split at h3
    · omega
    · omega

theorem sweepFrom_succ (ts ns hsa f cur : Nat) (hh : 0 < hsa) (hh2 : hsa ≤ 126) (hc : cur < hsa) :
    sweepFrom ts ns hsa (f + 1) cur =
      if InGap ts ns hsa (succAddr hsa cur) then succAddr hsa cur :: sweepFrom ts ns hsa f (succAddr hsa cur)
      else [] := by
  rw [sweepFrom, nextGapPoll_eq ts ns hsa cur hh hh2 hc]
  by_cases hin : InGap ts ns hsa (succAddr hsa cur)
  · rw [if_pos hin, if_pos hin]
  · rw [if_neg hin, if_neg hin]

theorem sweepFrom_eq_cons (ts ns hsa fuel cur b : Nat) (rest : List Nat) (hh2 : hsa ≤ 126) (hc : cur < hsa)
    (h : sweepFrom ts ns hsa fuel cur = b :: rest) :
    ∃ f, fuel = f + 1 ∧ nextGapPoll ts ns hsa cur = .poll b ∧ InGap ts ns hsa b ∧
      sweepFrom ts ns hsa f b = rest := by
  cases fuel with
  | zero => cases h
  | succ f =>
    rw [sweepFrom_succ ts ns hsa f cur (by omega) hh2 hc] at h
    split at h
    · rename_i hin
      injection h with h1 h2
      subst h1
      exact ⟨f, rfl, by rw [nextGapPoll_eq ts ns hsa cur (by omega) hh2 hc, if_pos hin], hin, h2⟩
    · cases h

/-- **The `j`-th address of a sweep** lies in the GAP, `j + 1` places behind the cursor in the cyclic order
that starts at TS.  That a sweep is sound, ascending, free of repetitions and shorter than HSA is read off this. -/
theorem sweepFrom_getElem? (ts ns hsa : Nat) (hts : ts < hsa) (hh2 : hsa ≤ 126) :
    ∀ fuel cur, cur < hsa → ∀ j a, (sweepFrom ts ns hsa fuel cur)[j]? = some a →
      InGap ts ns hsa a ∧ off ts hsa a = off ts hsa cur + 1 + j := by
  intro fuel
  induction fuel with
  | zero => intro cur _ j a h; simp [sweepFrom] at h
  | succ f ih =>
    intro cur hc j a h
    rw [sweepFrom_succ ts ns hsa f cur (by omega) hh2 hc] at h
    split at h
    · rename_i hin
      have ho := off_succ ts hsa cur hts hc hin.2.1
      cases j with
      | zero =>
        simp only [List.getElem?_cons_zero, Option.some.injEq] at h
        subst h
        exact ⟨hin, by omega⟩
      | succ j =>
        rw [List.getElem?_cons_succ] at h
        obtain ⟨h1, h2⟩ := ih _ hin.1 j a h
        exact ⟨h1, by omega⟩
    · simp at h

/-- A sweep is over after fewer than HSA polls: its last address is still below HSA in the cyclic order. -/
theorem sweepFrom_length_le (ts ns hsa : Nat) (hts : ts < hsa) (hh2 : hsa ≤ 126) :
    ∀ fuel cur, cur < hsa → (sweepFrom ts ns hsa fuel cur).length + off ts hsa cur ≤ hsa - 1 := by
  intro fuel cur hc
  have hlt := off_lt ts hsa cur hts hc
  cases hn : (sweepFrom ts ns hsa fuel cur).length with
  | zero => omega
  | succ n =>
    have hj : n < (sweepFrom ts ns hsa fuel cur).length := by omega
    obtain ⟨hin, ho⟩ := sweepFrom_getElem? ts ns hsa hts hh2 fuel cur hc n _ (List.getElem?_eq_getElem hj)
    have := off_lt ts hsa _ hts hin.1
    omega

theorem sweepFrom_stable (ts ns hsa : Nat) (hh2 : hsa ≤ 126) : ∀ fuel cur, cur < hsa →
    (sweepFrom ts ns hsa fuel cur).length < fuel →
    sweepFrom ts ns hsa (fuel + 1) cur = sweepFrom ts ns hsa fuel cur := by
  intro fuel
  induction fuel with
  | zero => intro cur _ h; simp at h
  | succ f ih =>
    intro cur hc h
    rw [sweepFrom_succ ts ns hsa (f + 1) cur (by omega) hh2 hc]
    rw [sweepFrom_succ ts ns hsa f cur (by omega) hh2 hc] at h ⊢
    split
    · rename_i hin
      rw [if_pos hin] at h
      rw [ih _ hin.1 (by simpa using h)]
    · rfl

/-- Fuel `hsa` on both sides: no sweep is that long (`sweepFrom_length_le`), so the fuel left after one poll, `hsa - 1`,
may be put back to `hsa` (`sweepFrom_stable`). -/
theorem sweepFrom_step (ts ns hsa cur a : Nat) (hts : ts < hsa) (hh2 : hsa ≤ 126) (hc : cur < hsa)
    (hn : nextGapPoll ts ns hsa cur = .poll a) :
    sweepFrom ts ns hsa hsa cur = a :: sweepFrom ts ns hsa hsa a ∧ a < hsa ∧ a ≠ ts := by
  obtain ⟨hin, rfl⟩ := nextGapPoll_poll ts ns hsa cur a (by omega) hh2 hc hn
  refine ⟨?_, hin.1, hin.2.1⟩
  obtain ⟨f, hf⟩ : ∃ f, hsa = f + 1 := ⟨hsa - 1, by omega⟩
  -- the sweep from the successor is shorter than HSA - 1: it starts at least one place behind TS
  have hlen := sweepFrom_length_le ts ns hsa hts hh2 f (succAddr hsa cur) hin.1
  have hoff : off ts hsa (succAddr hsa cur) ≠ 0 := fun h0 =>
    hin.2.1 ((off_zero_iff ts hsa (succAddr hsa cur) hts hin.1).mp h0)
  have h1 : sweepFrom ts ns hsa (f + 1) cur = succAddr hsa cur :: sweepFrom ts ns hsa (f + 1) (succAddr hsa cur) := by
    rw [sweepFrom_succ ts ns hsa f cur (by omega) hh2 hc, if_pos hin,
      sweepFrom_stable ts ns hsa hh2 f _ hin.1 (by omega)]
  rw [← hf] at h1
  exact h1

theorem sweepFrom_end (ts ns hsa fuel cur : Nat) (hn : nextGapPoll ts ns hsa cur = .waiting) :
    sweepFrom ts ns hsa fuel cur = [] := by
  cases fuel with
  | zero => rfl
  | succ f => simp [sweepFrom, hn]

end PV
