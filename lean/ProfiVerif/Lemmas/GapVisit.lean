/-
The vocabulary of the station-level clauses of C12: the GAP state after `k` token visits (`gapAfter`), the phases of a
visit and the count of its GAP polls (`phase`, `gapPolls`), the scan after a claim (`remaining`, `reqs`, `ScanOk`, `StepOk`,
`claimRun`), `set_next_station` as "becomes NS".
-/
import ProfiVerif.Lemmas.StationGap
import ProfiVerif.Lemmas.RingPass

namespace PV

namespace TokenRing

/-- **`set_next_station(a)` really makes `a` the next station** (for every LAS content), `a ≠ TS`. -/
theorem setNextStation_spec (r r' : TokenRing) (a : Nat) (hne : a ≠ r.ts) (hts : r.ts < 128)
    (h : r.setNextStation a = some r') : r'.ns = a ∧ r'.ts = r.ts ∧ r'.las = r.las ∧ r'.isActive a = true :=
  ⟨setNextStation_ns r r' a h hne, setNextStation_ts r r' a h, setNextStation_las r r' a h,
    setNextStation_entered r r' a h hne⟩

theorem setNextStation_admits (r : TokenRing) (a : Nat) (ha : a < 128) (hne : a ≠ r.ts) (hts : r.ts < 128) :
    ∃ r', r.setNextStation a = some r' ∧ r'.ns = a ∧ r'.ts = r.ts ∧ r'.las = r.las ∧ r'.isActive a = true := by
  obtain ⟨r', e⟩ := setNextStation_isSome r a ha
  exact ⟨r', e, setNextStation_spec r r' a hne hts e⟩

end TokenRing
namespace StationGap

/-- The GAP state after `k` further token visits, each of which ends with one `gapAdvance` step in
`do_pass_token` (`do_gap = Yes`), while the parameters and the ring view stay as they are.
`none` = the `next_gap_poll` arithmetic overflowed (excluded under the station invariant). -/
def gapAfter (s : Station) : Nat → Option GapState
  | 0 => some s.gap
  | k + 1 =>
    match gapAdvance s with
    | some g => gapAfter { s with gap := g } k
    | none => none

theorem gapAfter_add (k j : Nat) : ∀ s : Station,
    gapAfter s (k + j) = match gapAfter s k with
      | some g => gapAfter { s with gap := g } j
      | none => none := by
  induction k with
  | zero => intro s; simp [gapAfter]
  | succ k ih =>
    intro s
    rw [show k + 1 + j = (k + j) + 1 by omega]
    simp only [gapAfter]
    cases gapAdvance s with
    | none => rfl
    | some g => exact ih _

theorem gapAdvance_counts (s : Station) (rot : Nat) (hg : s.gap = .waiting rot) (h : rot ≤ s.p.gapWait) :
    gapAdvance s = some (.waiting (rot + 1)) := by
  unfold gapAdvance
  rw [hg]
  simp only
  rw [if_neg (by omega)]

theorem gapAfter_waiting (k : Nat) : ∀ (s : Station) (r : Nat), s.gap = .waiting r → r + k ≤ s.p.gapWait + 1 →
    gapAfter s k = some (.waiting (r + k)) := by
  induction k with
  | zero => intro s r hg _; simp [gapAfter, hg]
  | succ k ih =>
    intro s r hg hle
    simp only [gapAfter, gapAdvance_counts s r hg (by omega)]
    rw [ih { s with gap := .waiting (r + 1) } (r + 1) rfl (by show r + 1 + k ≤ s.p.gapWait + 1; omega)]
    congr 2
    omega

theorem gapAfter_sweep (fuel : Nat) : ∀ (s : Station) (cur : Nat), s.gap = .doPoll cur →
    ∀ j a, (sweepFrom s.p.address s.ring.ns s.p.hsa fuel cur)[j]? = some a →
      gapAfter s (j + 1) = some (.doPoll a) := by
  induction fuel with
  | zero => intro s cur _ j a hj; simp [sweepFrom] at hj
  | succ f ih =>
    intro s cur hg j a hj
    unfold sweepFrom at hj
    cases hn : nextGapPoll s.p.address s.ring.ns s.p.hsa cur with
    | poll x =>
      simp only [hn] at hj
      have hga : gapAdvance s = some (.doPoll x) := by
        unfold gapAdvance nextGap
        rw [hg]
        simp only [hn]
      simp only [gapAfter, hga]
      cases j with
      | zero =>
        simp at hj
        simp [gapAfter, hj]
      | succ j =>
        exact ih { s with gap := .doPoll x } x rfl j a (by simpa using hj)
    | waiting => simp [hn] at hj
    | panic => simp [hn] at hj

/-- Phases of a token visit: 0 = application traffic, 1 = about to do GAP maintenance and pass the
token, 2 = awaiting the answer to the GAP poll, 3 = passing the token without (further) GAP
maintenance.  `none`: the station does not hold the token for a visit (idle, supervising its pass,
claiming, offline). -/
def phase : FState → Option Nat
  | .useToken .. | .awaitData .. => some 0
  | .passToken true _ => some 1
  | .awaitStatus _ => some 2
  | .passToken false _ => some 3
  | _ => none

theorem phase_le3 (st : FState) (p : Nat) (h : phase st = some p) : p ≤ 3 := by
  unfold phase at h
  split at h <;> simp at h <;> omega

/-- The telegram handed to the PHY is an SD1 frame (FDL status request / response; token telegrams
are SD4). -/
def isSd1 : Option Bytes → Bool
  | some (b :: _) => b == SD1
  | _ => false

theorem isSd1_request (a ts : Nat) : isSd1 (some (statusRequestBytes a ts)) = true := by
  simp [isSd1, statusRequestBytes, sd1Frame]

theorem isSd1_token (ns ts : Nat) : isSd1 (some (tokenBytes ns ts)) = false := by
  simp [isSd1, tokenBytes, sendToken, SD1, SD4]

/-- Number of own GAP polls during the polls of ONE token visit: `ins` lists the successive `poll`
calls.  A poll is counted iff it transmits an SD1 frame (FDL status request) that is not an
application's message cycle: any SD1 frame sent after the application phase (phase ≥ 1), and in the
application phase the one after which the station awaits the answer as GAP poll
(`AwaitStatusResponse`; since the repair of K3 the end of the token hold does its GAP maintenance in
the same poll — an application's own status request leads to `AwaitDataResponse` instead).
Counting stops when the station no longer holds the token for this visit (`phase = none`) or, after
GAP maintenance has begun, a new visit begins (a station that is alone in the ring hands the token to
itself: back to phase 0).  `none` = a poll panicked. -/
def gapPolls (s : Station) (apps : Apps) : List (Int × Bool × Bytes) → Option Nat
  | [] => some 0
  | (now, phyTx, rx) :: rest =>
    match phase s.st with
    | none => some 0
    | some ph =>
      match s.poll apps now phyTx rx with
      | .panic _ => none
      | .ok c' =>
        let k := if isSd1 c'.tx = true ∧ (ph ≠ 0 ∨ phase c'.s.st = some 2) then 1 else 0
        if ph ≠ 0 ∧ phase c'.s.st = some 0 then some k
        else (gapPolls c'.s c'.apps rest).map (· + k)

/-- The scanning steps of `ClaimToken` (after the two claiming token telegrams). -/
def inScan : FState → Bool
  | .claimToken .scan | .claimToken (.scanAwait _) => true
  | _ => false

/-- The GAP addresses still to be polled in the running sweep, for the present ring view. -/
def remaining (s : Station) : List Nat :=
  match s.gap with
  | .doPoll cur => sweepFrom s.p.address s.ring.ns s.p.hsa s.p.hsa cur
  | .waiting _ => []

/-- … as the status-request telegrams that will go to the PHY. -/
def reqs (s : Station) : List Bytes := (remaining s).map fun a => statusRequestBytes a s.p.address

theorem reqs_congr (s s' : Station) (h1 : s'.p = s.p) (h2 : s'.ring = s.ring) (h3 : s'.gap = s.gap) :
    reqs s' = reqs s := by
  simp [reqs, remaining, h1, h2, h3]

/-- No complete telegram is waiting in the receive buffer. -/
def Silent (rx : Bytes) : Prop := ∃ rx' ret, receiveTelegram rx = .done rx' [] ret

/-- The part of the C05 station invariant the scan relies on. -/
structure ScanOk (s : Station) : Prop where
  addr : s.p.address < s.p.hsa
  hsa : s.p.hsa ≤ 126
  gap : ∀ cur, s.gap = .doPoll cur → cur < s.p.hsa
  await : ∀ a, s.st = .claimToken (.scanAwait a) → s.gap = .doPoll a ∧ a ≠ s.p.address

/-- What one poll of the scan achieves: what it transmits is exactly the head of what remained to
be polled; parameters and ring view are untouched; the scan goes on, or it is complete and the
station is about to pass the token. -/
def StepOk (s : Station) (c' : Ctx) : Prop :=
  c'.tx.toList ++ reqs c'.s = reqs s ∧ c'.s.p = s.p ∧ c'.s.ring = s.ring ∧
  ((inScan c'.s.st = true ∧ ScanOk c'.s) ∨ (c'.s.st = .passToken false .first ∧ remaining c'.s = []))

/-- The telegrams transmitted by the successive polls `ins` while the station is scanning, and the
station afterwards.  `none` = a poll panicked. -/
def claimRun (s : Station) (apps : Apps) : List (Int × Bool × Bytes) → Option (List Bytes × Station)
  | [] => some ([], s)
  | (now, phyTx, rx) :: rest =>
    if inScan s.st = false then some ([], s) else
    match s.poll apps now phyTx rx with
    | .panic _ => none
    | .ok c' => (claimRun c'.s c'.apps rest).map fun r => (c'.tx.toList ++ r.1, r.2)

end StationGap
end PV
