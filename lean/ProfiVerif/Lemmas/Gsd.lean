/-
The GSD interpretation model (`Model/Gsd/Interp.lean`) never panics: `Safe`, its combinators, and one
lemma per function of the model down from `run` and `finish`.
-/
import ProfiVerif.Model.Gsd.Interp

namespace PV.Gsd

namespace Res

@[simp] theorem pure_eq {α : Type} (a : α) : (pure a : Res α) = .ok a := rfl
@[simp] theorem bind_ok {α β : Type} (a : α) (f : α → Res β) : (Res.ok a >>= f) = f a := rfl
@[simp] theorem bind_err {α β : Type} (e : ErrKind) (f : α → Res β) : (Res.err e >>= f) = .err e := rfl
@[simp] theorem bind_panic {α β : Type} (f : α → Res β) : (Res.panic >>= f) = .panic := rfl

def Safe {α : Type} (x : Res α) : Prop := x ≠ .panic

@[simp] theorem safe_ok {α : Type} (a : α) : Safe (Res.ok a) := by simp [Safe]
@[simp] theorem safe_pure {α : Type} (a : α) : Safe (pure a : Res α) := by simp [Safe]
@[simp] theorem safe_err {α : Type} (e : ErrKind) : Safe (Res.err e : Res α) := by simp [Safe]
@[simp] theorem not_safe_panic {α : Type} : ¬ Safe (Res.panic : Res α) := by simp [Safe]

theorem safe_bind {α β : Type} {x : Res α} {f : α → Res β}
    (hx : Safe x) (hf : ∀ a, x = .ok a → Safe (f a)) : Safe (x >>= f) := by
  cases x with
  | ok a => exact hf a rfl
  | err e => simp
  | panic => exact absurd rfl hx

theorem safe_bind' {α β : Type} {x : Res α} {f : α → Res β}
    (hx : Safe x) (hf : ∀ a, Safe (f a)) : Safe (x >>= f) := safe_bind hx fun a _ => hf a

theorem safe_map {α β : Type} {x : Res α} (g : α → β) (hx : Safe x) : Safe (x >>= fun a => pure (g a)) :=
  safe_bind' hx fun _ => safe_pure _

/-- Branching on a condition that is not looked at.  Trap: `split` evaluates the key comparisons of the
setting tables. -/
theorem safe_ite {α : Type} {c : Prop} [Decidable c] {x y : Res α} (hx : Safe x) (hy : Safe y) :
    Safe (if c then x else y) := by
  by_cases h : c
  · rw [if_pos h]; exact hx
  · rw [if_neg h]; exact hy

end Res

open Res

@[simp] theorem safe_parseTok (max : Nat) (t : NumTok) : Safe (parseTok max t) := by
  unfold parseTok
  split
  · simp
  · split <;> simp

@[simp] theorem safe_parseSignedTok (t : NumTok) : Safe (parseSignedTok t) := by
  unfold parseSignedTok; split <;> simp

@[simp] theorem safe_parseNumber (max : Nat) (v : Value) : Safe (parseNumber max v) := by
  cases v <;> simp [parseNumber]

@[simp] theorem safe_parseToks (max : Nat) (ts : List NumTok) : Safe (parseToks max ts) := by
  induction ts with
  | nil => simp [parseToks]
  | cons t rest ih =>
    simp only [parseToks]
    exact safe_bind' (by simp) fun n => safe_bind' ih fun ns => by simp

@[simp] theorem safe_parseSignedToks (ts : List NumTok) : Safe (parseSignedToks ts) := by
  induction ts with
  | nil => simp [parseSignedToks]
  | cons t rest ih =>
    simp only [parseSignedToks]
    exact safe_bind' (by simp) fun n => safe_bind' ih fun ns => by simp

@[simp] theorem safe_parseNumberList (max : Nat) (v : Value) : Safe (parseNumberList max v) := by
  cases v with
  | list ts => simp [parseNumberList]
  | num t => simp only [parseNumberList]; exact safe_map _ (by simp)
  | str _ => simp [parseNumberList]
  | family _ => simp [parseNumberList]

@[simp] theorem safe_parseBool (v : Value) : Safe (parseBool v) := by
  unfold parseBool; exact safe_map _ (by simp)

@[simp] theorem safe_parseBoolTok (t : NumTok) : Safe (parseBoolTok t) := by
  unfold parseBoolTok; exact safe_map _ (by simp)

@[simp] theorem safe_parseStr (v : Value) : Safe (parseStr v) := by
  cases v <;> simp [parseStr]

theorem safe_textValues (vs : List (NumTok × Str)) (acc : TextMap) : Safe (textValues vs acc) := by
  induction vs generalizing acc with
  | nil => simp [textValues]
  | cons v rest ih =>
    obtain ⟨n, raw⟩ := v
    simp only [textValues]
    exact safe_bind' (by simp) fun _ => ih _

theorem safe_doPrmText (st : St) (p : PrmTextStmt) : Safe (doPrmText st p) := by
  unfold doPrmText
  exact safe_bind' (by simp) fun _ => safe_map _ (safe_textValues _ _)

theorem safe_parseDataType (t : TypeName) : Safe (parseDataType t) := by
  cases t with
  | ident name => simp only [parseDataType]; split <;> simp
  | bit n => simp only [parseDataType]; exact safe_map _ (by simp)
  | bitArea f l =>
    simp only [parseDataType]
    exact safe_bind' (by simp) fun _ => safe_map _ (by simp)

theorem safe_parseConstraint (c : Option PrmConstraintAst) : Safe (parseConstraint c) := by
  unfold parseConstraint
  split
  · simp
  · exact safe_bind' (by simp) fun _ => safe_map _ (by simp)
  · exact safe_map _ (by simp)

theorem safe_parseTextRef (st : St) (t : Option NumTok) : Safe (parseTextRef st t) := by
  unfold parseTextRef
  split
  · simp
  · exact safe_bind' (by simp) fun _ => by split <;> simp

theorem safe_parseOptBool (t : Option NumTok) : Safe (parseOptBool t) := by
  unfold parseOptBool; split <;> simp

theorem safe_doExtPrm (st : St) (e : ExtPrmStmt) : Safe (doExtPrm st e) := by
  unfold doExtPrm
  refine safe_bind' (by simp) fun _ => ?_
  refine safe_bind' (safe_parseDataType _) fun _ => ?_
  refine safe_bind' (by simp) fun _ => ?_
  refine safe_bind' (safe_parseConstraint _) fun _ => ?_
  refine safe_bind' (safe_parseTextRef _ _) fun _ => ?_
  refine safe_bind' (safe_parseOptBool _) fun _ => ?_
  exact safe_map _ (safe_parseOptBool _)

theorem safe_areaValues (vs : List (NumTok × Str)) (acc : List (Nat × Str)) : Safe (areaValues vs acc) := by
  induction vs generalizing acc with
  | nil => simp [areaValues]
  | cons v rest ih =>
    obtain ⟨n, raw⟩ := v
    simp only [areaValues]
    exact safe_bind' (by simp) fun _ => ih _

theorem safe_doArea (st : St) (a : AreaStmt) : Safe (doArea st a) := by
  unfold doArea
  refine safe_bind' (by simp) fun _ => safe_bind' (by simp) fun _ => ?_
  exact safe_map _ (safe_areaValues _ _)

theorem safe_slotSet (mods : List Module) (ts : List NumTok) : Safe (slotSet mods ts) := by
  induction ts with
  | nil => simp [slotSet]
  | cons t rest ih =>
    simp only [slotSet]
    refine safe_bind' (by simp) fun _ => safe_bind' ih fun p => ?_
    obtain ⟨found, ws⟩ := p
    dsimp only
    split <;> simp

theorem safe_doSlot (st : St) (s : SlotStmt) : Safe (doSlot st s) := by
  unfold doSlot
  refine safe_bind' (by simp) fun _ => safe_bind' (by simp) fun _ => ?_
  refine safe_bind' ?_ fun p => ?_
  · split
    · exact safe_bind' (by simp) fun _ => safe_map _ (by simp)
    · exact safe_slotSet _ _
  · obtain ⟨allowed, ws⟩ := p
    dsimp only
    split <;> simp

theorem safe_doSlots (st : St) (ss : List SlotStmt) : Safe (doSlots st ss) := by
  induction ss generalizing st with
  | nil => simp [doSlots]
  | cons s rest ih =>
    simp only [doSlots]
    exact safe_bind' (safe_doSlot _ _) fun _ => ih _

/-! ### Settings (a missing `(index)` is an error value, as in parser.rs from /repo 1c3df29 on) -/

@[simp] theorem safe_second (s : Setting) : Safe s.second := by
  unfold Setting.second
  split <;> simp

theorem safe_prmDataRef (st : St) (s : Setting) (prm : UserPrmData) : Safe (prmDataRef st s prm) := by
  unfold prmDataRef
  refine safe_bind' (by simp) fun _ => safe_bind' (safe_second s) fun _ => ?_
  exact safe_bind' (by simp) fun _ => by split <;> simp

theorem safe_prmDataConst (s : Setting) (prm : UserPrmData) : Safe (prmDataConst s prm) := by
  unfold prmDataConst
  refine safe_bind' (by simp) fun _ => safe_bind' (safe_second s) fun _ => ?_
  exact safe_map _ (by simp)

theorem safe_diagBit (st : St) (s : Setting) (nb hp : Bool) : Safe (diagBit st s nb hp) := by
  unfold diagBit
  refine safe_bind' (by simp) fun _ => safe_bind' (safe_second s) fun _ => ?_
  exact safe_bind' (by simp) fun _ => by cases nb <;> simp

theorem safe_moduleSetting (st : St) (acc : ModAcc) (s : Setting) : Safe (moduleSetting st acc s) := by
  unfold moduleSetting
  dsimp only
  refine safe_ite (safe_map _ (safe_parseNumber _ _)) ?_
  refine safe_ite (safe_map _ (safe_prmDataRef _ _ _)) ?_
  refine safe_ite (safe_map _ (safe_prmDataConst _ _)) ?_
  exact safe_ite (safe_map _ (safe_parseStr _)) (safe_ok _)

theorem safe_moduleItems (st : St) (items : List ModItem) (acc : ModAcc) : Safe (moduleItems st items acc) := by
  induction items generalizing acc with
  | nil => simp [moduleItems]
  | cons it rest ih =>
    cases it with
    | reference n =>
      simp only [moduleItems]
      exact safe_bind' (by simp) fun _ => ih _
    | setting s =>
      simp only [moduleItems]
      exact safe_bind' (safe_moduleSetting _ _ _) fun _ => ih _
    | dataArea =>
      simp only [moduleItems]
      exact ih _

theorem safe_doModule (st : St) (m : ModuleStmt) : Safe (doModule st m) := by
  unfold doModule
  refine safe_bind' (by simp) fun _ => ?_
  exact safe_map _ (safe_moduleItems _ _ _)

/-- The two legacy keys: ignored once an `Ext_User_Prm` key was seen, otherwise a parse and a length
check that answers an error value. -/
theorem safe_legacy {α : Type} (st : St) {x : Res α} {c : α → UserPrmData → Prop} [∀ a p, Decidable (c a p)]
    {g : α → UserPrmData → St} (hx : Safe x) :
    Safe (match st.legacy with
      | none => Res.ok st
      | some prm => x >>= fun a => if c a prm then .err .prmlen else pure (g a prm)) := by
  cases st.legacy with
  | none => exact safe_ok _
  | some prm => exact safe_bind' hx fun _ => safe_ite (safe_err _) (safe_pure _)

theorem safe_specialSetting (st : St) (k : Str) (s : Setting) : Safe (specialSetting st k s) := by
  unfold specialSetting
  refine safe_ite (safe_map _ (safe_parseBool _)) ?_
  refine safe_ite (safe_map _ (safe_parseNumber _ _)) ?_
  refine safe_ite (safe_map _ (safe_prmDataRef _ _ _)) ?_
  refine safe_ite (safe_map _ (safe_prmDataConst _ _)) ?_
  refine safe_ite (safe_ok _) ?_
  refine safe_ite (safe_legacy st (safe_parseNumber _ _)) ?_
  refine safe_ite (safe_legacy st (safe_parseNumberList _ _)) ?_
  refine safe_ite (safe_diagBit _ _ _ _) ?_
  refine safe_ite (safe_diagBit _ _ _ _) ?_
  refine safe_ite (safe_diagBit _ _ _ _) ?_
  exact safe_ite (safe_diagBit _ _ _ _) (safe_ok _)

theorem safe_doSetting (st : St) (s : Setting) : Safe (doSetting st s) := by
  unfold doSetting
  dsimp only
  cases strSetter (lower s.key) with
  | some f => exact safe_map _ (safe_parseStr _)
  | none =>
    cases numSetter (lower s.key) with
    | some mf => exact safe_map _ (safe_parseNumber _ _)
    | none =>
      cases boolSetter (lower s.key) with
      | some f => exact safe_map _ (safe_parseBool _)
      | none => exact safe_specialSetting _ _ _

theorem safe_doStmt (st : St) (s : Stmt) : Safe (doStmt st s) := by
  cases s with
  | prmText p => exact safe_doPrmText _ _
  | extPrm e => exact safe_doExtPrm _ _
  | module m => exact safe_doModule _ _
  | slots ss => exact safe_doSlots _ _
  | area a => exact safe_doArea _ _
  | setting s => exact safe_doSetting _ _
  | ignored => simp [doStmt]

theorem safe_run (st : St) (ast : Ast) : Safe (run st ast) := by
  induction ast generalizing st with
  | nil => simp [run]
  | cons s rest ih =>
    simp only [run]
    exact safe_bind' (safe_doStmt _ _) fun _ => ih _

/-- The `unwrap()` of the compact-station post-processing is unreachable: without a `Max_Module`
statement the value has just been set to 1. -/
theorem safe_finish (st : St) : Safe (finish st) := by
  unfold finish
  dsimp only
  generalize commitLegacy st = g0
  split
  · simp
  · unfold compactStation
    split
    · rename_i h
      obtain ⟨h1, h2, _⟩ := h
      simp [defaultMaxModules, h2] at h1
    · simp

end PV.Gsd
