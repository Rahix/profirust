/-
Stage lemmas for `interp_faithful`: what `run` does on each part of `astOf d`.  Here: sequencing,
association lists, the setter tables of the interpreter with the place of every key the printer writes,
and the scalar settings.
-/
import ProfiVerif.Lemmas.GsdLex
import ProfiVerif.Lemmas.Gsd

namespace PV.Gsd
open Res

theorem run_cons_ok {st st' : St} {s : Stmt} {rest : Ast} (h : doStmt st s = .ok st') :
    run st (s :: rest) = run st' rest := by
  simp [run, h]

theorem run_append (st : St) (a b : Ast) : run st (a ++ b) = (run st a >>= fun st' => run st' b) := by
  induction a generalizing st with
  | nil => simp [run]
  | cons s rest ih =>
    simp only [List.cons_append, run]
    cases doStmt st s with
    | ok st' => simp [ih]
    | err e => simp
    | panic => simp

theorem run_append_ok {st st' : St} {a b : Ast} (h : run st a = .ok st') : run st (a ++ b) = run st' b := by
  rw [run_append, h]; rfl

def keys {κ α : Type} (m : List (κ × α)) : List κ := m.map (·.1)

theorem assocInsert_new {κ α : Type} [DecidableEq κ] (k : κ) (v : α) (m : List (κ × α)) (h : k ∉ keys m) :
    assocInsert k v m = m ++ [(k, v)] := by
  induction m with
  | nil => rfl
  | cons kv rest ih =>
    obtain ⟨k', v'⟩ := kv
    simp only [keys, List.map_cons, List.mem_cons, not_or] at h
    simp only [assocInsert, List.cons_append]
    rw [if_neg (fun e => h.1 e.symm), ih h.2]

theorem not_mem_keys_of_nodup {κ α : Type} {acc rest : List (κ × α)} {k : κ} {v : α}
    (hn : (keys (acc ++ (k, v) :: rest)).Nodup) : k ∉ keys acc := by
  simp only [keys, List.map_append, List.map_cons] at hn
  intro hmem
  exact (List.nodup_append.mp hn).2.2 k hmem k (by simp) rfl

theorem assocGet_insert_self {κ α : Type} [DecidableEq κ] (k : κ) (v : α) (m : List (κ × α)) :
    assocGet k (assocInsert k v m) = some v := by
  induction m with
  | nil => simp [assocInsert, assocGet]
  | cons kv rest ih =>
    obtain ⟨k', v'⟩ := kv
    simp only [assocInsert]
    split
    · simp [assocGet]
    · rename_i hne
      simp [assocGet, hne, ih]

theorem assocGet_insert_ne {κ α : Type} [DecidableEq κ] (k j : κ) (v : α) (m : List (κ × α)) (h : j ≠ k) :
    assocGet j (assocInsert k v m) = assocGet j m := by
  induction m with
  | nil => simp [assocInsert, assocGet, Ne.symm h]
  | cons kv rest ih =>
    obtain ⟨k', v'⟩ := kv
    simp only [assocInsert]
    split
    · rename_i he
      subst he
      simp [assocGet, Ne.symm h]
    · simp only [assocGet]
      split
      · rfl
      · exact ih

theorem assocGet_none_of_not_mem {κ α : Type} [DecidableEq κ] (k : κ) (m : List (κ × α)) (h : k ∉ keys m) :
    assocGet k m = none := by
  induction m with
  | nil => rfl
  | cons kv rest ih =>
    obtain ⟨k', v'⟩ := kv
    simp only [keys, List.map_cons, List.mem_cons, not_or] at h
    simp only [assocGet]
    rw [if_neg (fun e => h.1 e.symm)]
    exact ih h.2

theorem assocGet_append_self {κ α : Type} [DecidableEq κ] (k : κ) (v : α) (m : List (κ × α)) (h : k ∉ keys m) :
    assocGet k (m ++ [(k, v)]) = some v := by
  induction m with
  | nil => simp [assocGet]
  | cons kv rest ih =>
    obtain ⟨k', v'⟩ := kv
    simp only [keys, List.map_cons, List.mem_cons, not_or] at h
    simp only [List.cons_append, assocGet]
    rw [if_neg (fun e => h.1 e.symm)]
    exact ih h.2

theorem assocInsert_append_self {κ α : Type} [DecidableEq κ] (k : κ) (v w : α) (m : List (κ × α)) (h : k ∉ keys m) :
    assocInsert k w (m ++ [(k, v)]) = m ++ [(k, w)] := by
  induction m with
  | nil => simp [assocInsert]
  | cons kv rest ih =>
    obtain ⟨k', v'⟩ := kv
    simp only [keys, List.map_cons, List.mem_cons, not_or] at h
    simp only [List.cons_append, assocInsert]
    rw [if_neg (fun e => h.1 e.symm), ih h.2]

theorem parseBool_boolTok (b : Bool) : parseBool (.num (boolTok b)) = .ok b := by
  cases b <;> simp [parseBool, parseNumber, boolTok, parseTok_decTok, u32Max]

theorem parseBoolTok_boolTok (b : Bool) : parseBoolTok (boolTok b) = .ok b := by
  cases b <;> simp [parseBoolTok, boolTok, parseTok_decTok, u32Max]

theorem parseToks_decToks (max : Nat) (hm : max ≤ u32Max) (ns : List Nat) (h : ∀ n ∈ ns, n ≤ max) :
    parseToks max (ns.map decTok) = .ok ns := by
  induction ns with
  | nil => rfl
  | cons n rest ih =>
    simp only [List.map_cons, parseToks]
    rw [parseTok_decTok_ok (h n (by simp)) hm, ih fun m hm' => h m (by simp [hm'])]
    rfl

theorem parseSignedToks_intToks (vs : List Int) (h : ∀ v ∈ vs, I64 v) :
    parseSignedToks (vs.map intTok) = .ok vs := by
  induction vs with
  | nil => rfl
  | cons v rest ih =>
    simp only [List.map_cons, parseSignedToks]
    rw [parseSignedTok_intTok (h v (by simp)), ih fun m hm' => h m (by simp [hm'])]
    rfl

/-! ### The setter tables as association lists

Trap: evaluating `strSetter (lower "Key".toList)` and its like decodes the UTF-8 of every string literal
in front of the hit, in the elaborator and again in the kernel.  So the tables of the interpreter are
restated as association lists (`strSetter k = findD none k strTable` by unfolding; the copies are there
because the unifier reads the entry of a key off the literal list), the place of every key the printer
writes is computed by one kernel evaluation (`printerKeys_kind`), and what a setting does follows from
its place. -/

def findD {α : Type} (d : α) (k : Str) : List (Str × α) → α
  | [] => d
  | (a, v) :: rest => if k = a then v else findD d k rest

theorem findD_eq {α : Type} (d : α) (k : Str) (t : List (Str × α)) :
    findD d k t = ((t[(t.map (·.1)).idxOf k]?).map (·.2)).getD d := by
  induction t with
  | nil => rfl
  | cons e rest ih =>
    obtain ⟨a, v⟩ := e
    simp only [findD, List.map_cons, List.idxOf_cons]
    by_cases h : k = a
    · subst h; simp
    · have : (a == k) = false := by simpa using fun e => h e.symm
      simp [h, this, ih]

theorem findD_at {α : Type} {d : α} {k a : Str} {t : List (Str × α)} {i : Nat} {v : α}
    (hi : (t.map (·.1)).idxOf k = i) (hv : t[i]? = some (a, v)) : findD d k t = v := by
  rw [findD_eq, hi, hv]; rfl

theorem findD_absent {α : Type} {d : α} {k : Str} {t : List (Str × α)}
    (h : ¬ (t.map (·.1)).idxOf k < (t.map (·.1)).length) : findD d k t = d := by
  rw [findD_eq, List.getElem?_eq_none (by simpa using h)]; rfl

def strTable : List (Str × Option (Desc → Str → Desc)) :=
  [ ("vendor_name".toList, some fun g v => { g with vendor := v }),
    ("model_name".toList, some fun g v => { g with model := v }),
    ("revision".toList, some fun g v => { g with revision := v }),
    ("hardware_release".toList, some fun g v => { g with hardwareRelease := v }),
    ("software_release".toList, some fun g v => { g with softwareRelease := v }),
    ("implementation_type".toList, some fun g v => { g with implementationType := v }) ]

def numTable : List (Str × Option (Nat × (Desc → Nat → Desc))) :=
  [ ("gsd_revision".toList, some (u8Max, fun g v => { g with gsdRevision := v })),
    ("revision_number".toList, some (u8Max, fun g v => { g with revisionNumber := v })),
    ("ident_number".toList, some (u16Max, fun g v => { g with identNumber := v })),
    ("maxtsdr_9.6".toList, some (u16Max, fun g v => { g with maxTsdr := { g.maxTsdr with b9600 := v } })),
    ("maxtsdr_19.2".toList, some (u16Max, fun g v => { g with maxTsdr := { g.maxTsdr with b19200 := v } })),
    ("maxtsdr_31.25".toList, some (u16Max, fun g v => { g with maxTsdr := { g.maxTsdr with b31250 := v } })),
    ("maxtsdr_45.45".toList, some (u16Max, fun g v => { g with maxTsdr := { g.maxTsdr with b45450 := v } })),
    ("maxtsdr_93.75".toList, some (u16Max, fun g v => { g with maxTsdr := { g.maxTsdr with b93750 := v } })),
    ("maxtsdr_187.5".toList, some (u16Max, fun g v => { g with maxTsdr := { g.maxTsdr with b187500 := v } })),
    ("maxtsdr_500".toList, some (u16Max, fun g v => { g with maxTsdr := { g.maxTsdr with b500000 := v } })),
    ("maxtsdr_1.5m".toList, some (u16Max, fun g v => { g with maxTsdr := { g.maxTsdr with b1500000 := v } })),
    ("maxtsdr_3m".toList, some (u16Max, fun g v => { g with maxTsdr := { g.maxTsdr with b3000000 := v } })),
    ("maxtsdr_6m".toList, some (u16Max, fun g v => { g with maxTsdr := { g.maxTsdr with b6000000 := v } })),
    ("maxtsdr_12m".toList, some (u16Max, fun g v => { g with maxTsdr := { g.maxTsdr with b12000000 := v } })),
    ("max_input_len".toList, some (u8Max, fun g v => { g with maxInputLength := v })),
    ("max_output_len".toList, some (u8Max, fun g v => { g with maxOutputLength := v })),
    ("max_data_len".toList, some (u16Max, fun g v => { g with maxDataLength := v })),
    ("max_diag_data_len".toList, some (u8Max, fun g v => { g with maxDiagDataLength := v })) ]

def boolTable : List (Str × Option (Desc → Bool → Desc)) :=
  [ ("fail_safe".toList, some fun g v => { g with failSafe := v }),
    ("9.6_supp".toList, some fun g v => { g with speeds := { g.speeds with b9600 := g.speeds.b9600 || v } }),
    ("19.2_supp".toList, some fun g v => { g with speeds := { g.speeds with b19200 := g.speeds.b19200 || v } }),
    ("31.25_supp".toList, some fun g v => { g with speeds := { g.speeds with b31250 := g.speeds.b31250 || v } }),
    ("45.45_supp".toList, some fun g v => { g with speeds := { g.speeds with b45450 := g.speeds.b45450 || v } }),
    ("93.75_supp".toList, some fun g v => { g with speeds := { g.speeds with b93750 := g.speeds.b93750 || v } }),
    ("187.5_supp".toList, some fun g v => { g with speeds := { g.speeds with b187500 := g.speeds.b187500 || v } }),
    ("500_supp".toList, some fun g v => { g with speeds := { g.speeds with b500000 := g.speeds.b500000 || v } }),
    ("1.5m_supp".toList, some fun g v => { g with speeds := { g.speeds with b1500000 := g.speeds.b1500000 || v } }),
    ("3m_supp".toList, some fun g v => { g with speeds := { g.speeds with b3000000 := g.speeds.b3000000 || v } }),
    ("6m_supp".toList, some fun g v => { g with speeds := { g.speeds with b6000000 := g.speeds.b6000000 || v } }),
    ("12m_supp".toList, some fun g v => { g with speeds := { g.speeds with b12000000 := g.speeds.b12000000 || v } }),
    ("freeze_mode_supp".toList, some fun g v => { g with freezeModeSupported := v }),
    ("sync_mode_supp".toList, some fun g v => { g with syncModeSupported := v }),
    ("auto_baud_supp".toList, some fun g v => { g with autoBaudSupported := v }),
    ("set_slave_add_supp".toList, some fun g v => { g with setSlaveAddrSupported := v }) ]

/-- The arms of `specialSetting`, in its order. -/
def specialTable (st : St) (s : Setting) : List (Str × Res St) :=
  [ ("modular_station".toList, do
      let st := { st with modularSeen := true }
      let v ← parseBool s.first
      pure { st with gsd := { st.gsd with modularStation := v } }),
    ("max_module".toList, do
      let st := { st with maxModulesSeen := true }
      let v ← parseNumber u8Max s.first
      pure { st with gsd := { st.gsd with maxModules := v } }),
    ("ext_user_prm_data_ref".toList, do
      let prm ← prmDataRef st s st.gsd.userPrmData
      pure { st with gsd := { st.gsd with userPrmData := prm }, legacy := none }),
    ("ext_user_prm_data_const".toList, do
      let prm ← prmDataConst s st.gsd.userPrmData
      pure { st with gsd := { st.gsd with userPrmData := prm }, legacy := none }),
    ("max_user_prm_data_len".toList, .ok { st with legacy := none }),
    ("user_prm_data_len".toList,
      match st.legacy with
      | none => .ok st
      | some prm => do
        let n ← parseNumber u8Max s.first
        if n < constMaxLen prm.dataConst then .err .prmlen
        else pure { st with legacy := some { prm with length := n } }),
    ("user_prm_data".toList,
      match st.legacy with
      | none => .ok st
      | some prm => do
        let values ← parseNumberList u8Max s.first
        if prm.length ≠ 0 ∧ prm.length < values.length then .err .prmlen
        else pure { st with legacy := some { prm with dataConst := prm.dataConst ++ [(0, values)] } }),
    ("unit_diag_bit".toList, diagBit st s false false),
    ("unit_diag_bit_help".toList, diagBit st s false true),
    ("unit_diag_not_bit".toList, diagBit st s true false),
    ("unit_diag_not_bit_help".toList, diagBit st s true true) ]

theorem strSetter_eq (k : Str) : strSetter k = findD none k strTable := rfl
theorem numSetter_eq (k : Str) : numSetter k = findD none k numTable := rfl
theorem boolSetter_eq (k : Str) : boolSetter k = findD none k boolTable := rfl
theorem specialSetting_eq (st : St) (k : Str) (s : Setting) :
    specialSetting st k s = findD (.ok st) k (specialTable st s) := rfl

def strKeys : List Str := strTable.map (·.1)
def numKeys : List Str := numTable.map (·.1)
def boolKeys : List Str := boolTable.map (·.1)
def specialKeys : List Str := (specialTable {} default).map (·.1)

/-- The table that answers for a key, and the place of the key in it. -/
inductive KeyKind where
  | str (i : Nat) | num (i : Nat) | bool (i : Nat) | special (i : Nat) | unknown
  deriving DecidableEq

def keyKind (k : Str) : KeyKind :=
  if strKeys.idxOf k < strKeys.length then .str (strKeys.idxOf k)
  else if numKeys.idxOf k < numKeys.length then .num (numKeys.idxOf k)
  else if boolKeys.idxOf k < boolKeys.length then .bool (boolKeys.idxOf k)
  else if specialKeys.idxOf k < specialKeys.length then .special (specialKeys.idxOf k)
  else .unknown

theorem keyKind_spec (k : Str) :
    match keyKind k with
    | .str i => strKeys.idxOf k = i
    | .num i => ¬ strKeys.idxOf k < strKeys.length ∧ numKeys.idxOf k = i
    | .bool i => ¬ strKeys.idxOf k < strKeys.length ∧ ¬ numKeys.idxOf k < numKeys.length ∧ boolKeys.idxOf k = i
    | .special i => ¬ strKeys.idxOf k < strKeys.length ∧ ¬ numKeys.idxOf k < numKeys.length ∧
        ¬ boolKeys.idxOf k < boolKeys.length ∧ specialKeys.idxOf k = i
    | .unknown => True := by
  unfold keyKind
  by_cases h1 : strKeys.idxOf k < strKeys.length
  · rw [if_pos h1]
  · rw [if_neg h1]
    by_cases h2 : numKeys.idxOf k < numKeys.length
    · rw [if_pos h2]; exact ⟨h1, rfl⟩
    · rw [if_neg h2]
      by_cases h3 : boolKeys.idxOf k < boolKeys.length
      · rw [if_pos h3]; exact ⟨h1, h2, rfl⟩
      · rw [if_neg h3]
        by_cases h4 : specialKeys.idxOf k < specialKeys.length
        · rw [if_pos h4]; exact ⟨h1, h2, h3, rfl⟩
        · rw [if_neg h4]; trivial

theorem doSetting_str {st : St} {s : Setting} {i : Nat} {a : Str} {f : Desc → Str → Desc}
    (hk : keyKind (lower s.key) = .str i) (hv : strTable[i]? = some (a, some f)) :
    doSetting st s = (do let v ← parseStr s.first; pure { st with gsd := f st.gsd v }) := by
  have hi := keyKind_spec (lower s.key)
  rw [hk] at hi
  simp only [doSetting, strSetter_eq, findD_at hi hv]

theorem doSetting_num {st : St} {s : Setting} {i : Nat} {a : Str} {mx : Nat} {f : Desc → Nat → Desc}
    (hk : keyKind (lower s.key) = .num i) (hv : numTable[i]? = some (a, some (mx, f))) :
    doSetting st s = (do let v ← parseNumber mx s.first; pure { st with gsd := f st.gsd v }) := by
  have hi := keyKind_spec (lower s.key)
  rw [hk] at hi
  simp only [doSetting, strSetter_eq, numSetter_eq, findD_absent hi.1, findD_at hi.2 hv]

theorem doSetting_bool {st : St} {s : Setting} {i : Nat} {a : Str} {f : Desc → Bool → Desc}
    (hk : keyKind (lower s.key) = .bool i) (hv : boolTable[i]? = some (a, some f)) :
    doSetting st s = (do let v ← parseBool s.first; pure { st with gsd := f st.gsd v }) := by
  have hi := keyKind_spec (lower s.key)
  rw [hk] at hi
  simp only [doSetting, strSetter_eq, numSetter_eq, boolSetter_eq, findD_absent hi.1, findD_absent hi.2.1,
    findD_at hi.2.2 hv]

theorem doSetting_special {st : St} {s : Setting} {i : Nat} {a : Str} {r : Res St}
    (hk : keyKind (lower s.key) = .special i) (hv : (specialTable st s)[i]? = some (a, r)) :
    doSetting st s = r := by
  have hi := keyKind_spec (lower s.key)
  rw [hk] at hi
  simp only [doSetting, strSetter_eq, numSetter_eq, boolSetter_eq, specialSetting_eq, findD_absent hi.1,
    findD_absent hi.2.1, findD_absent hi.2.2.1, findD_at (t := specialTable st s) hi.2.2.2 hv]

/-- The keys `astOf` writes at top level.  `kind_of j` (below) and `keyOk_of j` (`PegTextDesc`) speak of entry `j`,
counted from 0:
0–41 are the scalar settings in the order of `scalarStmts`, then 42 `Max_User_Prm_Data_Len`,
43 `Ext_User_Prm_Data_Const`, 44 `Ext_User_Prm_Data_Ref`, 45 `User_Prm_Data_Len`, 46 `User_Prm_Data`,
47–50 `Unit_Diag_Bit`, `Unit_Diag_Bit_Help`, `Unit_Diag_Not_Bit`, `Unit_Diag_Not_Bit_Help`. -/
def printerKeys : List String :=
  [ "GSD_Revision", "Vendor_Name", "Model_Name", "Revision", "Revision_Number", "Ident_Number", "Hardware_Release",
    "Software_Release", "Implementation_Type", "Freeze_Mode_supp", "Sync_Mode_supp", "Auto_Baud_supp",
    "Set_Slave_Add_supp", "Fail_Safe", "Max_Diag_Data_Len", "Modular_Station", "Max_Module", "Max_Input_Len",
    "Max_Output_Len", "Max_Data_Len", "9.6_supp", "19.2_supp", "31.25_supp", "45.45_supp", "93.75_supp", "187.5_supp",
    "500_supp", "1.5M_supp", "3M_supp", "6M_supp", "12M_supp", "MaxTsdr_9.6", "MaxTsdr_19.2", "MaxTsdr_31.25",
    "MaxTsdr_45.45", "MaxTsdr_93.75", "MaxTsdr_187.5", "MaxTsdr_500", "MaxTsdr_1.5M", "MaxTsdr_3M", "MaxTsdr_6M",
    "MaxTsdr_12M", "Max_User_Prm_Data_Len", "Ext_User_Prm_Data_Const", "Ext_User_Prm_Data_Ref", "User_Prm_Data_Len",
    "User_Prm_Data", "Unit_Diag_Bit", "Unit_Diag_Bit_Help", "Unit_Diag_Not_Bit", "Unit_Diag_Not_Bit_Help" ]
/-- Entry `j`: the table that answers for `printerKeys[j]` and its place there. -/
def printerKinds : List KeyKind :=
  [ .num 0, .str 0, .str 1, .str 2, .num 1, .num 2, .str 3, .str 4, .str 5, .bool 12, .bool 13, .bool 14, .bool 15,
    .bool 0, .num 17, .special 0, .special 1, .num 14, .num 15, .num 16, .bool 1, .bool 2, .bool 3, .bool 4, .bool 5,
    .bool 6, .bool 7, .bool 8, .bool 9, .bool 10, .bool 11, .num 3, .num 4, .num 5, .num 6, .num 7, .num 8, .num 9,
    .num 10, .num 11, .num 12, .num 13, .special 4, .special 3, .special 2, .special 5, .special 6, .special 7,
    .special 8, .special 9, .special 10 ]

/-- Trap: the kernel identifies `"…"` with `String.ofList […]` at once but runs `String.toList` on a literal
by decoding it; rewriting with `String.toList_ofList` first hands it the characters. -/
theorem printerKeys_kind : printerKeys.map (fun key => keyKind (lower key.toList)) = printerKinds := by
  simp only [printerKeys, List.map_cons, List.map_nil]
  repeat rw [String.toList_ofList]
  decide +kernel

theorem kind_of (j : Nat) {key : String} {kd : KeyKind} (hj : printerKeys[j]? = some key)
    (hk : printerKinds[j]? = some kd) : keyKind (lower key.toList) = kd := by
  have := congrArg (·[j]?) printerKeys_kind
  simpa only [List.getElem?_map, hj, hk, Option.map_some, Option.some.injEq] using this

theorem doStmt_setNum (st : St) (n : Nat) {key : String} {i : Nat} {a : Str} {max : Nat} {f : Desc → Nat → Desc}
    (hk : keyKind (lower key.toList) = .num i) (hv : numTable[i]? = some (a, some (max, f)))
    (hm : max ≤ u32Max) (hn : n ≤ max) :
    doStmt st (setNum key n) = .ok { st with gsd := f st.gsd n } := by
  simp only [doStmt, setNum, doSetting_num (s := ⟨key.toList, none, _⟩) hk hv, Setting.first, parseNumber,
    parseTok_decTok_ok hn hm, bind_ok, pure_eq]

theorem doStmt_setStr (st : St) {v : Str} {key : String} {i : Nat} {a : Str} {f : Desc → Str → Desc}
    (hk : keyKind (lower key.toList) = .str i) (hv' : strTable[i]? = some (a, some f)) (hv : Clean v) :
    doStmt st (setStr key v) = .ok { st with gsd := f st.gsd v } := by
  simp only [doStmt, setStr, doSetting_str (s := ⟨key.toList, none, _⟩) hk hv', Setting.first, parseStr_quote hv,
    bind_ok, pure_eq]

theorem doStmt_setBool (st : St) (b : Bool) {key : String} {i : Nat} {a : Str} {f : Desc → Bool → Desc}
    (hk : keyKind (lower key.toList) = .bool i) (hv : boolTable[i]? = some (a, some f)) :
    doStmt st (setBool key b) = .ok { st with gsd := f st.gsd b } := by
  simp only [doStmt, setBool, doSetting_bool (s := ⟨key.toList, none, _⟩) hk hv, Setting.first, parseBool_boolTok,
    bind_ok, pure_eq]

/-- The key is a `String` so that it is found by unification with `kind_of` and never decoded. -/
theorem doStmt_special {st : St} {key : String} {ix : Option NumTok} {v : Value} {i : Nat} {a : Str} {r : Res St}
    (hk : keyKind (lower key.toList) = .special i) (hv : (specialTable st ⟨key.toList, ix, v⟩)[i]? = some (a, r)) :
    doStmt st (.setting ⟨key.toList, ix, v⟩) = r :=
  doSetting_special (s := ⟨key.toList, ix, v⟩) hk hv

theorem doStmt_modular (st : St) (b : Bool) :
    doStmt st (setBool "Modular_Station" b) =
      .ok { st with modularSeen := true, gsd := { st.gsd with modularStation := b } } := by
  rw [setBool, doStmt_special (kind_of 15 rfl rfl) rfl]
  simp only [Setting.first, parseBool_boolTok, bind_ok, pure_eq]

theorem doStmt_maxModule (st : St) (n : Nat) (hn : n ≤ 255) :
    doStmt st (setNum "Max_Module" n) =
      .ok { st with maxModulesSeen := true, gsd := { st.gsd with maxModules := n } } := by
  rw [setNum, doStmt_special (kind_of 16 rfl rfl) rfl]
  simp only [Setting.first, parseNumber, parseTok_decTok_ok (max := u8Max) hn (by decide), bind_ok, pure_eq]

structure ScalarsOk (d : Desc) : Prop where
  gsdRevision : d.gsdRevision ≤ 255
  revisionNumber : d.revisionNumber ≤ 255
  identNumber : d.identNumber ≤ 65535
  maxDiag : d.maxDiagDataLength ≤ 255
  maxModules : d.maxModules ≤ 255
  maxIn : d.maxInputLength ≤ 255
  maxOut : d.maxOutputLength ≤ 255
  maxData : d.maxDataLength ≤ 65535
  t0 : d.maxTsdr.b9600 ≤ 65535
  t1 : d.maxTsdr.b19200 ≤ 65535
  t2 : d.maxTsdr.b31250 ≤ 65535
  t3 : d.maxTsdr.b45450 ≤ 65535
  t4 : d.maxTsdr.b93750 ≤ 65535
  t5 : d.maxTsdr.b187500 ≤ 65535
  t6 : d.maxTsdr.b500000 ≤ 65535
  t7 : d.maxTsdr.b1500000 ≤ 65535
  t8 : d.maxTsdr.b3000000 ≤ 65535
  t9 : d.maxTsdr.b6000000 ≤ 65535
  t10 : d.maxTsdr.b12000000 ≤ 65535
  vendor : Clean d.vendor
  model : Clean d.model
  revision : Clean d.revision
  hardware : Clean d.hardwareRelease
  software : Clean d.softwareRelease
  implementation : Clean d.implementationType

/-- The scalar fields of `d`, everything else as after `Default::default()`. -/
def scalarsOf (d : Desc) : Desc :=
  { d with availableModules := [], slots := [], userPrmData := {}, diagBits := [], diagNotBits := [], diagAreas := [] }

theorem run_scalars (d : Desc) (h : ScalarsOk d) :
    run {} (scalarStmts d) = .ok { gsd := scalarsOf d, maxModulesSeen := true, modularSeen := true } := by
  unfold scalarStmts
  rw [run_cons_ok (doStmt_setNum _ _ (kind_of 0 rfl rfl) rfl (by decide) h.gsdRevision)]
  rw [run_cons_ok (doStmt_setStr _ (kind_of 1 rfl rfl) rfl h.vendor)]
  rw [run_cons_ok (doStmt_setStr _ (kind_of 2 rfl rfl) rfl h.model)]
  rw [run_cons_ok (doStmt_setStr _ (kind_of 3 rfl rfl) rfl h.revision)]
  rw [run_cons_ok (doStmt_setNum _ _ (kind_of 4 rfl rfl) rfl (by decide) h.revisionNumber)]
  rw [run_cons_ok (doStmt_setNum _ _ (kind_of 5 rfl rfl) rfl (by decide) h.identNumber)]
  rw [run_cons_ok (doStmt_setStr _ (kind_of 6 rfl rfl) rfl h.hardware)]
  rw [run_cons_ok (doStmt_setStr _ (kind_of 7 rfl rfl) rfl h.software)]
  rw [run_cons_ok (doStmt_setStr _ (kind_of 8 rfl rfl) rfl h.implementation)]
  rw [run_cons_ok (doStmt_setBool _ _ (kind_of 9 rfl rfl) rfl)]
  rw [run_cons_ok (doStmt_setBool _ _ (kind_of 10 rfl rfl) rfl)]
  rw [run_cons_ok (doStmt_setBool _ _ (kind_of 11 rfl rfl) rfl)]
  rw [run_cons_ok (doStmt_setBool _ _ (kind_of 12 rfl rfl) rfl)]
  rw [run_cons_ok (doStmt_setBool _ _ (kind_of 13 rfl rfl) rfl)]
  rw [run_cons_ok (doStmt_setNum _ _ (kind_of 14 rfl rfl) rfl (by decide) h.maxDiag)]
  rw [run_cons_ok (doStmt_modular _ _)]
  rw [run_cons_ok (doStmt_maxModule _ _ h.maxModules)]
  rw [run_cons_ok (doStmt_setNum _ _ (kind_of 17 rfl rfl) rfl (by decide) h.maxIn)]
  rw [run_cons_ok (doStmt_setNum _ _ (kind_of 18 rfl rfl) rfl (by decide) h.maxOut)]
  rw [run_cons_ok (doStmt_setNum _ _ (kind_of 19 rfl rfl) rfl (by decide) h.maxData)]
  rw [run_cons_ok (doStmt_setBool _ _ (kind_of 20 rfl rfl) rfl)]
  rw [run_cons_ok (doStmt_setBool _ _ (kind_of 21 rfl rfl) rfl)]
  rw [run_cons_ok (doStmt_setBool _ _ (kind_of 22 rfl rfl) rfl)]
  rw [run_cons_ok (doStmt_setBool _ _ (kind_of 23 rfl rfl) rfl)]
  rw [run_cons_ok (doStmt_setBool _ _ (kind_of 24 rfl rfl) rfl)]
  rw [run_cons_ok (doStmt_setBool _ _ (kind_of 25 rfl rfl) rfl)]
  rw [run_cons_ok (doStmt_setBool _ _ (kind_of 26 rfl rfl) rfl)]
  rw [run_cons_ok (doStmt_setBool _ _ (kind_of 27 rfl rfl) rfl)]
  rw [run_cons_ok (doStmt_setBool _ _ (kind_of 28 rfl rfl) rfl)]
  rw [run_cons_ok (doStmt_setBool _ _ (kind_of 29 rfl rfl) rfl)]
  rw [run_cons_ok (doStmt_setBool _ _ (kind_of 30 rfl rfl) rfl)]
  rw [run_cons_ok (doStmt_setNum _ _ (kind_of 31 rfl rfl) rfl (by decide) h.t0)]
  rw [run_cons_ok (doStmt_setNum _ _ (kind_of 32 rfl rfl) rfl (by decide) h.t1)]
  rw [run_cons_ok (doStmt_setNum _ _ (kind_of 33 rfl rfl) rfl (by decide) h.t2)]
  rw [run_cons_ok (doStmt_setNum _ _ (kind_of 34 rfl rfl) rfl (by decide) h.t3)]
  rw [run_cons_ok (doStmt_setNum _ _ (kind_of 35 rfl rfl) rfl (by decide) h.t4)]
  rw [run_cons_ok (doStmt_setNum _ _ (kind_of 36 rfl rfl) rfl (by decide) h.t5)]
  rw [run_cons_ok (doStmt_setNum _ _ (kind_of 37 rfl rfl) rfl (by decide) h.t6)]
  rw [run_cons_ok (doStmt_setNum _ _ (kind_of 38 rfl rfl) rfl (by decide) h.t7)]
  rw [run_cons_ok (doStmt_setNum _ _ (kind_of 39 rfl rfl) rfl (by decide) h.t8)]
  rw [run_cons_ok (doStmt_setNum _ _ (kind_of 40 rfl rfl) rfl (by decide) h.t9)]
  rw [run_cons_ok (doStmt_setNum _ _ (kind_of 41 rfl rfl) rfl (by decide) h.t10)]
  -- left: the 42 field updates of the default description (a speed as `false || v`) against `scalarsOf d`; with the three
  -- structures taken apart both sides compute to the same constructor term
  cases d with
  | mk _ _ _ _ _ _ _ _ _ _ _ _ _ _ _ _ _ _ _ _ speeds tsdr _ _ _ _ _ _ =>
    cases speeds
    cases tsdr
    rfl

end PV.Gsd
