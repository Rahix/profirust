/-
Stage lemmas for `interp_faithful`, part 2: well-formedness of the structured parts, the
`PrmText` / `ExtUserPrmData` blocks, and the parameter block lines shared by station and modules.
-/
import ProfiVerif.Lemmas.GsdFaithful

namespace PV.Gsd
open Res

def TextMap.WF (m : TextMap) : Prop :=
  (keys m).Nodup ∧ ∀ kv ∈ m, Clean kv.1 ∧ I64 kv.2

def DataType.WF : DataType → Prop
  | .bit n => n ≤ 255
  | .bitArea f l => f ≤ 255 ∧ l ≤ 255
  | _ => True

def Constraint.WF : Constraint → Prop
  | .minMax a b => I64 a ∧ I64 b
  | .enum vs => ∀ v ∈ vs, I64 v
  | .unconstrained => True

instance (m : TextMap) : Decidable m.WF := by unfold TextMap.WF keys; infer_instance
instance (t : DataType) : Decidable t.WF := by cases t <;> (simp only [DataType.WF]; infer_instance)
instance (c : Constraint) : Decidable c.WF := by cases c <;> (simp only [Constraint.WF]; infer_instance)

structure PrmDef.WF (f : PrmDef) : Prop where
  name : Clean f.name
  dataType : f.dataType.WF
  default : I64 f.defaultValue
  constraint : f.constraint.WF
  texts : ∀ m, f.textRef = some m → TextMap.WF m

structure UserPrmData.WF (p : UserPrmData) : Prop where
  length : p.length ≤ 255
  consts : ∀ c ∈ p.dataConst, c.1 ≤ u32Max ∧ ∀ b ∈ c.2, b ≤ 255
  refs : ∀ r ∈ p.dataRef, r.1 ≤ u32Max ∧ r.2.WF

structure Module.WF (m : Module) : Prop where
  name : Clean m.name
  info : ∀ t, m.infoText = some t → Clean t
  config : ∀ b ∈ m.config, b ≤ 255
  reference : ∀ r, m.reference = some r → r ≤ u32Max
  prm : m.prm.WF

theorem textValues_lines (m : TextMap) (acc : TextMap) (hm : ∀ kv ∈ m, Clean kv.1 ∧ I64 kv.2)
    (hn : (keys (acc ++ m)).Nodup) :
    textValues (textLines m) acc = .ok (acc ++ m) := by
  induction m generalizing acc with
  | nil => simp [textLines, textValues]
  | cons kv rest ih =>
    obtain ⟨k, v⟩ := kv
    have hk := hm (k, v) (by simp)
    simp only [textLines, List.map_cons, textValues]
    rw [parseSignedTok_intTok hk.2]
    simp only [bind_ok]
    rw [show unquote (quote k) = k from hk.1]
    have hnew : k ∉ keys acc := not_mem_keys_of_nodup hn
    rw [assocInsert_new k v acc hnew]
    have := ih (acc ++ [(k, v)]) (fun kv hkv => hm kv (by simp [hkv])) (by simpa using hn)
    simpa [textLines] using this

theorem parseDataType_typeNameOf (t : DataType) (h : t.WF) : parseDataType (typeNameOf t) = .ok t := by
  cases t with
  | u8 => rfl
  | u16 => rfl
  | u32 => rfl
  | i8 => rfl
  | i16 => rfl
  | i32 => rfl
  | bit n =>
    simp only [typeNameOf, parseDataType]
    rw [parseTok_decTok_ok (show n ≤ u8Max from h) (by decide)]; rfl
  | bitArea f l =>
    simp only [typeNameOf, parseDataType]
    rw [parseTok_decTok_ok (show f ≤ u8Max from h.1) (by decide),
      parseTok_decTok_ok (show l ≤ u8Max from h.2) (by decide)]; rfl

theorem parseConstraint_constraintOf (c : Constraint) (h : c.WF) : parseConstraint (constraintOf c) = .ok c := by
  cases c with
  | unconstrained => rfl
  | minMax a b =>
    simp only [constraintOf, parseConstraint]
    rw [parseSignedTok_intTok h.1, parseSignedTok_intTok h.2]; rfl
  | enum vs =>
    simp only [constraintOf, parseConstraint]
    rw [parseSignedToks_intToks vs h]; rfl

/-- The definitions `fs` are filed under the consecutive ids `id`, `id + 1`, … (what `defsFrom id fs` leaves behind and
what the `Ext_User_Prm_Data_Ref` lines written by `refSettings id` look up). -/
def Defs (defs : List (Nat × PrmDef)) (id : Nat) (fs : List PrmDef) : Prop :=
  ∀ i, (h : i < fs.length) → assocGet (id + i) defs = some fs[i]

theorem Defs.cons {defs : List (Nat × PrmDef)} {id : Nat} {f : PrmDef} {fs : List PrmDef} (h : Defs defs id (f :: fs)) :
    assocGet id defs = some f ∧ Defs defs (id + 1) fs :=
  ⟨h 0 (Nat.succ_pos _), fun i hi => by
    have := h (i + 1) (Nat.succ_lt_succ hi)
    rwa [show id + (i + 1) = id + 1 + i by omega] at this⟩

theorem Defs.append {defs : List (Nat × PrmDef)} {id : Nat} {a b : List PrmDef} (h : Defs defs id (a ++ b)) :
    Defs defs id a ∧ Defs defs (id + a.length) b :=
  ⟨fun i hi => by
    have := h i (by rw [List.length_append]; omega)
    rwa [List.getElem_append_left hi] at this,
   fun i hi => by
    have := h (a.length + i) (by rw [List.length_append]; omega)
    simpa only [List.getElem_append_right (Nat.le_add_right ..), Nat.add_sub_cancel_left, ← Nat.add_assoc] using this⟩

/-- What the definitions prelude establishes and leaves alone. -/
structure DefsDone (st st' : St) (id : Nat) (defs : List PrmDef) : Prop where
  gsd : st'.gsd = st.gsd
  legacy : st'.legacy = st.legacy
  maxSeen : st'.maxModulesSeen = st.maxModulesSeen
  modSeen : st'.modularSeen = st.modularSeen
  warnings : st'.warnings = st.warnings
  found : ∀ i, (h : i < defs.length) → assocGet (id + i) st'.defs = some defs[i]
  kept : ∀ j, j < id → assocGet j st'.defs = assocGet j st.defs

theorem run_defStmts (st : St) (id : Nat) (f : PrmDef) (hf : f.WF) (hid : id ≤ 65535) :
    ∃ st', run st (defStmts id f) = .ok st' ∧ st'.gsd = st.gsd ∧ st'.legacy = st.legacy ∧
      st'.maxModulesSeen = st.maxModulesSeen ∧ st'.modularSeen = st.modularSeen ∧
      st'.warnings = st.warnings ∧ st'.defs = assocInsert id f st.defs := by
  have hid32 : id ≤ u32Max := by unfold u32Max; omega
  have hid16 : id ≤ u16Max := hid
  obtain ⟨name, dataType, defaultValue, constraint, textRef, changeable, visible⟩ := f
  cases textRef with
  | none =>
    refine ⟨{ st with defs := assocInsert id _ st.defs }, ?_, rfl, rfl, rfl, rfl, rfl, rfl⟩
    simp only [defStmts, List.nil_append, run, doStmt, doExtPrm, Option.map_none]
    rw [parseTok_decTok_ok hid32 (Nat.le_refl _)]
    simp only [bind_ok]
    rw [show unquote (quote name) = name from hf.name, parseDataType_typeNameOf _ hf.dataType]
    simp only [bind_ok]
    rw [parseSignedTok_intTok hf.default]
    simp only [bind_ok]
    rw [parseConstraint_constraintOf _ hf.constraint]
    simp [parseTextRef, parseOptBool, parseBoolTok_boolTok]
  | some m =>
    have hm := hf.texts m rfl
    refine ⟨{ st with prmTexts := assocInsert id m st.prmTexts, defs := assocInsert id _ st.defs }, ?_, rfl, rfl, rfl, rfl, rfl, rfl⟩
    simp only [defStmts, List.cons_append, List.nil_append, run, doStmt, doPrmText]
    rw [parseTok_decTok_ok hid16 (by decide)]
    simp only [bind_ok]
    rw [textValues_lines m [] hm.2 (by simpa using hm.1)]
    simp only [List.nil_append, bind_ok, pure_eq, doExtPrm, Option.map_some]
    rw [parseTok_decTok_ok hid32 (Nat.le_refl _)]
    simp only [bind_ok]
    rw [show unquote (quote name) = name from hf.name, parseDataType_typeNameOf _ hf.dataType]
    simp only [bind_ok]
    rw [parseSignedTok_intTok hf.default]
    simp only [bind_ok]
    rw [parseConstraint_constraintOf _ hf.constraint]
    simp only [bind_ok, parseTextRef]
    rw [parseTok_decTok_ok hid16 (by decide)]
    simp [assocGet_insert_self, parseOptBool, parseBoolTok_boolTok]

theorem run_defsFrom (st : St) (id : Nat) (defs : List PrmDef) (hf : ∀ f ∈ defs, f.WF)
    (hid : id + defs.length ≤ 65536) :
    ∃ st', run st (defsFrom id defs) = .ok st' ∧ DefsDone st st' id defs := by
  induction defs generalizing st id with
  | nil =>
    exact ⟨st, rfl, ⟨rfl, rfl, rfl, rfl, rfl, fun i h => absurd h (by simp), fun _ _ => rfl⟩⟩
  | cons f rest ih =>
    simp only [List.length_cons] at hid
    obtain ⟨st1, h1, hg1, hl1, hm1, hs1, hw1, hd1⟩ := run_defStmts st id f (hf f (by simp)) (by omega)
    obtain ⟨st2, h2, d2⟩ := ih st1 (id + 1) (fun g hg => hf g (by simp [hg])) (by omega)
    refine ⟨st2, ?_, ?_⟩
    · simp only [defsFrom]
      rw [run_append_ok h1, h2]
    · refine ⟨by rw [d2.gsd, hg1], by rw [d2.legacy, hl1], by rw [d2.maxSeen, hm1], by rw [d2.modSeen, hs1],
        by rw [d2.warnings, hw1], ?_, ?_⟩
      · intro i hi
        cases i with
        | zero =>
          rw [Nat.add_zero, d2.kept id (by omega), hd1, assocGet_insert_self]; rfl
        | succ i =>
          have := d2.found i (by simpa using hi)
          rw [show id + (i + 1) = id + 1 + i by omega, this]; rfl
      · intro j hj
        rw [d2.kept j (by omega), hd1, assocGet_insert_ne _ _ _ _ (by omega)]

theorem le_usizeMax {n : Nat} (h : n ≤ u32Max) : n ≤ usizeMax := by
  unfold u32Max at h; unfold usizeMax; omega

theorem prmDataConst_ok (key : Str) (c : Nat × List Nat) (prm : UserPrmData) (ho : c.1 ≤ u32Max) (hb : ∀ b ∈ c.2, b ≤ 255) :
    prmDataConst { key := key, index := some (decTok c.1), value := .list (c.2.map decTok) } prm =
      .ok { prm with dataConst := prm.dataConst ++ [c] } := by
  simp only [prmDataConst, Setting.first, Setting.second, parseNumber, parseNumberList]
  rw [parseTok_decTok_ok' ho (le_usizeMax ho)]
  simp only [bind_ok]
  rw [parseToks_decToks u8Max (by decide) c.2 hb]
  rfl

theorem prmDataRef_ok (key : Str) (st : St) (r : Nat × PrmDef) (id : Nat) (prm : UserPrmData) (ho : r.1 ≤ u32Max)
    (hid : id ≤ u32Max) (hget : assocGet id st.defs = some r.2) :
    prmDataRef st { key := key, index := some (decTok r.1), value := .num (decTok id) } prm =
      .ok { prm with dataRef := prm.dataRef ++ [r] } := by
  simp only [prmDataRef, Setting.first, Setting.second, parseNumber]
  rw [parseTok_decTok_ok' ho (le_usizeMax ho)]
  simp only [bind_ok]
  rw [parseTok_decTok_ok' (max := u32Max) hid hid]
  simp only [bind_ok, hget]
  rfl

end PV.Gsd
