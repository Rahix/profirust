/-
Stage lemmas for `interp_faithful`, part 3: station-wide parameter block and modules.
-/
import ProfiVerif.Lemmas.GsdFaithful2

namespace PV.Gsd
open Res

theorem doStmt_maxUserPrmLen (st : St) (n : Nat) :
    doStmt st (setNum "Max_User_Prm_Data_Len" n) = .ok { st with legacy := none } := by
  rw [setNum, doStmt_special (kind_of 42 rfl rfl) rfl]

theorem doStmt_topConst (st : St) (c : Nat × List Nat) (ho : c.1 ≤ u32Max) (hb : ∀ b ∈ c.2, b ≤ 255) :
    doStmt st (.setting { key := "Ext_User_Prm_Data_Const".toList, index := some (decTok c.1), value := .list (c.2.map decTok) }) =
      .ok { st with
        gsd := { st.gsd with userPrmData := { st.gsd.userPrmData with dataConst := st.gsd.userPrmData.dataConst ++ [c] } }
        legacy := none } := by
  rw [doStmt_special (kind_of 43 rfl rfl) rfl, prmDataConst_ok _ c _ ho hb]
  rfl

theorem doStmt_topRef (st : St) (r : Nat × PrmDef) (id : Nat) (ho : r.1 ≤ u32Max) (hid : id ≤ u32Max)
    (hget : assocGet id st.defs = some r.2) :
    doStmt st (.setting { key := "Ext_User_Prm_Data_Ref".toList, index := some (decTok r.1), value := .num (decTok id) }) =
      .ok { st with
        gsd := { st.gsd with userPrmData := { st.gsd.userPrmData with dataRef := st.gsd.userPrmData.dataRef ++ [r] } }
        legacy := none } := by
  rw [doStmt_special (kind_of 44 rfl rfl) rfl, prmDataRef_ok _ st r id _ ho hid hget]
  rfl

/-- State after station-wide `Ext_User_Prm_Data_*` lines: the parameter block grows, the legacy block is dropped. -/
def withTopPrm (st : St) (cs : List (Nat × List Nat)) (rs : List (Nat × PrmDef)) : St :=
  { st with
    gsd := { st.gsd with userPrmData :=
      { st.gsd.userPrmData with dataConst := st.gsd.userPrmData.dataConst ++ cs, dataRef := st.gsd.userPrmData.dataRef ++ rs } }
    legacy := none }

theorem withTopPrm_nil (st : St) (h : st.legacy = none) : withTopPrm st [] [] = st := by
  simp only [withTopPrm, List.append_nil, ← h]

theorem constSettings_cons (c : Nat × List Nat) (rest : List (Nat × List Nat)) :
    constSettings (c :: rest) =
      { key := "Ext_User_Prm_Data_Const".toList, index := some (decTok c.1), value := .list (c.2.map decTok) } ::
        constSettings rest := rfl

theorem run_topConsts (st : St) (cs : List (Nat × List Nat)) (hl : st.legacy = none)
    (h : ∀ c ∈ cs, c.1 ≤ u32Max ∧ ∀ b ∈ c.2, b ≤ 255) :
    run st ((constSettings cs).map Stmt.setting) = .ok (withTopPrm st cs []) := by
  induction cs generalizing st with
  | nil => simp [constSettings, run, withTopPrm_nil st hl]
  | cons c rest ih =>
    have hc := h c (by simp)
    rw [constSettings_cons, List.map_cons, run_cons_ok (doStmt_topConst st c hc.1 hc.2)]
    rw [ih _ (by rfl) (fun c' hc' => h c' (by simp [hc']))]
    simp [withTopPrm]

theorem run_topRefs (st : St) (id : Nat) (rs : List (Nat × PrmDef)) (hl : st.legacy = none)
    (h : ∀ r ∈ rs, r.1 ≤ u32Max) (hid : id + rs.length ≤ 4294967296) (hget : Defs st.defs id (rs.map (·.2))) :
    run st ((refSettings id rs).map Stmt.setting) = .ok (withTopPrm st [] rs) := by
  induction rs generalizing st id with
  | nil => simp [refSettings, run, withTopPrm_nil st hl]
  | cons r rest ih =>
    simp only [List.length_cons] at hid
    simp only [refSettings, List.map_cons]
    rw [run_cons_ok (doStmt_topRef st r id (h r (by simp)) (by unfold u32Max; omega) hget.cons.1)]
    rw [ih _ (id + 1) (by rfl) (fun r' hr' => h r' (by simp [hr'])) (by omega) (by exact hget.cons.2)]
    simp [withTopPrm]

theorem doStmt_userPrmLen (st : St) (prm : UserPrmData) (n : Nat) (hl : st.legacy = some prm)
    (hn : n ≤ 255) (hc : constMaxLen prm.dataConst ≤ n) :
    doStmt st (setNum "User_Prm_Data_Len" n) = .ok { st with legacy := some { prm with length := n } } := by
  rw [setNum, doStmt_special (kind_of 45 rfl rfl) rfl]
  simp only [hl, Setting.first, parseNumber, parseTok_decTok_ok (max := u8Max) hn (by decide), bind_ok,
    Nat.not_lt.mpr hc, if_false, pure_eq]

theorem doStmt_userPrmData (st : St) (prm : UserPrmData) (bytes : List Nat) (hl : st.legacy = some prm)
    (hb : ∀ b ∈ bytes, b ≤ 255) (hlen : prm.length = 0 ∨ bytes.length ≤ prm.length) :
    doStmt st (.setting { key := "User_Prm_Data".toList, index := none, value := .list (bytes.map decTok) }) =
      .ok { st with legacy := some { prm with dataConst := prm.dataConst ++ [(0, bytes)] } } := by
  have hcond : ¬ (prm.length ≠ 0 ∧ prm.length < bytes.length) := by omega
  rw [doStmt_special (kind_of 46 rfl rfl) rfl]
  simp only [hl, Setting.first, parseNumberList, parseToks_decToks u8Max (by decide) bytes hb, bind_ok]
  rw [if_neg hcond]
  rfl

theorem run_legacyDatas (st : St) (prm : UserPrmData) (datas : List (Nat × List Nat)) (hl : st.legacy = some prm)
    (hb : ∀ c ∈ datas, ∀ b ∈ c.2, b ≤ 255) (hlen : prm.length = 0 ∨ ∀ c ∈ datas, c.2.length ≤ prm.length) :
    run st (datas.map fun c => Stmt.setting
        { key := "User_Prm_Data".toList, index := none, value := .list (c.2.map decTok) }) =
      .ok { st with legacy := some { prm with dataConst := prm.dataConst ++ datas.map fun c => (0, c.2) } } := by
  induction datas generalizing st prm with
  | nil => simp [run, ← hl]
  | cons c rest ih =>
    simp only [List.map_cons]
    rw [run_cons_ok (doStmt_userPrmData st prm c.2 hl (hb c (by simp))
      (hlen.imp id fun h => h c (by simp)))]
    rw [ih _ { prm with dataConst := prm.dataConst ++ [(0, c.2)] } (by rfl) (fun c' hc' => hb c' (by simp [hc']))
      (hlen.imp id fun h c' hc' => h c' (by simp [hc']))]
    simp

theorem moduleItems_append (st : St) (a b : List ModItem) (acc : ModAcc) :
    moduleItems st (a ++ b) acc = (moduleItems st a acc >>= fun acc' => moduleItems st b acc') := by
  induction a generalizing acc with
  | nil => simp [moduleItems]
  | cons it rest ih =>
    cases it with
    | reference n =>
      simp only [List.cons_append, moduleItems]
      cases parseTok u32Max n <;> simp [ih]
    | setting s =>
      simp only [List.cons_append, moduleItems]
      cases moduleSetting st acc s <;> simp [ih]
    | dataArea => simp only [List.cons_append, moduleItems, ih]

/-- The arms of `moduleSetting`, in its order (a copy, for the same reason as `specialTable`). -/
def moduleTable (st : St) (acc : ModAcc) (s : Setting) : List (Str × Res ModAcc) :=
  [ ("ext_module_prm_data_len".toList, do
      let n ← parseNumber u8Max s.first
      pure { acc with prm := { acc.prm with length := n } }),
    ("ext_user_prm_data_ref".toList, do
      let prm ← prmDataRef st s acc.prm
      pure { acc with prm := prm }),
    ("ext_user_prm_data_const".toList, do
      let prm ← prmDataConst s acc.prm
      pure { acc with prm := prm }),
    ("info_text".toList, do
      let t ← parseStr s.first
      pure { acc with infoText := some t }) ]

theorem moduleSetting_eq (st : St) (acc : ModAcc) (s : Setting) :
    moduleSetting st acc s = findD (.ok acc) (lower s.key) (moduleTable st acc s) := rfl

/-- The keys `moduleStmt` writes, in the order of `moduleTable`. -/
def moduleKeys : List String := ["Ext_Module_Prm_Data_Len", "Ext_User_Prm_Data_Ref", "Ext_User_Prm_Data_Const", "Info_Text"]

theorem moduleKeys_pos :
    moduleKeys.map (fun key => ((moduleTable {} {} default).map (·.1)).idxOf (lower key.toList)) = [0, 1, 2, 3] := by
  simp only [moduleKeys, List.map_cons, List.map_nil]
  repeat rw [String.toList_ofList]
  decide +kernel

theorem pos_of_iota {n : Nat} : ∀ {j : Nat}, some n = [0, 1, 2, 3][j]? → n = j
  | 0, h => Option.some.inj h
  | 1, h => Option.some.inj h
  | 2, h => Option.some.inj h
  | 3, h => Option.some.inj h
  | _ + 4, h => nomatch h

theorem moduleSetting_at (j : Nat) {st : St} {acc : ModAcc} {key : String} {ix : Option NumTok} {v : Value}
    {a : Str} {r : Res ModAcc} (hj : moduleKeys[j]? = some key)
    (hv : (moduleTable st acc ⟨key.toList, ix, v⟩)[j]? = some (a, r)) :
    moduleSetting st acc ⟨key.toList, ix, v⟩ = r := by
  have hpos := congrArg (·[j]?) moduleKeys_pos
  simp only [List.getElem?_map, hj, Option.map_some] at hpos
  rw [moduleSetting_eq, findD_at (t := moduleTable st acc ⟨key.toList, ix, v⟩) (pos_of_iota hpos) hv]

theorem moduleSetting_const (st : St) (acc : ModAcc) (c : Nat × List Nat) (ho : c.1 ≤ u32Max) (hb : ∀ b ∈ c.2, b ≤ 255) :
    moduleSetting st acc { key := "Ext_User_Prm_Data_Const".toList, index := some (decTok c.1), value := .list (c.2.map decTok) } =
      .ok { acc with prm := { acc.prm with dataConst := acc.prm.dataConst ++ [c] } } := by
  rw [moduleSetting_at 2 rfl rfl, prmDataConst_ok _ c _ ho hb]
  rfl

theorem moduleSetting_ref (st : St) (acc : ModAcc) (r : Nat × PrmDef) (id : Nat) (ho : r.1 ≤ u32Max) (hid : id ≤ u32Max)
    (hget : assocGet id st.defs = some r.2) :
    moduleSetting st acc { key := "Ext_User_Prm_Data_Ref".toList, index := some (decTok r.1), value := .num (decTok id) } =
      .ok { acc with prm := { acc.prm with dataRef := acc.prm.dataRef ++ [r] } } := by
  rw [moduleSetting_at 1 rfl rfl, prmDataRef_ok _ st r id _ ho hid hget]
  rfl

theorem moduleSetting_len (st : St) (acc : ModAcc) (n : Nat) (hn : n ≤ 255) :
    moduleSetting st acc { key := "Ext_Module_Prm_Data_Len".toList, index := none, value := .num (decTok n) } =
      .ok { acc with prm := { acc.prm with length := n } } := by
  rw [moduleSetting_at 0 rfl rfl]
  simp only [Setting.first, parseNumber, parseTok_decTok_ok (max := u8Max) hn (by decide), bind_ok, pure_eq]

theorem moduleSetting_info (st : St) (acc : ModAcc) (t : Str) (ht : Clean t) :
    moduleSetting st acc { key := "Info_Text".toList, index := none, value := .str (quote t) } =
      .ok { acc with infoText := some t } := by
  rw [moduleSetting_at 3 rfl rfl]
  simp only [Setting.first, parseStr_quote ht, bind_ok, pure_eq]

theorem moduleItems_consts (st : St) (acc : ModAcc) (cs : List (Nat × List Nat))
    (h : ∀ c ∈ cs, c.1 ≤ u32Max ∧ ∀ b ∈ c.2, b ≤ 255) :
    moduleItems st ((constSettings cs).map ModItem.setting) acc =
      .ok { acc with prm := { acc.prm with dataConst := acc.prm.dataConst ++ cs } } := by
  induction cs generalizing acc with
  | nil => simp [constSettings, moduleItems]
  | cons c rest ih =>
    have hc := h c (by simp)
    rw [constSettings_cons, List.map_cons]
    simp only [moduleItems]
    rw [moduleSetting_const st acc c hc.1 hc.2]
    simp only [bind_ok]
    rw [ih _ (fun c' hc' => h c' (by simp [hc']))]
    simp

theorem moduleItems_refs (st : St) (acc : ModAcc) (id : Nat) (rs : List (Nat × PrmDef))
    (h : ∀ r ∈ rs, r.1 ≤ u32Max) (hid : id + rs.length ≤ 4294967296) (hget : Defs st.defs id (rs.map (·.2))) :
    moduleItems st ((refSettings id rs).map ModItem.setting) acc =
      .ok { acc with prm := { acc.prm with dataRef := acc.prm.dataRef ++ rs } } := by
  induction rs generalizing acc id with
  | nil => simp [refSettings, moduleItems]
  | cons r rest ih =>
    simp only [List.length_cons] at hid
    simp only [refSettings, List.map_cons, moduleItems]
    rw [moduleSetting_ref st acc r id (h r (by simp)) (by unfold u32Max; omega) hget.cons.1]
    simp only [bind_ok]
    rw [ih _ (id + 1) (fun r' hr' => h r' (by simp [hr'])) (by omega) hget.cons.2]
    simp

theorem doStmt_moduleStmt (st : St) (id : Nat) (m : Module) (hm : m.WF)
    (hid : id + m.prm.dataRef.length ≤ 4294967296) (hget : Defs st.defs id (m.prm.dataRef.map (·.2))) :
    doStmt st (moduleStmt id m) =
      .ok { st with gsd := { st.gsd with availableModules := st.gsd.availableModules ++ [m] } } := by
  obtain ⟨name, infoText, config, reference, prm⟩ := m
  obtain ⟨length, dataConst, dataRef⟩ := prm
  simp only [doStmt, moduleStmt, doModule]
  rw [parseToks_decToks u8Max (by decide) config hm.config]
  simp only [bind_ok]
  rw [show unquote (quote name) = name from hm.name]
  have hconsts := moduleItems_consts st
  have hrefs := fun acc => moduleItems_refs st acc id dataRef (fun r hr => (hm.prm.refs r hr).1) hid hget
  have hlen := fun acc => moduleSetting_len st acc length hm.prm.length
  have hcs : ∀ c ∈ dataConst, c.1 ≤ u32Max ∧ ∀ b ∈ c.2, b ≤ 255 := hm.prm.consts
  -- the items are [reference] [Info_Text] length consts refs; in each of the four shapes `simp only` runs them front to
  -- back with the facts above, and the closing `simp` compares the accumulated module with the one taken apart
  cases reference with
  | none =>
    cases infoText with
    | none =>
      simp only [List.nil_append, List.map_append, List.cons_append, moduleItems, hlen, bind_ok,
        moduleItems_append, hconsts _ _ hcs, hrefs]
      simp
    | some t =>
      have hi := fun acc => moduleSetting_info st acc t (hm.info t rfl)
      simp only [List.nil_append, List.map_append, List.cons_append, moduleItems, hi, hlen, bind_ok,
        moduleItems_append, hconsts _ _ hcs, hrefs]
      simp
  | some r =>
    have hr : parseTok u32Max (decTok r) = .ok r := parseTok_decTok_ok (hm.reference r rfl) (Nat.le_refl _)
    cases infoText with
    | none =>
      simp only [List.nil_append, List.map_append, List.cons_append, moduleItems, hr, hlen, bind_ok,
        moduleItems_append, hconsts _ _ hcs, hrefs]
      simp
    | some t =>
      have hi := fun acc => moduleSetting_info st acc t (hm.info t rfl)
      simp only [List.nil_append, List.map_append, List.cons_append, moduleItems, hr, hi, hlen, bind_ok,
        moduleItems_append, hconsts _ _ hcs, hrefs]
      simp

theorem run_modules (st : St) (id : Nat) (mods : List Module) (hm : ∀ m ∈ mods, m.WF)
    (hid : id + (moduleDefs mods).length ≤ 4294967296) (hget : Defs st.defs id (moduleDefs mods)) :
    run st (moduleStmtsFrom id mods) =
      .ok { st with gsd := { st.gsd with availableModules := st.gsd.availableModules ++ mods } } := by
  induction mods generalizing st id with
  | nil => simp [moduleStmtsFrom, run]
  | cons m rest ih =>
    have hsplit : moduleDefs (m :: rest) = m.prm.dataRef.map (·.2) ++ moduleDefs rest := by simp [moduleDefs]
    rw [hsplit] at hget
    rw [hsplit, List.length_append, List.length_map] at hid
    simp only [moduleStmtsFrom]
    rw [run_cons_ok (doStmt_moduleStmt st id m (hm m (by simp)) (by omega) hget.append.1)]
    rw [ih _ (id + m.prm.dataRef.length) (fun m' hm' => hm m' (by simp [hm'])) (by omega)
      (by simpa using hget.append.2)]
    simp

end PV.Gsd
