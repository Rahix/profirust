/-
Stage lemmas for `interp_faithful`, part 4: slots, unit diagnostics.
-/
import ProfiVerif.Lemmas.GsdFaithful

namespace PV.Gsd
open Res

/-- Index `i` names a module that a slot can refer to: it has a reference number that fits `u16`
and it is the first module with that number. -/
def RefOk (mods : List Module) (i : Nat) : Prop :=
  ∃ m r, mods[i]? = some m ∧ m.reference = some r ∧ r ≤ 65535 ∧ findModule mods r = some i

structure Slot.WF (mods : List Module) (s : Slot) : Prop where
  name : Clean s.name
  number : s.number ≤ 255
  default : RefOk mods s.default
  allowed : ∀ i ∈ s.allowed, RefOk mods i

theorem refOf_ok {mods : List Module} {i : Nat} (h : RefOk mods i) :
    refOf mods i ≤ 65535 ∧ findModule mods (refOf mods i) = some i := by
  obtain ⟨m, r, hm, hr, hle, hf⟩ := h
  simp [refOf, hm, hr, hle, hf]

theorem slotSet_ok (mods : List Module) (is : List Nat) (h : ∀ i ∈ is, RefOk mods i) :
    slotSet mods (is.map fun i => decTok (refOf mods i)) = .ok (is, []) := by
  induction is with
  | nil => rfl
  | cons i rest ih =>
    have hi := refOf_ok (h i (by simp))
    simp only [List.map_cons, slotSet]
    rw [parseTok_decTok_ok (show refOf mods i ≤ u16Max from hi.1) (by decide)]
    simp only [bind_ok]
    rw [ih fun j hj => h j (by simp [hj])]
    simp [hi.2]

def withSlots (st : St) (ss : List Slot) (ws : List Warn) : St :=
  { st with gsd := { st.gsd with slots := st.gsd.slots ++ ss }, warnings := ws }

/-- "Default module … is not listed in allowed range?" -/
def slotWarn (mods : List Module) (s : Slot) : List Warn :=
  if s.allowed.any fun i => decide (mods[i]? = mods[s.default]?) then [] else [Warn.defaultNotListed]

/-- Every allowed module exists, so the only warning a printed slot can draw is about its default. -/
theorem doSlot_ws (st : St) (s : Slot) (h : s.WF st.gsd.availableModules) :
    doSlot st (slotStmt st.gsd.availableModules s) =
      .ok (withSlots st [s] (st.warnings ++ slotWarn st.gsd.availableModules s)) := by
  obtain ⟨name, number, dflt, allowed⟩ := s
  have hd := refOf_ok h.default
  simp only [doSlot, slotStmt]
  rw [parseTok_decTok_ok (show number ≤ u8Max from h.number) (by decide)]
  simp only [bind_ok]
  rw [parseTok_decTok_ok (show refOf st.gsd.availableModules dflt ≤ u16Max from hd.1) (by decide)]
  simp only [bind_ok]
  rw [slotSet_ok _ _ h.allowed]
  simp only [bind_ok, hd.2]
  rw [show unquote (quote name) = name from h.name]
  simp only [pure_eq, withSlots, slotWarn]
  split <;> simp

theorem doSlots_ws (st : St) (ss : List Slot) (h : ∀ s ∈ ss, s.WF st.gsd.availableModules) :
    doSlots st (ss.map (slotStmt st.gsd.availableModules)) =
      .ok (withSlots st ss (st.warnings ++ ss.flatMap (slotWarn st.gsd.availableModules))) := by
  induction ss generalizing st with
  | nil => simp [doSlots, withSlots]
  | cons s rest ih =>
    simp only [List.map_cons, doSlots]
    rw [doSlot_ws st s (h s (by simp))]
    simp only [bind_ok]
    have := ih (withSlots st [s] (st.warnings ++ slotWarn st.gsd.availableModules s))
      (fun s' hs' => h s' (by simp [hs']))
    rw [show (withSlots st [s] (st.warnings ++ slotWarn st.gsd.availableModules s)).gsd.availableModules =
      st.gsd.availableModules from rfl] at this
    rw [this]
    simp [withSlots]

def getBits (nb : Bool) (st : St) : List (Nat × BitInfo) := if nb then st.gsd.diagNotBits else st.gsd.diagBits

def setBits (nb : Bool) (st : St) (m : List (Nat × BitInfo)) : St :=
  if nb then { st with gsd := { st.gsd with diagNotBits := m } } else { st with gsd := { st.gsd with diagBits := m } }

theorem getBits_setBits (nb : Bool) (st : St) (m : List (Nat × BitInfo)) : getBits nb (setBits nb st m) = m := by
  cases nb <;> rfl

theorem setBits_setBits (nb : Bool) (st : St) (m m' : List (Nat × BitInfo)) :
    setBits nb (setBits nb st m) m' = setBits nb st m' := by
  cases nb <;> rfl

theorem setBits_getBits (nb : Bool) (st : St) : setBits nb st (getBits nb st) = st := by
  cases nb <;> rfl

theorem diagBit_ok (key : Str) (st : St) (nb hp : Bool) (k : Nat) (t : Str) (hk : k ≤ u32Max) (ht : Clean t) :
    diagBit st { key := key, index := some (decTok k), value := .str (quote t) } nb hp =
      .ok (setBits nb st (assocUpdate k {}
        (fun b => if hp then { b with help := some t } else { b with text := t }) (getBits nb st))) := by
  simp only [diagBit, Setting.first, Setting.second, parseNumber]
  rw [parseTok_decTok_ok' hk hk]
  simp only [bind_ok, parseStr_quote ht]
  cases nb <;> simp [setBits, getBits]

/-- What a pair of keys (`Unit_Diag_Bit` / `Unit_Diag_Bit_Help` or the `Not` variants) does. -/
structure BitKeys (nb : Bool) (key helpKey : String) : Prop where
  text : ∀ (st : St) (ix : Option NumTok) (v : Value),
    doStmt st (.setting ⟨key.toList, ix, v⟩) = diagBit st ⟨key.toList, ix, v⟩ nb false
  help : ∀ (st : St) (ix : Option NumTok) (v : Value),
    doStmt st (.setting ⟨helpKey.toList, ix, v⟩) = diagBit st ⟨helpKey.toList, ix, v⟩ nb true

theorem bitKeys : BitKeys false "Unit_Diag_Bit" "Unit_Diag_Bit_Help" where
  text _ _ _ := doStmt_special (kind_of 47 rfl rfl) rfl
  help _ _ _ := doStmt_special (kind_of 48 rfl rfl) rfl

theorem notBitKeys : BitKeys true "Unit_Diag_Not_Bit" "Unit_Diag_Not_Bit_Help" where
  text _ _ _ := doStmt_special (kind_of 49 rfl rfl) rfl
  help _ _ _ := doStmt_special (kind_of 50 rfl rfl) rfl

structure BitsOk (bits : List (Nat × BitInfo)) : Prop where
  nodup : (keys bits).Nodup
  wf : ∀ b ∈ bits, b.1 ≤ u32Max ∧ Clean b.2.text ∧ ∀ h, b.2.help = some h → Clean h

theorem assocUpdate_new {α : Type} (k : Nat) (dflt : α) (f : α → α) (m : List (Nat × α)) (h : k ∉ keys m) :
    assocUpdate k dflt f m = m ++ [(k, f dflt)] := by
  simp [assocUpdate, assocGet_none_of_not_mem k m h, assocInsert_new k _ m h]

theorem assocUpdate_last {α : Type} (k : Nat) (dflt v : α) (f : α → α) (m : List (Nat × α)) (h : k ∉ keys m) :
    assocUpdate k dflt f (m ++ [(k, v)]) = m ++ [(k, f v)] := by
  simp [assocUpdate, assocGet_append_self k v m h, assocInsert_append_self k v _ m h]

theorem run_bitStmts (nb : Bool) (key helpKey : String) (hkeys : BitKeys nb key helpKey)
    (st : St) (bits : List (Nat × BitInfo)) (hn : (keys (getBits nb st ++ bits)).Nodup)
    (hwf : ∀ b ∈ bits, b.1 ≤ u32Max ∧ Clean b.2.text ∧ ∀ h, b.2.help = some h → Clean h) :
    run st (bitStmts key helpKey bits) = .ok (setBits nb st (getBits nb st ++ bits)) := by
  induction bits generalizing st with
  | nil => simp [bitStmts, run, setBits_getBits]
  | cons b rest ih =>
    obtain ⟨k, text, help⟩ := b
    have hb := hwf (k, ⟨text, help⟩) (by simp)
    have hnew : k ∉ keys (getBits nb st) := not_mem_keys_of_nodup hn
    have hstep : ∃ st1, run st (bitStmts key helpKey [(k, ⟨text, help⟩)]) = .ok st1 ∧
        st1 = setBits nb st (getBits nb st ++ [(k, ⟨text, help⟩)]) := by
      cases help with
      | none =>
        refine ⟨_, ?_, rfl⟩
        simp only [bitStmts, List.flatMap_cons, List.flatMap_nil, List.append_nil, run]
        rw [hkeys.text, diagBit_ok _ st nb false k text hb.1 hb.2.1]
        simp only [bind_ok, assocUpdate_new k _ _ _ hnew]
        rfl
      | some h =>
        refine ⟨_, ?_, rfl⟩
        simp only [bitStmts, List.flatMap_cons, List.flatMap_nil, List.append_nil, run]
        rw [hkeys.text, diagBit_ok _ st nb false k text hb.1 hb.2.1]
        simp only [bind_ok, assocUpdate_new k _ _ _ hnew]
        rw [hkeys.help, diagBit_ok _ _ nb true k h hb.1 (hb.2.2 h rfl)]
        simp only [bind_ok, getBits_setBits, assocUpdate_last k _ _ _ _ hnew, setBits_setBits]
        rfl
    obtain ⟨st1, hrun1, hst1⟩ := hstep
    have hsplit : bitStmts key helpKey ((k, ⟨text, help⟩) :: rest) =
        bitStmts key helpKey [(k, ⟨text, help⟩)] ++ bitStmts key helpKey rest := by
      simp [bitStmts]
    rw [hsplit, run_append_ok hrun1, hst1]
    rw [ih _ (by simpa [getBits_setBits] using hn) (fun b hb' => hwf b (by simp [hb']))]
    simp [getBits_setBits, setBits_setBits]

structure Area.WF (a : Area) : Prop where
  first : a.first ≤ 65535
  last : a.last ≤ 65535
  nodup : (keys a.values).Nodup
  values : ∀ kv ∈ a.values, kv.1 ≤ 65535 ∧ Clean kv.2

theorem areaValues_lines (vs acc : List (Nat × Str)) (hv : ∀ kv ∈ vs, kv.1 ≤ 65535 ∧ Clean kv.2)
    (hn : (keys (acc ++ vs)).Nodup) :
    areaValues (areaLines vs) acc = .ok (acc ++ vs) := by
  induction vs generalizing acc with
  | nil => simp [areaLines, areaValues]
  | cons kv rest ih =>
    obtain ⟨k, v⟩ := kv
    have hk := hv (k, v) (by simp)
    simp only [areaLines, List.map_cons, areaValues]
    rw [parseTok_decTok_ok (show k ≤ u16Max from hk.1) (by decide)]
    simp only [bind_ok]
    rw [show unquote (quote v) = v from hk.2]
    have hnew : k ∉ keys acc := not_mem_keys_of_nodup hn
    rw [assocInsert_new k v acc hnew]
    have := ih (acc ++ [(k, v)]) (fun kv hkv => hv kv (by simp [hkv])) (by simpa using hn)
    simpa [areaLines] using this

theorem doStmt_area (st : St) (a : Area) (h : a.WF) :
    doStmt st (areaStmt a) = .ok { st with gsd := { st.gsd with diagAreas := st.gsd.diagAreas ++ [a] } } := by
  obtain ⟨first, last, values⟩ := a
  simp only [doStmt, areaStmt, doArea]
  rw [parseTok_decTok_ok (show first ≤ u16Max from h.first) (by decide)]
  simp only [bind_ok]
  rw [parseTok_decTok_ok (show last ≤ u16Max from h.last) (by decide)]
  simp only [bind_ok]
  rw [areaValues_lines values [] h.values (by simpa using h.nodup)]
  simp

theorem run_areas (st : St) (areas : List Area) (h : ∀ a ∈ areas, a.WF) :
    run st (areas.map areaStmt) = .ok { st with gsd := { st.gsd with diagAreas := st.gsd.diagAreas ++ areas } } := by
  induction areas generalizing st with
  | nil => simp [run]
  | cons a rest ih =>
    simp only [List.map_cons]
    rw [run_cons_ok (doStmt_area st a (h a (by simp)))]
    rw [ih _ fun a' ha' => h a' (by simp [ha'])]
    simp

end PV.Gsd
