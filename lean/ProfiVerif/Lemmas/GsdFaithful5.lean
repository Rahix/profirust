/-
`interp (astOf d) = ok (d, warnsOf d)`: assembly of the stage lemmas.
-/
import ProfiVerif.Lemmas.GsdFaithful3
import ProfiVerif.Lemmas.GsdFaithful4

namespace PV.Gsd
open Res

/-- The descriptions the canonical printer covers (= the image of the parser on well-formed files,
up to the finitely many `(index)`/integer-width bounds and the string-literal condition `Clean`). -/
structure Desc.WF (d : Desc) : Prop where
  scalars : ScalarsOk d
  /-- a compact station has exactly one module slot (the parser forces `max_modules = 1`) -/
  compact : d.modularStation = false → d.maxModules = 1
  defsCount : (allDefs d).length ≤ 65536
  prm : d.userPrmData.WF
  /-- legacy `User_Prm_Data` shape (no references, all offsets 0, data fits the declared length) or
  `Ext_User_Prm_Data_*` shape (the length field stays 0) -/
  prmShape : if isLegacy d.userPrmData then
      (d.userPrmData.length = 0 ∨ ∀ c ∈ d.userPrmData.dataConst, c.2.length ≤ d.userPrmData.length)
    else d.userPrmData.length = 0
  modules : ∀ m ∈ d.availableModules, m.WF
  slots : ∀ s ∈ d.slots, s.WF d.availableModules
  bits : BitsOk d.diagBits
  notBits : BitsOk d.diagNotBits
  areas : ∀ a ∈ d.diagAreas, a.WF

theorem moduleDefs_wf (mods : List Module) (h : ∀ m ∈ mods, m.WF) : ∀ f ∈ moduleDefs mods, f.WF := by
  intro f hf
  simp only [moduleDefs, List.mem_flatMap, List.mem_map] at hf
  obtain ⟨m, hm, r, hr, rfl⟩ := hf
  exact ((h m hm).prm.refs r hr).2

theorem allDefs_wf (d : Desc) (h : d.WF) : ∀ f ∈ allDefs d, f.WF := by
  intro f hf
  simp only [allDefs, List.mem_append, List.mem_map] at hf
  rcases hf with ⟨r, hr, rfl⟩ | hf
  · exact (h.prm.refs r hr).2
  · exact moduleDefs_wf _ h.modules f hf

/-- The station-wide parameter block in both shapes (legacy / extended): afterwards the committed
parameter block is `p`. -/
theorem run_userPrm (st : St) (p : UserPrmData) (hp : p.WF)
    (hshape : if isLegacy p then (p.length = 0 ∨ ∀ c ∈ p.dataConst, c.2.length ≤ p.length) else p.length = 0)
    (hl : st.legacy = some {}) (hu : st.gsd.userPrmData = {})
    (hcount : p.dataRef.length ≤ 65536) (hget : Defs st.defs 0 (p.dataRef.map (·.2))) :
    ∃ u l, run st (userPrmStmts p) = .ok { st with gsd := { st.gsd with userPrmData := u }, legacy := l } ∧
      (match l with | some prm => prm | none => u) = p := by
  obtain ⟨length, dataConst, dataRef⟩ := p
  by_cases hleg : isLegacy ⟨length, dataConst, dataRef⟩ = true
  · rw [if_pos hleg] at hshape
    simp only [isLegacy, Bool.and_eq_true, List.isEmpty_iff, List.all_eq_true, beq_iff_eq] at hleg
    obtain ⟨hrefs, hoff⟩ := hleg
    subst hrefs
    refine ⟨st.gsd.userPrmData, some ⟨length, dataConst, []⟩, ?_, rfl⟩
    have hisl : isLegacy ⟨length, dataConst, []⟩ = true := by
      simp only [isLegacy, Bool.and_eq_true, List.isEmpty_iff, List.all_eq_true, beq_iff_eq]
      exact ⟨trivial, hoff⟩
    simp only [userPrmStmts, hisl, if_true]
    rw [run_cons_ok (doStmt_userPrmLen st {} length hl hp.length (by simp [constMaxLen]))]
    rw [run_legacyDatas _ { length := length } dataConst (by rfl) (fun c hc => (hp.consts c hc).2) hshape]
    have hmap : dataConst.map (fun c => ((0 : Nat), c.2)) = dataConst := by
      have : ∀ c ∈ dataConst, ((0 : Nat), c.2) = c := fun c hc => by
        have := hoff c hc
        obtain ⟨o, v⟩ := c
        simp only at this
        rw [this]
      rw [List.map_congr_left this, List.map_id']
    simp [hmap]
  · have hisl : isLegacy ⟨length, dataConst, dataRef⟩ = false := by simpa using hleg
    rw [if_neg hleg] at hshape
    simp only at hshape
    subst hshape
    refine ⟨⟨0, dataConst, dataRef⟩, none, ?_, rfl⟩
    simp only [userPrmStmts, hisl, Bool.false_eq_true, if_false, List.map_append]
    rw [run_cons_ok (doStmt_maxUserPrmLen st 237)]
    rw [run_append_ok (run_topConsts _ dataConst (by rfl) hp.consts)]
    rw [run_topRefs (withTopPrm { st with legacy := none } dataConst []) 0 dataRef (by rfl)
      (fun r hr => (hp.refs r hr).1) (by simp at hcount ⊢; omega) hget]
    simp [withTopPrm, hu]

theorem run_slotsStmt_ws (st : St) (ss : List Slot) (h : ∀ s ∈ ss, s.WF st.gsd.availableModules) :
    run st [Stmt.slots (ss.map (slotStmt st.gsd.availableModules))] =
      .ok (withSlots st ss (st.warnings ++ ss.flatMap (slotWarn st.gsd.availableModules))) := by
  simp [run, doStmt, doSlots_ws st ss h]

/-- The post-processing of a file that had its `Max_Module` line and obeys the compact-station rule: nothing changes,
and a compact station with another number of modules than one is warned about. -/
theorem finish_ws (st : St) (h1 : st.maxModulesSeen = true)
    (hc : (commitLegacy st).modularStation = false → (commitLegacy st).maxModules = 1) :
    finish st = .ok (commitLegacy st, st.warnings ++
      if (commitLegacy st).modularStation then []
      else if (commitLegacy st).availableModules.length ≠ 1 then [Warn.compactModules] else []) := by
  by_cases hm : (commitLegacy st).modularStation = true
  · simp [finish, h1, defaultMaxModules, hm]
  · have hm' : (commitLegacy st).modularStation = false := by simpa using hm
    have h1' := hc hm'
    have hfin : finish st = .ok ({ commitLegacy st with maxModules := 1 },
        st.warnings ++ (if (commitLegacy st).availableModules.length ≠ 1 then [Warn.compactModules] else [])) := by
      simp [finish, h1, defaultMaxModules, hm', compactStation, h1']
    have heq : ({ commitLegacy st with maxModules := 1 } : Desc) = commitLegacy st := by rw [← h1']
    rw [hfin, heq]
    simp [hm']

/-- The warnings the parser gives on the canonical file of `d`: a slot whose default module is not among its allowed
ones, a compact station that does not have exactly one module.  (A lemma named `…_ws` states the warnings of its
result as well: `doSlot_ws`, `doSlots_ws`, `run_slotsStmt_ws`, `finish_ws`, `interp_astOf_ws`.) -/
def warnsOf (d : Desc) : List Warn :=
  d.slots.flatMap (slotWarn d.availableModules) ++
    if d.modularStation then [] else if d.availableModules.length ≠ 1 then [Warn.compactModules] else []

/-- **Faithfulness of the interpretation**: the canonical AST of a well-formed description is
interpreted back to exactly that description, with exactly the warnings `warnsOf d`. -/
theorem interp_astOf_ws (d : Desc) (h : d.WF) : interp (astOf d) = .ok (d, warnsOf d) := by
  have h1 := run_scalars d h.scalars
  obtain ⟨s2, h2, dd⟩ := run_defsFrom { gsd := scalarsOf d, maxModulesSeen := true, modularSeen := true } 0
    (allDefs d) (allDefs_wf d h) (by have := h.defsCount; omega)
  obtain ⟨gsd2, texts2, defs2, legacy2, ms2, mod2, w2⟩ := s2
  have hg : gsd2 = scalarsOf d := dd.gsd
  have hl : legacy2 = some {} := dd.legacy
  have hms : ms2 = true := dd.maxSeen
  have hmod : mod2 = true := dd.modSeen
  have hw : w2 = [] := dd.warnings
  subst hg hl hms hmod hw
  obtain ⟨hdTop, hdMods⟩ := (show Defs defs2 0 (_ ++ moduleDefs d.availableModules) from dd.found).append
  rw [Nat.zero_add, List.length_map] at hdMods
  have hcount : d.userPrmData.dataRef.length + (moduleDefs d.availableModules).length ≤ 65536 := by
    have := h.defsCount
    rwa [allDefs, List.length_append, List.length_map] at this
  obtain ⟨u, l, h3, hul⟩ := run_userPrm ⟨scalarsOf d, texts2, defs2, some {}, true, true, []⟩ d.userPrmData h.prm h.prmShape
    rfl rfl (by omega) hdTop
  have h4 := run_modules ⟨{ scalarsOf d with userPrmData := u }, texts2, defs2, l, true, true, []⟩
    d.userPrmData.dataRef.length d.availableModules h.modules (by omega) hdMods
  have h5 := run_slotsStmt_ws
    ⟨{ scalarsOf d with userPrmData := u, availableModules := d.availableModules }, texts2, defs2, l, true, true, []⟩
    d.slots h.slots
  generalize hws : d.slots.flatMap (slotWarn d.availableModules) = ws5 at h5
  have h6 := run_bitStmts false _ _ bitKeys
    ⟨{ scalarsOf d with userPrmData := u, availableModules := d.availableModules, slots := d.slots },
      texts2, defs2, l, true, true, ws5⟩ d.diagBits (by simpa [getBits, scalarsOf] using h.bits.nodup) h.bits.wf
  have h7 := run_bitStmts true _ _ notBitKeys
    ⟨{ scalarsOf d with userPrmData := u, availableModules := d.availableModules, slots := d.slots, diagBits := d.diagBits },
      texts2, defs2, l, true, true, ws5⟩ d.diagNotBits (by simpa [getBits, scalarsOf] using h.notBits.nodup) h.notBits.wf
  have h8 := run_areas
    ⟨{ scalarsOf d with userPrmData := u, availableModules := d.availableModules, slots := d.slots, diagBits := d.diagBits, diagNotBits := d.diagNotBits }, texts2, defs2, l, true, true, ws5⟩ d.diagAreas h.areas
  have hrun : run {} (astOf d) = .ok
      ⟨{ scalarsOf d with userPrmData := u, availableModules := d.availableModules, slots := d.slots, diagBits := d.diagBits, diagNotBits := d.diagNotBits, diagAreas := d.diagAreas }, texts2, defs2, l, true, true, ws5⟩ := by
    unfold astOf
    simp only [List.append_assoc]
    rw [run_append_ok h1, run_append_ok h2, run_append_ok h3]
    rw [run_append_ok (by simpa [scalarsOf] using h4)]
    rw [run_append_ok (by simpa [scalarsOf, withSlots] using h5)]
    rw [run_append_ok (by simpa [scalarsOf, setBits, getBits] using h6)]
    rw [run_append_ok (by simpa [scalarsOf, setBits, getBits] using h7)]
    simpa [scalarsOf] using h8
  unfold interp
  rw [hrun]
  simp only [bind_ok]
  have hcommit : commitLegacy ⟨{ scalarsOf d with userPrmData := u, availableModules := d.availableModules, slots := d.slots, diagBits := d.diagBits, diagNotBits := d.diagNotBits, diagAreas := d.diagAreas }, texts2, defs2, l, true, true, ws5⟩ = d := by
    cases l with
    | none =>
      simp only at hul
      subst hul
      rfl
    | some prm =>
      simp only at hul
      subst hul
      rfl
  rw [finish_ws _ rfl (by rw [hcommit]; exact h.compact), hcommit, warnsOf, hws]

end PV.Gsd
