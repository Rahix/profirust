/-
Lexical lemmas of the GSD model: number tokens (decimal / hex, overflow → error, leading zeros),
string-literal unquoting with `\`-newline removal (CR LF and LF), case-insensitive keys.
-/
import ProfiVerif.Model.Gsd.Print

namespace PV.Gsd

theorem digitVal_digitChar : ∀ d, d < 10 → digitVal 10 (digitChar d) = some d := by decide
theorem digitVal16_digitChar : ∀ d, d < 10 → digitVal 16 (digitChar d) = some d := by decide
theorem digitVal_hexChar : ∀ d, d < 16 → digitVal 16 (hexChar d) = some d := by decide
theorem digitChar_ne : ∀ d, d < 10 → digitChar d ≠ '+' ∧ digitChar d ≠ '-' ∧ digitChar d ≠ 'x' := by decide
theorem hexChar_ne : ∀ d, d < 16 → hexChar d ≠ '+' ∧ hexChar d ≠ '-' ∧ hexChar d ≠ 'x' := by decide

theorem digitsVal_append (r : Nat) (a b : Str) (acc : Nat) :
    digitsVal r (a ++ b) acc = (digitsVal r a acc).bind fun x => digitsVal r b x := by
  induction a generalizing acc with
  | nil => simp [digitsVal]
  | cons c rest ih =>
    simp only [List.cons_append, digitsVal]
    cases digitVal r c with
    | none => simp
    | some d => simp [ih]

theorem digitsVal_leading_zero (r : Nat) (s : Str) : digitsVal r ('0' :: s) 0 = digitsVal r s 0 := by
  simp [digitsVal, digitVal]

theorem natText_ne_nil (n : Nat) : natText n ≠ [] := by
  rw [natText]; split <;> simp

theorem hexDigits_ne_nil (n : Nat) : hexDigits n ≠ [] := by
  rw [hexDigits]; split <;> simp

theorem natText_digits (n : Nat) : ∀ c ∈ natText n, ∃ d, d < 10 ∧ c = digitChar d := by
  induction n using Nat.strongRecOn with
  | _ n ih =>
    rw [natText]
    split
    · intro c hc
      simp at hc
      exact ⟨n, by omega, hc⟩
    · intro c hc
      rw [List.mem_append] at hc
      rcases hc with hc | hc
      · exact ih (n / 10) (by omega) c hc
      · simp at hc
        exact ⟨n % 10, by omega, hc⟩

theorem hexDigits_digits (n : Nat) : ∀ c ∈ hexDigits n, ∃ d, d < 16 ∧ c = hexChar d := by
  induction n using Nat.strongRecOn with
  | _ n ih =>
    rw [hexDigits]
    split
    · intro c hc
      simp at hc
      exact ⟨n, by omega, hc⟩
    · intro c hc
      rw [List.mem_append] at hc
      rcases hc with hc | hc
      · exact ih (n / 16) (by omega) c hc
      · simp at hc
        exact ⟨n % 16, by omega, hc⟩

theorem digitsVal_natText (n : Nat) : digitsVal 10 (natText n) 0 = some n := by
  induction n using Nat.strongRecOn with
  | _ n ih =>
    rw [natText]
    split
    · rename_i h
      simp [digitsVal, digitVal_digitChar n h]
    · rw [digitsVal_append, ih (n / 10) (by omega)]
      simp only [Option.bind_some, digitsVal, digitVal_digitChar (n % 10) (by omega)]
      congr 1
      omega

theorem digitsVal_hexDigits (n : Nat) : digitsVal 16 (hexDigits n) 0 = some n := by
  induction n using Nat.strongRecOn with
  | _ n ih =>
    rw [hexDigits]
    split
    · rename_i h
      simp [digitsVal, digitVal_hexChar n h]
    · rw [digitsVal_append, ih (n / 16) (by omega)]
      simp only [Option.bind_some, digitsVal, digitVal_hexChar (n % 16) (by omega)]
      congr 1
      omega

theorem parseU32Text_of_value (r : Nat) (s : Str) (n : Nat) (hne : s ≠ [])
    (hplus : ∀ c ∈ s, c ≠ '+') (hv : digitsVal r s 0 = some n) :
    parseU32Text r s = if n < 4294967296 then some n else none := by
  cases s with
  | nil => exact absurd rfl hne
  | cons c rest =>
    have hc : c ≠ '+' := hplus c (by simp)
    simp [parseU32Text, hc, hv]

theorem u32_decTok (n : Nat) : (decTok n).u32 = if n < 4294967296 then some n else none := by
  unfold decTok NumTok.u32
  refine parseU32Text_of_value 10 _ n (natText_ne_nil n) ?_ (digitsVal_natText n)
  intro c hc
  obtain ⟨d, hd, rfl⟩ := natText_digits n c hc
  exact (digitChar_ne d hd).1

theorem trimHex_of_no_x (s : Str) (h : ∀ c ∈ s, c ≠ 'x') : trimHex s = s := by
  match s with
  | [] => rfl
  | [_] => rfl
  | a :: b :: rest =>
    have hb : b ≠ 'x' := h b (by simp)
    simp [trimHex, hb]

theorem trimHex_hexText (n : Nat) : trimHex (hexText n) = hexDigits n := by
  have hx : ∀ c ∈ hexDigits n, c ≠ 'x' := by
    intro c hc
    obtain ⟨d, hd, rfl⟩ := hexDigits_digits n c hc
    exact (hexChar_ne d hd).2.2
  rw [hexText, trimHex]
  simp [trimHex_of_no_x _ hx]

theorem u32_hexTok (n : Nat) : (NumTok.hex (hexText n)).u32 = if n < 4294967296 then some n else none := by
  show parseU32Text 16 (trimHex (hexText n)) = _
  rw [trimHex_hexText]
  refine parseU32Text_of_value 16 _ n (hexDigits_ne_nil n) ?_ (digitsVal_hexDigits n)
  intro c hc
  obtain ⟨d, hd, rfl⟩ := hexDigits_digits n c hc
  exact (hexChar_ne d hd).1

/-- `parse_number::<T>` on a decimal token: value, range error (does not fit `T`), or digit error
(does not fit `u32`). -/
theorem parseTok_decTok (max n : Nat) :
    parseTok max (decTok n) =
      if n < 4294967296 then (if n ≤ max then .ok n else .err .range) else .err .digit := by
  unfold parseTok
  rw [u32_decTok]
  by_cases h : n < 4294967296 <;> simp [h]

theorem parseTok_hexTok (max n : Nat) :
    parseTok max (.hex (hexText n)) =
      if n < 4294967296 then (if n ≤ max then .ok n else .err .range) else .err .digit := by
  unfold parseTok
  rw [u32_hexTok]
  by_cases h : n < 4294967296 <;> simp [h]

theorem parseTok_decTok_ok' {max n : Nat} (h32 : n ≤ u32Max) (h : n ≤ max) : parseTok max (decTok n) = .ok n := by
  rw [parseTok_decTok]
  have : n < 4294967296 := by unfold u32Max at h32; omega
  simp [this, h]

theorem parseTok_decTok_ok {max n : Nat} (h : n ≤ max) (hm : max ≤ u32Max) : parseTok max (decTok n) = .ok n :=
  parseTok_decTok_ok' (Nat.le_trans h hm) h

theorem u32_dec_minus (s : Str) : (NumTok.dec ('-' :: s)).u32 = none := by
  simp [NumTok.u32, parseU32Text, digitsVal, digitVal]

theorem digitsVal_none_of_bad (r : Nat) (a b : Str) (c : Char) (acc : Nat) (hc : digitVal r c = none) :
    digitsVal r (a ++ c :: b) acc = none := by
  rw [digitsVal_append]
  cases digitsVal r a acc <;> simp [digitsVal, hc]

theorem i64_intTok (z : Int) :
    (intTok z).i64 = if -9223372036854775808 ≤ z ∧ z < 9223372036854775808 then some z else none := by
  unfold intTok NumTok.i64 intText
  by_cases hz : z < 0
  · simp only [hz, if_true]
    have hv := digitsVal_natText z.natAbs
    have hne := natText_ne_nil z.natAbs
    simp only [parseI64Text, if_true]
    cases hs : natText z.natAbs with
    | nil => exact absurd hs hne
    | cons c rest =>
      rw [hs] at hv
      simp only [List.isEmpty_cons, Bool.false_eq_true, if_false, hv]
      by_cases hb : z.natAbs ≤ 9223372036854775808
      · have : -9223372036854775808 ≤ z ∧ z < 9223372036854775808 := by omega
        simp only [hb, this, and_self, if_true]
        congr 1
        omega
      · have : ¬ (-9223372036854775808 ≤ z ∧ z < 9223372036854775808) := by omega
        simp [hb, this]
  · simp only [hz, if_false]
    have hv := digitsVal_natText z.toNat
    have hne := natText_ne_nil z.toNat
    cases hs : natText z.toNat with
    | nil => exact absurd hs hne
    | cons c rest =>
      have hc : c ≠ '-' ∧ c ≠ '+' := by
        obtain ⟨d, hd, hcd⟩ := natText_digits z.toNat c (by simp [hs])
        subst hcd
        exact ⟨(digitChar_ne d hd).2.1, (digitChar_ne d hd).1⟩
      rw [hs] at hv
      simp only [parseI64Text, hc.1, hc.2, if_false, List.isEmpty_cons, Bool.false_eq_true, hv]
      by_cases hb : z.toNat < 9223372036854775808
      · have : -9223372036854775808 ≤ z ∧ z < 9223372036854775808 := by omega
        simp only [hb, this, and_self, if_true]
        congr 1
        omega
      · have : ¬ (-9223372036854775808 ≤ z ∧ z < 9223372036854775808) := by omega
        simp [hb, this]

def I64 (z : Int) : Prop := -9223372036854775808 ≤ z ∧ z < 9223372036854775808

instance (z : Int) : Decidable (I64 z) := by unfold I64; infer_instance

theorem parseSignedTok_intTok {z : Int} (h : I64 z) : parseSignedTok (intTok z) = .ok z := by
  unfold parseSignedTok
  rw [i64_intTok]
  simp [show -9223372036854775808 ≤ z ∧ z < 9223372036854775808 from h]

theorem parseSignedTok_overflow {z : Int} (h : ¬ I64 z) : parseSignedTok (intTok z) = .err .sdigit := by
  unfold parseSignedTok
  rw [i64_intTok]
  simp [show ¬ (-9223372036854775808 ≤ z ∧ z < 9223372036854775808) from h]

theorem removeAllAux_fuel' (pat : Str) : ∀ (n m : Nat) (s : Str), s.length ≤ n → s.length ≤ m →
    removeAllAux pat n s = removeAllAux pat m s := by
  intro n
  induction n with
  | zero =>
    intro m s h _
    have : s = [] := List.length_eq_zero_iff.mp (by omega)
    subst this
    cases m <;> rfl
  | succ n ih =>
    intro m s h hm
    cases s with
    | nil => cases m <;> rfl
    | cons c rest =>
      cases m with
      | zero => simp at hm
      | succ m =>
        simp only [List.length_cons] at h hm
        simp only [removeAllAux]
        split
        · rename_i hp
          have hl : ((c :: rest).drop pat.length).length ≤ rest.length := by
            have : pat.length ≥ 1 := by
              cases pat with
              | nil => simp at hp
              | cons _ _ => simp
            simp only [List.length_drop, List.length_cons]; omega
          exact ih m _ (by omega) (by omega)
        · rw [ih m rest (by omega) (by omega)]

theorem removeAllAux_fuel (pat : Str) (n : Nat) (s : Str) (h : s.length ≤ n) :
    removeAllAux pat n s = removeAllAux pat s.length s :=
  removeAllAux_fuel' pat n s.length s h (Nat.le_refl _)

theorem removeAll_cons_ne (p : Char) (ps : Str) (c : Char) (s : Str) (h : c ≠ p) :
    removeAll (p :: ps) (c :: s) = c :: removeAll (p :: ps) s := by
  simp [removeAll, removeAllAux, List.isPrefixOf, Ne.symm h]

theorem removeAll_pat_append (pat s : Str) (hp : pat ≠ []) :
    removeAll pat (pat ++ s) = removeAll pat s := by
  cases hps : pat ++ s with
  | nil => simp_all
  | cons c rest =>
    have hpre : pat.isPrefixOf (c :: rest) = true := by rw [← hps]; simp
    have hdrop : (c :: rest).drop pat.length = s := by rw [← hps]; simp
    have hlen : s.length ≤ rest.length := by
      have := congrArg List.length hps
      have : pat.length ≥ 1 := by cases pat <;> simp_all
      simp at *; omega
    simp only [removeAll, List.length_cons, removeAllAux, hp, ne_eq, not_false_eq_true, hpre, and_self, if_true, hdrop]
    exact removeAllAux_fuel pat _ s hlen

theorem removeAll_seg_append (p : Char) (ps : Str) (seg s : Str) (h : ∀ c ∈ seg, c ≠ p) :
    removeAll (p :: ps) (seg ++ s) = seg ++ removeAll (p :: ps) s := by
  induction seg with
  | nil => rfl
  | cons c rest ih =>
    rw [List.cons_append, removeAll_cons_ne _ _ _ _ (h c (by simp)), ih fun c hc => h c (by simp [hc])]
    rfl

theorem removeAll_nil (pat : Str) : removeAll pat [] = [] := rfl

/-- The pieces of a string literal's inside: text without backslash, and the two continuation
markers the parser removes. -/
inductive Piece where
  | seg (s : Str)
  | contLF      -- `\` LF
  | contCRLF    -- `\` CR LF

def Piece.text : Piece → Str
  | .seg s => s
  | .contLF => ['\\', '\n']
  | .contCRLF => ['\\', '\r', '\n']

def Piece.content : Piece → Str
  | .seg s => s
  | _ => []

def Piece.ok : Piece → Prop
  | .seg s => ∀ c ∈ s, c ≠ '\\'
  | _ => True

def piecesText (ps : List Piece) : Str := (ps.map Piece.text).flatten
def piecesContent (ps : List Piece) : Str := (ps.map Piece.content).flatten

/-- First pass (`\` CR LF removed): the LF markers survive. -/
def Piece.afterCRLF : Piece → Str
  | .contCRLF => []
  | p => p.text

theorem removeCRLF_pieces (ps : List Piece) (h : ∀ p ∈ ps, p.ok) :
    removeAll ['\\', '\r', '\n'] (piecesText ps) = (ps.map Piece.afterCRLF).flatten := by
  induction ps with
  | nil => rfl
  | cons p rest ih =>
    have ih := ih fun q hq => h q (by simp [hq])
    simp only [piecesText, List.map_cons, List.flatten_cons] at ih ⊢
    cases p with
    | seg s =>
      have hs : ∀ c ∈ s, c ≠ '\\' := h (.seg s) (by simp)
      simp only [Piece.text, Piece.afterCRLF]
      rw [removeAll_seg_append _ _ _ _ hs, ih]
    | contLF =>
      simp only [Piece.text, Piece.afterCRLF, List.cons_append, List.nil_append]
      have : removeAll ['\\', '\r', '\n'] ('\\' :: '\n' :: (rest.map Piece.text).flatten) =
          '\\' :: removeAll ['\\', '\r', '\n'] ('\n' :: (rest.map Piece.text).flatten) := by
        simp [removeAll, removeAllAux, List.isPrefixOf]
      rw [this, removeAll_cons_ne _ _ _ _ (by decide), ih]
    | contCRLF =>
      simp only [Piece.text, Piece.afterCRLF, List.nil_append]
      rw [removeAll_pat_append _ _ (by simp), ih]

theorem removeLF_pieces (ps : List Piece) (h : ∀ p ∈ ps, p.ok) :
    removeAll ['\\', '\n'] ((ps.map Piece.afterCRLF).flatten) = piecesContent ps := by
  induction ps with
  | nil => rfl
  | cons p rest ih =>
    have ih := ih fun q hq => h q (by simp [hq])
    simp only [piecesContent, List.map_cons, List.flatten_cons] at ih ⊢
    cases p with
    | seg s =>
      have hs : ∀ c ∈ s, c ≠ '\\' := h (.seg s) (by simp)
      simp only [Piece.afterCRLF, Piece.text, Piece.content]
      rw [removeAll_seg_append _ _ _ _ hs, ih]
    | contLF =>
      simp only [Piece.afterCRLF, Piece.text, Piece.content, List.nil_append]
      rw [removeAll_pat_append _ _ (by simp), ih]
    | contCRLF =>
      simp only [Piece.afterCRLF, Piece.content, List.nil_append]
      exact ih

theorem drop_dropLast_quote (s : Str) : ((quote s).drop 1).dropLast = s := by
  simp [quote]

/-- **String literal lemma**: a literal written as backslash-free text interrupted at arbitrary places
by `\` LF or `\` CR LF line continuations unquotes to the text without the continuations. -/
theorem unquote_pieces (ps : List Piece) (h : ∀ p ∈ ps, p.ok) :
    unquote (quote (piecesText ps)) = piecesContent ps := by
  unfold unquote
  simp only [drop_dropLast_quote]
  rw [removeCRLF_pieces ps h, removeLF_pieces ps h]

/-- The strings the faithfulness theorem covers. -/
def Clean (s : Str) : Prop := unquote (quote s) = s

instance (s : Str) : Decidable (Clean s) := by unfold Clean; infer_instance

theorem clean_of_no_backslash (s : Str) (h : ∀ c ∈ s, c ≠ '\\') : Clean s := by
  have := unquote_pieces [.seg s] (by intro p hp; simp at hp; subst hp; exact h)
  simpa [Clean, piecesText, piecesContent, Piece.text, Piece.content] using this

def NoOcc (pat s : Str) : Prop := ∀ k, pat.isPrefixOf (s.drop k) = false

theorem removeAllAux_of_noOcc (pat : Str) (n : Nat) (s : Str) (h : NoOcc pat s) : removeAllAux pat n s = s := by
  induction n generalizing s with
  | zero => rfl
  | succ n ih =>
    cases s with
    | nil => rfl
    | cons c rest =>
      have h0 : pat.isPrefixOf (c :: rest) = false := h 0
      have hrest : NoOcc pat rest := fun k => h (k + 1)
      simp [removeAllAux, h0, ih rest hrest]

theorem clean_of_noOcc (s : Str) (h1 : NoOcc ['\\', '\r', '\n'] s) (h2 : NoOcc ['\\', '\n'] s) : Clean s := by
  unfold Clean unquote
  simp only [drop_dropLast_quote, removeAll]
  rw [removeAllAux_of_noOcc _ _ s h1, removeAllAux_of_noOcc _ _ s h2]

theorem parseStr_quote {s : Str} (h : Clean s) : parseStr (.str (quote s)) = .ok s := by
  simp only [parseStr]; rw [h]

theorem lowerChar_idem (c : Char) : lowerChar (lowerChar c) = lowerChar c := by
  by_cases h : 65 ≤ c.toNat ∧ c.toNat ≤ 90
  · have hk : ∀ k, k < 91 → 65 ≤ k → lowerChar (lowerChar (Char.ofNat k)) = lowerChar (Char.ofNat k) := by
      decide
    have := hk c.toNat (by omega) h.1
    rwa [Char.ofNat_toNat] at this
  · have : lowerChar c = c := by simp [lowerChar, h]
    rw [this, this]

theorem lower_idem (s : Str) : lower (lower s) = lower s := by
  simp [lower, List.map_map, Function.comp_def, lowerChar_idem]

/-- **Keyword case**: the effect of a top-level setting depends on its key only through `lower key`. -/
theorem doSetting_key_case (st : St) (s : Setting) (key' : Str) (h : lower key' = lower s.key) :
    doSetting st { s with key := key' } = doSetting st s := by
  -- unfolded, `doSetting` and what it calls read the key only as `lower key`, which `h` rewrites; nothing else differs
  simp only [doSetting, Setting.first, Setting.second, h, specialSetting, prmDataRef, prmDataConst, diagBit]

theorem moduleSetting_key_case (st : St) (acc : ModAcc) (s : Setting) (key' : Str) (h : lower key' = lower s.key) :
    moduleSetting st acc { s with key := key' } = moduleSetting st acc s := by
  simp only [moduleSetting, Setting.first, Setting.second, h, prmDataRef, prmDataConst]

theorem dataTypeOfName_case (a b : Str) (h : lower a = lower b) : dataTypeOfName a = dataTypeOfName b := by
  simp only [dataTypeOfName, h]

end PV.Gsd
