/-
What a sequence of witnessed passes leaves in the LAS, by arcs.  A recorded pass `sa → da` decides the addresses of the
arc `[sa, da)` (`inPassGap`): `sa` is entered, the rest cleared, every other bit kept.  So after any list of passes a bit
is what the last pass that covers its address made of it, and a pass of the ring `S` (`PassesOf`: from a member, over an
interval that holds no member) decides what it covers the way `S` does: passes of `S` that cover the circle leave exactly
`S`, in any order and whatever was there before (`bitAfter_cover`, `valid_tracks`).  The arcs of the members cover the
circle (`ring_covers`); in a rotation only the last pass wraps (`rotation_split`), where `Discovery` and `Verification` end.
-/
import ProfiVerif.Lemmas.RingPass

namespace PV
namespace TokenRing

def PassesOf (S : List Nat) (ps : List (Nat × Nat)) : Prop := ∀ p ∈ ps, p.1 ∈ S ∧ Gapless S p.1 p.2

def Covered (ps : List (Nat × Nat)) (a : Nat) : Prop := ∃ p ∈ ps, inPassGap p.1 p.2 a = true

theorem passBit_of_ring {S : List Nat} {sa da a : Nat} (hs : sa ∈ S) (g : Gapless S sa da)
    (hc : inPassGap sa da a = true) (old : Bool) : passBit sa da a old = decide (a ∈ S) := by
  unfold passBit
  by_cases h1 : a = sa
  · rw [if_pos h1, h1]; exact (decide_eq_true hs).symm
  · rw [if_neg h1, if_pos hc]
    exact (decide_eq_false fun hm => g a hm (((inPassGap_iff sa da a).mp hc).resolve_left h1)).symm

theorem bitAfter_cons (p : Nat × Nat) (t : List (Nat × Nat)) (a : Nat) (old : Bool) :
    bitAfter (p :: t) a old = bitAfter t a (passBit p.1 p.2 a old) := rfl

theorem bitAfter_append (l1 l2 : List (Nat × Nat)) (a : Nat) (old : Bool) :
    bitAfter (l1 ++ l2) a old = bitAfter l2 a (bitAfter l1 a old) := List.foldl_append

theorem bitAfter_of_not_covered (ps : List (Nat × Nat)) (a : Nat) (hc : ¬ Covered ps a) (old : Bool) :
    bitAfter ps a old = old := by
  induction ps generalizing old with
  | nil => rfl
  | cons p t ih =>
    have hp : ¬ inPassGap p.1 p.2 a = true := fun c => hc ⟨p, List.mem_cons_self, c⟩
    have hne : a ≠ p.1 := fun c => hp ((inPassGap_iff _ _ _).mpr (.inl c))
    rw [bitAfter_cons, ih (fun ⟨q, hq, c⟩ => hc ⟨q, List.mem_cons_of_mem _ hq, c⟩), passBit_kept _ _ _ _ hne hp]

/-- The bit is what the last pass that covers it made of it. -/
theorem bitAfter_cover {S : List Nat} {ps : List (Nat × Nat)} (h : PassesOf S ps) {a : Nat} (hc : Covered ps a)
    (old : Bool) : bitAfter ps a old = decide (a ∈ S) := by
  induction ps generalizing old with
  | nil => obtain ⟨p, hp, -⟩ := hc; cases hp
  | cons p t ih =>
    rw [bitAfter_cons]
    by_cases ht : Covered t a
    · exact ih (fun q hq => h q (List.mem_cons_of_mem _ hq)) ht _
    · obtain ⟨q, hq, c⟩ := hc
      rcases List.mem_cons.mp hq with rfl | hq
      · rw [bitAfter_of_not_covered t a ht]
        exact passBit_of_ring (h q List.mem_cons_self).1 (h q List.mem_cons_self).2 c old
      · exact absurd ⟨q, hq, c⟩ ht

theorem rotation_passesOf (M : List Nat) (hne : M ≠ []) (hasc : Asc M) : PassesOf M (rotation M) := by
  intro p hp
  obtain ⟨h1, h2⟩ := rotation_succ M hne hasc p hp
  exact ⟨h1, h2 ▸ (cycSucc_gapless p.1 M).2⟩

/-- Every address lies on the arc of some member: its own if it is one, else that of the member before it. -/
theorem ring_covers (M : List Nat) (hne : M ≠ []) (a : Nat) : ∃ x ∈ M, inPassGap x (cycSucc x M) a = true := by
  by_cases ha : a ∈ M
  · exact ⟨a, ha, (inPassGap_iff _ _ _).mpr (.inl rfl)⟩
  · obtain ⟨hp, gp⟩ := cycPred_gapless a M
    have hpM : cycPred a M ∈ M := by
      refine hp.resolve_left fun e => ?_
      obtain ⟨m, hm⟩ := List.exists_mem_of_ne_nil M hne
      have := gp m hm
      rw [e, between_arith] at this
      exact ha ((show m = a by omega) ▸ hm)
    generalize cycPred a M = p at hpM gp
    refine ⟨p, hpM, (inPassGap_iff _ _ _).mpr (.inr ?_)⟩
    -- nobody sits between `p` and `a`, so the successor of `p` lies beyond `a`
    have hn := cycSucc_mem p M hpM
    have k := gp _ hn
    have hap : a ≠ p := fun e => ha (e ▸ hpM)
    have han : a ≠ cycSucc p M := fun e => ha (e ▸ hn)
    rw [between_arith] at k ⊢
    omega

theorem rotation_covers (M : List Nat) (hne : M ≠ []) (hasc : Asc M) (a : Nat) : Covered (rotation M) a := by
  obtain ⟨x, hx, c⟩ := ring_covers M hne a
  exact ⟨(x, cycSucc x M), rotation_mem M hne hasc x hx, c⟩

theorem bitAfter_rotation (S : List Nat) (hS : S ≠ []) (hasc : Asc S) (a : Nat) (old : Bool) :
    bitAfter (rotation S) a old = decide (a ∈ S) :=
  bitAfter_cover (rotation_passesOf S hS hasc) (rotation_covers S hS hasc a) old

theorem rotation_split (M : List Nat) (hne : M ≠ []) (hasc : Asc M) :
    ∃ init l, rotation M = init ++ [(l, nth M 0)] ∧ (∀ p ∈ init, p.1 < p.2) ∧ nth M 0 ≤ l := by
  obtain ⟨k, hk⟩ : ∃ k, M.length = k + 1 := ⟨M.length - 1, by have := List.length_pos_iff.mpr hne; omega⟩
  refine ⟨(List.range k).map (fun j => (nth M j, nth M (j + 1))), nth M k, ?_, ?_, ?_⟩
  · rw [rotation_eq_map M hne, hk, List.range_succ, List.map_append, List.map_singleton]
    congr 3
    rw [← hk, ← Nat.zero_add M.length, nth_add_length]
  · intro p hp
    obtain ⟨j, hj, rfl⟩ := List.mem_map.mp hp
    have hj := List.mem_range.mp hj
    show nth M j < nth M (j + 1)
    rw [nth_eq M hne, nth_eq M hne]
    simp only [Nat.mod_eq_of_lt (show j < M.length by omega), Nat.mod_eq_of_lt (show j + 1 < M.length by omega)]
    exact asc_getElem_lt M hasc j (j + 1) (by omega) (by omega) (by omega)
  · rw [nth_eq M hne, nth_eq M hne]
    simp only [Nat.mod_eq_of_lt (show 0 < M.length by omega), Nat.mod_eq_of_lt (show k < M.length by omega)]
    exact asc_getElem_le M hasc 0 k (by omega) (by omega) (by omega)

theorem witnessAll_cons (r : TokenRing) (p : Nat × Nat) (t : List (Nat × Nat)) :
    witnessAll r (p :: t) = witnessAll (r.witness p.1 p.2) t := rfl

theorem witnessAll_append (r : TokenRing) (l1 l2 : List (Nat × Nat)) :
    witnessAll r (l1 ++ l2) = witnessAll (witnessAll r l1) l2 := List.foldl_append

/-- While passes are recorded and the phase does not change (`Valid`; `Discovery` as long as no pass wraps), a list of
passes acts on the LAS bit by bit as `bitAfter`. -/
theorem witnessAll_records (ps : List (Nat × Nat)) : ∀ (r : TokenRing), (∀ p ∈ ps, p.1 ≤ 125 ∧ p.2 ≤ 125) →
    (r.las = .discovery ∨ r.las = .valid) → (r.las = .discovery → ∀ p ∈ ps, ¬ p.2 ≤ p.1) →
    (∀ a, a < 128 → (witnessAll r ps).isActive a = bitAfter ps a (r.isActive a)) ∧ (witnessAll r ps).las = r.las := by
  induction ps with
  | nil => intro r _ _ _; exact ⟨fun _ _ => rfl, rfl⟩
  | cons p t ih =>
    intro r hb hp hnw
    have hw := witness_records r p.1 p.2 hp (hb p List.mem_cons_self).1 (hb p List.mem_cons_self).2
    have hl : (r.witness p.1 p.2).las = r.las := by
      rw [hw.2, if_neg fun c => hnw c.1 p List.mem_cons_self c.2]
    have := ih (r.witness p.1 p.2) (fun q hq => hb q (List.mem_cons_of_mem _ hq)) (hl ▸ hp)
      (fun c q hq => hnw (hl ▸ c) q (List.mem_cons_of_mem _ hq))
    rw [witnessAll_cons]
    exact ⟨fun a ha => by rw [bitAfter_cons, this.1 a ha, hw.1 a ha], this.2.trans hl⟩

/-- **Valid.**  A station with a valid LAS that witnesses passes of the ring `S` — any number, from any starting point,
repeated or not — in which every address is covered (every member has passed the token at least once: `ring_covers`)
has LAS = `S`, whatever it held before. -/
theorem valid_tracks (r : TokenRing) (S : List Nat) (ps : List (Nat × Nat)) (hv : r.las = .valid)
    (hb : ∀ p ∈ ps, p.1 ≤ 125 ∧ p.2 ≤ 125) (hS : PassesOf S ps) (hc : ∀ a, a < 128 → Covered ps a) :
    LasIs (witnessAll r ps) S ∧ (witnessAll r ps).las = .valid := by
  have h := witnessAll_records ps r hb (.inr hv) (fun c => by rw [hv] at c; cases c)
  exact ⟨fun a ha => (h.1 a ha).trans (bitAfter_cover hS (hc a ha) _), h.2.trans hv⟩

theorem rotation_bound (S : List Nat) (hS : IsRing S) : ∀ p ∈ rotation S, p.1 ≤ 125 ∧ p.2 ≤ 125 := fun p hq => by
  obtain ⟨h1, h2⟩ := rotation_succ S hS.ne hS.asc p hq
  exact ⟨hS.bound _ h1, h2 ▸ hS.bound _ (cycSucc_mem _ S h1)⟩

/-- **Discovery.**  One full rotation of the ring `S` witnessed in `Discovery` leaves exactly `S` in the LAS — whatever
stale entries it held — and its last pass, the only one that wraps, starts verification. -/
theorem rotation_discovers (r : TokenRing) (S : List Nat) (hS : IsRing S) (hd : r.las = .discovery) :
    LasIs (witnessAll r (rotation S)) S ∧ (witnessAll r (rotation S)).las = .verification := by
  have hb := rotation_bound S hS
  have hcov := fun a => bitAfter_cover (rotation_passesOf S hS.ne hS.asc) (rotation_covers S hS.ne hS.asc a)
  obtain ⟨init, l, e, hnw, hwrap⟩ := rotation_split S hS.ne hS.asc
  rw [e] at hb hcov ⊢
  have h1 := witnessAll_records init r (fun p hq => hb p (List.mem_append_left _ hq)) (.inl hd)
    (fun _ p hq => by have := hnw p hq; omega)
  have hl := hb (l, nth S 0) (List.mem_append_right _ List.mem_cons_self)
  have h2 := witness_records (witnessAll r init) l (nth S 0) (.inl (h1.2.trans hd)) hl.1 hl.2
  rw [witnessAll_append]
  refine ⟨fun a ha => ?_, ?_⟩
  · show ((witnessAll r init).witness l (nth S 0)).isActive a = _
    rw [h2.1 a ha, h1.1 a ha, ← hcov a (r.isActive a), bitAfter_append]
    rfl
  · show ((witnessAll r init).witness l (nth S 0)).las = _
    rw [h2.2, if_pos ⟨h1.2.trans hd, hwrap⟩]

theorem witnessAll_verified (S : List Nat) (hb : ∀ z ∈ S, z ≤ 125) (ps : List (Nat × Nat)) (r : TokenRing)
    (hl : LasIs r S) (hv : r.las = .verification)
    (hp : ∀ p ∈ ps, p.1 ∈ S ∧ p.2 = cycSucc p.1 S ∧ p.1 < p.2) : witnessAll r ps = r := by
  induction ps with
  | nil => rfl
  | cons p t ih =>
    obtain ⟨h1, h2, h3⟩ := hp p List.mem_cons_self
    have hstep : r.witness p.1 p.2 = r := by
      rw [witness_verification r _ _ hv (hb _ h1) (h2 ▸ hb _ (cycSucc_mem _ S h1)), h2, verifyLas_succ r S hl hb _ h1]
      simp only [Bool.not_true, Bool.false_eq_true, if_false]
      rw [if_neg (by omega)]
    rw [witnessAll_cons, hstep]
    exact ih fun q hq => hp q (List.mem_cons_of_mem _ hq)

/-- **Verification.**  A station in `Verification` whose LAS is exactly `S` and that witnesses one more rotation of `S`
finds every pass consistent — each goes from a member to its cyclic successor — and declares the LAS valid at the
wrap: the "two identical rotations". -/
theorem rotation_verifies (r : TokenRing) (S : List Nat) (hS : IsRing S) (hl : LasIs r S)
    (hv : r.las = .verification) : witnessAll r (rotation S) = { r with las := .valid } := by
  have hps := rotation_succ S hS.ne hS.asc
  obtain ⟨init, l, e, hnw, hwrap⟩ := rotation_split S hS.ne hS.asc
  rw [e] at hps ⊢
  have hlast := hps (l, nth S 0) (List.mem_append_right _ List.mem_cons_self)
  rw [witnessAll_append, witnessAll_verified S hS.bound init r hl hv fun p hq =>
    ⟨(hps p (List.mem_append_left _ hq)).1, (hps p (List.mem_append_left _ hq)).2, hnw p hq⟩]
  show r.witness l (nth S 0) = _
  have e2 : nth S 0 = cycSucc l S := hlast.2
  rw [witness_verification r _ _ hv (hS.bound _ hlast.1) (e2 ▸ hS.bound _ (cycSucc_mem _ S hlast.1)), e2,
    verifyLas_succ r S hl hS.bound _ hlast.1]
  simp only [Bool.not_true, Bool.false_eq_true, if_false]
  rw [if_pos (e2 ▸ hwrap)]

end TokenRing
end PV
