/-
Cold start / late joiner, phase (b) at station level: a station in `ListenToken` that overhears the traffic of a
lone token holder `aL` (self-addressed tokens, GAP requests to other addresses), delivered in arbitrary chunks
at arbitrary poll times, never transmits, stays in `ListenToken` and witnesses every token (`listen_learns`).  That
three witnessed tokens make its LAS valid is `witnessK_ready` in Props/C06.
-/
import ProfiVerif.Lemmas.ColdStart

namespace PV
open StationGap TokenRing

/-- A telegram of the lone holder `aL` that does not concern the listener `me`. -/
def LoneTel (aL me : Nat) (t : Telegram) : Prop :=
  t = .token (UInt8.ofNat aL) (UInt8.ofNat aL) ∨ ∃ g, g < 128 ∧ g ≠ me ∧ t = reqTel g aL

theorem LoneTel.valid {aL me : Nat} {t : Telegram} (h : LoneTel aL me t) (haL : aL < 128) : t.Valid := by
  rcases h with rfl | ⟨g, hg, -, rfl⟩
  · trivial
  · exact reqTel_valid g aL hg haL

def isTok : Telegram → Bool
  | .token .. => true
  | _ => false

/-- `k` witnessed passes `aL → aL`. -/
def witnessK (aL : Nat) : Nat → TokenRing → TokenRing
  | 0, r => r
  | k + 1, r => witnessK aL k (r.witness aL aL)

/-- A telegram of the lone holder `aL`, possibly a GAP request to the listener itself. -/
def LoneTelR (aL : Nat) (t : Telegram) : Prop :=
  t = .token (UInt8.ofNat aL) (UInt8.ofNat aL) ∨ ∃ g, g < 128 ∧ t = reqTel g aL

theorem LoneTelR.valid {aL : Nat} {t : Telegram} (h : LoneTelR aL t) (haL : aL < 128) : t.Valid := by
  rcases h with rfl | ⟨g, hg, rfl⟩
  · trivial
  · exact reqTel_valid g aL hg haL

/-- The requester a `ListenToken` station registers for a telegram flagged `fl`. -/
def regSr (me : Nat) : Telegram → Bool → Option Nat
  | .data h _, true =>
    (match h.fc with
     | .request _ .fdlStatus => if h.da.toNat = me then some h.sa.toNat else none
     | _ => none)
  | _, _ => none

theorem regSr_req (me g aL : Nat) (hg : g < 128) (haL : aL < 128) (fl : Bool) :
    regSr me (reqTel g aL) fl = if fl = true ∧ g = me then some aL else none := by
  cases fl with
  | false => simp [regSr, reqTel]
  | true =>
    simp only [regSr, reqTel, fdlStatusRequestHeader, true_and]
    rw [u8n g (by omega), u8n aL (by omega)]

theorem LoneTel.regSr_none {aL me : Nat} {t : Telegram} (h : LoneTel aL me t) (hg : aL < 128) (fl : Bool) :
    regSr me t fl = none := by
  rcases h with rfl | ⟨g, hg', hgm, rfl⟩
  · cases fl <;> rfl
  · rw [regSr_req me g aL hg' hg]
    exact if_neg (fun h => hgm h.2)

theorem listenTelegram_loneR (now : Int) (c : Ctx) (t : Telegram) (fl : Bool) (aL coll : Nat) (l : Int)
    (hon : c.s.online = true) (hst : c.s.st = .listenToken none coll) (hl : c.s.lastBusActivity = some l) (hle : l ≤ now)
    (haL : aL < 128) (hne : aL ≠ c.s.p.address) (ht : LoneTelR aL t) :
    listenTelegram now c t fl = .ok { c with s := { c.s with
      pendingBytes := 0, lastBusActivity := some now,
      ring := if isTok t then c.s.ring.witness aL aL else c.s.ring,
      st := .listenToken (regSr c.s.p.address t fl) coll } } := by
  have ha : (UInt8.ofNat aL).toNat = aL := u8n aL (by omega)
  have hs := listenTelegram_step now t fl hon hst
  rw [markRx_at c.s now l hl hle] at hs
  generalize listenTelegram now c t fl = r at hs
  rcases ht with rfl | ⟨g, hg, rfl⟩
  · have hsrc : ¬ (Telegram.sourceAddress (.token (UInt8.ofNat aL) (UInt8.ofNat aL))).map UInt8.toNat = some c.s.p.address := by
      simp only [Telegram.sourceAddress, Option.map_some, Option.some.injEq, ha]; exact hne
    cases hs with
    | collision h _ => exact absurd h hsrc
    | reset h _ => exact absurd h hsrc
    | heard _ => simp only [isTok, if_true, ha, regSr, hst]
  · have hgn : (UInt8.ofNat g).toNat = g := u8n g (by omega)
    have hsrc : ¬ (Telegram.sourceAddress (reqTel g aL)).map UInt8.toNat = some c.s.p.address := by
      simp only [reqTel, Telegram.sourceAddress, fdlStatusRequestHeader, Option.map_some, Option.some.injEq, ha]; exact hne
    rw [regSr_req _ g aL hg haL, show isTok (reqTel g aL) = false from rfl]
    simp only [Bool.false_eq_true, if_false]
    unfold reqTel at hs hsrc
    cases hs with
    | collision h _ => exact absurd h hsrc
    | reset h _ => exact absurd h hsrc
    | request _ hask =>
      obtain ⟨-, hda, hfl⟩ := hask
      have hgm : g = c.s.p.address := by rw [← hgn]; exact hda
      rw [if_pos ⟨hfl, hgm⟩]
      simp only [fdlStatusRequestHeader, ha]
    | ignore _ hnask =>
      rw [if_neg (fun h => hnask ⟨⟨_, rfl⟩, by rw [← h.2]; exact hgn, h.1⟩)]
      simp only [hst]

theorem listenTelegram_lone (now : Int) (c : Ctx) (t : Telegram) (isLast : Bool) (aL coll : Nat) (l : Int)
    (hon : c.s.online = true) (hst : c.s.st = .listenToken none coll) (hl : c.s.lastBusActivity = some l) (hle : l ≤ now)
    (haL : aL < 128) (hne : aL ≠ c.s.p.address) (ht : LoneTel aL c.s.p.address t) :
    listenTelegram now c t isLast = .ok { c with s := { c.s with
      pendingBytes := 0, lastBusActivity := some now,
      ring := if isTok t then c.s.ring.witness aL aL else c.s.ring } } := by
  rw [listenTelegram_loneR now c t isLast aL coll l hon hst hl hle haL hne
    (ht.imp id fun ⟨g, hg, _, e⟩ => ⟨g, hg, e⟩), ht.regSr_none haL isLast]
  simp only [hst]

/-- The ring view after overhearing the telegrams `ts` of the lone holder. -/
def hearAll (aL : Nat) : List Telegram → TokenRing → TokenRing
  | [], r => r
  | t :: ts, r => hearAll aL ts (if isTok t then r.witness aL aL else r)

def countTok (ts : List Telegram) : Nat := (ts.filter isTok).length

theorem hearAll_count (aL : Nat) : ∀ (ts : List Telegram) (r : TokenRing), hearAll aL ts r = witnessK aL (countTok ts) r := by
  intro ts
  induction ts with
  | nil => intro r; rfl
  | cons t rest ih =>
    intro r
    unfold hearAll countTok
    by_cases ht : isTok t = true
    · simp only [ht, if_true, List.filter_cons, List.length_cons]
      rw [ih]; rfl
    · simp only [ht, Bool.false_eq_true, if_false, List.filter_cons]
      rw [ih]; rfl

theorem hearAll_append (aL : Nat) : ∀ (a b : List Telegram) (r : TokenRing),
    hearAll aL (a ++ b) r = hearAll aL b (hearAll aL a r) := by
  intro a
  induction a with
  | nil => intro b r; rfl
  | cons t rest ih => intro b r; simp only [List.cons_append, hearAll]; exact ih b _

def heardS (aL : Nat) (s : Station) (now : Int) (ts : List Telegram) : Station :=
  { s with pendingBytes := 0, lastBusActivity := some now, ring := hearAll aL ts s.ring }

theorem foldListen_lone (now : Int) (aL coll : Nat) (haL : aL < 128) : ∀ (calls : List (Telegram × Bool)) (c : Ctx) (l : Int),
    calls ≠ [] → c.s.online = true → c.s.st = .listenToken none coll → c.s.lastBusActivity = some l → l ≤ now →
    aL ≠ c.s.p.address → (∀ x ∈ calls, LoneTel aL c.s.p.address x.1) →
    foldTelegrams (listenTelegram now) c calls = .ok { c with s := heardS aL c.s now (calls.map Prod.fst) } := by
  intro calls
  induction calls with
  | nil => intro c l h; exact absurd rfl h
  | cons x rest ih =>
    intro c l _ hon hst hl hle hne hall
    obtain ⟨t, fl⟩ := x
    simp only [foldTelegrams]
    rw [listenTelegram_lone now c t fl aL coll l hon hst hl hle haL hne (hall (t, fl) (List.mem_cons_self ..))]
    simp only [Res.bind]
    by_cases hr : rest = []
    · subst hr
      simp only [foldTelegrams, List.map_cons, List.map_nil, heardS, hearAll]
    · rw [ih ⟨{ c.s with pendingBytes := 0, lastBusActivity := some now, ring := if isTok t then c.s.ring.witness aL aL else c.s.ring }, c.apps, c.rx, c.tx, c.calls⟩
        now hr hon hst rfl (Int.le_refl _) hne (fun y hy => hall y (List.mem_cons_of_mem _ hy))]
      simp only [heardS, List.map_cons, hearAll]

/-- Run of a listening station over a sequence of polls `(time, newly arrived bytes)` with an idle PHY; `none` if a
poll fails or transmits. -/
def listenRun (apps : Apps) : Station → Bytes → List (Int × Bytes) → Option (Station × Bytes)
  | s, rx, [] => some (s, rx)
  | s, rx, (now, ch) :: rest =>
    match s.poll apps now false (rx ++ ch) with
    | .ok c => if c.tx = none then listenRun apps c.s c.rx rest else none
    | .panic _ => none

/-- Poll times increase and no poll comes `Tto` or more after the last one that brought new bytes (or after the
initial stamp `l`). -/
def FeedOk (Tto : Nat) : Int → Int → List (Int × Bytes) → Prop
  | _, _, [] => True
  | l, tp, (now, ch) :: rest => tp < now ∧ now < l + (Tto : Int) ∧ FeedOk Tto (if ch = [] then l else now) now rest

theorem streamOf_cons' (t : Telegram) (ts : List Telegram) : streamOf (t :: ts) = t.wire ++ streamOf ts := by
  unfold streamOf; simp

theorem streamOf_append' (a b : List Telegram) : streamOf (a ++ b) = streamOf a ++ streamOf b := by
  unfold streamOf; simp

theorem LoneTel.wire_pos {aL me : Nat} {t : Telegram} (h : LoneTel aL me t) : 0 < t.wire.length := by
  rcases h with rfl | ⟨g, -, -, rfl⟩
  · show 0 < 3; omega
  · rw [reqTel_wire, statusRequestBytes_length]; omega

theorem listen_learns (apps : Apps) (aL coll : Nat) (haL : aL < 128) : ∀ (ins : List (Int × Bytes)) (s : Station) (rx : Bytes)
    (rem : List Telegram) (l ltr tp : Int),
    s.online = true → s.st = .listenToken none coll → s.lastBusActivity = some l → ltr ≤ l → l ≤ tp →
    s.pendingBytes ≤ rx.length → aL ≠ s.p.address → 0 < s.p.tokenLostTimeout →
    rx ++ (ins.map Prod.snd).flatten = streamOf rem → (∀ t ∈ rem, LoneTel aL s.p.address t) →
    (∀ t, rem.head? = some t → rx.length < t.wire.length) →
    FeedOk s.p.tokenLostTimeout ltr tp ins →
    ∃ s', listenRun apps s rx ins = some (s', []) ∧ s'.st = .listenToken none coll ∧ s'.online = true ∧
      s'.p = s.p ∧ s'.ring = hearAll aL rem s.ring := by
  intro ins
  induction ins with
  | nil =>
    intro s rx rem l ltr tp hon hst hl _ _ _ _ _ hstream _ hhead _
    simp only [List.map_nil, List.flatten_nil, List.append_nil] at hstream
    cases rem with
    | nil =>
      have : rx = [] := by rw [hstream]; rfl
      subst this
      exact ⟨s, rfl, hst, hon, rfl, rfl⟩
    | cons t r =>
      exfalso
      have := hhead t rfl
      rw [hstream, streamOf_cons', List.length_append] at this
      omega
  | cons x rest ih =>
    intro s rx rem l ltr tp hon hst hl hltr hltp hpend hne hto hstream hlone hhead hfeed
    obtain ⟨now, ch⟩ := x
    obtain ⟨htp, hnow, hfeed'⟩ := hfeed
    simp only [List.map_cons, List.flatten_cons] at hstream
    rw [← List.append_assoc] at hstream
    obtain ⟨d, ts', b', ret, hrec, hsplit, hb', hhead', -, -⟩ := receiveAll_stream rem (rx ++ ch) (rest.map Prod.snd).flatten hstream
      (fun t ht => (hlone t ht).valid haL)
    have hlt : l < now := by omega
    have hpoll := listen_poll_batch s apps now (rx ++ ch) b' d ret coll l hon hst hl hlt (.inr (by omega)) hto hrec
    -- `check_for_bus_activity` moves the stamp to `now` exactly if the chunk brought characters not accounted for
    rw [checkBA_noted s now l _ hl hlt] at hpoll
    have hl1 : ltr ≤ (if s.pendingBytes < (rx ++ ch).length then now else l) ∧
        (if s.pendingBytes < (rx ++ ch).length then now else l) ≤ now ∧
        (if ch = [] then ltr else now) ≤ (if s.pendingBytes < (rx ++ ch).length then now else l) := by
      by_cases hn : s.pendingBytes < (rx ++ ch).length
      · rw [if_pos hn]; exact ⟨by omega, Int.le_refl _, by split <;> omega⟩
      · rw [if_neg hn]
        refine ⟨hltr, by omega, ?_⟩
        by_cases hch : ch = []
        · rw [if_pos hch]; exact hltr
        · exfalso
          have : 0 < ch.length := List.length_pos_iff.2 hch
          rw [List.length_append] at hn
          omega
    generalize (if s.pendingBytes < (rx ++ ch).length then now else l) = l1 at hpoll hl1
    have hpb : max s.pendingBytes (rx ++ ch).length ≤ (rx ++ ch).length :=
      Nat.max_le.2 ⟨by rw [List.length_append]; omega, Nat.le_refl _⟩
    generalize max s.pendingBytes (rx ++ ch).length = pb at hpoll hpb
    have hlone' : ∀ t ∈ ts', LoneTel aL s.p.address t := fun t ht => hlone t (by rw [hsplit]; exact List.mem_append_right _ ht)
    simp only [listenRun]
    by_cases hd : d = []
    · subst hd
      simp only [List.map_nil, List.nil_append] at hsplit
      subst hsplit
      have hbeq : b' = rx ++ ch := List.append_cancel_right (hb'.trans hstream.symm)
      rw [hpoll]
      simp only [foldTelegrams, if_true]
      exact ih { s with lastBusActivity := some l1, pendingBytes := pb } b' rem l1 (if ch = [] then ltr else now) now hon hst
        rfl hl1.2.2 hl1.2.1 (by rw [hbeq]; exact hpb) hne hto hb' hlone' hhead' hfeed'
    · have hfold := foldListen_lone now aL coll haL d
        { s := { s with lastBusActivity := some l1, pendingBytes := pb }, apps := apps, rx := b' } l1 hd hon hst rfl hl1.2.1 hne
        (fun x hx => hlone x.1 (by rw [hsplit]; exact List.mem_append_left _ (List.mem_map_of_mem hx)))
      rw [hpoll, hfold]
      simp only [if_true]
      obtain ⟨s', hrun, a1, a2, a3, a4⟩ := ih
        (heardS aL { s with lastBusActivity := some l1, pendingBytes := pb } now (d.map Prod.fst)) b' ts' now
        (if ch = [] then ltr else now) now hon hst rfl (by split <;> omega) (Int.le_refl _) (Nat.zero_le _) hne hto hb' hlone'
        hhead' hfeed'
      exact ⟨s', hrun, a1, a2, a3, by rw [a4, hsplit, hearAll_append]; rfl⟩

end PV
