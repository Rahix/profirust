/-
Cold start / late joiner on the bus: a station in `ListenToken` overhears a lone transmitter with arbitrary lag.  The
conditions on the log and on the listener: `LoneLog` / `LLOk` when no transmission is addressed to the listener,
`LoneLogR` / `LLOkX` (explicit decomposition into delivered and not yet consumed transmissions, stamp, registered
requester) when GAP requests to it are allowed.  One poll of the listener is `llisten_stepR` (`Rcv.batch`, `nextArr_carry`
and `Batch.due` of Lemmas/BusHear carry the arrival bookkeeping), `llisten_step` its case that nothing is addressed to the
listener; `LLOkX.send` / `.other`: the transmitter sends, another station is polled.  (Props/C06, cold start)
-/
import ProfiVerif.Lemmas.ListenLearn
import ProfiVerif.Lemmas.BusHear

namespace PV
open StationGap TokenRing

/-- The log of a lone transmitter `x` (address `aL`) that never addresses `me`. -/
structure LoneLog (cfg : Cfg) (aL me x : Nat) (b : Bus) : Prop where
  rate : b.rate = cfg.rate
  corrupt : b.corrupt = []
  chained : CChained cfg b.txs
  live : ∀ t ∈ b.txs, t.dropped = false
  own : ∀ t ∈ b.txs, t.sender = x
  kinds : ∀ t ∈ b.txs, t.bytes = tokenBytes aL aL ∨ ∃ g, g < 126 ∧ g ≠ me ∧ t.bytes = statusRequestBytes g aL

/-- **The listener condition in `ListenToken`** for station `j` (record `st`): the log splits into `dn` (completely
delivered) and `rs` (not yet consumed); its buffer holds exactly what has arrived of `rs`, the head of `rs` is
incomplete; it listens, the next character arrives before its token-lost time-out, and its ring view is what the
telegrams `hd` consumed so far made of `r0`.  `H` is the horizon: the time by which the transmitter will have sent again
if the listener has everything (`nextArr`); `G` bounds the transmitter's silence, `G + ⌈11 bit⌉ + 2 ≤ Tto`. -/
def LLOk (cfg : Cfg) (G aL : Nat) (b : Bus) (H : Int) (j : Nat) (st : NetStation) (r0 : TokenRing) (hd : List Telegram) : Prop :=
  st.online = true ∧ st.dead = false ∧ Inv st.s st.apps ∧ st.s.online = true ∧ aL ≠ st.s.p.address ∧
  G + cfg.ce 0 + 2 ≤ st.s.p.tokenLostTimeout ∧ st.s.ring = hearAll aL hd r0 ∧
  ∃ (dn rs : List Transmission) (l : Int) (coll : Nat),
    b.txs = dn ++ rs ∧ (∀ o ∈ dn, cEnd cfg o ≤ b.seen.getD j 0) ∧
    st.rx = arrived cfg rs (b.seen.getD j 0) ∧ st.s.pendingBytes ≤ (arrived cfg rs (b.seen.getD j 0)).length ∧
    (∀ t rest, rs = t :: rest → cvis cfg t (b.seen.getD j 0) < t.bytes.length) ∧
    st.s.lastBusActivity = some l ∧ l ≤ b.seen.getD j 0 ∧ st.s.st = .listenToken none coll ∧
    nextArr cfg H rs (b.seen.getD j 0) < l + (st.s.p.tokenLostTimeout : Nat)

/-- The requester registered by a batch: decided by its last telegram. -/
def lastReg (me : Nat) (calls : List (Telegram × Bool)) : Option Nat :=
  match calls.getLast? with
  | some (t, fl) => regSr me t fl
  | none => none

theorem regSr_false (me : Nat) (t : Telegram) : regSr me t false = none := by
  cases t <;> rfl

def heardSR (aL : Nat) (s : Station) (now : Int) (calls : List (Telegram × Bool)) (coll : Nat) : Station :=
  { heardS aL s now (calls.map Prod.fst) with st := .listenToken (lastReg s.p.address calls) coll }

theorem foldListen_loneR (now : Int) (aL coll : Nat) (haL : aL < 128) : ∀ (calls : List (Telegram × Bool)) (c : Ctx) (l : Int),
    calls ≠ [] → c.s.online = true → c.s.st = .listenToken none coll → c.s.lastBusActivity = some l → l ≤ now →
    aL ≠ c.s.p.address → (∀ x ∈ calls, LoneTelR aL x.1) → (∀ x ∈ calls.dropLast, x.2 = false) →
    foldTelegrams (listenTelegram now) c calls = .ok { c with s := heardSR aL c.s now calls coll } := by
  intro calls
  induction calls with
  | nil => intro c l h; exact absurd rfl h
  | cons x rest ih =>
    intro c l _ hon hst hl hle hne hall hfl
    obtain ⟨t, fl⟩ := x
    simp only [foldTelegrams]
    rw [listenTelegram_loneR now c t fl aL coll l hon hst hl hle haL hne (hall (t, fl) (List.mem_cons_self ..))]
    simp only [Res.bind]
    by_cases hr : rest = []
    · subst hr
      simp only [foldTelegrams, heardSR, heardS, List.map_cons, List.map_nil, hearAll, lastReg, List.getLast?_singleton]
    · have hflx : fl = false := by
        have : (t, fl) ∈ ((t, fl) :: rest).dropLast := by
          cases rest with
          | nil => exact absurd rfl hr
          | cons y ys => simp [List.dropLast]
        exact hfl _ this
      subst hflx
      rw [regSr_false]
      rw [ih ⟨{ c.s with pendingBytes := 0, lastBusActivity := some now, ring := if isTok t then c.s.ring.witness aL aL else c.s.ring, st := .listenToken none coll }, c.apps, c.rx, c.tx, c.calls⟩
        now hr hon rfl rfl (Int.le_refl _) hne (fun y hy => hall y (List.mem_cons_of_mem _ hy))
        (fun y hy => hfl y (by
          cases rest with
          | nil => exact absurd rfl hr
          | cons z zs => simp only [List.dropLast_cons_cons]; exact List.mem_cons_of_mem _ hy))]
      have hlr : lastReg c.s.p.address ((t, false) :: rest) = lastReg c.s.p.address rest := by
        unfold lastReg
        rw [List.getLast?_cons_of_ne_nil hr]
      simp only [heardSR, heardS, List.map_cons, hearAll, hlr]

/-- As `LoneLog`, with GAP requests to any address. -/
structure LoneLogR (cfg : Cfg) (aL x : Nat) (b : Bus) : Prop where
  rate : b.rate = cfg.rate
  corrupt : b.corrupt = []
  chained : CChained cfg b.txs
  live : ∀ t ∈ b.txs, t.dropped = false
  own : ∀ t ∈ b.txs, t.sender = x
  kinds : ∀ t ∈ b.txs, t.bytes = tokenBytes aL aL ∨ ∃ g, g < 126 ∧ t.bytes = statusRequestBytes g aL

theorem loneKind_pos {aL : Nat} {bytes : Bytes}
    (h : bytes = tokenBytes aL aL ∨ ∃ g, g < 126 ∧ bytes = statusRequestBytes g aL) : 0 < bytes.length := by
  rcases h with e | ⟨g, -, e⟩
  · rw [e]; show 0 < 3; omega
  · rw [e, statusRequestBytes_length]; omega

theorem LoneLogR.wire {cfg : Cfg} {aL x : Nat} {b : Bus} (h : LoneLogR cfg aL x b) : Wire cfg b :=
  ⟨h.rate, h.corrupt, h.chained, h.live, fun t ht => loneKind_pos (h.kinds t ht)⟩

theorem LoneLogR.tel {cfg : Cfg} {aL x : Nat} {b : Bus} (h : LoneLogR cfg aL x b) (haL : aL < 126) (t : Transmission)
    (ht : t ∈ b.txs) : t.bytes = (telOf t).wire ∧ (telOf t).Valid ∧ 0 < t.bytes.length ∧ LoneTelR aL (telOf t) := by
  rcases h.kinds t ht with hb | ⟨g, hg, hb⟩
  · have e : telOf t = tokTel [aL] aL := telOf_token t aL [aL] (by rw [cycSucc_single]; exact hb)
    rw [e]
    refine ⟨by rw [tokTel_wire, cycSucc_single]; exact hb, trivial, by rw [hb]; show 0 < 3; omega, .inl ?_⟩
    unfold tokTel; rw [cycSucc_single]
  · have e : telOf t = reqTel g aL := telOf_req t g aL (by omega) (by omega) hb
    rw [e]
    exact ⟨by rw [reqTel_wire]; exact hb, reqTel_valid g aL (by omega) (by omega),
      by rw [hb, statusRequestBytes_length]; omega, .inr ⟨g, by omega, rfl⟩⟩

theorem LoneLogR.rsWire {cfg : Cfg} {aL x : Nat} {b : Bus} (h : LoneLogR cfg aL x b) (haL : aL < 126) {dn rs : List Transmission}
    (hlog : b.txs = dn ++ rs) : ∀ t ∈ rs, t.bytes = (telOf t).wire ∧ (telOf t).Valid ∧ 0 < t.bytes.length := fun t ht => by
  have := h.tel haL t (by rw [hlog]; exact List.mem_append_right _ ht)
  exact ⟨this.1, this.2.1, this.2.2.1⟩

/-- The listener condition with explicit decomposition (`dn` delivered, `rs` not yet consumed, stamp `l`) and
registered requester `sr`. -/
def LLOkX (cfg : Cfg) (G aL : Nat) (b : Bus) (H : Int) (j : Nat) (st : NetStation) (r0 : TokenRing) (hd : List Telegram)
    (sr : Option Nat) (dn rs : List Transmission) (l : Int) (coll : Nat) : Prop :=
  st.online = true ∧ st.dead = false ∧ Inv st.s st.apps ∧ st.s.online = true ∧ aL ≠ st.s.p.address ∧
  G + cfg.ce 0 + 2 ≤ st.s.p.tokenLostTimeout ∧ st.s.ring = hearAll aL hd r0 ∧
    b.txs = dn ++ rs ∧ (∀ o ∈ dn, cEnd cfg o ≤ b.seen.getD j 0) ∧
    st.rx = arrived cfg rs (b.seen.getD j 0) ∧ st.s.pendingBytes ≤ (arrived cfg rs (b.seen.getD j 0)).length ∧
    (∀ t rest, rs = t :: rest → cvis cfg t (b.seen.getD j 0) < t.bytes.length) ∧
    st.s.lastBusActivity = some l ∧ l ≤ b.seen.getD j 0 ∧ st.s.st = .listenToken sr coll ∧
    nextArr cfg H rs (b.seen.getD j 0) < l + (st.s.p.tokenLostTimeout : Nat)

theorem LLOkX.ofLLOk {cfg : Cfg} {G aL : Nat} {b : Bus} {H : Int} {j : Nat} {st : NetStation} {r0 : TokenRing}
    {hd : List Telegram} (h : LLOk cfg G aL b H j st r0 hd) : ∃ dn rs l coll, LLOkX cfg G aL b H j st r0 hd none dn rs l coll := by
  obtain ⟨hon, hal, hinv, hson, hne, htto, hring, dn, rs, l, coll, rest⟩ := h
  exact ⟨dn, rs, l, coll, hon, hal, hinv, hson, hne, htto, hring, rest⟩

theorem LLOkX.toLLOk {cfg : Cfg} {G aL : Nat} {b : Bus} {H : Int} {j : Nat} {st : NetStation} {r0 : TokenRing}
    {hd : List Telegram} {dn rs : List Transmission} {l : Int} {coll : Nat}
    (h : LLOkX cfg G aL b H j st r0 hd none dn rs l coll) : LLOk cfg G aL b H j st r0 hd := by
  obtain ⟨hon, hal, hinv, hson, hne, htto, hring, rest⟩ := h
  exact ⟨hon, hal, hinv, hson, hne, htto, hring, dn, rs, l, coll, rest⟩

theorem LLOkX.rcv {cfg : Cfg} {G aL : Nat} {b : Bus} {H : Int} {j : Nat} {st : NetStation} {r0 : TokenRing}
    {hd : List Telegram} {sr : Option Nat} {dn rs : List Transmission} {l : Int} {coll : Nat}
    (h : LLOkX cfg G aL b H j st r0 hd sr dn rs l coll) : Rcv cfg b j st dn rs l := by
  obtain ⟨-, -, -, -, -, -, -, h1, h2, h4, h5, h6, h7, -, -, -⟩ := h
  exact ⟨h1, fun o ho => .inr (h2 o ho), h4, h5, h6, h7⟩

/-- The two outcomes of a poll: no complete telegram yet (same decomposition, the stamp moves iff new characters
came), or a batch `d` of `k ≥ 1` telegrams is consumed; if it ends with a request addressed to the listener and flagged
as last, the requester is registered (`lastReg`). -/
theorem llisten_stepR {cfg : Cfg} {G aL x : Nat} {b : Bus} {H : Int} {j : Nat} {st : NetStation} {r0 : TokenRing}
    {hd : List Telegram} {dn rs : List Transmission} {l : Int} {coll : Nat}
    (hL : LLOkX cfg G aL b H j st r0 hd none dn rs l coll) (hlog : LoneLogR cfg aL x b) (hr : 0 < cfg.rate)
    (haL : aL < 126) (hjx : j ≠ x) (hjl : j < b.seen.length) (now : Int) (hsn : b.seen.getD j 0 < now) (hnowH : now ≤ H)
    (hstart : ∀ t ∈ b.txs, t.start ≤ now)
    (hH : ∀ t, b.txs.getLast? = some t → H ≤ cEnd cfg t + (G : Nat)) :
    ∃ inc c, b.deliver j now = ({ b with seen := b.seen.set j now }, inc) ∧
      st.s.poll st.apps now (b.transmitting j now) (st.rx ++ inc) = .ok c ∧ c.tx = none ∧ c.s.p = st.s.p ∧
      ((LLOkX cfg G aL { b with seen := b.seen.set j now } H j (upSt st c) r0 hd none dn rs
          (if (arrived cfg rs now).length > st.s.pendingBytes then now else l) coll) ∨
       (∃ k d, 1 ≤ k ∧ d.map Prod.fst = (rs.take k).map telOf ∧ (∀ y ∈ d.dropLast, y.2 = false) ∧
          (rs.drop k = [] → ∃ pre t, d = pre ++ [(t, true)]) ∧
          LLOkX cfg G aL { b with seen := b.seen.set j now } H j (upSt st c) r0 (hd ++ d.map Prod.fst)
            (lastReg st.s.p.address d) (dn ++ rs.take k) (rs.drop k) now coll)) := by
  have hR := hL.rcv
  obtain ⟨hon, hal, hinv, hson, hne, htto, hring, h1, -, -, -, -, h7, h8, hst, h10⟩ := hL
  have hc0 := cfg.ce_pos hr 0
  have hW := hlog.wire
  have hsn' := Int.le_of_lt hsn
  have hforAll : ∀ t ∈ b.txs, t.sender ≠ j := fun t ht => by rw [hlog.own t ht]; exact Ne.symm hjx
  have hphy : b.transmitting j now = false := hW.phy fun t ht hs => absurd hs (hforAll t ht)
  have hw := hlog.rsWire haL h1
  have hstartR : ∀ t ∈ rs, t.start ≤ now := fun t ht => hstart t (by rw [h1]; exact List.mem_append_right _ ht)
  obtain ⟨inc, hdv, hrx'⟩ := hR.deliver hW hr (fun t ht => hforAll t (by rw [h1]; exact List.mem_append_right _ ht)) now hsn'
  have hl' : l < now := by omega
  have hto : 0 < st.s.p.tokenLostTimeout := by omega
  obtain ⟨f1, f2, f3, f4, -⟩ := checkBA_fields st.s now (arrived cfg rs now).length
  -- what every outcome shares: the listener's side conditions survive `check_for_bus_activity`
  have keep : ∀ {c : Ctx}, st.s.poll st.apps now false (arrived cfg rs now) = .ok c → c.s.online = true → c.s.p = st.s.p →
      st.online = true ∧ st.dead = false ∧ Inv c.s c.apps ∧ c.s.online = true ∧ aL ≠ c.s.p.address ∧
        G + cfg.ce 0 + 2 ≤ c.s.p.tokenLostTimeout := fun hp ho hpp =>
    ⟨hon, hal, (poll_ok_inv hinv hp).1, ho, by rw [hpp]; exact hne, by rw [hpp]; exact htto⟩
  rcases hR.batch hr (hR.chained hW) hw hsn' with ⟨ret, hrec, hhead⟩ | ⟨k, d, ret, hB⟩
  · -- no complete telegram: the deadline is carried over
    obtain ⟨hfr, hdl⟩ := nextArr_carry cfg hr (l := l) (W := ((st.s.p.tokenLostTimeout - 1 : Nat) : Int)) hsn' hnowH hhead
      (fun t rest hrs => hstartR t (by rw [hrs]; exact List.mem_cons_self ..)) hR.pend (by omega) (by omega)
    have hpoll := listen_poll_batch st.s st.apps now _ _ [] ret coll l hson hst h7 hl' (hfr.imp id (by omega)) hto hrec
    simp only [foldTelegrams] at hpoll
    have hR' := hR.fragment hW hjl hsn' hl' (fun t r e => (hhead t r e).1)
    obtain ⟨k1, k2, k3, k4, k5, k6⟩ := keep hpoll (f4.trans hson) f2
    refine ⟨inc, ⟨checkBusActivity st.s now (arrived cfg rs now).length, st.apps, arrived cfg rs now, none, []⟩, hdv,
      by rw [hphy, hrx']; exact hpoll, rfl, f2, .inl
      ⟨k1, k2, k3, k4, k5, k6, f3.trans hring, h1, ?_, hR'.rx, hR'.pend, hR'.head, hR'.stamp, ?_, f1.trans hst, ?_⟩⟩
    · exact fun o ho => (hR'.done o ho).resolve_left (hforAll o (by rw [h1]; exact List.mem_append_left _ ho))
    · show _ ≤ (b.seen.set j now).getD j 0
      rw [seen_set_self b j now hjl]; split <;> omega
    · show nextArr cfg H rs ((b.seen.set j now).getD j 0) < _ + (((checkBusActivity st.s now _).p.tokenLostTimeout : Nat) : Int)
      rw [seen_set_self b j now hjl, f2]
      show nextArr cfg H rs now < (if st.s.pendingBytes < (arrived cfg rs now).length then now else l) + _
      omega
  · -- at least one complete telegram: new characters have arrived, the stamp is `now`
    have hpollb := listen_poll_batch st.s st.apps now _ _ d ret coll l hson hst h7 hl' (.inl hB.new) hto hB.recv
    obtain ⟨l1, hl1, hle1, -⟩ := checkBA_stamp st.s now (arrived cfg rs now).length (late_of_some h7 hl') (.inl hB.new)
    have hall : ∀ y ∈ d, LoneTelR aL y.1 := fun y hy => by
      have : y.1 ∈ (rs.take k).map telOf := by rw [← hB.tel]; exact List.mem_map_of_mem hy
      obtain ⟨t', ht', e⟩ := List.mem_map.1 this
      rw [← e]
      exact (hlog.tel haL t' (by rw [h1]; exact List.mem_append_right _ (List.mem_of_mem_take ht'))).2.2.2
    have hpoll : st.s.poll st.apps now false (arrived cfg rs now) = .ok ⟨heardSR aL (checkBusActivity st.s now
        (arrived cfg rs now).length) now d coll, st.apps, arrived cfg (rs.drop k) now, none, []⟩ :=
      hpollb.trans (foldListen_loneR now aL coll (by omega) d
        ⟨checkBusActivity st.s now (arrived cfg rs now).length, st.apps, arrived cfg (rs.drop k) now, none, []⟩ l1 hB.ne
        (f4.trans hson) (f1.trans hst) hl1 hle1 (by rw [f2]; exact hne) hall hB.flags)
    have hR' := hB.rcv hR hW hjl hsn' (c := ⟨heardSR aL (checkBusActivity st.s now (arrived cfg rs now).length) now d coll,
      st.apps, arrived cfg (rs.drop k) now, none, []⟩) rfl rfl rfl
    obtain ⟨k1, k2, k3, k4, k5, k6⟩ := keep hpoll (f4.trans hson) f2
    have hdue := hB.due hr (H := H) (G := G) (fun t ht => (hw t ht).2.2) hstartR
      (fun t ht => hH t (by rw [h1, List.getLast?_append, ht]; rfl))
    refine ⟨inc, ⟨heardSR aL (checkBusActivity st.s now (arrived cfg rs now).length) now d coll, st.apps,
      arrived cfg (rs.drop k) now, none, []⟩, hdv, by rw [hphy, hrx']; exact hpoll, rfl, f2,
      .inr ⟨k, d, hB.pos, hB.tel, hB.flags, hB.lastFlag,
        k1, k2, k3, k4, k5, k6, ?_, hR'.log, ?_, hR'.rx, hR'.pend, hR'.head, rfl, ?_, ?_, ?_⟩⟩
    · show hearAll aL (d.map Prod.fst) (checkBusActivity st.s now _).ring = _
      rw [f3, hring, hearAll_append]
    · intro o ho
      refine (hR'.done o ho).resolve_left (hforAll o ?_)
      rw [h1]
      exact (List.mem_append.1 ho).elim (List.mem_append_left _) fun h => List.mem_append_right _ (List.mem_of_mem_take h)
    · show now ≤ (b.seen.set j now).getD j 0
      rw [seen_set_self b j now hjl]; exact Int.le_refl _
    · show FState.listenToken (lastReg (checkBusActivity st.s now _).p.address d) coll = _
      rw [f2]
    · show nextArr cfg H (rs.drop k) ((b.seen.set j now).getD j 0) <
        now + (((checkBusActivity st.s now _).p.tokenLostTimeout : Nat) : Int)
      rw [seen_set_self b j now hjl, f2]
      omega

theorem loneTel_of_kind {aL me : Nat} (haL : aL < 126) (t : Transmission)
    (h : t.bytes = tokenBytes aL aL ∨ ∃ g, g < 126 ∧ g ≠ me ∧ t.bytes = statusRequestBytes g aL) :
    LoneTel aL me (telOf t) := by
  rcases h with hb | ⟨g, hg, hgm, hb⟩
  · rw [telOf_token t aL [aL] (by rw [cycSucc_single]; exact hb)]
    unfold tokTel; rw [cycSucc_single]; exact .inl rfl
  · rw [telOf_req t g aL (by omega) (by omega) hb]
    exact .inr ⟨g, by omega, hgm, rfl⟩

theorem lastReg_none {aL me : Nat} (haL : aL < 128) (d : List (Telegram × Bool)) (ts : List Transmission)
    (hdm : d.map Prod.fst = ts.map telOf) (h : ∀ t ∈ ts, LoneTel aL me (telOf t)) : lastReg me d = none := by
  unfold lastReg
  cases hg : d.getLast? with
  | none => rfl
  | some p =>
    obtain ⟨t, fl⟩ := p
    have hmem : t ∈ d.map Prod.fst := List.mem_map_of_mem (f := Prod.fst) (List.mem_of_getLast? hg)
    rw [hdm] at hmem
    obtain ⟨t', ht', e⟩ := List.mem_map.1 hmem
    rw [← e]
    exact (h t' ht').regSr_none haL fl

theorem LoneLogR.seen {cfg : Cfg} {aL x : Nat} {b : Bus} (h : LoneLogR cfg aL x b) (sn : List Int) :
    LoneLogR cfg aL x { b with seen := sn } :=
  ⟨h.rate, h.corrupt, h.chained, h.live, h.own, h.kinds⟩

theorem LoneLogR.send {cfg : Cfg} {aL x : Nat} {b : Bus} (h : LoneLogR cfg aL x b) (hr : 0 < cfg.rate) (hdrops : b.drops = [])
    (now : Int) (bytes : Bytes) (hends : ∀ o ∈ b.txs, cEnd cfg o ≤ now)
    (hkind : bytes = tokenBytes aL aL ∨ ∃ g, g < 126 ∧ bytes = statusRequestBytes g aL) :
    LoneLogR cfg aL x (b.send x now bytes) ∧ (b.send x now bytes).seen = b.seen ∧
    (b.send x now bytes).txs = (b.txs.filter fun t => decide (b.txEnd t + 100000 > now)) ++
      [({ start := now, sender := x, bytes := bytes, dropped := false } : Transmission)] ∧
    ∀ K : Transmission → Prop, (∀ t ∈ b.txs, K t) → K { start := now, sender := x, bytes := bytes, dropped := false } →
      ∀ t ∈ (b.send x now bytes).txs, K t := by
  obtain ⟨hW, -, hseen, htxs, hall⟩ := h.wire.send hr hdrops x now bytes (loneKind_pos hkind) hends
  exact ⟨⟨hW.rate, hW.corrupt, hW.chained, hW.live, hall _ h.own rfl, hall _ h.kinds hkind⟩, hseen, htxs, hall⟩

theorem LoneLog.toR {cfg : Cfg} {aL me x : Nat} {b : Bus} (h : LoneLog cfg aL me x b) : LoneLogR cfg aL x b :=
  ⟨h.rate, h.corrupt, h.chained, h.live, h.own, fun t ht => (h.kinds t ht).imp id (fun ⟨g, h1, _, h3⟩ => ⟨g, h1, h3⟩)⟩

theorem LoneLog.tel {cfg : Cfg} {aL me x : Nat} {b : Bus} (h : LoneLog cfg aL me x b) (haL : aL < 126) (t : Transmission)
    (ht : t ∈ b.txs) : LoneTel aL me (telOf t) :=
  loneTel_of_kind haL t (h.kinds t ht)

theorem LoneLog.seen {cfg : Cfg} {aL me x : Nat} {b : Bus} (h : LoneLog cfg aL me x b) (sn : List Int) :
    LoneLog cfg aL me x { b with seen := sn } :=
  ⟨h.rate, h.corrupt, h.chained, h.live, h.own, h.kinds⟩

theorem LLOkX.other {cfg : Cfg} {G aL : Nat} {b : Bus} {H : Int} {j : Nat} {st : NetStation} {r0 : TokenRing}
    {hd : List Telegram} {sr : Option Nat} {dn rs : List Transmission} {l : Int} {coll : Nat}
    (h : LLOkX cfg G aL b H j st r0 hd sr dn rs l coll) (i : Nat) (now : Int) (hij : i ≠ j) :
    LLOkX cfg G aL { b with seen := b.seen.set i now } H j st r0 hd sr dn rs l coll := by
  have e : ({ b with seen := b.seen.set i now } : Bus).seen.getD j 0 = b.seen.getD j 0 := seen_set_other b i j now hij
  unfold LLOkX at h ⊢
  rw [e]
  exact h

theorem LLOkX.send {cfg : Cfg} {G aL x : Nat} {b b' : Bus} {H H' : Int} {j : Nat} {st : NetStation} {r0 : TokenRing}
    {hd : List Telegram} {dn rs : List Transmission} {l : Int} {coll : Nat}
    (h : LLOkX cfg G aL b H j st r0 hd none dn rs l coll) (hlog : LoneLogR cfg aL x b) (hr : 0 < cfg.rate)
    (q : Int) (bytes : Bytes) (hbl : 0 < bytes.length) (hq2 : q ≤ H) (hsj : b.seen.getD j 0 ≤ q)
    (hP : q ≤ b.seen.getD j 0 + (cfg.P : Nat)) (hP100 : cfg.P ≤ 100000)
    (htx' : b'.txs = (b.txs ++ [({ start := q, sender := x, bytes := bytes, dropped := false } : Transmission)]).filter
      fun t => decide (b.txEnd t + 100000 > q))
    (hseen : b'.seen = b.seen) :
    LLOkX cfg G aL b' H' j st r0 hd none (dn.filter (fun t => decide (b.txEnd t + 100000 > q)))
      (rs ++ [{ start := q, sender := x, bytes := bytes, dropped := false }]) l coll := by
  obtain ⟨r, hn⟩ := h.rcv.snoc hlog.wire hr x q bytes hbl hsj (fun _ => by omega) htx' hseen
  obtain ⟨hon, hal, hinv, hson, hne, htto, hring, -, h2, -, -, -, -, h8, hst, h10⟩ := h
  have := hn H H' hq2
  exact ⟨hon, hal, hinv, hson, hne, htto, hring, r.log, by rw [hseen]; exact fun o ho => h2 o (List.mem_filter.1 ho).1,
    r.rx, r.pend, r.head, r.stamp, by rw [hseen]; exact h8, hst, by rw [hseen]; omega⟩

theorem LLOkX.mono {cfg : Cfg} {G aL : Nat} {b : Bus} {H H' : Int} {j : Nat} {st : NetStation} {r0 : TokenRing}
    {hd : List Telegram} {sr : Option Nat} {dn rs : List Transmission} {l : Int} {coll : Nat}
    (h : LLOkX cfg G aL b H j st r0 hd sr dn rs l coll) (hH : H' ≤ H) : LLOkX cfg G aL b H' j st r0 hd sr dn rs l coll := by
  obtain ⟨hon, hal, hinv, hson, hne, htto, hring, h1, h2, h4, h5, h6, h7, h8, hst, h10⟩ := h
  refine ⟨hon, hal, hinv, hson, hne, htto, hring, h1, h2, h4, h5, h6, h7, h8, hst, ?_⟩
  have := nextArr_horizon_le cfg hH rs (b.seen.getD j 0)
  omega

theorem llisten_step {cfg : Cfg} {G aL x : Nat} {b : Bus} {H : Int} {j : Nat} {st : NetStation} {r0 : TokenRing}
    {hd : List Telegram} (hL : LLOk cfg G aL b H j st r0 hd) (hlog : LoneLog cfg aL st.s.p.address x b) (hr : 0 < cfg.rate)
    (haL : aL < 126) (hjx : j ≠ x) (hjl : j < b.seen.length) (now : Int) (hsn : b.seen.getD j 0 < now) (hnowH : now ≤ H)
    (hstart : ∀ t ∈ b.txs, t.start ≤ now)
    (hH : ∀ t, b.txs.getLast? = some t → H ≤ cEnd cfg t + (G : Nat)) :
    ∃ inc c hd', b.deliver j now = ({ b with seen := b.seen.set j now }, inc) ∧
      st.s.poll st.apps now (b.transmitting j now) (st.rx ++ inc) = .ok c ∧ c.tx = none ∧ c.s.p = st.s.p ∧
      LLOk cfg G aL { b with seen := b.seen.set j now } H j (upSt st c) r0 hd' := by
  obtain ⟨dn, rs, l, coll, hX⟩ := LLOkX.ofLLOk hL
  have htxs : b.txs = dn ++ rs := hX.rcv.log
  obtain ⟨inc, c, hdv, hpoll, htx, hp, hres⟩ := llisten_stepR hX hlog.toR hr haL hjx hjl now hsn hnowH hstart hH
  rcases hres with hX' | ⟨k, d, -, hdm, -, -, hX'⟩
  · exact ⟨inc, c, hd, hdv, hpoll, htx, hp, hX'.toLLOk⟩
  · rw [lastReg_none (by omega) d (rs.take k) hdm (fun t ht =>
      hlog.tel haL t (by rw [htxs]; exact List.mem_append_right _ (List.mem_of_mem_take ht)))] at hX'
    exact ⟨inc, c, _, hdv, hpoll, htx, hp, hX'.toLLOk⟩

end PV
