/-
The poll of a ring member that merely listens — idle, or still supervising its own pass (`Listens`) — while the
time-out that could end the listening has not run out (`ListenFresh`): it is the idle fold over the batch
`receive_all_telegrams` returns, from a start context that is known exactly (`listener_poll`).  Three outcomes:
no complete telegram (`listener_poll_nil`), other stations' telegrams overheard (`listener_hears`), the token from
the predecessor accepted (`listener_accepts`).  `lisWait` is how long a listener goes on without a new character;
the listener clauses of the ring invariants and `ListenFresh` are read through it (`listenMode_iff`, `listenFresh_iff`).
-/
import ProfiVerif.Lemmas.TimedRingListen

namespace PV
open TokenRing

def Listens (s : Station) (idle : Bool) : Prop :=
  if idle = true then ∃ np coll, s.st = .activeIdle none np coll else s.st = .checkTokenPass .first

/-- The time-out that would end the listening does not fire at a poll at `now` with `n` bytes buffered: a new character
has come (`check_for_bus_activity` renews the stamp before the test), or the stamp `l` is recent enough. -/
def ListenFresh (s : Station) (idle : Bool) (l now : Int) (n : Nat) : Prop :=
  s.pendingBytes < n ∨
    if idle = true then now < l + (s.p.tokenLostTimeout : Nat) else now ≤ l + (s.p.slotTime : Nat)

/-- How long after its stamp a listener goes on listening without a new character: until just before the token-lost
time-out while idle, for the slot time while it supervises its own pass. -/
def lisWait (s : Station) (idle : Bool) : Nat := if idle = true then s.p.tokenLostTimeout - 1 else s.p.slotTime

/-- The listener clause of the ring invariants — mode, and `x` (when the next character is due) before the deadline — in
one form for both modes. -/
theorem listenMode_iff (s : Station) (idle : Bool) (l x : Int) (slot : Nat) (hslot : s.p.slotTime = slot)
    (hto : 0 < s.p.tokenLostTimeout) :
    (if idle = true then (∃ np coll, s.st = .activeIdle none np coll) ∧ x < l + (s.p.tokenLostTimeout : Nat)
     else s.st = .checkTokenPass .first ∧ x ≤ l + (slot : Nat)) ↔
    Listens s idle ∧ x ≤ l + ((lisWait s idle : Nat) : Int) := by
  unfold Listens lisWait
  cases idle with
  | true => simp only [if_true]; exact and_congr_right fun _ => by omega
  | false => simp only [Bool.false_eq_true, if_false]; rw [hslot]

theorem Listens.congr {s s' : Station} {idle : Bool} (h : Listens s idle) (hst : s'.st = s.st) : Listens s' idle := by
  unfold Listens at h ⊢; rw [hst]; exact h

theorem lisWait_congr {s s' : Station} {idle : Bool} (hp : s'.p = s.p) : lisWait s' idle = lisWait s idle := by
  unfold lisWait; rw [hp]

theorem listenFresh_iff (s : Station) (idle : Bool) (l now : Int) (n : Nat) (hto : 0 < s.p.tokenLostTimeout) :
    ListenFresh s idle l now n ↔ s.pendingBytes < n ∨ now ≤ l + ((lisWait s idle : Nat) : Int) := by
  unfold ListenFresh lisWait
  cases idle with
  | true => simp only [if_true]; exact or_congr_right (by omega)
  | false => simp only [Bool.false_eq_true, if_false]

theorem listener_poll (s : Station) (apps : Apps) (now l : Int) (rx b' : Bytes) (d : List (Telegram × Bool)) (ret : Bool)
    (idle : Bool) (hon : s.online = true) (hm : Listens s idle) (hl : s.lastBusActivity = some l) (hlt : l < now)
    (hto : 0 < s.p.tokenLostTimeout) (hf : ListenFresh s idle l now rx.length) (hrec : receiveAll rx = .done b' d ret) :
    ∃ st0, s.poll apps now false rx =
        foldTelegrams (idleF now) { s := { (checkBusActivity s now rx.length) with st := st0 }, apps := apps, rx := b' } d ∧
      (d = [] → st0 = s.st) ∧ (d ≠ [] → ∃ np coll, st0 = .activeIdle none np coll) := by
  have hst1 := (checkBA_fields s now rx.length).1
  have hself : ({ (checkBusActivity s now rx.length) with st := s.st } : Station) = checkBusActivity s now rx.length := by
    rw [← hst1]
  cases idle with
  | true =>
    obtain ⟨np, coll, hs⟩ := hm
    refine ⟨s.st, ?_, fun _ => rfl, fun _ => ⟨np, coll, hs⟩⟩
    rw [hself]
    exact idle_poll_recv s apps now rx b' d ret np coll hon hs (late_of_some hl hlt) hto
      (hf.imp id fun h => ⟨l, hl, h⟩) hrec
  | false =>
    have hs : s.st = .checkTokenPass .first := hm
    have hp := check_poll_recv s apps now rx b' d ret .first hon hs (late_of_some hl hlt) (hf.imp id fun h => ⟨l, hl, h⟩) hrec
    cases d with
    | nil => exact ⟨s.st, by rw [hself]; exact hp, fun _ => rfl, fun h => absurd rfl h⟩
    | cons x rest => exact ⟨_, hp, (fun h => by cases h), fun _ => ⟨none, 0, rfl⟩⟩

theorem listener_poll_nil (s : Station) (apps : Apps) (now l : Int) (rx b' : Bytes) (ret : Bool)
    (idle : Bool) (hon : s.online = true) (hm : Listens s idle) (hl : s.lastBusActivity = some l) (hlt : l < now)
    (hto : 0 < s.p.tokenLostTimeout) (hf : ListenFresh s idle l now rx.length) (hrec : receiveAll rx = .done b' [] ret) :
    s.poll apps now false rx = .ok { s := checkBusActivity s now rx.length, apps := apps, rx := b' } := by
  obtain ⟨st0, hp, h0, -⟩ := listener_poll s apps now l rx b' [] ret idle hon hm hl hlt hto hf hrec
  rw [hp, h0 rfl, ← (checkBA_fields s now rx.length).1]
  rfl

theorem listener_ctx (s : Station) (now l : Int) (n : Nat) (st0 : FState) (hl : s.lastBusActivity = some l) (hlt : l < now) :
    ∃ l0, ({ (checkBusActivity s now n) with st := st0 } : Station).lastBusActivity = some l0 ∧ l0 ≤ now := by
  obtain ⟨l1, h1, h2, -⟩ := checkBA_stamp s now n (late_of_some hl hlt) (.inr ⟨l, hl⟩)
  exact ⟨l1, h1, h2⟩

theorem listener_hears (M : List Nat) (me : Nat) (s : Station) (apps : Apps) (now l : Int) (rx b' : Bytes)
    (d : List (Telegram × Bool)) (ret : Bool) (idle : Bool) (hon : s.online = true) (hm : Listens s idle)
    (hl : s.lastBusActivity = some l) (hlt : l < now) (hto : 0 < s.p.tokenLostTimeout)
    (hf : ListenFresh s idle l now rx.length) (hrec : receiveAll rx = .done b' d ret)
    (hme : s.p.address = me) (hv : RingView M me s.ring) (hd : d ≠ []) (hfor : ∀ x ∈ d, Foreign M me x.1) :
    ∃ c, s.poll apps now false rx = .ok c ∧ c.tx = none ∧ c.rx = b' ∧ c.apps = apps ∧ c.calls = [] ∧ c.s.p = s.p ∧
      c.s.online = true ∧ (∃ np coll, c.s.st = .activeIdle none np coll) ∧ RingView M me c.s.ring ∧
      c.s.lastBusActivity = some now ∧ c.s.pendingBytes = 0 := by
  obtain ⟨st0, hp, -, h1⟩ := listener_poll s apps now l rx b' d ret idle hon hm hl hlt hto hf hrec
  obtain ⟨-, f2, f3, f4, -⟩ := checkBA_fields s now rx.length
  obtain ⟨l0, hl0, hle0⟩ := listener_ctx s now l rx.length st0 hl hlt
  obtain ⟨c, hc, hh, hne, -⟩ := fold_foreign M me now d
    { s := { (checkBusActivity s now rx.length) with st := st0 }, apps := apps, rx := b' } l0 hfor (f2 ▸ hme) (h1 hd) (f3 ▸ hv) hl0 hle0
  exact ⟨c, by rw [hp]; exact hc, hh.tx, hh.rx, hh.apps, hh.calls, hh.p.trans f2, hh.online.trans (f4.trans hon), hh.st,
    hh.view, (hne hd).1, (hne hd).2⟩

theorem listener_accepts (M : List Nat) (me : Nat) (s : Station) (apps : Apps) (now l : Int) (rx b' : Bytes)
    (pre : List (Telegram × Bool)) (ret : Bool) (idle : Bool) (hon : s.online = true) (hm : Listens s idle)
    (hl : s.lastBusActivity = some l) (hlt : l < now) (hto : 0 < s.p.tokenLostTimeout)
    (hf : ListenFresh s idle l now rx.length)
    (hrec : receiveAll rx = .done b' (pre ++ [(Telegram.token (UInt8.ofNat me) (UInt8.ofNat (cycPred me M)), true)]) ret)
    (hme : s.p.address = me) (hv : RingView M me s.ring) (hfor : ∀ x ∈ pre, Foreign M me x.1)
    (hne : cycPred me M ≠ me) (hlt126 : me < 126) (hlp : cycPred me M < 126) :
    ∃ c, s.poll apps now false rx = .ok c ∧ c.tx = none ∧ c.rx = b' ∧ c.apps = apps ∧ c.calls = [] ∧ c.s.p = s.p ∧
      c.s.online = true ∧ c.s.st = .useToken ⟨now, none⟩ false ∧ RingView M me c.s.ring ∧
      c.s.lastBusActivity = some now ∧ c.s.pendingBytes = 0 := by
  obtain ⟨st0, hp, -, h1⟩ := listener_poll s apps now l rx b' _ ret idle hon hm hl hlt hto hf hrec
  obtain ⟨-, f2, f3, f4, -⟩ := checkBA_fields s now rx.length
  obtain ⟨l0, hl0, hle0⟩ := listener_ctx s now l rx.length st0 hl hlt
  obtain ⟨c, hc, a1, a2, a3, a4, a5, a6, a7, a8, a9, a10⟩ := fold_accept M me now pre
    { s := { (checkBusActivity s now rx.length) with st := st0 }, apps := apps, rx := b' } l0 hfor
    (f2 ▸ hme) (h1 (by simp)) (f3 ▸ hv) hl0 hle0 hne hlt126 hlp
  exact ⟨c, by rw [hp]; exact hc, a1, a2, a3, a4, a5.trans f2, a6.trans (f4.trans hon), a7, a8, a9, a10⟩

end PV
