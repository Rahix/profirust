/-
Cyclic neighbours (C02 `neighbours`): for a sorted ring the neighbours of `S[i]` are `S[i±1 mod |S|]`, and
`TokenRing.updateNextPrev` (the model of `update_next_previous`) computes `cycSucc` / `cycPred`
(`Lemmas/Cyclic.lean`) of the LAS: its two searches are `min?` / `max?` of a sorted list.
-/
import ProfiVerif.Lemmas.TokenRing

namespace PV
namespace TokenRing

theorem cycSucc_index (S : List Nat) (h : Asc S) (i : Nat) (hi : i < S.length) :
    cycSucc S[i] S = S[(i + 1) % S.length]'(Nat.mod_lt _ (by omega)) := by
  have hmod : (i + 1) % S.length < S.length := Nat.mod_lt _ (by omega)
  refine (cycSucc_iff.mpr ⟨.inr (List.getElem_mem hmod), fun x hx hb => ?_⟩).symm
  obtain ⟨j, hj, rfl⟩ := List.mem_iff_getElem.mp hx
  rw [between_arith] at hb
  -- position `j` is at most `i` or beyond `i + 1`; the order of the addresses follows that of the positions
  have lo : j ≤ i → S[j] ≤ S[i] := asc_getElem_le S h j i hj hi
  have hi' : i < j → S[i] < S[j] := asc_getElem_lt S h i j hi hj
  by_cases hlast : i + 1 < S.length
  · have e : (i + 1) % S.length = i + 1 := Nat.mod_eq_of_lt hlast
    simp only [e] at hb
    have := asc_getElem_lt S h i (i + 1) hi hlast (by omega)
    have : i + 1 ≤ j → S[i + 1] ≤ S[j] := asc_getElem_le S h (i + 1) j hlast hj
    omega
  · have e : (i + 1) % S.length = 0 := by
      have : i + 1 = S.length := by omega
      rw [this]; exact Nat.mod_self _
    simp only [e] at hb
    have := asc_getElem_le S h 0 j (by omega) hj (by omega)
    have := asc_getElem_le S h 0 i (by omega) hi (by omega)
    omega

/-- The predecessor is read off the successor: `S[i]` follows `S[i-1]`. -/
theorem cycPred_index (S : List Nat) (h : Asc S) (i : Nat) (hi : i < S.length) :
    cycPred S[i] S = S[(i + S.length - 1) % S.length]'(Nat.mod_lt _ (by omega)) := by
  have hmod : (i + S.length - 1) % S.length < S.length := Nat.mod_lt _ (by omega)
  have hs := cycSucc_index S h _ hmod
  have e : ((i + S.length - 1) % S.length + 1) % S.length = i := by
    rw [Nat.mod_add_mod, show i + S.length - 1 + 1 = i + S.length by omega, Nat.add_mod_right]
    exact Nat.mod_eq_of_lt hi
  simp only [e] at hs
  rw [← hs]
  exact cycPred_cycSucc _ S (List.getElem_mem hmod)

theorem activeList_pairwise (r : TokenRing) : r.activeList.Pairwise (· < ·) :=
  List.Pairwise.filter _ List.pairwise_lt_range

theorem mem_activeList (r : TokenRing) (a : Nat) : a ∈ r.activeList ↔ r.isActive a = true := by
  unfold activeList
  simp only [List.mem_filter, List.mem_range]
  exact ⟨fun h => h.2, fun h => ⟨isActive_lt r a h, h⟩⟩

theorem head?_eq_min? {l : List Nat} (hl : l.Pairwise (· < ·)) : l.head? = l.min? :=
  (List.min?_eq_head? (hl.imp fun h => Nat.min_eq_left (Nat.le_of_lt h))).symm

theorem getLast?_eq_max? {l : List Nat} (hl : l.Pairwise (· < ·)) : l.getLast? = l.max? := by
  cases hm : l.getLast? with
  | none => rw [List.getLast?_eq_none_iff.mp hm]; rfl
  | some a =>
    have ha : a ∈ l := List.mem_of_getLast? hm
    refine (List.max?_eq_some_iff.mpr ⟨ha, fun b hb => ?_⟩).symm
    obtain ⟨i, hi, rfl⟩ := List.mem_iff_getElem.mp hb
    rw [List.getLast?_eq_getElem?] at hm
    have hpos : l.length - 1 < l.length := by omega
    rw [List.getElem?_eq_getElem hpos] at hm
    cases hm
    by_cases e : i = l.length - 1
    · subst e; exact Nat.le_refl _
    · exact Nat.le_of_lt (List.pairwise_iff_getElem.mp hl i (l.length - 1) hi hpos (by omega))

/-- **The neighbour invariant**: NS / PS are the cyclic successor / predecessor of TS among the
addresses currently entered in the LAS. -/
def Nbr (r : TokenRing) : Prop :=
  r.ns = cycSucc r.ts r.activeList ∧ r.ps = cycPred r.ts r.activeList

theorem updateNextPrev_activeList (r : TokenRing) : (updateNextPrev r).activeList = r.activeList := by
  have e : (updateNextPrev r).isActive = r.isActive := funext (updateNextPrev_active r)
  unfold activeList
  rw [e]

/-- The search for the first entry above TS (else the first entry) is `cycSucc`, the search from the top for
the first entry below TS (else the last entry) is `cycPred`: the LAS is listed in ascending order. -/
theorem updateNextPrev_nbr (r : TokenRing) : Nbr (updateNextPrev r) := by
  have hl := activeList_pairwise r
  refine ⟨?_, ?_⟩
  · rw [updateNextPrev_activeList, (updateNextPrev_las r).2]
    show (match r.activeList.find? (fun a => decide (a > r.ts)) with
      | some a => a
      | none => match r.activeList.head? with
        | some a => a
        | none => r.ts) = _
    rw [← List.head?_filter, head?_eq_min? (hl.filter _), head?_eq_min? hl]
    rfl
  · rw [updateNextPrev_activeList, (updateNextPrev_las r).2]
    show (match r.activeList.reverse.find? (fun a => decide (a < r.ts)) with
      | some a => a
      | none => match r.activeList.getLast? with
        | some a => a
        | none => r.ts) = _
    rw [← List.getLast?_filter, getLast?_eq_max? (hl.filter _), getLast?_eq_max? hl]
    rfl

theorem updateLas_nbr (r : TokenRing) (sa da : Nat) : Nbr (r.updateLas sa da) := by
  unfold updateLas; exact updateNextPrev_nbr _

theorem new_isActive (ts a : Nat) : (TokenRing.new ts).isActive a = decide (a = ts ∧ a < 128) := by
  unfold isActive
  split
  · rename_i h; simp [TokenRing.new, h]
  · rename_i h; simp [h]

theorem nbr_of_alone (r : TokenRing) (hns : r.ns = r.ts) (hps : r.ps = r.ts)
    (hm : ∀ a, a ∈ r.activeList → a = r.ts) : Nbr r :=
  ⟨hns.trans (cycSucc_alone _ _ hm).symm, hps.trans (cycPred_alone _ _ hm).symm⟩

theorem new_nbr (ts : Nat) : Nbr (TokenRing.new ts) := by
  apply nbr_of_alone _ rfl rfl
  intro a ha
  rw [mem_activeList, new_isActive] at ha
  have : a = ts ∧ a < 128 := by simpa using ha
  exact this.1

/-- Every witnessed pass preserves the invariant (in every LAS phase; also the ignored ones): a phase
change does not touch what `Nbr` speaks of, and every new LAS is followed by `update_next_previous`. -/
theorem witness_nbr (r : TokenRing) (sa da : Nat) (h : Nbr r) : Nbr (r.witness sa da) :=
  witness_ind Nbr (fun _ _ h => h) (fun _ _ _ => updateNextPrev_nbr _) r sa da h

theorem witnessAll_nbr (ps : List (Nat × Nat)) : ∀ (r : TokenRing), Nbr r → Nbr (witnessAll r ps) := by
  induction ps with
  | nil => intro r h; exact h
  | cons p t ih => intro r h; exact ih _ (witness_nbr r p.1 p.2 h)

theorem claimToken_nbr (r : TokenRing) (h : Nbr r) : Nbr r.claimToken := h

theorem setNextStation_nbr (r r' : TokenRing) (a : Nat) (h : r.setNextStation a = some r') : Nbr r' := by
  obtain ⟨v, rfl⟩ := setNextStation_upd r r' a h
  exact updateNextPrev_nbr _

theorem removeStation_nbr (r r' : TokenRing) (a : Nat) (h : r.removeStation a = some r') : Nbr r' := by
  obtain ⟨v, rfl⟩ := removeStation_upd r r' a h
  exact updateNextPrev_nbr _

theorem applyOp_nbr (r r' : TokenRing) (o : Op) (h : Nbr r) (e : applyOp r o = some r') :
    Nbr r' ∧ r'.ts = r.ts :=
  op_ind (fun q => Nbr q ∧ q.ts = r.ts) (fun _ _ h => h) (fun _ _ h => ⟨updateNextPrev_nbr _, h.2⟩) r r' o ⟨h, rfl⟩ e

theorem runOps_nbr (ops : List Op) : ∀ (r r' : TokenRing), Nbr r → runOps r ops = some r' →
    Nbr r' ∧ r'.ts = r.ts := by
  induction ops with
  | nil => intro r r' h e; cases e; exact ⟨h, rfl⟩
  | cons o t ih =>
    intro r r' h e
    unfold runOps at e
    cases ha : applyOp r o with
    | none => rw [ha] at e; cases e
    | some r1 =>
      rw [ha] at e
      have h1 := applyOp_nbr r r1 o h ha
      have := ih r1 r' h1.1 e
      exact ⟨this.1, by rw [this.2, h1.2]⟩

theorem nbr_lasIs (r : TokenRing) (S : List Nat) (h : Nbr r) (hl : LasIs r S) (hb : ∀ z ∈ S, z ≤ 125) :
    r.ns = cycSucc r.ts S ∧ r.ps = cycPred r.ts S := by
  have hm : ∀ a, a ∈ r.activeList ↔ a ∈ S := fun a => by
    rw [mem_activeList]; exact lasIs_mem r S hl hb a
  exact ⟨by rw [h.1]; exact cycSucc_congr _ _ _ hm, by rw [h.2]; exact cycPred_congr _ _ _ hm⟩

end TokenRing
end PV
