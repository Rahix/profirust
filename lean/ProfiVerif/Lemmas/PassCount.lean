/-
Counting form of pass supervision (C11): how often the token is transmitted to one successor before
that successor is removed from the LAS.  One-poll step lemma `pass_step` for every supervising start
state, lifted over arbitrary lists of polls (`SameRun`, `passCount_run`).
-/
import ProfiVerif.Lemmas.StationTrace

namespace PV
open TokenRing C05

def Attempt.ord : Attempt → Nat
  | .first => 1 | .second => 2 | .third => 3

/-- **Stage of a pass**: how many times the token has been transmitted to the current successor in the
running pass, read off the FDL state.  `CheckTokenPass(att)`: `att` transmissions are out and the bus
is being watched.  `PassToken(false, second/third)`: a slot time has expired in silence after transmission
1 / 2 and the repetition waits for the synchronisation pause (these two states are entered from
`do_check_token_pass` only).  Every other state — in particular `PassToken(_, first)`, which precedes
the FIRST transmission to a (new) successor, and `PassToken(true, second/third)`, which no handler
enters — has stage 0: no pass is being supervised. -/
def sent : FState → Nat
  | .checkTokenPass att => att.ord
  | .passToken false .second => 1
  | .passToken false .third => 2
  | _ => 0

/-- The token telegram TS → NS as bytes. -/
def tokenTo (ts ns : Nat) : Bytes := sendToken (UInt8.ofNat ns) (UInt8.ofNat ts)

theorem sent_le_three (st : FState) : sent st ≤ 3 := by
  cases st with
  | checkTokenPass att => cases att <;> simp [sent, Attempt.ord]
  | passToken g att => cases g <;> cases att <;> simp [sent]
  | _ => simp [sent]

theorem sent_cases {st : FState} (h : sent st ≠ 0) :
    (∃ att, st = .checkTokenPass att) ∨ st = .passToken false .second ∨ st = .passToken false .third := by
  cases st with
  | checkTokenPass att => exact .inl ⟨att, rfl⟩
  | passToken g att =>
    cases g <;> cases att <;> simp [sent] at h ⊢
  | _ => simp [sent] at h

theorem passTok_poll (s : Station) (apps : Apps) (now : Int) (phy : Bool) (rx : Bytes) (c' : Ctx)
    (h : s.poll apps now phy rx = .ok c') (g : Bool) (att : Attempt) (hst : s.st = .passToken g att) :
    (c'.s.st = .passToken g att ∧ c'.s.ring = s.ring ∧ c'.tx = none) ∨
    (g = true ∧ (∃ a, c'.s.st = .awaitStatus a) ∧ c'.s.ring = s.ring) ∨
    (c'.s.ring = s.ring.witness s.p.address s.ring.ns ∧
      (c'.s.st = .useToken ⟨now, none⟩ false ∨ c'.s.st = .checkTokenPass att) ∧
      c'.tx = some (tokenTo s.p.address s.ring.ns)) := by
  have hw := wake_of_awake s (by rw [hst]; simp) (by rw [hst]; simp)
  rcases poll_cases s apps now phy rx c' h with ⟨hoff, hst0, rfl⟩ | ⟨hon, rfl⟩ | ⟨hon, hd⟩
  · exact .inl ⟨hst, rfl, rfl⟩
  · rw [hw]
    exact .inl ⟨hst, rfl, rfl⟩
  · rw [hw, checkBusActivity_eq] at hd
    exact (hd.pass g att hst).2.2

/-- One whole poll starting in `CheckTokenPass(att)`: nothing happens, or the slot time expired in silence
(retry, on the third expiry after removing NS), or a complete telegram was heard and the pass is over. -/
theorem check_supervision (s : Station) (apps : Apps) (now : Int) (phy : Bool) (rx : Bytes) (c' : Ctx)
    (h : s.poll apps now phy rx = .ok c') (att : Attempt) (hst : s.st = .checkTokenPass att) :
    c'.calls = [] ∧
    ((c'.s.st = .checkTokenPass att ∧ c'.s.ring = s.ring ∧ c'.tx = none) ∨
     (SlotExpired s now rx ∧ ∃ r0 att', RetryStep s.ring att att' r0 ∧
        ((c'.s.st = .passToken false att' ∧ c'.s.ring = r0 ∧ c'.tx = none) ∨
         (c'.s.ring = r0.witness s.p.address r0.ns ∧
            (c'.s.st = .useToken ⟨now, none⟩ false ∨ c'.s.st = .checkTokenPass att') ∧
            c'.tx = some (sendToken (UInt8.ofNat r0.ns) (UInt8.ofNat s.p.address))))) ∨
     (¬ SlotExpired s now rx ∧ ∃ rx' calls ret, receiveAll rx = .done rx' calls ret ∧ calls ≠ [] ∧
        HeardEvo calls s.ring c'.s.ring ∧ c'.tx = none ∧
        ((∃ sr' np' coll', c'.s.st = .activeIdle sr' np' coll') ∨ (∃ a b, c'.s.st = .listenToken a b) ∨
         (∃ pre da sa, calls = pre ++ [(Telegram.token da sa, true)] ∧ da.toNat = s.p.address ∧
            sa.toNat ≠ s.p.address ∧ sa.toNat = c'.s.ring.ps ∧ c'.s.st = .useToken ⟨now, none⟩ false)))) := by
  have hw := wake_of_awake s (by rw [hst]; simp) (by rw [hst]; simp)
  rcases poll_cases s apps now phy rx c' h with ⟨hoff, hst0, rfl⟩ | ⟨hon, rfl⟩ | ⟨hon, hd⟩
  · exact ⟨rfl, .inl ⟨hst, rfl, rfl⟩⟩
  · rw [hw]
    exact ⟨rfl, .inl ⟨hst, rfl, rfl⟩⟩
  · have hexp : SlotExpired s now rx ↔ (checkSlotExpired (checkBusActivity s now rx.length) now).2 = true := Iff.rfl
    rw [hw] at hd
    obtain ⟨hq, -, hcase⟩ := hd.check att (by rw [checkBusActivity_eq]; exact hst)
    rw [checkBusActivity_eq] at hcase
    refine ⟨hq.calls, ?_⟩
    rcases hcase with ⟨hex, r0, att', hrs, hpost⟩ | ⟨hex, rx', calls, ret, hrx, hpost⟩
    · exact .inr (.inl ⟨by rw [hexp, checkBusActivity_eq]; exact hex, r0, att', hrs, hpost⟩)
    · rcases hpost with ⟨-, h1, h2, h3⟩ | ⟨hne, hev, htx, hs⟩
      · exact .inl ⟨h1, h2, h3⟩
      · exact .inr (.inr ⟨by rw [hexp, checkBusActivity_eq, hex]; simp, rx', calls, ret, hrx, hne, hev, htx, hs⟩)

theorem check_poll (s : Station) (apps : Apps) (now : Int) (phy : Bool) (rx : Bytes) (c' : Ctx)
    (h : s.poll apps now phy rx = .ok c') (att : Attempt) (hst : s.st = .checkTokenPass att) :
    (c'.s.st = .checkTokenPass att ∧ c'.s.ring = s.ring ∧ c'.tx = none) ∨
    (SlotExpired s now rx ∧ ∃ r0 att', RetryStep s.ring att att' r0 ∧
       ((c'.s.st = .passToken false att' ∧ c'.s.ring = r0 ∧ c'.tx = none) ∨
        (c'.s.ring = r0.witness s.p.address r0.ns ∧
           (c'.s.st = .useToken ⟨now, none⟩ false ∨ c'.s.st = .checkTokenPass att') ∧
           c'.tx = some (tokenTo s.p.address r0.ns)))) ∨
    (¬ SlotExpired s now rx ∧ ∃ rx' calls ret, receiveAll rx = .done rx' calls ret ∧ calls ≠ [] ∧
       HeardEvo calls s.ring c'.s.ring ∧ c'.tx = none ∧
       ((∃ sr' np' coll', c'.s.st = .activeIdle sr' np' coll') ∨ (∃ a b, c'.s.st = .listenToken a b) ∨
        (∃ d f, c'.s.st = .useToken d f))) := by
  obtain ⟨-, hcase⟩ := check_supervision s apps now phy rx c' h att hst
  rcases hcase with h1 | ⟨hex, r0, att', hrs, hpost⟩ | ⟨hex, rx', calls, ret, hrx, hne, hev, htx, hs⟩
  · exact .inl h1
  · exact .inr (.inl ⟨hex, r0, att', hrs, hpost⟩)
  · refine .inr (.inr ⟨hex, rx', calls, ret, hrx, hne, hev, htx, ?_⟩)
    rcases hs with h' | h' | ⟨_, _, _, _, _, _, _, hu⟩
    · exact .inl h'
    · exact .inr (.inl h')
    · exact .inr (.inr ⟨_, _, hu⟩)

/-- **What one poll can do to a running pass** (start state with stage ≥ 1).

* `wait` — nothing is transmitted, ring view and stage unchanged (own transmission still on the wire,
  slot time not expired and nothing complete heard, or the slot time expired and the repetition now
  waits for the synchronisation pause);
* `retry` — stage < 3 and the identical token telegram TS → NS goes out once more; the stage grows by
  exactly one (or the station finds itself alone after recording its own pass and keeps the token);
  the ring view changes only by recording the own pass;
* `heard` — the slot time has NOT expired and a complete telegram was heard: the pass is over (stage
  0), nothing transmitted, the ring view changed only by witnessed tokens of the batch: no removal;
* `removed` — only from `CheckTokenPass(third)` (stage 3) with the slot time expired in silence: NS is
  removed, stage restarts (0: `PassToken(false, first)`, or 1: first transmission to the NEW successor
  in the same poll, or the station is alone and keeps the token).
-/
inductive PassStep (s : Station) (now : Int) (rx : Bytes) (c' : Ctx) : Prop
  | wait (hs : sent c'.s.st = sent s.st) (hr : c'.s.ring = s.ring) (ht : c'.tx = none)
  | retry (hlt : sent s.st < 3)
      (hs : sent c'.s.st = sent s.st + 1 ∨ c'.s.st = .useToken ⟨now, none⟩ false)
      (hr : c'.s.ring = s.ring.witness s.p.address s.ring.ns)
      (ht : c'.tx = some (tokenTo s.p.address s.ring.ns))
  | heard (hex : ¬ SlotExpired s now rx) (hs : sent c'.s.st = 0) (ht : c'.tx = none)
      (hr : ∃ rx' calls ret, receiveAll rx = .done rx' calls ret ∧ calls ≠ [] ∧ HeardEvo calls s.ring c'.s.ring)
  | removed (hst : s.st = .checkTokenPass .third) (hex : SlotExpired s now rx)
      (hr : ∃ r0, s.ring.removeStation s.ring.ns = some r0 ∧
        ((c'.s.st = .passToken false .first ∧ c'.s.ring = r0 ∧ c'.tx = none) ∨
         (c'.s.ring = r0.witness s.p.address r0.ns ∧
           (c'.s.st = .useToken ⟨now, none⟩ false ∨ c'.s.st = .checkTokenPass .first) ∧
           c'.tx = some (tokenTo s.p.address r0.ns))))

theorem pass_step (s : Station) (apps : Apps) (now : Int) (phy : Bool) (rx : Bytes) (c' : Ctx)
    (h : s.poll apps now phy rx = .ok c') (hin : sent s.st ≠ 0) : PassStep s now rx c' := by
  rcases sent_cases hin with ⟨att, hst⟩ | hst | hst
  · rcases check_poll s apps now phy rx c' h att hst with ⟨h1, h2, h3⟩ | ⟨hex, r0, att', hrs, hpost⟩ |
      ⟨hex, rx', calls, ret, hrx, hne, hev, htx, hs⟩
    · exact .wait (by rw [h1, hst]) h2 h3
    · rcases hrs with ⟨ha, ha', hr0⟩ | ⟨ha, ha', hr0⟩ | ⟨ha, ha', hr0⟩
      · subst ha ha' hr0
        rcases hpost with ⟨h1, h2, h3⟩ | ⟨h1, h2, h3⟩
        · exact .wait (by rw [h1, hst]; rfl) h2 h3
        · refine .retry (by rw [hst]; simp [sent, Attempt.ord]) ?_ h1 h3
          rcases h2 with h2 | h2
          · exact .inr h2
          · exact .inl (by rw [h2, hst]; rfl)
      · subst ha ha' hr0
        rcases hpost with ⟨h1, h2, h3⟩ | ⟨h1, h2, h3⟩
        · exact .wait (by rw [h1, hst]; rfl) h2 h3
        · refine .retry (by rw [hst]; simp [sent, Attempt.ord]) ?_ h1 h3
          rcases h2 with h2 | h2
          · exact .inr h2
          · exact .inl (by rw [h2, hst]; rfl)
      · subst ha ha'
        exact .removed hst hex ⟨r0, hr0, hpost⟩
    · refine .heard hex ?_ htx ⟨rx', calls, ret, hrx, hne, hev⟩
      rcases hs with ⟨_, _, _, h'⟩ | ⟨_, _, h'⟩ | ⟨_, _, h'⟩ <;> rw [h'] <;> rfl
  · rcases passTok_poll s apps now phy rx c' h false .second hst with ⟨h1, h2, h3⟩ | ⟨h1, h2, h3⟩ | ⟨h1, h2, h3⟩
    · exact .wait (by rw [h1, hst]) h2 h3
    · cases h1
    · refine .retry (by rw [hst]; simp [sent]) ?_ h1 h3
      rcases h2 with h2 | h2
      · exact .inr h2
      · exact .inl (by rw [h2, hst]; rfl)
  · rcases passTok_poll s apps now phy rx c' h false .third hst with ⟨h1, h2, h3⟩ | ⟨h1, h2, h3⟩ | ⟨h1, h2, h3⟩
    · exact .wait (by rw [h1, hst]) h2 h3
    · cases h1
    · refine .retry (by rw [hst]; simp [sent]) ?_ h1 h3
      rcases h2 with h2 | h2
      · exact .inr h2
      · exact .inl (by rw [h2, hst]; rfl)

structure PollIn where
  now : Int
  phy : Bool
  arrived : Bytes

/-- One poll of the world, returning the bytes handed to the PHY (if any). -/
def C05.World.pollTx (w : World) (i : PollIn) : Option (World × Option Bytes) :=
  match w.s.poll w.apps i.now i.phy (w.rx ++ i.arrived) with
  | .ok c => some ({ s := c.s, apps := c.apps, rx := c.rx }, c.tx)
  | .panic _ => none

theorem pollTx_inv {w w' : World} {i : PollIn} {tx : Option Bytes} (h : w.pollTx i = some (w', tx)) :
    ∃ c, w.s.poll w.apps i.now i.phy (w.rx ++ i.arrived) = .ok c ∧ w'.s = c.s ∧ tx = c.tx := by
  unfold World.pollTx at h
  split at h
  · rename_i c hc
    cases h
    exact ⟨c, hc, rfl, rfl⟩
  · cases h

theorem pollTx_total (w : World) (i : PollIn) (hi : Inv w.s w.apps) :
    ∃ w' tx, w.pollTx i = some (w', tx) ∧ Inv w'.s w'.apps := by
  obtain ⟨w', hs, hi', -⟩ := inv_step w (.poll i.now i.phy i.arrived) hi
  simp only [World.step] at hs
  unfold World.pollTx
  split at hs
  · rename_i c hc
    cases hs
    exact ⟨_, c.tx, by rw [hc], hi'⟩
  · cases hs

/-- **A run of consecutive polls inside ONE pass**: every poll starts with a pass under supervision
(stage ≥ 1) and does not end it (the stage does not drop: it drops exactly when the pass ends — by a
heard telegram, by the removal after the third silent slot, or when the station keeps the token).
The third index lists what was transmitted, in order, each with the successor registered when it was
transmitted. -/
inductive SameRun : World → List PollIn → List (Nat × Bytes) → World → Prop
  | nil (w : World) : SameRun w [] [] w
  | cons {w w1 w' : World} {i : PollIn} {tx : Option Bytes} {rest : List PollIn} {txs : List (Nat × Bytes)}
      (hp : w.pollTx i = some (w1, tx)) (hin : sent w.s.st ≠ 0) (hmono : sent w.s.st ≤ sent w1.s.st)
      (hrest : SameRun w1 rest txs w') :
      SameRun w (i :: rest) ((tx.toList.map fun b => (w.s.ring.ns, b)) ++ txs) w'

/-- The ring view changes inside a pass only by recording the own pass TS → NS. -/
inductive OwnEvo (ts : Nat) : TokenRing → TokenRing → Prop
  | refl (r : TokenRing) : OwnEvo ts r r
  | own {r r' : TokenRing} (h : OwnEvo ts (r.witness ts r.ns) r') : OwnEvo ts r r'

theorem sameRun_step {w w1 : World} {i : PollIn} {tx : Option Bytes}
    (hp : w.pollTx i = some (w1, tx)) (hin : sent w.s.st ≠ 0) (hmono : sent w.s.st ≤ sent w1.s.st) :
    w1.s.p = w.s.p ∧
    ((tx = none ∧ sent w1.s.st = sent w.s.st ∧ w1.s.ring = w.s.ring) ∨
     (tx = some (tokenTo w.s.p.address w.s.ring.ns) ∧ sent w1.s.st = sent w.s.st + 1 ∧
        w1.s.ring = w.s.ring.witness w.s.p.address w.s.ring.ns)) := by
  obtain ⟨c, hc, hs, rfl⟩ := pollTx_inv hp
  have hfr := (poll_frame _ _ _ _ _ _ hc).1
  have h0 : 0 < sent w.s.st := Nat.pos_of_ne_zero hin
  rw [hs] at hmono ⊢
  refine ⟨hfr, ?_⟩
  rcases pass_step _ _ _ _ _ _ hc hin with ⟨e1, e2, e3⟩ | ⟨hlt, e1, e2, e3⟩ | ⟨hex, e1, e2, e3⟩ | ⟨hst, hex, r0, hr0, e⟩
  · exact .inl ⟨e3, e1, e2⟩
  · rcases e1 with e1 | e1
    · exact .inr ⟨e3, e1, e2⟩
    · rw [e1] at hmono; change sent w.s.st ≤ 0 at hmono; omega
  · omega
  · exfalso
    rw [hst] at hmono
    rcases e with ⟨e1, -⟩ | ⟨-, e1 | e1, -⟩ <;> rw [e1] at hmono <;> simp [sent, Attempt.ord] at hmono

/-- **`passCount_run`** — the counter invariant over a whole run inside one pass: the stage at the end
is the stage at the start plus the number of transmissions in the run; every transmission is the token
telegram from TS to the successor registered at that moment; parameters are unchanged and the ring view
changed only by recording the own passes. -/
theorem passCount_run {w w' : World} {ins : List PollIn} {txs : List (Nat × Bytes)} (h : SameRun w ins txs w') :
    sent w'.s.st = sent w.s.st + txs.length ∧ w'.s.p = w.s.p ∧
    (∀ e ∈ txs, e.2 = tokenTo w.s.p.address e.1) ∧ OwnEvo w.s.p.address w.s.ring w'.s.ring := by
  induction h with
  | nil w => exact ⟨rfl, rfl, fun e he => (by cases he), .refl _⟩
  | cons hp hin hmono hrest ih =>
    rename_i w w1 w' i tx rest txs
    obtain ⟨ih1, ih2, ih3, ih4⟩ := ih
    obtain ⟨hfr, hcase⟩ := sameRun_step hp hin hmono
    rcases hcase with ⟨rfl, e1, e2⟩ | ⟨rfl, e1, e2⟩
    · refine ⟨by simpa [e1] using ih1, ih2.trans hfr, ?_, ?_⟩
      · intro e he
        simp only [Option.toList, List.map_nil, List.nil_append] at he
        rw [← hfr]; exact ih3 e he
      · rw [← hfr, ← e2]; exact ih4
    · refine ⟨?_, ih2.trans hfr, ?_, ?_⟩
      · simp only [Option.toList, List.map_cons, List.map_nil, List.cons_append, List.nil_append, List.length_cons]
        omega
      · intro e he
        simp only [Option.toList, List.map_cons, List.map_nil, List.cons_append, List.nil_append, List.mem_cons] at he
        rcases he with rfl | he
        · rfl
        · rw [← hfr]; exact ih3 e he
      · refine .own ?_
        rw [← e2, ← hfr]; exact ih4

theorem passCount_le {w w' : World} {ins : List PollIn} {txs : List (Nat × Bytes)} (h : SameRun w ins txs w') :
    sent w.s.st + txs.length ≤ 3 := by
  rw [← (passCount_run h).1]; exact sent_le_three _

/-- **How a pass ends**: the poll after which the stage has dropped.  Exactly three ways: a complete
telegram was heard before the slot time expired (nothing transmitted, no removal); the station found
itself alone after repeating the token and keeps it (stage < 3, no removal); or the slot time expired
in silence in `CheckTokenPass(third)` and exactly NS is removed. -/
inductive PassEnd (s : Station) (now : Int) (rx : Bytes) (s' : Station) (tx : Option Bytes) : Prop
  | heard (hex : ¬ SlotExpired s now rx) (hs : sent s'.st = 0) (ht : tx = none)
      (hr : ∃ rx' calls ret, receiveAll rx = .done rx' calls ret ∧ calls ≠ [] ∧ HeardEvo calls s.ring s'.ring)
  | alone (hlt : sent s.st < 3) (hs : s'.st = .useToken ⟨now, none⟩ false)
      (hr : s'.ring = s.ring.witness s.p.address s.ring.ns) (ht : tx = some (tokenTo s.p.address s.ring.ns))
  | removed (hst : s.st = .checkTokenPass .third) (hex : SlotExpired s now rx)
      (hr : ∃ r0, s.ring.removeStation s.ring.ns = some r0 ∧
        ((s'.st = .passToken false .first ∧ s'.ring = r0 ∧ tx = none) ∨
         (s'.ring = r0.witness s.p.address r0.ns ∧
           (s'.st = .useToken ⟨now, none⟩ false ∨ s'.st = .checkTokenPass .first) ∧
           tx = some (tokenTo s.p.address r0.ns))))

theorem pass_end {w w1 : World} {i : PollIn} {tx : Option Bytes}
    (hp : w.pollTx i = some (w1, tx)) (hdrop : sent w1.s.st < sent w.s.st) :
    PassEnd w.s i.now (w.rx ++ i.arrived) w1.s tx := by
  obtain ⟨c, hc, hs, rfl⟩ := pollTx_inv hp
  have hin : sent w.s.st ≠ 0 := by omega
  rw [hs] at hdrop ⊢
  rcases pass_step _ _ _ _ _ _ hc hin with ⟨e1, e2, e3⟩ | ⟨hlt, e1, e2, e3⟩ | ⟨hex, e1, e2, e3⟩ | ⟨hst, hex, hr⟩
  · omega
  · rcases e1 with e1 | e1
    · omega
    · exact .alone hlt e1 e2 e3
  · exact .heard hex e1 e2 e3
  · exact .removed hst hex hr

/-- **Maximal run**: every list of polls from a state satisfying the station invariant splits into a
run inside the pass under supervision (possibly empty) and a rest that is empty (the history ends
inside the pass), or starts outside any pass, or starts with the poll that ends the pass. No poll
panics. -/
theorem sameRun_maximal : ∀ (ins : List PollIn) (w : World), Inv w.s w.apps →
    ∃ pre post txs w1, ins = pre ++ post ∧ SameRun w pre txs w1 ∧ Inv w1.s w1.apps ∧
      (post = [] ∨ sent w1.s.st = 0 ∨
       ∃ i rest w2 tx, post = i :: rest ∧ w1.pollTx i = some (w2, tx) ∧ Inv w2.s w2.apps ∧ sent w2.s.st < sent w1.s.st) := by
  intro ins
  induction ins with
  | nil => intro w hi; exact ⟨[], [], [], w, rfl, .nil w, hi, .inl rfl⟩
  | cons i rest ih =>
    intro w hi
    by_cases hin : sent w.s.st = 0
    · exact ⟨[], i :: rest, [], w, rfl, .nil w, hi, .inr (.inl hin)⟩
    · obtain ⟨w1, tx, hp, hi1⟩ := pollTx_total w i hi
      by_cases hm : sent w.s.st ≤ sent w1.s.st
      · obtain ⟨pre, post, txs, w2, e, hrun, hi2, hpost⟩ := ih w1 hi1
        exact ⟨i :: pre, post, _, w2, by rw [e]; rfl, .cons hp hin hm hrun, hi2, hpost⟩
      · exact ⟨[], i :: rest, [], w, rfl, .nil w, hi, .inr (.inr ⟨i, rest, w1, tx, rfl, hp, hi1, by omega⟩)⟩

end PV
