/-
Recording the own token pass TS → NS leaves NS unchanged, provided NS is the successor the LAS dictates
(`NsCoherent`); hence all repetitions of a token pass inside one run carry the same destination address
(`sameRun_ns`).
-/
import ProfiVerif.Lemmas.PassCount
import ProfiVerif.Lemmas.RingPass

namespace PV
open TokenRing

/-- `update_next_previous`'s successor as a function of the LAS bits: the first active address above
TS, else the lowest active address, else TS itself. -/
def lasSucc (act : Nat → Bool) (ts : Nat) : Nat :=
  match (List.range 128).find? (fun a => act a && decide (a > ts)) with
  | some a => a
  | none => match (List.range 128).find? act with
    | some a => a
    | none => ts

theorem updateNextPrev_ns (r : TokenRing) : (updateNextPrev r).ns = lasSucc r.isActive r.ts := by
  have e : (fun a => decide (r.isActive a = true ∧ decide (a > r.ts) = true)) = fun a => r.isActive a && decide (a > r.ts) := by
    funext a; simp
  simp only [updateNextPrev, activeList, lasSucc, List.find?_filter, List.head?_filter, e]
  rfl

/-- `lasSucc` is the cyclic successor of `Lemmas/Cyclic.lean`: both say what NS `update_next_previous`
computes. -/
theorem lasSucc_eq_cycSucc (r : TokenRing) : lasSucc r.isActive r.ts = cycSucc r.ts r.activeList := by
  rw [← updateNextPrev_ns, (updateNextPrev_nbr r).1, updateNextPrev_activeList, (updateNextPrev_las r).2]

/-- NS is the successor the LAS dictates (true of every ring view produced by `update_next_previous`,
i.e. after any witnessed pass in Discovery/Valid, any `remove_station`, any `set_next_station`). -/
def NsCoherent (r : TokenRing) : Prop := lasSucc r.isActive r.ts = r.ns

/-- `NsCoherent` is the first half of the neighbour invariant `Nbr`. -/
theorem nsCoherent_iff (r : TokenRing) : NsCoherent r ↔ r.ns = cycSucc r.ts r.activeList := by
  unfold NsCoherent
  rw [lasSucc_eq_cycSucc]
  exact eq_comm

theorem witness_own_ns (r : TokenRing) (h : NsCoherent r) :
    (r.witness r.ts r.ns).ns = r.ns ∧ NsCoherent (r.witness r.ts r.ns) ∧ (r.witness r.ts r.ns).ts = r.ts :=
  ⟨witness_own_pass_ns r ((nsCoherent_iff r).mp h),
   witness_ind NsCoherent (fun _ _ h => h) (fun _ _ _ => (nsCoherent_iff _).mpr (updateNextPrev_nbr _).1) r _ _ h,
   witness_ts r _ _⟩

open C05 in
theorem sameRun_ns {w w' : World} {ins : List PollIn} {txs : List (Nat × Bytes)} (h : SameRun w ins txs w')
    (hts : w.s.ring.ts = w.s.p.address) (hc : NsCoherent w.s.ring) :
    (∀ e ∈ txs, e.1 = w.s.ring.ns) ∧ w'.s.ring.ns = w.s.ring.ns ∧ NsCoherent w'.s.ring ∧
    w'.s.ring.ts = w'.s.p.address := by
  induction h with
  | nil w => exact ⟨fun e he => (by cases he), rfl, hc, hts⟩
  | cons hp hin hmono hrest ih =>
    rename_i w w1 w' i tx rest txs
    obtain ⟨hfr, hcase⟩ := sameRun_step hp hin hmono
    rcases hcase with ⟨rfl, -, e2⟩ | ⟨rfl, -, e2⟩
    · obtain ⟨i1, i2, i3, i4⟩ := ih (by rw [e2, hfr]; exact hts) (by rw [e2]; exact hc)
      refine ⟨?_, by rw [i2, e2], i3, i4⟩
      intro e he
      simp only [Option.toList, List.map_nil, List.nil_append] at he
      rw [i1 e he, e2]
    · rw [← hts] at e2
      obtain ⟨k1, k2, k3⟩ := witness_own_ns w.s.ring hc
      obtain ⟨i1, i2, i3, i4⟩ := ih (by rw [e2, k3, hfr]; exact hts) (by rw [e2]; exact k2)
      refine ⟨?_, by rw [i2, e2, k1], i3, i4⟩
      intro e he
      simp only [Option.toList, List.map_cons, List.map_nil, List.cons_append, List.nil_append, List.mem_cons] at he
      rcases he with rfl | he
      · rfl
      · rw [i1 e he, e2, k1]

end PV
