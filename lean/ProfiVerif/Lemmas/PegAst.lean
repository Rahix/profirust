/-
`toAst` is total on every pair tree the grammar can produce.  `acc r` is, per rule, the regular expression
over child rule names that the `toAst` case for `r` (the `match pair.as_rule()` / `.next().unwrap()` /
`assert!` / `unreachable!()` code of parser.rs) accepts, `.top` where the children are not looked at.
`acc_checked`: the child words of the *generated* grammar lie in `acc`, by kernel evaluation, so again
whenever Grammar.lean is regenerated from gsd.pest.  `toAst_total` is proved by hand from `toAst`'s
definition and mentions the grammar only through the rule names `toAst` itself mentions.
-/
import ProfiVerif.Lemmas.PegPost

namespace PV.Gsd.Peg
open Rx

theorem ruleWord_cons_inv {cs : List Pair} {x : Rule} {v : List Rule} (h : ruleWord cs = x :: v) :
    ∃ c cs', cs = c :: cs' ∧ c.rule = x ∧ ruleWord cs' = v := by
  cases cs with
  | nil => cases h
  | cons c cs' =>
    simp only [ruleWord, List.map_cons, List.cons.injEq] at h
    exact ⟨c, cs', rfl, h.1, h.2⟩

theorem ruleWord_nil_inv {cs : List Pair} (h : ruleWord cs = []) : cs = [] := by
  cases cs with
  | nil => rfl
  | cons c cs' => cases h

def Single (e : Rx) (S : List Rule) : Prop := ∀ w, Lang e w → ∃ x, w = [x] ∧ x ∈ S

theorem single_sym (r : Rule) : Single (.sym r) [r] := by
  intro w h; cases h; exact ⟨r, rfl, List.mem_singleton.mpr rfl⟩

theorem single_alt {a b : Rx} {A B : List Rule} (ha : Single a A) (hb : Single b B) :
    Single (.alt a b) (A ++ B) := by
  intro w h
  cases h with
  | altL h => obtain ⟨x, hw, hx⟩ := ha w h; exact ⟨x, hw, List.mem_append.mpr (.inl hx)⟩
  | altR h => obtain ⟨x, hw, hx⟩ := hb w h; exact ⟨x, hw, List.mem_append.mpr (.inr hx)⟩

theorem peel {e b : Rx} {S : List Rule} {cs : List Pair} (hs : Single e S)
    (h : Lang (.seq e b) (ruleWord cs)) :
    ∃ c cs', cs = c :: cs' ∧ c.rule ∈ S ∧ Lang b (ruleWord cs') := by
  obtain ⟨u, v, hw, hu, hv⟩ := lang_seq_inv h
  obtain ⟨x, rfl, hx⟩ := hs u hu
  obtain ⟨c, cs', rfl, hc, hv'⟩ := ruleWord_cons_inv (by simpa using hw)
  exact ⟨c, cs', rfl, hc ▸ hx, hv' ▸ hv⟩

theorem peel_opt {e b : Rx} {S : List Rule} {cs : List Pair} (hs : Single e S)
    (hd : ∀ x ∈ S, x ∉ b.firsts) (h : Lang (.seq (Rx.opt e) b) (ruleWord cs)) :
    (Lang b (ruleWord cs) ∧ ∀ c cs', cs = c :: cs' → c.rule ∉ S) ∨
    ∃ c cs', cs = c :: cs' ∧ c.rule ∈ S ∧ Lang b (ruleWord cs') := by
  obtain ⟨u, v, hw, hu, hv⟩ := lang_seq_inv h
  cases lang_alt_inv hu with
  | inl he =>
    have := lang_eps_inv he
    subst this
    simp only [List.nil_append] at hw
    left
    refine ⟨hw ▸ hv, ?_⟩
    intro c cs' hcs hc
    subst hcs
    exact hd _ hc (firsts_spec hv c.rule (ruleWord cs') (by rw [← hw]; rfl))
  | inr he =>
    right
    exact peel hs (hw ▸ Lang.seq he hv)

theorem star_single {e : Rx} {S : List Rule} {cs : List Pair} (hs : Single e S)
    (h : Lang (.star e) (ruleWord cs)) : ∀ c ∈ cs, c.rule ∈ S := by
  have := lang_star_all (P := fun x => x ∈ S) (a := e) (by
    intro u hu x hx
    obtain ⟨y, rfl, hy⟩ := hs u hu
    simp only [List.mem_singleton] at hx
    exact hx ▸ hy) h
  intro c hc
  exact this c.rule (List.mem_map.mpr ⟨c, hc, rfl⟩)

theorem eps_nil {cs : List Pair} (h : Lang .eps (ruleWord cs)) : cs = [] :=
  ruleWord_nil_inv (lang_eps_inv h)

theorem ok_inv {acc : Rule → Rx} {p : Pair} (h : Pair.OK acc p) :
    Lang (acc p.rule) (ruleWord p.children) ∧ ∀ c ∈ p.children, Pair.OK acc c := by
  cases h with
  | node hl hc => exact ⟨hl, hc⟩

def num : Rx := .alt (.sym .dec_number) (.sym .hex_number)

def valueRx : Rx :=
  Rx.alts [.sym .string_literal, .sym .number_list, .sym .family_ident, .sym .dec_number, .sym .hex_number]

/-- The statements `stmt?` knows (`gsd`'s children). -/
def stmtRx : Rx :=
  Rx.alts [.sym .prm_text, .sym .ext_user_prm_data, .sym .module, .sym .slot_definition,
    .sym .unit_diag_area, .sym .setting, .sym .unit_diag_type, .sym .version_dl_definition,
    .sym .physical_interface, .sym .jokerblock_type, .sym .any_text, .sym .start, .sym .EOI]

def modItemRx : Rx := Rx.alts [.sym .module_reference, .sym .setting, .sym .data_area]

/-- Per rule: the child words `toAst` (parser.rs) can digest. -/
def acc : Rule → Rx
  | .gsd => .star stmtRx
  | .prm_text => .seq num (.star (.sym .prm_text_value))
  | .prm_text_value => Rx.seqs [num, .sym .string_literal, .eps]
  | .unit_diag_area => Rx.seqs [num, num, .star (.sym .unit_diag_area_value)]
  | .unit_diag_area_value => Rx.seqs [num, .sym .string_literal, .eps]
  | .ext_user_prm_data => Rx.seqs [num, .sym .string_literal, .sym .prm_data_type_name, num,
      Rx.opt (.alt (.sym .prm_data_value_range) (.sym .prm_data_value_set)),
      Rx.opt (.sym .prm_text_ref), Rx.opt (.sym .prm_data_changeable), Rx.opt (.sym .prm_data_visible), .eps]
  | .prm_data_type_name => Rx.seqs [Rx.alts [.sym .identifier, .sym .bit, .sym .bit_area], .eps]
  | .bit => Rx.seqs [num, .eps]
  | .bit_area => Rx.seqs [num, num, .eps]
  | .prm_data_value_range => Rx.seqs [num, num, .eps]
  | .prm_data_value_set => .star num
  | .prm_text_ref => Rx.seqs [num, .eps]
  | .prm_data_changeable => Rx.seqs [num, .eps]
  | .prm_data_visible => Rx.seqs [num, .eps]
  | .module => Rx.seqs [.sym .string_literal, .sym .number_list, .star modItemRx]
  | .module_reference => Rx.seqs [num, .eps]
  | .number_list => .star num
  | .setting => .seq (.sym .identifier) (.alt (Rx.seqs [valueRx, .eps]) (Rx.seqs [num, valueRx, .eps]))
  | .slot_definition => .star (.sym .slot)
  | .slot => Rx.seqs [num, .sym .string_literal, num, .alt (.sym .slot_value_range) (.sym .slot_value_set), .eps]
  | .slot_value_range => Rx.seqs [num, num, .eps]
  | .slot_value_set => .star num
  | _ => .top

/-- **Every child word the generated grammar can produce is one `toAst` digests** — evaluated by the
kernel over the whole (finite) grammar; fails to compile if a change of gsd.pest produces a child
sequence parser.rs does not expect. -/
theorem acc_checked : checkGrammar acc = true := by decide +kernel

theorem gsd_not_silent : (ruleDef .gsd).1 ≠ .silent := by decide +kernel

abbrev OK := Pair.OK acc

theorem single_num : Single num [.dec_number, .hex_number] := single_alt (single_sym _) (single_sym _)

theorem single_value : Single valueRx [.string_literal, .number_list, .family_ident, .dec_number, .hex_number] :=
  single_alt (single_sym _) (single_alt (single_sym _) (single_alt (single_sym _) (single_alt (single_sym _) (single_sym _))))

def IsNum (p : Pair) : Prop := p.rule ∈ [Rule.dec_number, Rule.hex_number]

theorem numTok_some {p : Pair} (h : IsNum p) : ∃ n, numTok? p = some n := by
  unfold IsNum at h
  simp only [List.mem_cons, List.not_mem_nil, or_false] at h
  unfold numTok?
  rcases h with h | h <;> rw [h] <;> exact ⟨_, rfl⟩

theorem numToks_some : ∀ {ps : List Pair}, (∀ p ∈ ps, IsNum p) → ∃ ns, numToks? ps = some ns
  | [], _ => ⟨[], rfl⟩
  | p :: rest, h => by
    obtain ⟨n, hn⟩ := numTok_some (h p (List.mem_cons_self ..))
    obtain ⟨ns, hns⟩ := numToks_some (ps := rest) (fun q hq => h q (List.mem_cons_of_mem _ hq))
    exact ⟨n :: ns, by simp [numToks?, hn, hns]⟩

theorem strLit_some {p : Pair} (h : p.rule ∈ [Rule.string_literal]) : strLit? p = some p.text := by
  simp only [List.mem_singleton] at h
  simp [strLit?, h]

theorem one_num {cs : List Pair} (h : Lang (Rx.seqs [num, .eps]) (ruleWord cs)) :
    ∃ c, cs = [c] ∧ IsNum c := by
  obtain ⟨c, cs', rfl, hc, h⟩ := peel single_num h
  cases eps_nil h
  exact ⟨c, rfl, hc⟩

theorem two_num {cs : List Pair} (h : Lang (Rx.seqs [num, num, .eps]) (ruleWord cs)) :
    ∃ a b, cs = [a, b] ∧ IsNum a ∧ IsNum b := by
  obtain ⟨a, cs', rfl, ha, h⟩ := peel single_num h
  obtain ⟨b, cs'', rfl, hb, h⟩ := peel single_num h
  cases eps_nil h
  exact ⟨a, b, rfl, ha, hb⟩

theorem star_num {cs : List Pair} (h : Lang (.star num) (ruleWord cs)) : ∀ c ∈ cs, IsNum c :=
  star_single single_num h

theorem value_some {p : Pair} (hok : OK p)
    (h : p.rule ∈ [Rule.string_literal, .number_list, .family_ident, .dec_number, .hex_number]) :
    ∃ v, value? p = some v := by
  obtain ⟨hl, _⟩ := ok_inv hok
  simp only [List.mem_cons, List.not_mem_nil, or_false] at h
  unfold value?
  rcases h with h | h | h | h | h
  · rw [h]; exact ⟨_, rfl⟩
  · rw [h] at hl ⊢
    obtain ⟨ns, hns⟩ := numToks_some (star_num (by simpa only [acc] using hl))
    exact ⟨.list ns, by simp [hns]⟩
  · rw [h]; exact ⟨_, rfl⟩
  · rw [h]; exact ⟨_, rfl⟩
  · rw [h]; exact ⟨_, rfl⟩

theorem setting_some {p : Pair} (hok : OK p) (hr : p.rule = .setting) : ∃ s, setting? p = some s := by
  obtain ⟨hl, hc⟩ := ok_inv hok
  rw [hr] at hl
  simp only [acc] at hl
  obtain ⟨k, cs1, hcs, hk, hl⟩ := peel (single_sym _) hl
  simp only [List.mem_singleton] at hk
  unfold setting?
  rw [hcs] at hc ⊢
  cases lang_alt_inv hl with
  | inl hl =>
    obtain ⟨v, cs2, rfl, hv, hl⟩ := peel single_value hl
    cases eps_nil hl
    obtain ⟨val, hval⟩ := value_some (hc v (by simp)) hv
    simp [hk, hval]
  | inr hl =>
    obtain ⟨ix, cs2, rfl, hix, hl⟩ := peel single_num hl
    obtain ⟨v, cs3, rfl, hv, hl⟩ := peel single_value hl
    cases eps_nil hl
    obtain ⟨n, hn⟩ := numTok_some hix
    obtain ⟨val, hval⟩ := value_some (hc v (by simp)) hv
    simp [hk, hn, hval]

theorem valueLines_some (rule : Rule) (hacc : acc rule = Rx.seqs [num, .sym .string_literal, .eps]) :
    ∀ {ps : List Pair}, (∀ p ∈ ps, p.rule ∈ [rule] ∧ OK p) → ∃ ls, valueLines? rule ps = some ls
  | [], _ => ⟨[], rfl⟩
  | p :: rest, h => by
    obtain ⟨hr, hok⟩ := h p (List.mem_cons_self ..)
    simp only [List.mem_singleton] at hr
    obtain ⟨hl, _⟩ := ok_inv hok
    rw [hr, hacc] at hl
    obtain ⟨n, cs1, hcs, hn, hl⟩ := peel single_num hl
    obtain ⟨t, cs2, rfl, ht, hl⟩ := peel (single_sym _) hl
    cases eps_nil hl
    obtain ⟨nv, hnv⟩ := numTok_some hn
    obtain ⟨ls, hls⟩ := valueLines_some rule hacc (ps := rest) (fun q hq => h q (List.mem_cons_of_mem _ hq))
    simp [valueLines?, hr, hcs, hnv, strLit_some ht, hls]

theorem typeName_some {p : Pair} (hok : OK p) (hr : p.rule ∈ [Rule.prm_data_type_name]) :
    ∃ t, typeName? p = some t := by
  simp only [List.mem_singleton] at hr
  obtain ⟨hl, hc⟩ := ok_inv hok
  rw [hr] at hl
  simp only [acc] at hl
  obtain ⟨t, cs1, hcs, ht, hl⟩ :=
    peel (single_alt (single_sym _) (single_alt (single_sym _) (single_sym _))) hl
  cases eps_nil hl
  have hokt := hc t (by simp [hcs])
  obtain ⟨hlt, _⟩ := ok_inv hokt
  unfold typeName?
  simp only [List.cons_append, List.nil_append, List.mem_cons, List.not_mem_nil, or_false] at ht
  rcases ht with ht | ht | ht
  · simp [hr, hcs, ht]
  · rw [ht] at hlt
    obtain ⟨n, hn, hnum⟩ := one_num (by simpa only [acc] using hlt)
    obtain ⟨nv, hnv⟩ := numTok_some hnum
    simp [hr, hcs, ht, hn, hnv]
  · rw [ht] at hlt
    obtain ⟨a, b, hab, ha, hb⟩ := two_num (by simpa only [acc] using hlt)
    obtain ⟨av, hav⟩ := numTok_some ha
    obtain ⟨bv, hbv⟩ := numTok_some hb
    simp [hr, hcs, ht, hab, hav, hbv]

theorem optNumChild_spec (r : Rule) (hacc : acc r = Rx.seqs [num, .eps]) {b : Rx} {cs : List Pair}
    (hd : r ∉ b.firsts) (hc : ∀ c ∈ cs, OK c) (h : Lang (.seq (Rx.opt (.sym r)) b) (ruleWord cs)) :
    ∃ x cs', optNumChild r cs = some (x, cs') ∧ Lang b (ruleWord cs') ∧ ∀ c ∈ cs', OK c := by
  rcases peel_opt (single_sym r) (by intro x hx; simp only [List.mem_singleton] at hx; exact hx ▸ hd) h with
    ⟨hb, hno⟩ | ⟨c, cs', rfl, hcr, hb⟩
  · cases cs with
    | nil => exact ⟨none, [], rfl, hb, hc⟩
    | cons c cs' =>
      have := hno c cs' rfl
      simp only [List.mem_singleton] at this
      exact ⟨none, c :: cs', by simp [optNumChild, this], hb, hc⟩
  · simp only [List.mem_singleton] at hcr
    obtain ⟨hl, _⟩ := ok_inv (hc c (List.mem_cons_self ..))
    rw [hcr, hacc] at hl
    obtain ⟨n, hn, hnum⟩ := one_num hl
    obtain ⟨nv, hnv⟩ := numTok_some hnum
    exact ⟨some nv, cs', by simp [optNumChild, hcr, hn, hnv], hb, fun q hq => hc q (List.mem_cons_of_mem _ hq)⟩

/-- The optional-constraint step of `extPrm?`, named (definitionally what `extPrm?` does inline). -/
def constraint? (rest : List Pair) : Option (Option PrmConstraintAst × List Pair) :=
  match rest with
  | q :: rest' =>
    if q.rule = .prm_data_value_range then
      match q.children with
      | [a, b] => do
        let a ← numTok? a
        let b ← numTok? b
        pure (some (PrmConstraintAst.range a b), rest')
      | _ => none
    else if q.rule = .prm_data_value_set then do
      let vs ← numToks? q.children
      pure (some (PrmConstraintAst.set vs), rest')
    else some (none, rest)
  | [] => some (none, [])

theorem extPrm?_eq (p : Pair) : extPrm? p =
    match p.children with
    | id :: name :: ty :: dflt :: rest => do
      let id ← numTok? id
      let name ← strLit? name
      let typ ← typeName? ty
      let default ← numTok? dflt
      let (constraint, rest) ← constraint? rest
      let (textRef, rest) ← optNumChild .prm_text_ref rest
      let (changeable, rest) ← optNumChild .prm_data_changeable rest
      let (visible, rest) ← optNumChild .prm_data_visible rest
      if rest.isEmpty then pure { id, name, typ, default, constraint, textRef, changeable, visible } else none
    | _ => none := rfl

theorem constraint_spec {b : Rx} {cs : List Pair}
    (hd : ∀ x ∈ [Rule.prm_data_value_range] ++ [Rule.prm_data_value_set], x ∉ b.firsts) (hc : ∀ c ∈ cs, OK c)
    (h : Lang (.seq (Rx.opt (.alt (.sym .prm_data_value_range) (.sym .prm_data_value_set))) b) (ruleWord cs)) :
    ∃ x cs', constraint? cs = some (x, cs') ∧ Lang b (ruleWord cs') ∧ ∀ c ∈ cs', OK c := by
  rcases peel_opt (single_alt (single_sym _) (single_sym _)) hd h with ⟨hb, hno⟩ | ⟨q, cs5, rfl, hq, hb⟩
  · cases cs with
    | nil => exact ⟨none, [], rfl, hb, hc⟩
    | cons q rest' =>
      have := hno q rest' rfl
      simp only [List.cons_append, List.nil_append, List.mem_cons, List.not_mem_nil, or_false, not_or] at this
      exact ⟨none, q :: rest', by simp [constraint?, this.1, this.2], hb, hc⟩
  · obtain ⟨hlq, _⟩ := ok_inv (hc q (List.mem_cons_self ..))
    have hc5 : ∀ c ∈ cs5, OK c := fun c h => hc c (List.mem_cons_of_mem _ h)
    simp only [List.cons_append, List.nil_append, List.mem_cons, List.not_mem_nil, or_false] at hq
    rcases hq with hq | hq
    · rw [hq] at hlq
      obtain ⟨a, b, hab, ha, hb'⟩ := two_num (by simpa only [acc] using hlq)
      obtain ⟨av, hav⟩ := numTok_some ha
      obtain ⟨bv, hbv⟩ := numTok_some hb'
      exact ⟨some (.range av bv), cs5, by simp [constraint?, hq, hab, hav, hbv], hb, hc5⟩
    · rw [hq] at hlq
      obtain ⟨vs, hvs⟩ := numToks_some (star_num (by simpa only [acc] using hlq))
      exact ⟨some (.set vs), cs5, by simp [constraint?, hq, hvs], hb, hc5⟩

theorem extPrm_some {p : Pair} (hok : OK p) (hr : p.rule = .ext_user_prm_data) : ∃ e, extPrm? p = some e := by
  obtain ⟨hl, hc⟩ := ok_inv hok
  rw [hr] at hl
  simp only [acc] at hl
  obtain ⟨id, cs1, hcs, hid, hl⟩ := peel single_num hl
  obtain ⟨name, cs2, rfl, hname, hl⟩ := peel (single_sym _) hl
  obtain ⟨ty, cs3, rfl, hty, hl⟩ := peel (single_sym _) hl
  obtain ⟨dflt, cs4, rfl, hdflt, hl⟩ := peel single_num hl
  rw [hcs] at hc
  obtain ⟨idv, hidv⟩ := numTok_some hid
  obtain ⟨tyv, htyv⟩ := typeName_some (hc ty (by simp)) hty
  obtain ⟨dv, hdv⟩ := numTok_some hdflt
  have hc4 : ∀ c ∈ cs4, OK c := fun c h => hc c (by simp [h])
  obtain ⟨con, cs5, hcon, hl, hc5⟩ := constraint_spec (by decide) hc4 hl
  obtain ⟨tr, cs6, htr, hl, hc6⟩ := optNumChild_spec .prm_text_ref rfl (by decide) hc5 hl
  obtain ⟨ch, cs7, hch, hl, hc7⟩ := optNumChild_spec .prm_data_changeable rfl (by decide) hc6 hl
  obtain ⟨vi, cs8, hvi, hl, _⟩ := optNumChild_spec .prm_data_visible rfl (by decide) hc7 hl
  cases eps_nil hl
  rw [extPrm?_eq, hcs]
  simp [hidv, strLit_some hname, htyv, hdv, hcon, htr, hch, hvi]

theorem modItems_some : ∀ {ps : List Pair},
    (∀ p ∈ ps, p.rule ∈ [Rule.module_reference, .setting, .data_area] ∧ OK p) → ∃ is, modItems? ps = some is
  | [], _ => ⟨[], rfl⟩
  | p :: rest, h => by
    obtain ⟨hr, hok⟩ := h p (List.mem_cons_self ..)
    obtain ⟨is, his⟩ := modItems_some (ps := rest) (fun q hq => h q (List.mem_cons_of_mem _ hq))
    simp only [List.mem_cons, List.not_mem_nil, or_false] at hr
    unfold modItems?
    rcases hr with hr | hr | hr
    · obtain ⟨hl, _⟩ := ok_inv hok
      rw [hr] at hl
      obtain ⟨n, hn, hnum⟩ := one_num (by simpa only [acc] using hl)
      obtain ⟨nv, hnv⟩ := numTok_some hnum
      simp [hr, hn, hnv, his]
    · obtain ⟨sv, hsv⟩ := setting_some hok hr
      simp [hr, hsv, his]
    · simp [hr, his]

theorem module_some {p : Pair} (hok : OK p) (hr : p.rule = .module) : ∃ m, module? p = some m := by
  obtain ⟨hl, hc⟩ := ok_inv hok
  rw [hr] at hl
  simp only [acc] at hl
  obtain ⟨name, cs1, hcs, hname, hl⟩ := peel (single_sym _) hl
  obtain ⟨cfg, cs2, rfl, hcfg, hl⟩ := peel (single_sym _) hl
  rw [hcs] at hc
  simp only [List.mem_singleton] at hcfg
  obtain ⟨hlc, _⟩ := ok_inv (hc cfg (by simp))
  rw [hcfg] at hlc
  obtain ⟨ns, hns⟩ := numToks_some (star_num (by simpa only [acc] using hlc))
  have hitems := star_single (single_alt (single_sym _) (single_alt (single_sym _) (single_sym _))) hl
  obtain ⟨is, his⟩ := modItems_some (ps := cs2) (fun q hq => ⟨hitems q hq, hc q (by simp [hq])⟩)
  unfold module?
  rw [hcs]
  simp [strLit_some hname, hcfg, hns, his]

theorem slots_some : ∀ {ps : List Pair}, (∀ p ∈ ps, p.rule ∈ [Rule.slot] ∧ OK p) → ∃ ss, slots? ps = some ss
  | [], _ => ⟨[], rfl⟩
  | p :: rest, h => by
    obtain ⟨hr, hok⟩ := h p (List.mem_cons_self ..)
    obtain ⟨ss, hss⟩ := slots_some (ps := rest) (fun q hq => h q (List.mem_cons_of_mem _ hq))
    simp only [List.mem_singleton] at hr
    obtain ⟨hl, hc⟩ := ok_inv hok
    rw [hr] at hl
    simp only [acc] at hl
    obtain ⟨n, cs1, hcs, hn, hl⟩ := peel single_num hl
    obtain ⟨name, cs2, rfl, hname, hl⟩ := peel (single_sym _) hl
    obtain ⟨d, cs3, rfl, hd, hl⟩ := peel single_num hl
    obtain ⟨a, cs4, rfl, ha, hl⟩ := peel (single_alt (single_sym _) (single_sym _)) hl
    cases eps_nil hl
    rw [hcs] at hc
    obtain ⟨nv, hnv⟩ := numTok_some hn
    obtain ⟨dv, hdv⟩ := numTok_some hd
    obtain ⟨hla, _⟩ := ok_inv (hc a (by simp))
    simp only [List.cons_append, List.nil_append, List.mem_cons, List.not_mem_nil, or_false] at ha
    unfold slots?
    rcases ha with ha | ha
    · rw [ha] at hla
      obtain ⟨x, y, hxy, hx, hy⟩ := two_num (by simpa only [acc] using hla)
      obtain ⟨xv, hxv⟩ := numTok_some hx
      obtain ⟨yv, hyv⟩ := numTok_some hy
      simp [hr, hcs, hnv, strLit_some hname, hdv, ha, hxy, hxv, hyv, hss]
    · rw [ha] at hla
      obtain ⟨vs, hvs⟩ := numToks_some (star_num (by simpa only [acc] using hla))
      simp [hr, hcs, hnv, strLit_some hname, hdv, ha, hvs, hss]

theorem stmt_some {p : Pair} (hok : OK p)
    (hr : p.rule ∈ [Rule.prm_text, .ext_user_prm_data, .module, .slot_definition, .unit_diag_area, .setting,
      .unit_diag_type, .version_dl_definition, .physical_interface, .jokerblock_type, .any_text, .start, .EOI]) :
    ∃ s, stmt? p = some s := by
  obtain ⟨hl, hc⟩ := ok_inv hok
  simp only [List.mem_cons, List.not_mem_nil, or_false] at hr
  unfold stmt?
  rcases hr with hr | hr | hr | hr | hr | hr | hr | hr | hr | hr | hr | hr | hr
  · rw [hr] at hl
    simp only [acc] at hl
    obtain ⟨id, lines, hcs, hid, hl⟩ := peel single_num hl
    obtain ⟨idv, hidv⟩ := numTok_some hid
    have hlines := star_single (single_sym _) hl
    obtain ⟨ls, hls⟩ := valueLines_some .prm_text_value rfl (ps := lines)
      (fun q hq => ⟨hlines q hq, hc q (by simp [hcs, hq])⟩)
    simp [hr, hcs, hidv, hls]
  · obtain ⟨e, he⟩ := extPrm_some hok hr
    simp [hr, he]
  · obtain ⟨m, hm⟩ := module_some hok hr
    simp [hr, hm]
  · rw [hr] at hl
    simp only [acc] at hl
    have hs := star_single (single_sym _) hl
    obtain ⟨ss, hss⟩ := slots_some (ps := p.children) (fun q hq => ⟨hs q hq, hc q hq⟩)
    simp [hr, hss]
  · rw [hr] at hl
    simp only [acc] at hl
    obtain ⟨a, cs1, hcs, ha, hl⟩ := peel single_num hl
    obtain ⟨b, lines, rfl, hb, hl⟩ := peel single_num hl
    obtain ⟨av, hav⟩ := numTok_some ha
    obtain ⟨bv, hbv⟩ := numTok_some hb
    have hlines := star_single (single_sym _) hl
    obtain ⟨ls, hls⟩ := valueLines_some .unit_diag_area_value rfl (ps := lines)
      (fun q hq => ⟨hlines q hq, hc q (by simp [hcs, hq])⟩)
    simp [hr, hcs, hav, hbv, hls]
  · obtain ⟨sv, hsv⟩ := setting_some hok hr
    simp [hr, hsv]
  all_goals simp [hr]

theorem stmts_some : ∀ {ps : List Pair},
    (∀ p ∈ ps, p.rule ∈ [Rule.prm_text, .ext_user_prm_data, .module, .slot_definition, .unit_diag_area, .setting,
      .unit_diag_type, .version_dl_definition, .physical_interface, .jokerblock_type, .any_text, .start, .EOI]
      ∧ OK p) → ∃ ast, stmts? ps = some ast
  | [], _ => ⟨[], rfl⟩
  | p :: rest, h => by
    obtain ⟨hr, hok⟩ := h p (List.mem_cons_self ..)
    obtain ⟨sv, hsv⟩ := stmt_some hok hr
    obtain ⟨more, hmore⟩ := stmts_some (ps := rest) (fun q hq => h q (List.mem_cons_of_mem _ hq))
    simp [stmts?, hsv, hmore]

theorem single_stmt : Single stmtRx
    [Rule.prm_text, .ext_user_prm_data, .module, .slot_definition, .unit_diag_area, .setting,
      .unit_diag_type, .version_dl_definition, .physical_interface, .jokerblock_type, .any_text, .start, .EOI] :=
  single_alt (single_sym _) <| single_alt (single_sym _) <| single_alt (single_sym _) <|
  single_alt (single_sym _) <| single_alt (single_sym _) <| single_alt (single_sym _) <|
  single_alt (single_sym _) <| single_alt (single_sym _) <| single_alt (single_sym _) <|
  single_alt (single_sym _) <| single_alt (single_sym _) <| single_alt (single_sym _) (single_sym _)

theorem toAst_total {p : Pair} (hok : OK p) (hr : p.rule = .gsd) : ∃ ast, toAst p = some ast := by
  obtain ⟨hl, hc⟩ := ok_inv hok
  rw [hr] at hl
  simp only [acc] at hl
  have hs := star_single single_stmt hl
  obtain ⟨ast, hast⟩ := stmts_some (ps := p.children) (fun q hq => ⟨hs q hq, hc q hq⟩)
  exact ⟨ast, by simp [toAst, hr, hast]⟩

end PV.Gsd.Peg
