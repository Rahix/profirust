/-
Fuel-free reading of the PEG interpreter, whatever `ruleDef` is: an answer other than `fuel` does not
change when more fuel is given (`monoAt`); `Ev a e st r` says that `eval f a e st = r` for every
sufficiently large `f` (likewise `Lp` for `loop`, `Sk` for `skip`), with one composition lemma per
construct, on which the segments of `Lemmas/PegText.lean` and the proofs about concrete texts rest.
-/
import ProfiVerif.Model.Gsd.Peg

namespace PV.Gsd.Peg

theorem eval_call {q : Rule} (hs : (ruleDef q).1 ≠ .silent) (g : Nat) (a : Bool) (st : PS) :
    eval (g + 1) a (.call q) st =
      match eval g (a || (ruleDef q).1 == .atomic) (ruleDef q).2 { st with out := [] } with
      | .ok st' =>
        if a then .ok { st' with out := st.out }
        else .ok { st' with out := .node q (st.rest.take (st'.pos - st.pos)) st'.out.reverse :: st.out }
      | .fail => .fail
      | .fuel => .fuel := by
  simp only [eval]
  generalize (ruleDef q).1 = ty at hs
  cases ty with
  | silent => exact (hs rfl).elim
  | normal => rfl
  | atomic => rfl

theorem eval_call_silent {q : Rule} (hs : (ruleDef q).1 = .silent) (g : Nat) (a : Bool) (st : PS) :
    eval (g + 1) a (.call q) st = eval g a (ruleDef q).2 st := by
  simp only [eval, hs]

structure MonoAt (k : Nat) : Prop where
  eval : ∀ a e st r, eval k a e st = r → r ≠ .fuel → ∀ g, k ≤ g → eval g a e st = r
  loop : ∀ a e st r, loop k a e st = r → r ≠ .fuel → ∀ g, k ≤ g → loop g a e st = r
  skip : ∀ a st r, skip k a st = r → r ≠ .fuel → ∀ g, k ≤ g → skip g a st = r

theorem monoAt_zero : MonoAt 0 where
  eval := by intro a e st r h hr; simp only [Peg.eval] at h; exact (hr h.symm).elim
  loop := by intro a e st r h hr; simp only [Peg.loop] at h; exact (hr h.symm).elim
  skip := by intro a st r h hr; simp only [Peg.skip] at h; exact (hr h.symm).elim

theorem monoAt_succ (k : Nat) (ih : MonoAt k) : MonoAt (k + 1) where
  eval := by
    intro a e st r h hr g hg
    obtain ⟨g', rfl⟩ : ∃ g', g = g' + 1 := ⟨g - 1, by omega⟩
    have hg' : k ≤ g' := by omega
    cases e with
    | str _ | insens _ | range _ _ | any | soi | newline => simpa only [Peg.eval] using h
    | call r' =>
      by_cases hs : (ruleDef r').1 = .silent
      · rw [eval_call_silent hs] at h ⊢
        exact ih.eval _ _ _ _ h hr g' hg'
      · rw [eval_call hs] at h ⊢
        cases hb : Peg.eval k (a || (ruleDef r').1 == .atomic) (ruleDef r').2 { st with out := [] } with
        | ok s1 => rw [hb] at h; rw [ih.eval _ _ _ _ hb (by simp) g' hg']; exact h
        | fail => rw [hb] at h; rw [ih.eval _ _ _ _ hb (by simp) g' hg']; exact h
        | fuel => rw [hb] at h; exact (hr h.symm).elim
    | seq x y =>
      simp only [Peg.eval] at h ⊢
      cases hx : Peg.eval k a x st with
      | ok s1 =>
        rw [hx] at h; rw [ih.eval _ _ _ _ hx (by simp) g' hg']
        simp only at h ⊢
        cases hs : Peg.skip k a s1 with
        | ok s2 =>
          rw [hs] at h; rw [ih.skip _ _ _ hs (by simp) g' hg']
          exact ih.eval _ _ _ _ h hr g' hg'
        | fail => rw [hs] at h; rw [ih.skip _ _ _ hs (by simp) g' hg']; exact h
        | fuel => rw [hs] at h; exact (hr h.symm).elim
      | fail => rw [hx] at h; rw [ih.eval _ _ _ _ hx (by simp) g' hg']; exact h
      | fuel => rw [hx] at h; exact (hr h.symm).elim
    | choice x y =>
      simp only [Peg.eval] at h ⊢
      cases hx : Peg.eval k a x st with
      | ok s1 => rw [hx] at h; rw [ih.eval _ _ _ _ hx (by simp) g' hg']; exact h
      | fail =>
        rw [hx] at h; rw [ih.eval _ _ _ _ hx (by simp) g' hg']
        exact ih.eval _ _ _ _ h hr g' hg'
      | fuel => rw [hx] at h; exact (hr h.symm).elim
    | opt x | npred x | ppred x =>
      simp only [Peg.eval] at h ⊢
      cases hx : Peg.eval k a x st with
      | ok s1 => rw [hx] at h; rw [ih.eval _ _ _ _ hx (by simp) g' hg']; exact h
      | fail => rw [hx] at h; rw [ih.eval _ _ _ _ hx (by simp) g' hg']; exact h
      | fuel => rw [hx] at h; exact (hr h.symm).elim
    | star x =>
      simp only [Peg.eval] at h ⊢
      cases hx : Peg.eval k a x st with
      | ok s1 =>
        rw [hx] at h; rw [ih.eval _ _ _ _ hx (by simp) g' hg']
        exact ih.loop _ _ _ _ h hr g' hg'
      | fail => rw [hx] at h; rw [ih.eval _ _ _ _ hx (by simp) g' hg']; exact h
      | fuel => rw [hx] at h; exact (hr h.symm).elim
    | plus x =>
      simp only [Peg.eval] at h ⊢
      cases hx : Peg.eval k a x st with
      | ok s1 =>
        rw [hx] at h; rw [ih.eval _ _ _ _ hx (by simp) g' hg']
        simp only at h ⊢
        cases hs : Peg.skip k a s1 with
        | ok s2 =>
          rw [hs] at h; rw [ih.skip _ _ _ hs (by simp) g' hg']
          simp only at h ⊢
          cases hx2 : Peg.eval k a x s2 with
          | ok s3 =>
            rw [hx2] at h; rw [ih.eval _ _ _ _ hx2 (by simp) g' hg']
            exact ih.loop _ _ _ _ h hr g' hg'
          | fail => rw [hx2] at h; rw [ih.eval _ _ _ _ hx2 (by simp) g' hg']; exact h
          | fuel => rw [hx2] at h; exact (hr h.symm).elim
        | fail => rw [hs] at h; rw [ih.skip _ _ _ hs (by simp) g' hg']; exact h
        | fuel => rw [hs] at h; exact (hr h.symm).elim
      | fail => rw [hx] at h; rw [ih.eval _ _ _ _ hx (by simp) g' hg']; exact h
      | fuel => rw [hx] at h; exact (hr h.symm).elim
  loop := by
    intro a e st r h hr g hg
    obtain ⟨g', rfl⟩ : ∃ g', g = g' + 1 := ⟨g - 1, by omega⟩
    have hg' : k ≤ g' := by omega
    simp only [Peg.loop] at h ⊢
    cases hs : Peg.skip k a st with
    | ok s1 =>
      rw [hs] at h; rw [ih.skip _ _ _ hs (by simp) g' hg']
      simp only at h ⊢
      cases hx : Peg.eval k a e s1 with
      | ok s2 =>
        rw [hx] at h; rw [ih.eval _ _ _ _ hx (by simp) g' hg']
        exact ih.loop _ _ _ _ h hr g' hg'
      | fail => rw [hx] at h; rw [ih.eval _ _ _ _ hx (by simp) g' hg']; exact h
      | fuel => rw [hx] at h; exact (hr h.symm).elim
    | fail => rw [hs] at h; rw [ih.skip _ _ _ hs (by simp) g' hg']; exact h
    | fuel => rw [hs] at h; exact (hr h.symm).elim
  skip := by
    intro a st r h hr g hg
    obtain ⟨g', rfl⟩ : ∃ g', g = g' + 1 := ⟨g - 1, by omega⟩
    have hg' : k ≤ g' := by omega
    simp only [Peg.skip] at h ⊢
    split
    · next ha => simpa [ha] using h
    · next ha =>
      simp only [ha] at h
      exact ih.eval _ _ _ _ h hr g' hg'

theorem monoAt (k : Nat) : MonoAt k := by
  induction k with
  | zero => exact monoAt_zero
  | succ n ih => exact monoAt_succ n ih

theorem eval_mono {k g : Nat} {a : Bool} {e : Expr} {st : PS} {r : R}
    (h : eval k a e st = r) (hr : r ≠ .fuel) (hg : k ≤ g) : eval g a e st = r :=
  (monoAt k).eval a e st r h hr g hg

def Ev (a : Bool) (e : Expr) (st : PS) (r : R) : Prop := ∃ f0, ∀ f, f0 ≤ f → eval f a e st = r
def Lp (a : Bool) (e : Expr) (st : PS) (r : R) : Prop := ∃ f0, ∀ f, f0 ≤ f → loop f a e st = r
def Sk (a : Bool) (st : PS) (r : R) : Prop := ∃ f0, ∀ f, f0 ≤ f → skip f a st = r

theorem Ev.at {a : Bool} {e : Expr} {st : PS} {r : R} (h : Ev a e st r) {f : Nat}
    (hf : eval f a e st ≠ .fuel) : eval f a e st = r := by
  obtain ⟨f0, h0⟩ := h
  have h1 := eval_mono (k := f) (g := max f f0) rfl hf (Nat.le_max_left ..)
  rw [← h1, h0 _ (Nat.le_max_right ..)]

/-! `Ev`, `Lp` and `Sk` say that an equation holds from some fuel value on; one more level of fuel turns such
facts about the parts into one about the whole (`later₁` … `later₄`). -/

section later
variable {P₁ P₂ P₃ P₄ Q : Nat → Prop}

theorem later₁ (h₁ : ∃ f0, ∀ f, f0 ≤ f → P₁ f) (hs : ∀ g, P₁ g → Q (g + 1)) : ∃ f0, ∀ f, f0 ≤ f → Q f := by
  obtain ⟨f₁, h₁⟩ := h₁
  refine ⟨f₁ + 1, fun f hf => ?_⟩
  obtain ⟨g, rfl⟩ : ∃ g, f = g + 1 := ⟨f - 1, by omega⟩
  exact hs g (h₁ g (by omega))

theorem both (h₁ : ∃ f0, ∀ f, f0 ≤ f → P₁ f) (h₂ : ∃ f0, ∀ f, f0 ≤ f → P₂ f) : ∃ f0, ∀ f, f0 ≤ f → P₁ f ∧ P₂ f := by
  obtain ⟨f₁, h₁⟩ := h₁; obtain ⟨f₂, h₂⟩ := h₂
  exact ⟨f₁ + f₂, fun f hf => ⟨h₁ f (by omega), h₂ f (by omega)⟩⟩

theorem later₂ (h₁ : ∃ f0, ∀ f, f0 ≤ f → P₁ f) (h₂ : ∃ f0, ∀ f, f0 ≤ f → P₂ f)
    (hs : ∀ g, P₁ g → P₂ g → Q (g + 1)) : ∃ f0, ∀ f, f0 ≤ f → Q f :=
  later₁ (both h₁ h₂) fun g h => hs g h.1 h.2

theorem later₃ (h₁ : ∃ f0, ∀ f, f0 ≤ f → P₁ f) (h₂ : ∃ f0, ∀ f, f0 ≤ f → P₂ f) (h₃ : ∃ f0, ∀ f, f0 ≤ f → P₃ f)
    (hs : ∀ g, P₁ g → P₂ g → P₃ g → Q (g + 1)) : ∃ f0, ∀ f, f0 ≤ f → Q f :=
  later₂ (both h₁ h₂) h₃ fun g h => hs g h.1 h.2

theorem later₄ (h₁ : ∃ f0, ∀ f, f0 ≤ f → P₁ f) (h₂ : ∃ f0, ∀ f, f0 ≤ f → P₂ f) (h₃ : ∃ f0, ∀ f, f0 ≤ f → P₃ f)
    (h₄ : ∃ f0, ∀ f, f0 ≤ f → P₄ f) (hs : ∀ g, P₁ g → P₂ g → P₃ g → P₄ g → Q (g + 1)) : ∃ f0, ∀ f, f0 ≤ f → Q f :=
  later₃ (both h₁ h₂) h₃ h₄ fun g h => hs g h.1 h.2

end later

section calculus
variable {a : Bool} {x y : Expr} {st s1 s2 s3 : PS} {r : R}

theorem Ev.of_step (h : ∀ g, eval (g + 1) a x st = r) : Ev a x st r :=
  ⟨1, fun f hf => by obtain ⟨g, rfl⟩ : ∃ g, f = g + 1 := ⟨f - 1, by omega⟩; exact h g⟩

theorem Ev.str_ok {l rest' : Str} (h : matchStr l st.rest = some rest') :
    Ev a (.str l) st (.ok { st with rest := rest', pos := st.pos + l.length }) :=
  .of_step fun g => by simp only [eval, h]

theorem Ev.str_fail {l : Str} (h : matchStr l st.rest = none) : Ev a (.str l) st .fail :=
  .of_step fun g => by simp only [eval, h]

theorem Ev.insens_ok {l rest' : Str} (h : matchInsens l st.rest = some rest') :
    Ev a (.insens l) st (.ok { st with rest := rest', pos := st.pos + l.length }) :=
  .of_step fun g => by simp only [eval, h]

theorem Ev.insens_fail {l : Str} (h : matchInsens l st.rest = none) : Ev a (.insens l) st .fail :=
  .of_step fun g => by simp only [eval, h]

theorem Ev.range_ok {lo hi ch : Char} {rest' : Str} (h : st.rest = ch :: rest')
    (hc : lo.val ≤ ch.val ∧ ch.val ≤ hi.val) :
    Ev a (.range lo hi) st (.ok { st with rest := rest', pos := st.pos + 1 }) :=
  .of_step fun g => by simp only [eval, h, hc, and_self, if_true]

theorem Ev.range_fail {lo hi : Char} (h : ∀ ch rest', st.rest = ch :: rest' → ¬(lo.val ≤ ch.val ∧ ch.val ≤ hi.val)) :
    Ev a (.range lo hi) st .fail :=
  .of_step fun g => by
    simp only [eval]
    split
    · next ch rest' hr => simp only [h ch rest' hr, if_false]
    · rfl

theorem Ev.any_ok {ch : Char} {rest' : Str} (h : st.rest = ch :: rest') :
    Ev a .any st (.ok { st with rest := rest', pos := st.pos + 1 }) :=
  .of_step fun g => by simp only [eval, h]

theorem Ev.any_fail (h : st.rest = []) : Ev a .any st .fail :=
  .of_step fun g => by simp only [eval, h]

theorem Ev.soi_ok (h : st.pos = 0) : Ev a .soi st (.ok st) :=
  .of_step fun g => by simp only [eval, h, if_true]

theorem Ev.newline_lf {rest' : Str} (h : st.rest = '\n' :: rest') :
    Ev a .newline st (.ok { st with rest := rest', pos := st.pos + 1 }) :=
  .of_step fun g => by simp only [eval, h]

theorem Ev.newline_fail (h : ∀ ch rest', st.rest = ch :: rest' → ch ≠ '\n' ∧ ch ≠ '\r') : Ev a .newline st .fail :=
  .of_step fun g => by
    simp only [eval]
    split
    · next rest' hr => exact ((h _ _ hr).1 rfl).elim
    · next rest' hr => exact ((h _ _ hr).2 rfl).elim
    · next rest' _ hr => exact ((h _ _ hr).2 rfl).elim
    · rfl

theorem Ev.seq (h1 : Ev a x st (.ok s1)) (h2 : Sk a s1 (.ok s2)) (h3 : Ev a y s2 r) : Ev a (.seq x y) st r :=
  later₃ h1 h2 h3 fun g e1 e2 e3 => by simp only [eval, e1, e2, e3]

theorem Ev.seq_fail (h1 : Ev a x st .fail) : Ev a (.seq x y) st .fail :=
  later₁ h1 fun g e1 => by simp only [eval, e1]

theorem Ev.choice_l (h1 : Ev a x st (.ok s1)) : Ev a (.choice x y) st (.ok s1) :=
  later₁ h1 fun g e1 => by simp only [eval, e1]

theorem Ev.choice_r (h1 : Ev a x st .fail) (h2 : Ev a y st r) : Ev a (.choice x y) st r :=
  later₂ h1 h2 fun g e1 e2 => by simp only [eval, e1, e2]

theorem Ev.opt_some (h1 : Ev a x st (.ok s1)) : Ev a (.opt x) st (.ok s1) :=
  later₁ h1 fun g e1 => by simp only [eval, e1]

theorem Ev.opt_none (h1 : Ev a x st .fail) : Ev a (.opt x) st (.ok st) :=
  later₁ h1 fun g e1 => by simp only [eval, e1]

theorem Ev.star_nil (h1 : Ev a x st .fail) : Ev a (.star x) st (.ok st) :=
  later₁ h1 fun g e1 => by simp only [eval, e1]

theorem Ev.star_cons (h1 : Ev a x st (.ok s1)) (h2 : Lp a x s1 r) : Ev a (.star x) st r :=
  later₂ h1 h2 fun g e1 e2 => by simp only [eval, e1, e2]

theorem Lp.stop (h1 : Sk a st (.ok s1)) (h2 : Ev a x s1 .fail) : Lp a x st (.ok st) :=
  later₂ h1 h2 fun g e1 e2 => by simp only [loop, e1, e2]

theorem Lp.step (h1 : Sk a st (.ok s1)) (h2 : Ev a x s1 (.ok s2)) (h3 : Lp a x s2 r) : Lp a x st r :=
  later₃ h1 h2 h3 fun g e1 e2 e3 => by simp only [loop, e1, e2, e3]

theorem Ev.plus_one (h1 : Ev a x st (.ok s1)) (h2 : Sk a s1 (.ok s2)) (h3 : Ev a x s2 .fail) :
    Ev a (.plus x) st (.ok s2) :=
  later₃ h1 h2 h3 fun g e1 e2 e3 => by simp only [eval, e1, e2, e3]

theorem Ev.plus_more (h1 : Ev a x st (.ok s1)) (h2 : Sk a s1 (.ok s2)) (h3 : Ev a x s2 (.ok s3)) (h4 : Lp a x s3 r) :
    Ev a (.plus x) st r :=
  later₄ h1 h2 h3 h4 fun g e1 e2 e3 e4 => by simp only [eval, e1, e2, e3, e4]

theorem Ev.plus_fail (h1 : Ev a x st .fail) : Ev a (.plus x) st .fail :=
  later₁ h1 fun g e1 => by simp only [eval, e1]

theorem Ev.npred_ok (h1 : Ev a x st .fail) : Ev a (.npred x) st (.ok st) :=
  later₁ h1 fun g e1 => by simp only [eval, e1]

theorem Ev.npred_fail (h1 : Ev a x st (.ok s1)) : Ev a (.npred x) st .fail :=
  later₁ h1 fun g e1 => by simp only [eval, e1]

theorem Ev.ppred_ok (h1 : Ev a x st (.ok s1)) : Ev a (.ppred x) st (.ok st) :=
  later₁ h1 fun g e1 => by simp only [eval, e1]

theorem Ev.ppred_fail (h1 : Ev a x st .fail) : Ev a (.ppred x) st .fail :=
  later₁ h1 fun g e1 => by simp only [eval, e1]

theorem Ev.call_silent {q : Rule} (hs : (ruleDef q).1 = .silent) (h1 : Ev a (ruleDef q).2 st r) :
    Ev a (.call q) st r :=
  later₁ h1 fun g e1 => by simp only [eval, hs, e1]

theorem Ev.call_node {q : Rule} {ty : RuleTy} (ht : (ruleDef q).1 = ty) (hs : ty ≠ .silent)
    (h1 : Ev (ty == .atomic) (ruleDef q).2 { st with out := [] } (.ok s1)) :
    Ev false (.call q) st
      (.ok { s1 with out := .node q (st.rest.take (s1.pos - st.pos)) s1.out.reverse :: st.out }) :=
  later₁ h1 fun g e1 => by subst ht; rw [eval_call hs, Bool.false_or, e1]; rfl

theorem Ev.call_atomic {q : Rule} (hs : (ruleDef q).1 ≠ .silent)
    (h1 : Ev true (ruleDef q).2 { st with out := [] } (.ok s1)) :
    Ev true (.call q) st (.ok { s1 with out := st.out }) :=
  later₁ h1 fun g e1 => by rw [eval_call hs, Bool.true_or, e1]; rfl

theorem Ev.call_fail {q : Rule} (hs : (ruleDef q).1 ≠ .silent)
    (h1 : Ev (a || (ruleDef q).1 == .atomic) (ruleDef q).2 { st with out := [] } .fail) :
    Ev a (.call q) st .fail :=
  later₁ h1 fun g e1 => by rw [eval_call hs, e1]

theorem Sk.atomic : Sk true st (.ok st) :=
  ⟨1, fun f hf => by obtain ⟨g, rfl⟩ : ∃ g, f = g + 1 := ⟨f - 1, by omega⟩; simp only [skip, if_true]⟩

theorem Sk.of_ev (h1 : Ev true skipExpr st r) : Sk false st r :=
  later₁ h1 fun g e1 => by simp only [skip, Bool.false_eq_true, if_false, e1]

end calculus

end PV.Gsd.Peg
