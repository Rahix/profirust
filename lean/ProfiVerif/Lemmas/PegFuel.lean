/-
What a successful run of the PEG interpreter guarantees, and that its fuel suffices, whatever `ruleDef`
is.  `okAt`, one induction on fuel: the pairs `eval` adds are ones the expression can produce
(`eval_prod`), the remaining input never grows, and a statically non-nullable expression (`nnE`)
shortens it.  `noFuelAt`: if the rule call graph is well-founded and every repetition body is statically
non-nullable (what pest's own validator demands), `eval fuel a e st` does not answer `fuel` once
`fuel ≥ depth e + length of the remaining input`: every level of recursion descends in the expression /
rule nesting or is a loop iteration, and every iteration consumes a character.  The check of the
generated grammar (`fuelCheck`) is evaluated in `Props/C19.lean`.
-/
import ProfiVerif.Lemmas.PegShape

namespace PV.Gsd.Peg

/-- `true`: a successful match of the expression consumes at least one character (conservative). -/
def nnE (nnT : Rule → Bool) : Expr → Bool
  | .str l => !l.isEmpty
  | .insens l => !l.isEmpty
  | .range _ _ => true
  | .any => true
  | .soi => false
  | .newline => true
  | .call r => nnT r
  | .seq x y => nnE nnT x || nnE nnT y
  | .choice x y => nnE nnT x && nnE nnT y
  | .opt _ => false
  | .star _ => false
  | .plus x => nnE nnT x
  | .npred _ => false
  | .ppred _ => false

/-- `nnE` of the body of a rule, calls followed to nesting depth `n` (a call below that counts as nullable). -/
def nnN : Nat → Rule → Bool
  | 0, _ => false
  | n + 1, r => nnE (nnN n) (ruleDef r).2

theorem matchStr_len : ∀ {l rest rest' : Str}, matchStr l rest = some rest' → rest'.length + l.length = rest.length
  | [], _, _, h => by simp [matchStr] at h; simp [h]
  | _ :: _, [], _, h => by simp [matchStr] at h
  | a :: as, b :: bs, rest', h => by
    simp only [matchStr] at h
    split at h
    · have := matchStr_len h; simp only [List.length_cons]; omega
    · cases h

theorem matchInsens_len : ∀ {l rest rest' : Str}, matchInsens l rest = some rest' → rest'.length + l.length = rest.length
  | [], _, _, h => by simp [matchInsens] at h; simp [h]
  | _ :: _, [], _, h => by simp [matchInsens] at h
  | a :: as, b :: bs, rest', h => by
    simp only [matchInsens] at h
    split at h
    · have := matchInsens_len h; simp only [List.length_cons]; omega
    · cases h

def Adds (a : Bool) (e : Expr) (st st' : PS) : Prop := ∃ new, st'.out = new ++ st.out ∧ Prod a e new.reverse

def Eats (e : Expr) (st st' : PS) : Prop :=
  st'.rest.length ≤ st.rest.length ∧ ∀ n, nnE (nnN n) e = true → st'.rest.length < st.rest.length

theorem Adds.nil {a : Bool} {e : Expr} {st st' : PS} (ho : st'.out = st.out) (hp : Prod a e []) : Adds a e st st' :=
  ⟨[], ho, hp⟩

theorem Eats.refl {e : Expr} {st st' : PS} (hr : st'.rest = st.rest) (hn : ∀ n, nnE (nnN n) e = false) : Eats e st st' :=
  ⟨by rw [hr]; exact Nat.le_refl _, fun n h => by rw [hn n] at h; cases h⟩

theorem Eats.of_lt {e : Expr} {st st' : PS} (h : st'.rest.length < st.rest.length) : Eats e st st' :=
  ⟨Nat.le_of_lt h, fun _ _ => h⟩

structure OkAt (fuel : Nat) : Prop where
  eval : ∀ a e st st', eval fuel a e st = .ok st' → Adds a e st st' ∧ Eats e st st'
  loop : ∀ a e st st', loop fuel a e st = .ok st' → Adds a (.star e) st st' ∧ st'.rest.length ≤ st.rest.length
  skip : ∀ a st st', skip fuel a st = .ok st' → st'.out = st.out ∧ st'.rest.length ≤ st.rest.length

theorem okAt_zero : OkAt 0 where
  eval := by intro a e st st' h; simp [Peg.eval] at h
  loop := by intro a e st st' h; simp [Peg.loop] at h
  skip := by intro a st st' h; simp [Peg.skip] at h

theorem okAt_succ (k : Nat) (ih : OkAt k) : OkAt (k + 1) where
  eval := by
    intro a e st st' h
    cases e with
    | str l =>
      simp only [Peg.eval] at h
      split at h
      · next rest' hm =>
        cases h
        have := matchStr_len hm
        refine ⟨.nil rfl .str, by simp only; omega, fun n hn => ?_⟩
        simp only [nnE, Bool.not_eq_true', List.isEmpty_eq_false_iff] at hn
        have : l.length ≠ 0 := by simpa using hn
        simp only; omega
      · cases h
    | insens l =>
      simp only [Peg.eval] at h
      split at h
      · next rest' hm =>
        cases h
        have := matchInsens_len hm
        refine ⟨.nil rfl .insens, by simp only; omega, fun n hn => ?_⟩
        simp only [nnE, Bool.not_eq_true', List.isEmpty_eq_false_iff] at hn
        have : l.length ≠ 0 := by simpa using hn
        simp only; omega
      · cases h
    | range lo hi =>
      simp only [Peg.eval] at h
      split at h
      · next ch rest' hr =>
        split at h
        · cases h; exact ⟨.nil rfl .range, .of_lt (by rw [hr]; simp)⟩
        · cases h
      · cases h
    | any =>
      simp only [Peg.eval] at h
      split at h
      · next ch rest' hr => cases h; exact ⟨.nil rfl .any, .of_lt (by rw [hr]; simp)⟩
      · cases h
    | soi =>
      simp only [Peg.eval] at h
      split at h
      · cases h; exact ⟨.nil rfl .soi, .refl rfl fun _ => rfl⟩
      · cases h
    | newline =>
      simp only [Peg.eval] at h
      split at h
      · next rest' hr => cases h; exact ⟨.nil rfl .newline, .of_lt (by rw [hr]; simp)⟩
      · next rest' hr =>
        cases h
        exact ⟨.nil rfl .newline, .of_lt (by rw [hr]; simp only [List.length_cons]; omega)⟩
      · next rest' _ hr => cases h; exact ⟨.nil rfl .newline, .of_lt (by rw [hr]; simp)⟩
      · cases h
    | call r =>
      have eats : ∀ {st0 st1 : PS}, st0.rest = st.rest → Eats (ruleDef r).2 st0 st1 → Eats (.call r) st st1 := by
        intro st0 st1 h0 he
        unfold Eats at he ⊢
        rw [← h0]
        refine ⟨he.1, fun n hn => ?_⟩
        cases n with
        | zero => simp [nnE, nnN] at hn
        | succ m => exact he.2 m (by simpa [nnE, nnN] using hn)
      by_cases hs : (ruleDef r).1 = .silent
      · rw [eval_call_silent hs] at h
        obtain ⟨⟨new, hout, hp⟩, he⟩ := ih.eval _ _ _ _ h
        exact ⟨⟨new, hout, .callSilent hs hp⟩, eats rfl he⟩
      · rw [eval_call hs] at h
        split at h
        · next st1 h1 =>
          obtain ⟨⟨new, hout, hp⟩, he⟩ := ih.eval _ _ _ _ h1
          have he' : Eats (.call r) st st1 := eats (st0 := { st with out := [] }) rfl he
          split at h
          · next ha => cases h; subst ha; exact ⟨.nil rfl (.callAtomic hs), he'⟩
          · next ha =>
            cases h
            have ha : a = false := by simpa using ha
            subst ha
            simp only [List.append_nil] at hout
            refine ⟨⟨[_], rfl, ?_⟩, he'⟩
            simp only [List.reverse_cons, List.reverse_nil, List.nil_append]
            rw [hout]
            simpa using Prod.callNode hs (by simpa using hp)
        · cases h
        · cases h
    | seq x y =>
      simp only [Peg.eval] at h
      split at h
      · next st1 h1 =>
        split at h
        · next st2 h2 =>
          obtain ⟨⟨n1, o1, p1⟩, l1, s1⟩ := ih.eval _ _ _ _ h1
          obtain ⟨o2, l2⟩ := ih.skip _ _ _ h2
          obtain ⟨⟨n3, o3, p3⟩, l3, s3⟩ := ih.eval _ _ _ _ h
          refine ⟨⟨n3 ++ n1, by rw [o3, o2, o1, List.append_assoc], ?_⟩, by omega, fun n hn => ?_⟩
          · rw [List.reverse_append]
            exact .seq p1 p3
          · simp only [nnE, Bool.or_eq_true] at hn
            rcases hn with hn | hn
            · have := s1 n hn; omega
            · have := s3 n hn; omega
        · next hr => exact (hr _ h).elim
      · next hr => exact (hr _ h).elim
    | choice x y =>
      simp only [Peg.eval] at h
      split at h
      · obtain ⟨⟨n1, o1, p1⟩, l1, s1⟩ := ih.eval _ _ _ _ h
        refine ⟨⟨n1, o1, .choiceR p1⟩, l1, fun n hn => ?_⟩
        simp only [nnE, Bool.and_eq_true] at hn
        exact s1 n hn.2
      · next r hr =>
        obtain ⟨⟨n1, o1, p1⟩, l1, s1⟩ := ih.eval _ _ _ _ h
        refine ⟨⟨n1, o1, .choiceL p1⟩, l1, fun n hn => ?_⟩
        simp only [nnE, Bool.and_eq_true] at hn
        exact s1 n hn.1
    | opt x =>
      simp only [Peg.eval] at h
      split at h
      · cases h; exact ⟨.nil rfl .optNone, .refl rfl fun _ => rfl⟩
      · obtain ⟨⟨n1, o1, p1⟩, l1, _⟩ := ih.eval _ _ _ _ h
        exact ⟨⟨n1, o1, .optSome p1⟩, l1, fun n hn => by simp [nnE] at hn⟩
    | star x =>
      simp only [Peg.eval] at h
      split at h
      · next st1 h1 =>
        obtain ⟨⟨n1, o1, p1⟩, l1, _⟩ := ih.eval _ _ _ _ h1
        obtain ⟨⟨n2, o2, p2⟩, l2⟩ := ih.loop _ _ _ _ h
        refine ⟨⟨n2 ++ n1, by rw [o2, o1, List.append_assoc], ?_⟩, by omega, fun n hn => by simp [nnE] at hn⟩
        rw [List.reverse_append]
        exact .starCons p1 p2
      · cases h; exact ⟨.nil rfl .starNil, .refl rfl fun _ => rfl⟩
      · cases h
    | plus x =>
      simp only [Peg.eval] at h
      split at h
      · next st1 h1 =>
        obtain ⟨⟨n1, o1, p1⟩, l1, s1⟩ := ih.eval _ _ _ _ h1
        split at h
        · next st2 h2 =>
          obtain ⟨o2, l2⟩ := ih.skip _ _ _ h2
          have key : Adds a (.plus x) st st' ∧ st'.rest.length ≤ st2.rest.length := by
            split at h
            · next st3 h3 =>
              obtain ⟨⟨n3, o3, p3⟩, l3, _⟩ := ih.eval _ _ _ _ h3
              obtain ⟨⟨n4, o4, p4⟩, l4⟩ := ih.loop _ _ _ _ h
              refine ⟨⟨n4 ++ n3 ++ n1, by rw [o4, o3, o2, o1]; simp, ?_⟩, by omega⟩
              rw [List.reverse_append, List.reverse_append]
              exact .plus p1 (.starCons p3 p4)
            · cases h
              exact ⟨⟨n1, by rw [o2, o1], by simpa using Prod.plus p1 .starNil⟩, Nat.le_refl _⟩
            · cases h
          refine ⟨key.1, by have := key.2; omega, fun n hn => ?_⟩
          have := s1 n (by simpa [nnE] using hn)
          have := key.2
          omega
        · next hr => exact (hr _ h).elim
      · next hr => exact (hr _ h).elim
    | npred x =>
      simp only [Peg.eval] at h
      split at h
      · cases h
      · cases h; exact ⟨.nil rfl .npred, .refl rfl fun _ => rfl⟩
      · cases h
    | ppred x =>
      simp only [Peg.eval] at h
      split at h
      · cases h; exact ⟨.nil rfl .ppred, .refl rfl fun _ => rfl⟩
      · next hr => exact (hr _ h).elim
  loop := by
    intro a e st st' h
    simp only [Peg.loop] at h
    split at h
    · next st1 h1 =>
      obtain ⟨o1, l1⟩ := ih.skip _ _ _ h1
      split at h
      · next st2 h2 =>
        obtain ⟨⟨n2, o2, p2⟩, l2, _⟩ := ih.eval _ _ _ _ h2
        obtain ⟨⟨n3, o3, p3⟩, l3⟩ := ih.loop _ _ _ _ h
        refine ⟨⟨n3 ++ n2, by rw [o3, o2, o1, List.append_assoc], ?_⟩, by omega⟩
        rw [List.reverse_append]
        exact .starCons p2 p3
      · cases h; exact ⟨.nil rfl .starNil, Nat.le_refl _⟩
      · cases h
    · cases h; exact ⟨.nil rfl .starNil, Nat.le_refl _⟩
    · cases h
  skip := by
    intro a st st' h
    simp only [Peg.skip] at h
    split at h
    · cases h; exact ⟨rfl, Nat.le_refl _⟩
    · obtain ⟨⟨new, o, p⟩, l, _⟩ := ih.eval _ _ _ _ h
      have := prod_atomic_nil p rfl
      simp only [List.reverse_eq_nil_iff] at this
      exact ⟨by rw [o, this, List.nil_append], l⟩

theorem okAt (fuel : Nat) : OkAt fuel := by
  induction fuel with
  | zero => exact okAt_zero
  | succ n ih => exact okAt_succ n ih

theorem eval_prod {fuel : Nat} {a : Bool} {e : Expr} {st st' : PS} (h : eval fuel a e st = .ok st') :
    ∃ new, st'.out = new ++ st.out ∧ Prod a e new.reverse :=
  ((okAt fuel).eval a e st st' h).1

/-- Levels of recursion one implicit `skip` takes: in atomic mode it returns at once, otherwise it evaluates `skipExpr`,
for which `dsk` is the budget (`SkipBound dsk`: it suffices). -/
def skipCost (dsk : Nat) (a : Bool) : Nat := if a then 1 else dsk

/-- The mode in which the body of a rule of type `ty` runs when the rule is called in mode `a` (pest: `@` switches
implicit skipping off for everything below, `_` and normal rules inherit). -/
def bodyMode (a : Bool) (ty : RuleTy) : Bool :=
  match ty with
  | .silent => a
  | ty => a || ty == .atomic

/-- Recursion depth `eval` needs for `e` beyond one level per consumed character; `none` if a
repetition body may match the empty string or a called rule has no depth (`dT`). -/
def depthE (nnT : Rule → Bool) (dT : Bool → Rule → Option Nat) (dsk : Nat) (a : Bool) : Expr → Option Nat
  | .str _ => some 1
  | .insens _ => some 1
  | .range _ _ => some 1
  | .any => some 1
  | .soi => some 1
  | .newline => some 1
  | .call r =>
    match dT (bodyMode a (ruleDef r).1) r with
    | some d => some (d + 1)
    | none => none
  | .seq x y =>
    match depthE nnT dT dsk a x, depthE nnT dT dsk a y with
    | some dx, some dy => some (1 + max dx (max (skipCost dsk a) dy))
    | _, _ => none
  | .choice x y =>
    match depthE nnT dT dsk a x, depthE nnT dT dsk a y with
    | some dx, some dy => some (1 + max dx dy)
    | _, _ => none
  | .opt x =>
    match depthE nnT dT dsk a x with
    | some dx => some (1 + dx)
    | none => none
  | .star x =>
    if nnE nnT x then
      match depthE nnT dT dsk a x with
      | some dx => some (1 + max dx (skipCost dsk a))
      | none => none
    else none
  | .plus x =>
    if nnE nnT x then
      match depthE nnT dT dsk a x with
      | some dx => some (1 + max dx (skipCost dsk a))
      | none => none
    else none
  | .npred x =>
    match depthE nnT dT dsk a x with
    | some dx => some (1 + dx)
    | none => none
  | .ppred x =>
    match depthE nnT dT dsk a x with
    | some dx => some (1 + dx)
    | none => none

/-- Depth of the body of a rule, to call nesting depth `n` (`none`: deeper or recursive). -/
def depthN (dsk : Nat) : Nat → Bool → Rule → Option Nat
  | 0, _, _ => none
  | n + 1, a, r => depthE (nnN n) (depthN dsk n) dsk a (ruleDef r).2

/-- `dsk` is consistent with itself: with `dsk` as the price of a skip, `skipExpr` itself (evaluated in atomic mode, plus the
level of `skip`) stays within `dsk`. -/
def SkipBound (dsk : Nat) : Prop :=
  ∃ n d0, depthE (nnN n) (depthN dsk n) dsk true skipExpr = some d0 ∧ d0 + 1 ≤ dsk

structure NoFuelAt (dsk fuel : Nat) : Prop where
  eval : ∀ a e st n d, depthE (nnN n) (depthN dsk n) dsk a e = some d → d + st.rest.length ≤ fuel →
    eval fuel a e st ≠ .fuel
  loop : ∀ a e st n d, depthE (nnN n) (depthN dsk n) dsk a e = some d → nnE (nnN n) e = true →
    max d (skipCost dsk a) + 1 + st.rest.length ≤ fuel → loop fuel a e st ≠ .fuel
  skip : ∀ a st, skipCost dsk a + st.rest.length ≤ fuel → skip fuel a st ≠ .fuel

theorem depthE_pos {nnT : Rule → Bool} {dT : Bool → Rule → Option Nat} {dsk : Nat} {a : Bool} :
    ∀ {e : Expr} {d : Nat}, depthE nnT dT dsk a e = some d → 1 ≤ d := by
  intro e d h
  -- every arm of `depthE` answers `some 1`, `some (1 + …)`, `some (… + 1)` or `none`
  cases e <;> simp only [depthE] at h <;> (repeat' split at h) <;> first | (cases h; omega) | cases h

theorem noFuelAt_zero (dsk : Nat) (hdsk : 1 ≤ dsk) : NoFuelAt dsk 0 where
  eval := by intro a e st n d hd hf; have := depthE_pos hd; omega
  loop := by intro a e st n d _ _ hf; omega
  skip := by
    intro a st hf
    unfold skipCost at hf
    split at hf <;> omega

theorem noFuelAt_succ (dsk : Nat) (hsk : SkipBound dsk) (k : Nat) (ih : NoFuelAt dsk k) : NoFuelAt dsk (k + 1) where
  eval := by
    intro a e st n d hd hf
    -- Every case alike: a part (or the skip between two parts) is evaluated with fuel `k`, and `depthE` of the whole is
    -- 1 + the maximum over parts and skips, so the `1 +` pays for the level; a later part starts on no more input
    -- than the whole (`okAt k`), the loop of a repetition on less (its body is non-nullable).
    cases e with
    | str _ | insens _ | any | soi | newline => simp only [Peg.eval]; split <;> simp
    | range lo hi => simp only [Peg.eval]; split <;> (try split) <;> simp
    | call r =>
      simp only [depthE] at hd
      split at hd
      · next db hdb =>
        cases hd
        cases n with
        | zero => simp [depthN] at hdb
        | succ m =>
          simp only [depthN] at hdb
          by_cases hs : (ruleDef r).1 = .silent
          · rw [eval_call_silent hs]
            rw [hs] at hdb
            exact ih.eval _ _ _ m db hdb (by omega)
          · have hm : bodyMode a (ruleDef r).1 = (a || (ruleDef r).1 == .atomic) := by
              cases hty : (ruleDef r).1 with
              | silent => exact (hs hty).elim
              | normal => rfl
              | atomic => rfl
            rw [hm] at hdb
            have := ih.eval _ (ruleDef r).2 { st with out := [] } m db hdb (by simp only; omega)
            rw [eval_call hs]
            split
            · split <;> simp
            · simp
            · next hev => exact (this hev).elim
      · cases hd
    | seq x y =>
      simp only [depthE] at hd
      split at hd
      · next dx dy hx hy =>
        cases hd
        simp only [Peg.eval]
        split
        · next st1 h1 =>
          have l1 := ((okAt k).eval _ _ _ _ h1).2.1
          split
          · next st2 h2 =>
            have l2 := ((okAt k).skip _ _ _ h2).2
            exact ih.eval _ _ _ n dy hy (by omega)
          · exact ih.skip _ _ (by omega)
        · exact ih.eval _ _ _ n dx hx (by omega)
      · cases hd
    | choice x y =>
      simp only [depthE] at hd
      split at hd
      · next dx dy hx hy =>
        cases hd
        simp only [Peg.eval]
        split
        · exact ih.eval _ _ _ n dy hy (by omega)
        · exact ih.eval _ _ _ n dx hx (by omega)
      · cases hd
    | opt x =>
      simp only [depthE] at hd
      split at hd
      · next dx hx =>
        cases hd
        simp only [Peg.eval]
        split
        · simp
        · exact ih.eval _ _ _ n dx hx (by omega)
      · cases hd
    | star x =>
      simp only [depthE] at hd
      split at hd
      · next hnn =>
        split at hd
        · next dx hx =>
          cases hd
          simp only [Peg.eval]
          split
          · next st1 h1 =>
            have l1 := ((okAt k).eval _ _ _ _ h1).2.2 n hnn
            exact ih.loop _ _ _ n dx hx hnn (by omega)
          · simp
          · next hev => exact (ih.eval _ _ _ n dx hx (by omega) hev).elim
        · cases hd
      · cases hd
    | plus x =>
      simp only [depthE] at hd
      split at hd
      · next hnn =>
        split at hd
        · next dx hx =>
          cases hd
          simp only [Peg.eval]
          split
          · next st1 h1 =>
            have l1 := ((okAt k).eval _ _ _ _ h1).2.2 n hnn
            split
            · next st2 h2 =>
              have l2 := ((okAt k).skip _ _ _ h2).2
              split
              · next st3 h3 =>
                have l3 := ((okAt k).eval _ _ _ _ h3).2.1
                exact ih.loop _ _ _ n dx hx hnn (by omega)
              · simp
              · next hev => exact (ih.eval _ _ _ n dx hx (by omega) hev).elim
            · exact ih.skip _ _ (by omega)
          · exact ih.eval _ _ _ n dx hx (by omega)
        · cases hd
      · cases hd
    | npred x =>
      simp only [depthE] at hd
      split at hd
      · next dx hx =>
        cases hd
        simp only [Peg.eval]
        split
        · simp
        · simp
        · next hev => exact (ih.eval _ _ _ n dx hx (by omega) hev).elim
      · cases hd
    | ppred x =>
      simp only [depthE] at hd
      split at hd
      · next dx hx =>
        cases hd
        simp only [Peg.eval]
        split
        · simp
        · exact ih.eval _ _ _ n dx hx (by omega)
      · cases hd
  loop := by
    intro a e st n d hd hnn hf
    simp only [Peg.loop]
    split
    · next st1 h1 =>
      have l1 := ((okAt k).skip _ _ _ h1).2
      split
      · next st2 h2 =>
        have l2 := ((okAt k).eval _ _ _ _ h2).2.2 n hnn
        exact ih.loop _ _ _ n d hd hnn (by omega)
      · simp
      · next hev => exact (ih.eval _ _ _ n d hd (by omega) hev).elim
    · simp
    · next hev => exact (ih.skip _ _ (by omega) hev).elim
  skip := by
    intro a st hf
    simp only [Peg.skip]
    split
    · simp
    · next ha =>
      obtain ⟨n, d0, hd0, hle⟩ := hsk
      have ha : a = false := by simpa using ha
      subst ha
      simp only [skipCost, Bool.false_eq_true, if_false] at hf
      exact ih.eval _ _ _ n d0 hd0 (by omega)

theorem noFuelAt (dsk : Nat) (hsk : SkipBound dsk) (fuel : Nat) : NoFuelAt dsk fuel := by
  induction fuel with
  | zero =>
    obtain ⟨n, d0, _, h⟩ := hsk
    exact noFuelAt_zero dsk (by omega)
  | succ n ih => exact noFuelAt_succ dsk hsk n ih

/-- Depth of one `skip` of the generated grammar (0 if it cannot be bounded), computed with `dsk = 0`: in atomic mode
nothing reads `dsk` (`skipCost _ true = 1`, `bodyMode true _ = true`).  Nothing rests on that remark: `fuelCheck`
evaluates the bound again with `dsk = skipDepth`. -/
def skipDepth : Nat :=
  match depthE (nnN callDepth) (depthN 0 callDepth) 0 true skipExpr with
  | some d0 => d0 + 1
  | none => 0

/-- The static depth of `gsd` (incl. implicit skipping) is defined and at most `bound`. -/
def fuelCheck (bound : Nat) : Bool :=
  (match depthE (nnN callDepth) (depthN skipDepth callDepth) skipDepth true skipExpr with
   | some d0 => decide (d0 + 1 ≤ skipDepth)
   | none => false) &&
  (match depthE (nnN callDepth) (depthN skipDepth callDepth) skipDepth false (.call .gsd) with
   | some d => decide (d ≤ bound)
   | none => false)

/-- **The fuel bound of `parseGsd` suffices** for every text, for any grammar passing `fuelCheck 1000`.
(`noFuelAt` asks for depth + length; the factor 3 in `parseGsd` is slack.) -/
theorem eval_gsd_fuel (h : fuelCheck 1000 = true) (text : Str) :
    eval (3 * text.length + 1000) false (.call .gsd) { rest := text, pos := 0, out := [] } ≠ .fuel := by
  unfold fuelCheck at h
  simp only [Bool.and_eq_true] at h
  obtain ⟨h1, h2⟩ := h
  split at h1
  · next d0 hd0 =>
    split at h2
    · next d hd =>
      have hsk : SkipBound skipDepth := ⟨callDepth, d0, hd0, by simpa using h1⟩
      have hd1000 : d ≤ 1000 := by simpa using h2
      exact (noFuelAt skipDepth hsk (3 * text.length + 1000)).eval false (.call .gsd)
        { rest := text, pos := 0, out := [] } callDepth d hd (by simp only; omega)
    · cases h2
  · cases h1

theorem parseGsd_fuel (h : fuelCheck 1000 = true) (text : Str) : parseGsd text ≠ none := by
  have := eval_gsd_fuel h text
  unfold parseGsd
  simp only [c]
  split
  · split <;> simp
  · simp
  · next hev => exact (this hev).elim

end PV.Gsd.Peg
