/-
Decision procedure "the children of every pair the grammar can produce are accepted": for
`acc : Rule → Rx` (per rule, a regular expression over child rule names) `checkRule acc r` computes, by
abstract interpretation of the body of `r` over sets of Brzozowski derivatives of `acc r`, whether every
child word the body can produce (in the sense of `Prod`) lies in `Lang (acc r)`.  Soundness is proved
once, whatever `ruleDef` and `acc` are; `checkGrammar acc = true` is then evaluated by the kernel (and so
re-evaluated whenever Grammar.lean is regenerated).  `parseGsd_ok` joins it to the interpreter through `eval_prod`
(`PegFuel`: what `eval` adds lies in `Prod`).
-/
import ProfiVerif.Lemmas.PegRx
import ProfiVerif.Lemmas.PegFuel

namespace PV.Gsd.Peg
open Rx

def addTo (acc : List Rx) (x : Rx) : List Rx := if x ∈ acc then acc else acc ++ [x]

def uni (xs ys : List Rx) : List Rx := ys.foldl addTo xs

theorem mem_addTo {acc : List Rx} {x q : Rx} : q ∈ addTo acc x ↔ q ∈ acc ∨ q = x := by
  unfold addTo
  split
  · next h => constructor
              · exact .inl
              · rintro (h' | rfl)
                · exact h'
                · exact h
  · simp

theorem mem_uni {ys xs : List Rx} {q : Rx} : q ∈ uni xs ys ↔ q ∈ xs ∨ q ∈ ys := by
  unfold uni
  induction ys generalizing xs with
  | nil => simp
  | cons y ys ih =>
    simp only [List.foldl_cons, ih, mem_addTo, List.mem_cons]
    constructor
    · rintro ((h | h) | h)
      · exact .inl h
      · exact .inr (.inl h)
      · exact .inr (.inr h)
    · rintro (h | h | h)
      · exact .inl (.inl h)
      · exact .inl (.inr h)
      · exact .inr h

/-- Least set containing `T` and closed under `f`, by bounded iteration; the closure is *checked*, so
the result is right whatever the bound. -/
def starFix (f : List Rx → Option (List Rx)) : Nat → List Rx → Option (List Rx)
  | 0, _ => none
  | k + 1, T =>
    match f T with
    | none => none
    | some T' => if T'.all (fun q => decide (q ∈ T)) then some T else starFix f k (uni T T')

theorem starFix_spec {f : List Rx → Option (List Rx)} :
    ∀ {k : Nat} {S T : List Rx}, starFix f k S = some T →
      (∀ q ∈ S, q ∈ T) ∧ ∃ T', f T = some T' ∧ ∀ q ∈ T', q ∈ T
  | 0, _, _, h => by simp [starFix] at h
  | k + 1, S, T, h => by
    simp only [starFix] at h
    split at h
    · cases h
    · next T' hf =>
      split at h
      · next hall =>
        cases h
        refine ⟨fun _ h => h, T', hf, ?_⟩
        intro q hq
        simpa using (List.all_eq_true.mp hall) q hq
      · obtain ⟨h1, h2⟩ := starFix_spec h
        exact ⟨fun q hq => h1 q (mem_uni.mpr (.inl hq)), h2⟩

/-- Iteration bound of `starFix` (any value is sound; the sets here have a handful of elements). -/
def starFuel : Nat := 32

/-- Image of a set of states (derivatives of the acceptance expression) under every child word the
expression can produce.  `inl` handles calls of silent rules (their bodies are inlined). -/
def postE (inl : Bool → Rule → List Rx → Option (List Rx)) : Bool → Expr → List Rx → Option (List Rx)
  | _, .str _, S => some S
  | _, .insens _, S => some S
  | _, .range _ _, S => some S
  | _, .any, S => some S
  | _, .soi, S => some S
  | _, .newline, S => some S
  | a, .call r, S =>
    match (ruleDef r).1 with
    | .silent => inl a r S
    | _ => if a then some S else some (uni [] (S.map (Rx.deriv r)))
  | a, .seq x y, S =>
    match postE inl a x S with
    | some S1 => postE inl a y S1
    | none => none
  | a, .choice x y, S =>
    match postE inl a x S, postE inl a y S with
    | some S1, some S2 => some (uni S1 S2)
    | _, _ => none
  | a, .opt x, S =>
    match postE inl a x S with
    | some S1 => some (uni S S1)
    | none => none
  | a, .star x, S => starFix (postE inl a x) starFuel S
  | a, .plus x, S =>
    match postE inl a x S with
    | some S1 => starFix (postE inl a x) starFuel S1
    | none => none
  | _, .npred _, S => some S
  | _, .ppred _, S => some S

/-- Inlining of silent rules to nesting depth `n` (`none` beyond: the check then fails). -/
def postN : Nat → Bool → Rule → List Rx → Option (List Rx)
  | 0, _, _, _ => none
  | n + 1, a, r, S => postE (postN n) a (ruleDef r).2 S

def ruleWord (ps : List Pair) : List Rule := ps.map Pair.rule

theorem postE_sound {a : Bool} {e : Expr} {ps : List Pair} (h : Prod a e ps) :
    ∀ (n : Nat) (S S' : List Rx), postE (postN n) a e S = some S' →
      ∀ q ∈ S, derivs (ruleWord ps) q ∈ S' := by
  induction h with
  | str | insens | range | any | soi | newline | npred | ppred =>
    intro n S S' h q hq; simp only [postE] at h; cases h; exact hq
  | callSilent hs _ ih =>
    intro n S S' h q hq
    simp only [postE, hs] at h
    cases n with
    | zero => simp [postN] at h
    | succ m => exact ih m S S' (by simpa [postN] using h) q hq
  | callAtomic hs =>
    intro n S S' h q hq
    simp only [postE, ↓reduceIte, Option.some.injEq] at h
    subst h; exact hq
  | @callNode r t cs hs _ _ =>
    intro n S S' h q hq
    simp only [postE, Bool.false_eq_true, ↓reduceIte, Option.some.injEq] at h
    subst h
    simp only [ruleWord, List.map_cons, List.map_nil, Pair.rule, derivs_cons, derivs_nil]
    exact mem_uni.mpr (.inr (List.mem_map.mpr ⟨q, hq, rfl⟩))
  | seq _ _ ih1 ih2 =>
    intro n S S' h q hq
    simp only [postE] at h
    split at h
    · next S1 h1 =>
      simp only [ruleWord, List.map_append, derivs_append]
      exact ih2 n S1 S' h _ (ih1 n S S1 h1 q hq)
    · cases h
  | choiceL _ ih =>
    intro n S S' h q hq
    simp only [postE] at h
    split at h
    · next S1 S2 h1 h2 => cases h; exact mem_uni.mpr (.inl (ih n S S1 h1 q hq))
    · cases h
  | choiceR _ ih =>
    intro n S S' h q hq
    simp only [postE] at h
    split at h
    · next S1 S2 h1 h2 => cases h; exact mem_uni.mpr (.inr (ih n S S2 h2 q hq))
    · cases h
  | optNone =>
    intro n S S' h q hq
    simp only [postE] at h
    split at h
    · cases h; exact mem_uni.mpr (.inl hq)
    · cases h
  | optSome _ ih =>
    intro n S S' h q hq
    simp only [postE] at h
    split at h
    · next S1 h1 => cases h; exact mem_uni.mpr (.inr (ih n S S1 h1 q hq))
    · cases h
  | starNil =>
    intro n S S' h q hq
    simp only [postE] at h
    exact (starFix_spec h).1 q hq
  | @starCons a x p1 p2 _ _ ih1 ih2 =>
    intro n S S' h q hq
    simp only [postE] at h
    obtain ⟨hS, T', hf, hT'⟩ := starFix_spec h
    simp only [ruleWord, List.map_append, derivs_append]
    have h1 := hT' _ (ih1 n S' T' hf q (hS q hq))
    -- restart the fixpoint from the closed set: it answers the closed set itself
    have hfix : postE (postN n) a (.star x) S' = some S' := by
      simp only [postE, starFuel, starFix, hf]
      have : (T'.all fun q => decide (q ∈ S')) = true := List.all_eq_true.mpr (by simpa using hT')
      simp [this]
    exact ih2 n S' S' hfix _ h1
  | plus _ _ ih1 ih2 =>
    intro n S S' h q hq
    simp only [postE] at h
    split at h
    · next S1 h1 =>
      simp only [ruleWord, List.map_append, derivs_append]
      exact ih2 n S1 S' (by simpa only [postE] using h) _ (ih1 n S S1 h1 q hq)
    · cases h

inductive Pair.OK (acc : Rule → Rx) : Pair → Prop
  | node {r : Rule} {t : Str} {cs : List Pair} :
      Lang (acc r) (ruleWord cs) → (∀ c ∈ cs, Pair.OK acc c) → Pair.OK acc (.node r t cs)

/-- Every child word the body of `r` can produce is accepted by `acc r` (decidable; `true` for silent
rules, which never head a pair). -/
def checkRule (acc : Rule → Rx) (r : Rule) : Bool :=
  match (ruleDef r).1 with
  | .silent => true
  | ty =>
    match postE (postN callDepth) (ty == .atomic) (ruleDef r).2 [acc r] with
    | some S => S.all Rx.nullable
    | none => false

def checkGrammar (acc : Rule → Rx) : Bool := Rule.all.all (checkRule acc)

theorem checkRule_of_checkGrammar {acc : Rule → Rx} (h : checkGrammar acc = true) (r : Rule) :
    checkRule acc r = true :=
  List.all_eq_true.mp h r (Rule.mem_all r)

theorem prod_ok {acc : Rule → Rx} (hg : checkGrammar acc = true) {a : Bool} {e : Expr} {ps : List Pair}
    (h : Prod a e ps) : ∀ p ∈ ps, Pair.OK acc p := by
  induction h with
  | callSilent _ _ ih => exact ih
  | @callNode r t cs hs hb ih =>
    intro p hp
    simp only [List.mem_singleton] at hp
    subst hp
    refine .node ?_ ih
    have hc := checkRule_of_checkGrammar hg r
    unfold checkRule at hc
    split at hc
    · next hs' => exact (hs hs').elim
    · split at hc
      · next S hpost =>
        apply lang_of_derivs
        exact List.all_eq_true.mp hc _ (postE_sound hb _ _ _ hpost _ (List.mem_singleton.mpr rfl))
      · cases hc
  | seq _ _ ih1 ih2 => intro p hp; rcases List.mem_append.mp hp with hp | hp; exact ih1 p hp; exact ih2 p hp
  | choiceL _ ih => exact ih
  | choiceR _ ih => exact ih
  | optSome _ ih => exact ih
  | starCons _ _ ih1 ih2 => intro p hp; rcases List.mem_append.mp hp with hp | hp; exact ih1 p hp; exact ih2 p hp
  | plus _ _ ih1 ih2 => intro p hp; rcases List.mem_append.mp hp with hp | hp; exact ih1 p hp; exact ih2 p hp
  | _ => intro p hp; cases hp

theorem parseGsd_ok {acc : Rule → Rx} (hg : checkGrammar acc = true) (hgsd : (ruleDef .gsd).1 ≠ .silent)
    {text : Str} {p : Pair} (h : parseGsd text = some (some p)) : p.rule = .gsd ∧ Pair.OK acc p := by
  unfold parseGsd at h
  simp only at h
  split at h
  · next st hev =>
    split at h
    · next q hout =>
      cases h
      obtain ⟨new, ho, hp⟩ := eval_prod hev
      simp only [List.append_nil] at ho
      rw [hout] at ho
      subst ho
      simp only [List.reverse_cons, List.reverse_nil, List.nil_append] at hp
      refine ⟨?_, prod_ok hg hp p (List.mem_singleton.mpr rfl)⟩
      cases hp with
      | callSilent hs _ => exact (hgsd hs).elim
      | callNode _ _ => rfl
    · cases h
  · cases h
  · cases h

end PV.Gsd.Peg
