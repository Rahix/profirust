/-
Regular expressions over rule names (the words are the rule names of the children of a pest pair),
Brzozowski derivatives, and the soundness half of derivative matching:
`(derivs w e).nullable → Lang e w`.  Grammar-independent (only the type `Rule` is used).
-/
import ProfiVerif.Model.Gsd.Peg

namespace PV.Gsd.Peg

inductive Rx where
  | empty | eps | top
  | sym (r : Rule)
  | seq (a b : Rx)
  | alt (a b : Rx)
  | star (a : Rx)
  deriving DecidableEq, Repr, Inhabited

inductive Lang : Rx → List Rule → Prop
  | eps : Lang .eps []
  | top (w : List Rule) : Lang .top w
  | sym (r : Rule) : Lang (.sym r) [r]
  | seq {a b : Rx} {u v : List Rule} : Lang a u → Lang b v → Lang (.seq a b) (u ++ v)
  | altL {a b : Rx} {w : List Rule} : Lang a w → Lang (.alt a b) w
  | altR {a b : Rx} {w : List Rule} : Lang b w → Lang (.alt a b) w
  | starNil {a : Rx} : Lang (.star a) []
  | starCons {a : Rx} {u v : List Rule} : Lang a u → Lang (.star a) v → Lang (.star a) (u ++ v)

namespace Rx

def nullable : Rx → Bool
  | .empty => false
  | .eps => true
  | .top => true
  | .sym _ => false
  | .seq a b => a.nullable && b.nullable
  | .alt a b => a.nullable || b.nullable
  | .star _ => true

/-- The simplifications keep the set of derivatives small. -/
def mkSeq (a b : Rx) : Rx :=
  if a = .empty then .empty
  else if b = .empty then .empty
  else if a = .eps then b
  else if b = .eps then a
  else .seq a b

def mkAlt (a b : Rx) : Rx :=
  if a = .empty then b
  else if b = .empty then a
  else if a = b then a
  else .alt a b

def deriv (c : Rule) : Rx → Rx
  | .empty => .empty
  | .eps => .empty
  | .top => .top
  | .sym r => if r = c then .eps else .empty
  | .seq a b => if a.nullable then mkAlt (mkSeq (a.deriv c) b) (b.deriv c) else mkSeq (a.deriv c) b
  | .alt a b => mkAlt (a.deriv c) (b.deriv c)
  | .star a => mkSeq (a.deriv c) (.star a)

def derivs (w : List Rule) (e : Rx) : Rx := w.foldl (fun e c => e.deriv c) e

@[simp] theorem derivs_nil (e : Rx) : derivs [] e = e := rfl
@[simp] theorem derivs_cons (c : Rule) (w : List Rule) (e : Rx) : derivs (c :: w) e = derivs w (e.deriv c) := rfl
theorem derivs_append (u v : List Rule) (e : Rx) : derivs (u ++ v) e = derivs v (derivs u e) := by
  simp [derivs, List.foldl_append]

def seqs : List Rx → Rx
  | [] => .eps
  | [e] => e
  | e :: rest => .seq e (seqs rest)

def alts : List Rx → Rx
  | [] => .empty
  | [e] => e
  | e :: rest => .alt e (alts rest)

def opt (e : Rx) : Rx := .alt .eps e

end Rx

open Rx

theorem lang_of_nullable : ∀ e : Rx, e.nullable = true → Lang e []
  | .empty, h => by simp [nullable] at h
  | .eps, _ => .eps
  | .top, _ => .top []
  | .sym _, h => by simp [nullable] at h
  | .seq a b, h => by
    simp only [nullable, Bool.and_eq_true] at h
    exact Lang.seq (u := []) (v := []) (lang_of_nullable a h.1) (lang_of_nullable b h.2)
  | .alt a b, h => by
    simp only [nullable, Bool.or_eq_true] at h
    cases h with
    | inl h => exact .altL (lang_of_nullable a h)
    | inr h => exact .altR (lang_of_nullable b h)
  | .star _, _ => .starNil

theorem lang_empty {w : List Rule} (h : Lang .empty w) : False := by cases h

theorem lang_mkSeq {a b : Rx} {w : List Rule} (h : Lang (mkSeq a b) w) : Lang (.seq a b) w := by
  unfold mkSeq at h
  split at h
  · exact (lang_empty h).elim
  split at h
  · exact (lang_empty h).elim
  split at h
  · next ha => subst ha; exact Lang.seq (u := []) .eps h
  split at h
  · next hb => subst hb; have := Lang.seq (v := []) h .eps; simpa using this
  · exact h

theorem lang_mkAlt {a b : Rx} {w : List Rule} (h : Lang (mkAlt a b) w) : Lang (.alt a b) w := by
  unfold mkAlt at h
  split at h
  · exact .altR h
  split at h
  · exact .altL h
  split at h
  · exact .altL h
  · exact h

theorem lang_deriv (c : Rule) : ∀ (e : Rx) (w : List Rule), Lang (e.deriv c) w → Lang e (c :: w)
  | .empty, _, h => (lang_empty h).elim
  | .eps, _, h => (lang_empty h).elim
  | .top, w, _ => .top _
  | .sym r, w, h => by
    simp only [deriv] at h
    split at h
    · next hr => subst hr; cases h; exact .sym _
    · exact (lang_empty h).elim
  | .seq a b, w, h => by
    simp only [deriv] at h
    split at h
    · next hn =>
      cases lang_mkAlt h with
      | altL h1 =>
        cases lang_mkSeq h1 with
        | seq hu hv => exact Lang.seq (u := c :: _) (lang_deriv c a _ hu) hv
      | altR h2 => exact Lang.seq (u := []) (lang_of_nullable a hn) (lang_deriv c b _ h2)
    · cases lang_mkSeq h with
      | seq hu hv => exact Lang.seq (u := c :: _) (lang_deriv c a _ hu) hv
  | .alt a b, w, h => by
    simp only [deriv] at h
    cases lang_mkAlt h with
    | altL h1 => exact .altL (lang_deriv c a _ h1)
    | altR h2 => exact .altR (lang_deriv c b _ h2)
  | .star a, w, h => by
    simp only [deriv] at h
    cases lang_mkSeq h with
    | seq hu hv => exact Lang.starCons (u := c :: _) (lang_deriv c a _ hu) hv

theorem lang_of_derivs : ∀ (w : List Rule) (e : Rx), (derivs w e).nullable = true → Lang e w
  | [], e, h => lang_of_nullable e h
  | c :: w, e, h => lang_deriv c e w (lang_of_derivs w (e.deriv c) h)

theorem lang_sym_inv {r : Rule} {w : List Rule} (h : Lang (.sym r) w) : w = [r] := by cases h; rfl

theorem lang_eps_inv {w : List Rule} (h : Lang .eps w) : w = [] := by cases h; rfl

theorem lang_seq_inv {a b : Rx} {w : List Rule} (h : Lang (.seq a b) w) :
    ∃ u v, w = u ++ v ∧ Lang a u ∧ Lang b v := by
  cases h with
  | seq hu hv => exact ⟨_, _, rfl, hu, hv⟩

theorem lang_alt_inv {a b : Rx} {w : List Rule} (h : Lang (.alt a b) w) : Lang a w ∨ Lang b w := by
  cases h with
  | altL h => exact .inl h
  | altR h => exact .inr h

theorem lang_star_all {a : Rx} {P : Rule → Prop} (ha : ∀ u, Lang a u → ∀ x ∈ u, P x) :
    ∀ {w : List Rule}, Lang (.star a) w → ∀ x ∈ w, P x := by
  intro w h
  generalize he : Rx.star a = e at h
  induction h with
  | starNil => intro x hx; cases hx
  | starCons hu _ _ ih2 =>
    cases he
    intro x hx
    rcases List.mem_append.mp hx with hx | hx
    · exact ha _ hu x hx
    · exact ih2 rfl x hx
  | eps => cases he
  | top => cases he
  | sym => cases he
  | seq => cases he
  | altL => cases he
  | altR => cases he

/-! First letters: the branch `toAst` takes by looking at the next child is the branch the word took. -/

theorem Rule.mem_all (r : Rule) : r ∈ Rule.all := by cases r <;> decide

def Rx.firsts : Rx → List Rule
  | .empty => []
  | .eps => []
  | .top => Rule.all
  | .sym r => [r]
  | .seq a b => if a.nullable then a.firsts ++ b.firsts else a.firsts
  | .alt a b => a.firsts ++ b.firsts
  | .star a => a.firsts

theorem nullable_of_lang {e : Rx} {w : List Rule} (h : Lang e w) : w = [] → e.nullable = true := by
  induction h with
  | eps => intro _; rfl
  | top => intro _; rfl
  | sym => intro h; cases h
  | seq _ _ ih1 ih2 =>
    intro h
    obtain ⟨h1, h2⟩ := List.append_eq_nil_iff.mp h
    simp [nullable, ih1 h1, ih2 h2]
  | altL _ ih => intro h; simp [nullable, ih h]
  | altR _ ih => intro h; simp [nullable, ih h]
  | starNil => intro _; rfl
  | starCons => intro _; rfl

theorem firsts_spec {e : Rx} {w : List Rule} (h : Lang e w) :
    ∀ (x : Rule) (v : List Rule), w = x :: v → x ∈ e.firsts := by
  induction h with
  | eps => intro x v h; cases h
  | top => intro x v _; exact Rule.mem_all x
  | sym r => intro x v h; cases h; simp [Rx.firsts]
  | @seq a b u v' hu _ ih1 ih2 =>
    intro x t h
    simp only [Rx.firsts]
    cases u with
    | nil =>
      have hn := nullable_of_lang hu rfl
      simp only [hn, if_true]
      exact List.mem_append.mpr (.inr (ih2 x t (by simpa using h)))
    | cons y u' =>
      have hy : y = x := by simpa using congrArg List.head? h
      have := ih1 y u' rfl
      subst hy
      split
      · exact List.mem_append.mpr (.inl this)
      · exact this
  | altL _ ih => intro x v h; exact List.mem_append.mpr (.inl (ih x v h))
  | altR _ ih => intro x v h; exact List.mem_append.mpr (.inr (ih x v h))
  | starNil => intro x v h; cases h
  | @starCons a u v' _ _ ih1 ih2 =>
    intro x t h
    cases u with
    | nil => exact ih2 x t (by simpa using h)
    | cons y u' =>
      have hy : y = x := by simpa using congrArg List.head? h
      subst hy
      exact ih1 y u' rfl

end PV.Gsd.Peg
