/-
`Prod atomic e ps`: the pair lists an expression can *syntactically* produce, for an arbitrary `ruleDef`
— terminals and predicates produce nothing, a call of a silent rule what its body produces, a call of a
normal or atomic rule nothing inside an atomic context and otherwise one pair whose children the body
produces (in atomic mode for `@` rules, so: none); sequences and repetitions concatenate.  That `eval`
produces nothing else is `eval_prod` in `Lemmas/PegFuel.lean`.
-/
import ProfiVerif.Lemmas.PegEv

namespace PV.Gsd.Peg

inductive Prod : Bool → Expr → List Pair → Prop
  | str {a : Bool} {l : Str} : Prod a (.str l) []
  | insens {a : Bool} {l : Str} : Prod a (.insens l) []
  | range {a : Bool} {lo hi : Char} : Prod a (.range lo hi) []
  | any {a : Bool} : Prod a .any []
  | soi {a : Bool} : Prod a .soi []
  | newline {a : Bool} : Prod a .newline []
  | callSilent {a : Bool} {r : Rule} {ps : List Pair} :
      (ruleDef r).1 = .silent → Prod a (ruleDef r).2 ps → Prod a (.call r) ps
  | callAtomic {r : Rule} : (ruleDef r).1 ≠ .silent → Prod true (.call r) []
  | callNode {r : Rule} {t : Str} {cs : List Pair} :
      (ruleDef r).1 ≠ .silent → Prod ((ruleDef r).1 == .atomic) (ruleDef r).2 cs →
      Prod false (.call r) [.node r t cs]
  | seq {a : Bool} {x y : Expr} {p q : List Pair} : Prod a x p → Prod a y q → Prod a (.seq x y) (p ++ q)
  | choiceL {a : Bool} {x y : Expr} {p : List Pair} : Prod a x p → Prod a (.choice x y) p
  | choiceR {a : Bool} {x y : Expr} {p : List Pair} : Prod a y p → Prod a (.choice x y) p
  | optNone {a : Bool} {x : Expr} : Prod a (.opt x) []
  | optSome {a : Bool} {x : Expr} {p : List Pair} : Prod a x p → Prod a (.opt x) p
  | starNil {a : Bool} {x : Expr} : Prod a (.star x) []
  | starCons {a : Bool} {x : Expr} {p q : List Pair} : Prod a x p → Prod a (.star x) q → Prod a (.star x) (p ++ q)
  | plus {a : Bool} {x : Expr} {p q : List Pair} : Prod a x p → Prod a (.star x) q → Prod a (.plus x) (p ++ q)
  | npred {a : Bool} {x : Expr} : Prod a (.npred x) []
  | ppred {a : Bool} {x : Expr} : Prod a (.ppred x) []

theorem prod_atomic_nil {a : Bool} {e : Expr} {ps : List Pair} (h : Prod a e ps) : a = true → ps = [] := by
  induction h with
  | callSilent _ _ ih => exact ih
  | callNode => intro h; cases h
  | seq _ _ ih1 ih2 => intro h; simp [ih1 h, ih2 h]
  | choiceL _ ih => exact ih
  | choiceR _ ih => exact ih
  | optSome _ ih => exact ih
  | starCons _ _ ih1 ih2 => intro h; simp [ih1 h, ih2 h]
  | plus _ _ ih1 ih2 => intro h; simp [ih1 h, ih2 h]
  | _ => intro _; rfl

end PV.Gsd.Peg
