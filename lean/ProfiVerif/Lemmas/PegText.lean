/-
The PEG on canonical text, token level: what gsd.pest does on identifiers, numbers, string literals and
at places without white space.  `mk rest pos out` is the parser state; a token lemma reads
`Ev … (mk (token ++ tail) p o) (.ok (mk tail (p + token.length) …))` under a condition on the first
character of `tail`.  Segments (`Sg`) pack this shape together with what the text shows in front, with combinators
for sequences, rule calls, choices and repetitions, from which the rule-by-rule files compose.
-/
import ProfiVerif.Lemmas.PegEv

namespace PV.Gsd.Peg

abbrev mk (rest : Str) (pos : Nat) (out : List Pair) : PS := ⟨rest, pos, out⟩

/-- Holds at the end of the text ("no character follows that would …"), where `Fst` below ("a character is there,
and it is such") does not. -/
def Head (P : Char → Prop) : Str → Prop
  | [] => True
  | c :: _ => P c

theorem Head.mono {P Q : Char → Prop} (h : ∀ c, P c → Q c) : ∀ {t : Str}, Head P t → Head Q t
  | [], _ => trivial
  | c :: _, hp => h c hp

theorem matchStr_single_none {c : Char} : ∀ {t : Str}, Head (· ≠ c) t → matchStr [c] t = none
  | [], _ => rfl
  | d :: _, h => by
    have : ¬ c = d := fun e => h e.symm
    simp [matchStr, this]

theorem matchStr_single_some {c : Char} {t : Str} : matchStr [c] (c :: t) = some t := by simp [matchStr]

theorem matchStr_append (l t : Str) : matchStr l (l ++ t) = some t := by
  induction l with
  | nil => rfl
  | cons a l ih => simp [matchStr, ih]

def NoSkipChar (c : Char) : Prop := c ≠ ' ' ∧ c ≠ '\t' ∧ c ≠ '\\' ∧ c ≠ ';'

theorem ws_fail {rest : Str} {p : Nat} {o : List Pair} (h : Head NoSkipChar rest) :
    Ev true (.call .WHITESPACE) (mk rest p o) .fail := by
  refine Ev.call_silent rfl ?_
  show Ev true (.choice (.str [' ']) (.choice (.str ['\t']) (.seq (.str ['\\']) .newline))) _ _
  refine Ev.choice_r (Ev.str_fail (matchStr_single_none (h.mono fun c hc => hc.1))) ?_
  refine Ev.choice_r (Ev.str_fail (matchStr_single_none (h.mono fun c hc => hc.2.1))) ?_
  exact Ev.seq_fail (Ev.str_fail (matchStr_single_none (h.mono fun c hc => hc.2.2.1)))

theorem comment_fail {rest : Str} {p : Nat} {o : List Pair} (h : Head NoSkipChar rest) :
    Ev true (.call .COMMENT) (mk rest p o) .fail := by
  refine Ev.call_silent rfl ?_
  show Ev true (.seq (.str [';']) _) _ _
  exact Ev.seq_fail (Ev.str_fail (matchStr_single_none (h.mono fun c hc => hc.2.2.2)))

theorem sk_none {rest : Str} {p : Nat} {o : List Pair} (h : Head NoSkipChar rest) :
    Sk false (mk rest p o) (.ok (mk rest p o)) := by
  refine Sk.of_ev ?_
  show Ev true (.seq (.star (.call .WHITESPACE)) (.star (.seq (.call .COMMENT) (.star (.call .WHITESPACE))))) _ _
  exact Ev.seq (Ev.star_nil (ws_fail h)) Sk.atomic (Ev.star_nil (Ev.seq_fail (comment_fail h)))

/-- One blank is skipped (canonical separator between two tokens that would otherwise merge). -/
theorem sk_blank {rest : Str} {p : Nat} {o : List Pair} (h : Head NoSkipChar rest) :
    Sk false (mk (' ' :: rest) p o) (.ok (mk rest (p + 1) o)) := by
  refine Sk.of_ev ?_
  show Ev true (.seq (.star (.call .WHITESPACE)) (.star (.seq (.call .COMMENT) (.star (.call .WHITESPACE))))) _ _
  have hws : Ev true (.call .WHITESPACE) (mk (' ' :: rest) p o) (.ok (mk rest (p + 1) o)) := by
    refine Ev.call_silent rfl ?_
    show Ev true (.choice (.str [' ']) _) _ _
    exact Ev.choice_l (Ev.str_ok (l := [' ']) matchStr_single_some)
  exact Ev.seq (Ev.star_cons hws (Lp.stop Sk.atomic (ws_fail h))) Sk.atomic
    (Ev.star_nil (Ev.seq_fail (comment_fail h)))

section chars
variable {x : Expr} {P : Char → Prop} {Stop : Str → Prop}
  (hok : ∀ c rest p o, P c → Ev true x (mk (c :: rest) p o) (.ok (mk rest (p + 1) o)))
  (hfail : ∀ rest p o, Stop rest → Ev true x (mk rest p o) .fail)
include hok hfail

theorem lp_chars : ∀ (w tail : Str) (p : Nat) (o : List Pair), (∀ c ∈ w, P c) → Stop tail →
    Lp true x (mk (w ++ tail) p o) (.ok (mk tail (p + w.length) o))
  | [], tail, p, o, _, hs => Lp.stop Sk.atomic (hfail tail p o hs)
  | c :: w, tail, p, o, hw, hs => by
    have ih := lp_chars w tail (p + 1) o (fun d hd => hw d (List.mem_cons_of_mem _ hd)) hs
    have e : p + 1 + w.length = p + (c :: w).length := by simp only [List.length_cons]; omega
    rw [e] at ih
    exact Lp.step Sk.atomic (hok c (w ++ tail) p o (hw c (List.mem_cons_self ..))) ih

theorem star_chars (w tail : Str) (p : Nat) (o : List Pair) (hw : ∀ c ∈ w, P c) (hs : Stop tail) :
    Ev true (.star x) (mk (w ++ tail) p o) (.ok (mk tail (p + w.length) o)) := by
  cases w with
  | nil => exact Ev.star_nil (hfail tail p o hs)
  | cons c w =>
    have ih := lp_chars hok hfail w tail (p + 1) o (fun d hd => hw d (List.mem_cons_of_mem _ hd)) hs
    have e : p + 1 + w.length = p + (c :: w).length := by simp only [List.length_cons]; omega
    rw [e] at ih
    exact Ev.star_cons (hok c (w ++ tail) p o (hw c (List.mem_cons_self ..))) ih

theorem plus_chars (c : Char) (w tail : Str) (p : Nat) (o : List Pair) (hw : ∀ d ∈ c :: w, P d) (hs : Stop tail) :
    Ev true (.plus x) (mk (c :: w ++ tail) p o) (.ok (mk tail (p + (c :: w).length) o)) := by
  have h1 := hok c (w ++ tail) p o (hw c (List.mem_cons_self ..))
  cases w with
  | nil => exact Ev.plus_one h1 Sk.atomic (hfail tail (p + 1) o hs)
  | cons d w =>
    have hd := hok d (w ++ tail) (p + 1) o (hw d (by simp))
    have ih := lp_chars hok hfail w tail (p + 1 + 1) o (fun e he => hw e (by simp [he])) hs
    have e : p + 1 + 1 + w.length = p + (c :: d :: w).length := by simp only [List.length_cons]; omega
    rw [e] at ih
    exact Ev.plus_more h1 Sk.atomic hd ih

end chars

def IsIdChar (c : Char) : Prop :=
  ('0'.val ≤ c.val ∧ c.val ≤ '9'.val) ∨ ('a'.val ≤ c.val ∧ c.val ≤ 'z'.val) ∨ ('A'.val ≤ c.val ∧ c.val ≤ 'Z'.val) ∨
    c = '_' ∨ c = '.'

instance (c : Char) : Decidable (IsIdChar c) := by unfold IsIdChar; infer_instance

def partE : Expr := .call .identifier_part

theorem part_ok (c : Char) (rest : Str) (p : Nat) (o : List Pair) (h : IsIdChar c) :
    Ev true partE (mk (c :: rest) p o) (.ok (mk rest (p + 1) o)) := by
  refine Ev.call_silent rfl ?_
  show Ev true (.choice (.choice (.range '0' '9') (.choice (.range 'a' 'z') (.range 'A' 'Z')))
    (.choice (.str ['_']) (.str ['.']))) _ _
  by_cases h0 : '0'.val ≤ c.val ∧ c.val ≤ '9'.val
  · exact Ev.choice_l (Ev.choice_l (Ev.range_ok rfl h0))
  have f0 : Ev true (.range '0' '9') (mk (c :: rest) p o) .fail :=
    Ev.range_fail (by intro ch r' e; cases e; exact h0)
  by_cases h1 : 'a'.val ≤ c.val ∧ c.val ≤ 'z'.val
  · exact Ev.choice_l (Ev.choice_r f0 (Ev.choice_l (Ev.range_ok rfl h1)))
  have f1 : Ev true (.range 'a' 'z') (mk (c :: rest) p o) .fail :=
    Ev.range_fail (by intro ch r' e; cases e; exact h1)
  by_cases h2 : 'A'.val ≤ c.val ∧ c.val ≤ 'Z'.val
  · exact Ev.choice_l (Ev.choice_r f0 (Ev.choice_r f1 (Ev.range_ok rfl h2)))
  have f2 : Ev true (.range 'A' 'Z') (mk (c :: rest) p o) .fail :=
    Ev.range_fail (by intro ch r' e; cases e; exact h2)
  refine Ev.choice_r (Ev.choice_r f0 (Ev.choice_r f1 f2)) ?_
  by_cases h3 : c = '_'
  · subst h3; exact Ev.choice_l (Ev.str_ok (l := ['_']) matchStr_single_some)
  have h4 : c = '.' := by
    rcases h with h | h | h | h | h
    · exact (h0 h).elim
    · exact (h1 h).elim
    · exact (h2 h).elim
    · exact (h3 h).elim
    · exact h
  subst h4
  exact Ev.choice_r (Ev.str_fail (matchStr_single_none (t := '.' :: rest) (show ('.' : Char) ≠ '_' by decide))) (Ev.str_ok (l := ['.']) matchStr_single_some)

theorem part_fail (rest : Str) (p : Nat) (o : List Pair) (h : Head (¬ IsIdChar ·) rest) :
    Ev true partE (mk rest p o) .fail := by
  refine Ev.call_silent rfl ?_
  show Ev true (.choice (.choice (.range '0' '9') (.choice (.range 'a' 'z') (.range 'A' 'Z')))
    (.choice (.str ['_']) (.str ['.']))) _ _
  have hr : ∀ lo hi : Char, (∀ c, lo.val ≤ c.val ∧ c.val ≤ hi.val → IsIdChar c) →
      Ev true (.range lo hi) (mk rest p o) .fail := by
    intro lo hi hsub
    refine Ev.range_fail ?_
    intro ch r' e hc
    have e' : rest = ch :: r' := e
    subst e'
    exact h (hsub ch hc)
  refine Ev.choice_r (Ev.choice_r (hr _ _ fun c hc => .inl hc)
    (Ev.choice_r (hr _ _ fun c hc => .inr (.inl hc)) (hr _ _ fun c hc => .inr (.inr (.inl hc))))) ?_
  refine Ev.choice_r (Ev.str_fail (matchStr_single_none (h.mono ?_))) (Ev.str_fail (matchStr_single_none (h.mono ?_)))
  · intro c hc e; exact hc (.inr (.inr (.inr (.inl e))))
  · intro c hc e; exact hc (.inr (.inr (.inr (.inr e))))

theorem take_token (tok tail : Str) (p : Nat) : List.take (p + tok.length - p) (tok ++ tail) = tok := by
  rw [Nat.add_sub_cancel_left]; exact List.take_left' rfl

theorem identifier_ok (c : Char) (w tail : Str) (p : Nat) (o : List Pair) (hw : ∀ d ∈ c :: w, IsIdChar d)
    (hs : Head (¬ IsIdChar ·) tail) :
    Ev false (.call .identifier) (mk (c :: w ++ tail) p o)
      (.ok (mk tail (p + (c :: w).length) (.node .identifier (c :: w) [] :: o))) := by
  have hb := plus_chars part_ok part_fail c w tail p [] hw hs
  have := Ev.call_node (q := .identifier) (ty := .atomic) (st := mk (c :: w ++ tail) p o) rfl (by decide) hb
  simpa only [mk, take_token (c :: w) tail p, List.reverse_nil] using this

theorem identifier_fail (rest : Str) (p : Nat) (o : List Pair) (h : Head (¬ IsIdChar ·) rest) :
    Ev false (.call .identifier) (mk rest p o) .fail :=
  Ev.call_fail (by decide) (Ev.plus_fail (part_fail rest p [] h))

def IsDigit (c : Char) : Prop := '0'.val ≤ c.val ∧ c.val ≤ '9'.val

instance (c : Char) : Decidable (IsDigit c) := by unfold IsDigit; infer_instance

/-- Text of a `dec_number` without fraction: digits, optionally after a minus sign. -/
def DecText (t : Str) : Prop :=
  ∃ d ds, (t = d :: ds ∨ t = '-' :: d :: ds) ∧ ∀ c ∈ d :: ds, IsDigit c

def NumStop (c : Char) : Prop := ¬ IsDigit c ∧ c ≠ '.' ∧ c ≠ 'x'

theorem digit_ok (c : Char) (rest : Str) (p : Nat) (o : List Pair) (h : IsDigit c) :
    Ev true (.range '0' '9') (mk (c :: rest) p o) (.ok (mk rest (p + 1) o)) := Ev.range_ok rfl h

theorem digit_fail (rest : Str) (p : Nat) (o : List Pair) (h : Head (¬ IsDigit ·) rest) :
    Ev true (.range '0' '9') (mk rest p o) .fail := by
  refine Ev.range_fail ?_
  intro ch r' e hc
  have e' : rest = ch :: r' := e
  subst e'
  exact h hc

theorem no0x {t tail : Str} (ht : DecText t) (hs : Head NumStop tail) : matchStr ['0', 'x'] (t ++ tail) = none := by
  obtain ⟨d, ds, ht, hd⟩ := ht
  rcases ht with rfl | rfl
  · simp only [List.cons_append, matchStr]
    split
    · cases ds with
      | nil => exact matchStr_single_none (hs.mono fun c hc => hc.2.2)
      | cons e ds =>
        have he : IsDigit e := hd e (by simp)
        have : ¬ 'x' = e := by intro h; subst h; revert he; decide
        simp [matchStr, this]
    · rfl
  · simp [matchStr]

theorem decBody_ok {t tail : Str} (ht : DecText t) (hs : Head NumStop tail) (p : Nat) :
    Ev true (ruleDef .dec_number).2 (mk (t ++ tail) p []) (.ok (mk tail (p + t.length) [])) := by
  show Ev true (.seq (.opt (.str ['-'])) (.seq (.plus (.range '0' '9'))
    (.opt (.seq (.str ['.']) (.plus (.range '0' '9')))))) _ _
  obtain ⟨d, ds, ht, hd⟩ := ht
  have hstop : Head (¬ IsDigit ·) tail := hs.mono fun c hc => hc.1
  have hfrac : ∀ q, Ev true (.opt (.seq (.str ['.']) (.plus (.range '0' '9')))) (mk tail q []) (.ok (mk tail q [])) :=
    fun q => Ev.opt_none (Ev.seq_fail (Ev.str_fail (matchStr_single_none (hs.mono fun c hc => hc.2.1))))
  rcases ht with rfl | rfl
  · have hminus : Ev true (.opt (.str ['-'])) (mk (d :: ds ++ tail) p []) (.ok (mk (d :: ds ++ tail) p [])) := by
      refine Ev.opt_none (Ev.str_fail (matchStr_single_none (t := d :: ds ++ tail) ?_))
      show d ≠ '-'
      intro h; subst h; have := hd '-' (by simp); revert this; decide
    exact Ev.seq hminus Sk.atomic (Ev.seq (plus_chars digit_ok digit_fail d ds tail p [] hd hstop) Sk.atomic (hfrac _))
  · have hminus : Ev true (.opt (.str ['-'])) (mk ('-' :: d :: ds ++ tail) p []) (.ok (mk (d :: ds ++ tail) (p + 1) [])) :=
      Ev.opt_some (Ev.str_ok (l := ['-']) matchStr_single_some)
    have hp := plus_chars digit_ok digit_fail d ds tail (p + 1) [] hd hstop
    have e : p + 1 + (d :: ds).length = p + ('-' :: d :: ds).length := by simp only [List.length_cons]; omega
    rw [e] at hp
    exact Ev.seq hminus Sk.atomic (Ev.seq hp Sk.atomic (hfrac _))

theorem number_ok {t tail : Str} (ht : DecText t) (hs : Head NumStop tail) (p : Nat) (o : List Pair) :
    Ev false (.call .number) (mk (t ++ tail) p o)
      (.ok (mk tail (p + t.length) (.node .dec_number t [] :: o))) := by
  refine Ev.call_silent rfl ?_
  show Ev false (.choice (.call .hex_number) (.call .dec_number)) _ _
  have hhex : Ev false (.call .hex_number) (mk (t ++ tail) p o) .fail := by
    refine Ev.call_fail (by decide) ?_
    show Ev true (.seq (.str ['0', 'x']) _) _ _
    exact Ev.seq_fail (Ev.str_fail (no0x ht hs))
  refine Ev.choice_r hhex ?_
  have := Ev.call_node (q := .dec_number) (ty := .atomic) (st := mk (t ++ tail) p o) rfl (by decide) (decBody_ok ht hs p)
  simpa only [mk, take_token t tail p, List.reverse_nil] using this

theorem number_fail (rest : Str) (p : Nat) (o : List Pair) (h : Head (fun c => ¬ IsDigit c ∧ c ≠ '-') rest) :
    Ev false (.call .number) (mk rest p o) .fail := by
  refine Ev.call_silent rfl ?_
  show Ev false (.choice (.call .hex_number) (.call .dec_number)) _ _
  have h0 : matchStr ['0', 'x'] rest = none := by
    cases rest with
    | nil => rfl
    | cons c r =>
      have : ¬ '0' = c := by intro e; subst e; exact h.1 (by decide)
      simp [matchStr, this]
  refine Ev.choice_r (Ev.call_fail (by decide) (Ev.seq_fail (Ev.str_fail h0))) ?_
  refine Ev.call_fail (by decide) ?_
  show Ev true (.seq (.opt (.str ['-'])) (.seq (.plus (.range '0' '9')) _)) _ _
  refine Ev.seq (Ev.opt_none (Ev.str_fail (matchStr_single_none (h.mono fun c hc => hc.2)))) Sk.atomic ?_
  exact Ev.seq_fail (Ev.plus_fail (digit_fail rest p [] (h.mono fun c hc => hc.1)))

theorem strBody_ok (s tail : Str) (hs : ∀ c ∈ s, c ≠ '"') (p : Nat) :
    Ev true (ruleDef .string_literal).2 (mk ('"' :: (s ++ '"' :: tail)) p [])
      (.ok (mk tail (p + (s.length + 2)) [])) := by
  show Ev true (.seq (.str ['"']) (.seq (.star (.seq (.npred (.str ['"'])) .any)) (.str ['"']))) _ _
  have hok : ∀ c rest p o, c ≠ '"' →
      Ev true (.seq (.npred (.str ['"'])) .any) (mk (c :: rest) p o) (.ok (mk rest (p + 1) o)) := by
    intro c rest p o hc
    exact Ev.seq (Ev.npred_ok (Ev.str_fail (matchStr_single_none (t := c :: rest) hc))) Sk.atomic (Ev.any_ok rfl)
  have hfail : ∀ rest p o, (∃ r, rest = '"' :: r) →
      Ev true (.seq (.npred (.str ['"'])) .any) (mk rest p o) .fail := by
    rintro rest p o ⟨r, rfl⟩
    exact Ev.seq_fail (Ev.npred_fail (Ev.str_ok (l := ['"']) matchStr_single_some))
  have h1 : Ev true (.str ['"']) (mk ('"' :: (s ++ '"' :: tail)) p []) (.ok (mk (s ++ '"' :: tail) (p + 1) [])) :=
    Ev.str_ok (l := ['"']) matchStr_single_some
  have h2 := star_chars hok hfail s ('"' :: tail) (p + 1) [] hs ⟨tail, rfl⟩
  have h3 : Ev true (.str ['"']) (mk ('"' :: tail) (p + 1 + s.length) []) (.ok (mk tail (p + 1 + s.length + 1) [])) :=
    Ev.str_ok (l := ['"']) matchStr_single_some
  have e : p + 1 + s.length + 1 = p + (s.length + 2) := by omega
  rw [e] at h3
  exact Ev.seq h1 Sk.atomic (Ev.seq h2 Sk.atomic h3)

theorem string_ok (s tail : Str) (hs : ∀ c ∈ s, c ≠ '"') (p : Nat) (o : List Pair) :
    Ev false (.call .string_literal) (mk ('"' :: (s ++ '"' :: tail)) p o)
      (.ok (mk tail (p + (s.length + 2)) (.node .string_literal ('"' :: (s ++ ['"'])) [] :: o))) := by
  have := Ev.call_node (q := .string_literal) (ty := .atomic) (st := mk ('"' :: (s ++ '"' :: tail)) p o) rfl (by decide)
    (strBody_ok s tail hs p)
  have ht : List.take (p + (s.length + 2) - p) ('"' :: (s ++ '"' :: tail)) = '"' :: (s ++ ['"']) := by
    have := take_token ('"' :: (s ++ ['"'])) tail p
    simpa [Nat.add_assoc] using this
  simpa only [mk, ht, List.reverse_nil] using this

theorem string_fail (rest : Str) (p : Nat) (o : List Pair) (h : Head (· ≠ '"') rest) :
    Ev false (.call .string_literal) (mk rest p o) .fail :=
  Ev.call_fail (by decide) (Ev.seq_fail (Ev.str_fail (matchStr_single_none h)))

def Any : Str → Prop := fun _ => True

theorem matchInsens_lower : ∀ (l t : Str), matchInsens (l.map Char.toLower) (l ++ t) = some t
  | [], _ => rfl
  | a :: l, t => by simp [matchInsens, matchInsens_lower l t]

theorem Ev.alts_at {a : Bool} {st s1 : PS} : ∀ (es : List Expr) (i : Nat) {e : Expr}, es[i]? = some e →
    (∀ j x, j < i → es[j]? = some x → Ev a x st .fail) → Ev a e st (.ok s1) → Ev a (alts es) st (.ok s1)
  | [], _, _, hi, _, _ => by cases hi
  | [_], 0, _, hi, _, h => by cases hi; exact h
  | [_], _ + 1, _, hi, _, _ => by cases hi
  | _ :: _ :: _, 0, _, hi, _, h => by cases hi; exact Ev.choice_l h
  | x :: y :: ys, i + 1, _, hi, hpre, h =>
    Ev.choice_r (hpre 0 x (Nat.succ_pos _) rfl)
      (Ev.alts_at (y :: ys) i hi (fun j z hj hz => hpre (j + 1) z (Nat.succ_lt_succ hj) hz) h)

theorem Ev.alts_fail {a : Bool} {st : PS} : ∀ (es : List Expr), (∀ x ∈ es, Ev a x st .fail) → Ev a (alts es) st .fail
  | [], _ => Ev.npred_fail (Ev.str_ok (l := []) rfl)
  | [x], h => h x (List.mem_cons_self ..)
  | x :: y :: ys, h =>
    Ev.choice_r (h x (List.mem_cons_self ..)) (Ev.alts_fail (y :: ys) fun z hz => h z (List.mem_cons_of_mem _ hz))

/-! ### Segments

`Sg e t ps S T`: `e` reads the text `t` in front of any tail that satisfies `S` — what `e` *needs behind it* — wherever
it stands, and adds the pairs `ps` (in text order); the text it stands at then satisfies `T` — what it *shows in
front*.  A `~` links the front of its right part to the need of its left part (`Link`); position, remaining text,
output and the texts themselves are bookkept here once.  A rule body is written as the grammar writes it, `seqs […]`,
one line per element: `Sg.cons h (hm := link to what follows) <| rest`. -/

def Fst (Q : Char → Prop) (s : Str) : Prop := ∃ c r, s = c :: r ∧ Q c

theorem Fst.mono {Q P : Char → Prop} {s : Str} (h : Fst Q s) (hq : ∀ c, Q c → P c) : Fst P s := by
  obtain ⟨c, r, rfl, hc⟩ := h
  exact ⟨c, r, rfl, hq c hc⟩

theorem Fst.head {Q P : Char → Prop} {s : Str} (h : Fst Q s) (hq : ∀ c, Q c → P c) : Head P s := by
  obtain ⟨c, r, rfl, hc⟩ := h
  exact hq c hc

def Begins (w s : Str) : Prop := ∃ r, s = w ++ r

structure Sg (e : Expr) (t : Str) (ps : List Pair) (S T : Str → Prop) : Prop where
  intro ::
  reads : ∀ tail p o, S tail → Ev false e (mk (t ++ tail) p o) (.ok (mk tail (p + t.length) (ps.reverse ++ o)))
  front : ∀ tail, S tail → T (t ++ tail)

/-- What a `~` asks: the front `T` of what follows is what the part before it needs (`S`), and nothing of it is
skipped. -/
def Link (T S : Str → Prop) : Prop := ∀ s, T s → S s ∧ Head NoSkipChar s

theorem Link.fst {Q P : Char → Prop} (h : ∀ c, Q c → P c ∧ NoSkipChar c) : Link (Fst Q) (Head P) := by
  rintro _ ⟨c, r, rfl, hc⟩
  exact h c hc

theorem Link.char {P : Char → Prop} {c : Char} (h : P c ∧ NoSkipChar c) : Link (Fst (· = c)) (Head P) :=
  .fst (by rintro _ rfl; exact h)

theorem Link.any {Q : Char → Prop} (h : ∀ c, Q c → NoSkipChar c) : Link (Fst Q) Any := by
  rintro _ ⟨c, r, rfl, hc⟩
  exact ⟨trivial, h c hc⟩

theorem Link.anyChar {c : Char} (h : NoSkipChar c) : Link (Fst (· = c)) Any :=
  .any (by rintro _ rfl; exact h)

theorem Link.self {T : Str → Prop} (h : ∀ s, T s → Head NoSkipChar s) : Link T T := fun s hs => ⟨hs, h s hs⟩

theorem Link.blank {Q : Char → Prop} {S : Str → Prop} (h1 : ∀ r, S (' ' :: r)) (h : ∀ c, Q c → NoSkipChar c) :
    Link (Fst Q) fun s => S (' ' :: s) := by
  rintro _ ⟨c, r, rfl, hc⟩
  exact ⟨h1 _, h c hc⟩

namespace Sg
variable {x y : Expr} {ys : List Expr} {t t1 t2 : Str} {ps ps1 ps2 : List Pair} {S S' S1 S2 T T' T1 T2 : Str → Prop}

theorem mono (h : Sg x t ps S T) (hs : ∀ s, S' s → S s) (ht : ∀ s, T s → T' s) : Sg x t ps S' T' :=
  ⟨fun tail p o h' => h.reads tail p o (hs tail h'), fun tail h' => ht _ (h.front tail (hs tail h'))⟩

theorem cast {t' : Str} {ps' : List Pair} (h : Sg x t ps S T) (ht : t = t') (hp : ps = ps') : Sg x t' ps' S T :=
  ht ▸ hp ▸ h

theorem begins (h : Sg x t ps S T) : Sg x t ps S (Begins t) := ⟨h.reads, fun tail _ => ⟨tail, rfl⟩⟩

theorem last (h : Sg x t ps S T) : Sg (seqs [x]) t ps S T := h

theorem cons (h1 : Sg x t1 ps1 S1 T1) (h2 : Sg (seqs (y :: ys)) t2 ps2 S2 T2) (hm : Link T2 S1) :
    Sg (seqs (x :: y :: ys)) (t1 ++ t2) (ps1 ++ ps2) S2 T1 where
  reads tail p o ht := by
    have hl := hm _ (h2.front tail ht)
    have e1 := h1.reads (t2 ++ tail) p o hl.1
    have e2 := h2.reads tail (p + t1.length) (ps1.reverse ++ o) ht
    rw [List.append_assoc, List.length_append, ← Nat.add_assoc, List.reverse_append, List.append_assoc]
    exact Ev.seq e1 (sk_none hl.2) e2
  front tail ht := by
    rw [List.append_assoc]
    exact h1.front _ (hm _ (h2.front tail ht)).1

theorem consB (h1 : Sg x t1 ps1 S1 T1) (h2 : Sg (seqs (y :: ys)) t2 ps2 S2 T2) (hm : Link T2 fun s => S1 (' ' :: s)) :
    Sg (seqs (x :: y :: ys)) (t1 ++ ' ' :: t2) (ps1 ++ ps2) S2 T1 where
  reads tail p o ht := by
    have hl := hm _ (h2.front tail ht)
    have e1 := h1.reads (' ' :: (t2 ++ tail)) p o hl.1
    have e2 := h2.reads tail (p + t1.length + 1) (ps1.reverse ++ o) ht
    rw [List.append_assoc, List.length_append, List.length_cons, List.reverse_append, List.append_assoc,
      show p + (t1.length + (t2.length + 1)) = p + t1.length + 1 + t2.length by omega]
    exact Ev.seq e1 (sk_blank hl.2) e2
  front tail ht := by
    rw [List.append_assoc]
    exact h1.front _ (hm _ (h2.front tail ht)).1

theorem node {q : Rule} {body : Expr} (hq : ruleDef q = (.normal, body)) (h : Sg body t ps S T) :
    Sg (.call q) t [.node q t ps] S T where
  reads tail p o ht := by
    have hb := h.reads tail p [] ht
    rw [List.append_nil] at hb
    have hty : (ruleDef q).1 = .normal := by rw [hq]
    have := Ev.call_node (q := q) (ty := .normal) (st := mk (t ++ tail) p o) hty (by decide) (by rw [hq]; exact hb)
    simpa only [mk, take_token t tail p, List.reverse_reverse, List.reverse_cons, List.reverse_nil, List.nil_append,
      List.singleton_append] using this
  front := h.front

theorem choice_l (h : Sg x t ps S T) : Sg (.choice x y) t ps S T :=
  ⟨fun tail p o ht => Ev.choice_l (h.reads tail p o ht), h.front⟩

theorem choice_r (hf : ∀ tail p o, S tail → Ev false x (mk (t ++ tail) p o) .fail) (h : Sg y t ps S T) :
    Sg (.choice x y) t ps S T :=
  ⟨fun tail p o ht => Ev.choice_r (hf tail p o ht) (h.reads tail p o ht), h.front⟩

theorem opt_some (h : Sg x t ps S T) : Sg (.opt x) t ps S T :=
  ⟨fun tail p o ht => Ev.opt_some (h.reads tail p o ht), h.front⟩

theorem opt_none (hf : ∀ tail p o, S tail → Ev false x (mk tail p o) .fail) : Sg (.opt x) [] [] S S :=
  ⟨fun tail p o ht => Ev.opt_none (hf tail p o ht), fun _ h => h⟩

theorem star_nil (hf : ∀ tail p o, S tail → Ev false x (mk tail p o) .fail) : Sg (.star x) [] [] S S :=
  ⟨fun tail p o ht => Ev.star_nil (hf tail p o ht), fun _ h => h⟩

theorem chr (c : Char) : Sg (.str [c]) [c] [] Any (Fst (· = c)) :=
  ⟨fun tail p o _ => Ev.str_ok (st := mk ([c] ++ tail) p o) (matchStr_append [c] tail), fun tail _ => ⟨c, tail, rfl, rfl⟩⟩

theorem insens (lit : Str) : Sg (.insens (lit.map Char.toLower)) lit [] Any (Begins lit) where
  reads tail p o _ := by
    have := Ev.insens_ok (a := false) (st := mk (lit ++ tail) p o) (matchInsens_lower lit tail)
    simpa only [mk, List.length_map, List.reverse_nil, List.nil_append] using this
  front tail _ := ⟨tail, rfl⟩

end Sg

/-- A segment together with the implicit skip in front of it (a blank or nothing, depending on the text: the
optional constraint behind a default value). -/
structure SgSk (e : Expr) (t : Str) (ps : List Pair) (S T : Str → Prop) : Prop where
  intro ::
  reads : ∀ tail p o, S tail → ∃ st1, Sk false (mk (t ++ tail) p o) (.ok st1) ∧
    Ev false e st1 (.ok (mk tail (p + t.length) (ps.reverse ++ o)))
  front : ∀ tail, S tail → T (t ++ tail)

section sk
variable {x y : Expr} {ys : List Expr} {t t1 t2 : Str} {ps ps1 ps2 : List Pair} {S S1 S2 T T' T1 T2 : Str → Prop}

/-- The rest brings its own skip: only the need of `x` is linked. -/
theorem Sg.consSk (h1 : Sg x t1 ps1 S1 T1) (h2 : SgSk (seqs (y :: ys)) t2 ps2 S2 T2) (hm : ∀ s, T2 s → S1 s) :
    Sg (seqs (x :: y :: ys)) (t1 ++ t2) (ps1 ++ ps2) S2 T1 where
  reads tail p o ht := by
    have e1 := h1.reads (t2 ++ tail) p o (hm _ (h2.front tail ht))
    obtain ⟨st1, hsk, e2⟩ := h2.reads tail (p + t1.length) (ps1.reverse ++ o) ht
    rw [List.append_assoc, List.length_append, ← Nat.add_assoc, List.reverse_append, List.append_assoc]
    exact Ev.seq e1 hsk e2
  front tail ht := by
    rw [List.append_assoc]
    exact h1.front _ (hm _ (h2.front tail ht))

theorem SgSk.cons (h1 : SgSk x t1 ps1 S1 T1) (h2 : Sg (seqs (y :: ys)) t2 ps2 S2 T2) (hm : Link T2 S1) :
    SgSk (seqs (x :: y :: ys)) (t1 ++ t2) (ps1 ++ ps2) S2 T1 where
  reads tail p o ht := by
    have hl := hm _ (h2.front tail ht)
    obtain ⟨st1, hsk, e1⟩ := h1.reads (t2 ++ tail) p o hl.1
    have e2 := h2.reads tail (p + t1.length) (ps1.reverse ++ o) ht
    refine ⟨st1, by rw [List.append_assoc]; exact hsk, ?_⟩
    rw [List.length_append, ← Nat.add_assoc, List.reverse_append, List.append_assoc]
    exact Ev.seq e1 (sk_none hl.2) e2
  front tail ht := by
    rw [List.append_assoc]
    exact h1.front _ (hm _ (h2.front tail ht)).1

theorem SgSk.weaken (h : SgSk x t ps S T) (ht : ∀ s, T s → T' s) : SgSk x t ps S T' :=
  ⟨h.reads, fun tail h' => ht _ (h.front tail h')⟩

theorem SgSk.blank (h : Sg x t ps S T) (hn : ∀ s, T s → Head NoSkipChar s) : SgSk x (' ' :: t) ps S (Fst (· = ' ')) where
  reads tail p o ht := by
    refine ⟨_, sk_blank (hn _ (h.front tail ht)), ?_⟩
    have := h.reads tail (p + 1) o ht
    rwa [show p + 1 + t.length = p + (' ' :: t).length by simp only [List.length_cons]; omega] at this
  front tail _ := ⟨' ', t ++ tail, rfl, rfl⟩

theorem SgSk.absent (hn : ∀ s, S s → Head NoSkipChar s) (hf : ∀ tail p o, S tail → Ev false x (mk tail p o) .fail) :
    SgSk (.opt x) [] [] S S :=
  ⟨fun tail p o ht => ⟨_, sk_none (hn tail ht), Ev.opt_none (hf tail p o ht)⟩, fun _ h => h⟩

end sk

/-! ### Repetition over a list of items

Each item is a text with its pairs, a segment of `x` that needs `Next` behind it and shows `Ti` in front; `Ti` links
to `Next`; where the repetition ends (`S`) there is `Next`, nothing to skip, and `x` fails. -/

def itemsText (items : List (Str × List Pair)) : Str := items.flatMap (·.1)
def itemsPairs (items : List (Str × List Pair)) : List Pair := items.flatMap (·.2)

section starSg
variable {x : Expr} {Next S Ti : Str → Prop} {items : List (Str × List Pair)}

structure StarSg (x : Expr) (Next S Ti : Str → Prop) (items : List (Str × List Pair)) : Prop where
  item : ∀ it ∈ items, Sg x it.1 it.2 Next Ti
  link : Link Ti Next
  stop : ∀ s, S s → Next s ∧ Head NoSkipChar s ∧ ∀ p o, Ev false x (mk s p o) .fail

theorem StarSg.tail {it : Str × List Pair} (h : StarSg x Next S Ti (it :: items)) : StarSg x Next S Ti items :=
  ⟨fun i hi => h.item i (List.mem_cons_of_mem _ hi), h.link, h.stop⟩

/-- What stands behind an item: the front of the next one or the end, in either case `Next` and nothing to skip. -/
theorem StarSg.next : ∀ {items : List (Str × List Pair)}, StarSg x Next S Ti items → ∀ {tail : Str}, S tail →
    (Ti (itemsText items ++ tail) ∨ S (itemsText items ++ tail)) ∧
      Next (itemsText items ++ tail) ∧ Head NoSkipChar (itemsText items ++ tail)
  | [], h, tail, ht => ⟨.inr ht, (h.stop tail ht).1, (h.stop tail ht).2.1⟩
  | it :: rest, h, tail, ht => by
    have hf := (h.item it (List.mem_cons_self ..)).front _ (h.tail.next ht).2.1
    simp only [itemsText, List.flatMap_cons, List.append_assoc] at hf ⊢
    exact ⟨.inl hf, h.link _ hf⟩

theorem lp_sg : ∀ (items : List (Str × List Pair)), StarSg x Next S Ti items → ∀ tail p o, S tail →
    Lp false x (mk (itemsText items ++ tail) p o)
      (.ok (mk tail (p + (itemsText items).length) ((itemsPairs items).reverse ++ o)))
  | [], h, tail, p, o, ht => Lp.stop (sk_none (h.stop tail ht).2.1) ((h.stop tail ht).2.2 p o)
  | it :: rest, h, tail, p, o, ht => by
    have ih := lp_sg rest h.tail tail (p + it.1.length) (it.2.reverse ++ o) ht
    have e1 := (h.item it (List.mem_cons_self ..)).reads (itemsText rest ++ tail) p o (h.tail.next ht).2.1
    have sk := sk_none (p := p) (o := o) (h.next ht).2.2
    simp only [itemsText, itemsPairs, List.flatMap_cons, List.append_assoc, List.length_append, List.reverse_append,
      ← Nat.add_assoc] at ih sk ⊢
    exact Lp.step sk e1 ih

theorem Sg.star_items (h : StarSg x Next S Ti items) :
    Sg (.star x) (itemsText items) (itemsPairs items) S (fun s => Ti s ∨ S s) where
  reads tail p o ht := by
    cases items with
    | nil => exact Ev.star_nil ((h.stop tail ht).2.2 p o)
    | cons it rest =>
      have ih := lp_sg rest h.tail tail (p + it.1.length) (it.2.reverse ++ o) ht
      have e1 := (h.item it (List.mem_cons_self ..)).reads (itemsText rest ++ tail) p o (h.tail.next ht).2.1
      simp only [itemsText, itemsPairs, List.flatMap_cons, List.append_assoc, List.length_append, List.reverse_append,
        ← Nat.add_assoc] at ih ⊢
      exact Ev.star_cons e1 ih
  front tail ht := (h.next ht).1

theorem Sg.plus_items {it : Str × List Pair} (h : StarSg x Next S Ti (it :: items)) :
    Sg (.plus x) (itemsText (it :: items)) (itemsPairs (it :: items)) S Ti where
  reads tail p o ht := by
    have e1 := (h.item it (List.mem_cons_self ..)).reads (itemsText items ++ tail) p o (h.tail.next ht).2.1
    have sk := sk_none (p := p + it.1.length) (o := it.2.reverse ++ o) (h.tail.next ht).2.2
    cases items with
    | nil =>
      have := Ev.plus_one e1 sk ((h.stop tail ht).2.2 _ _)
      simpa only [itemsText, itemsPairs, List.flatMap_cons, List.flatMap_nil, List.append_nil, List.nil_append] using this
    | cons it2 rest =>
      have e2 := (h.tail.item it2 (List.mem_cons_self ..)).reads (itemsText rest ++ tail) (p + it.1.length)
        (it.2.reverse ++ o) (h.tail.tail.next ht).2.1
      have ih := lp_sg rest h.tail.tail tail (p + it.1.length + it2.1.length) (it2.2.reverse ++ (it.2.reverse ++ o)) ht
      simp only [itemsText, itemsPairs, List.flatMap_cons, List.append_assoc, List.length_append, List.reverse_append,
        ← Nat.add_assoc] at e1 e2 ih sk ⊢
      exact Ev.plus_more e1 sk e2 ih
  front tail ht := by
    have hf := (h.item it (List.mem_cons_self ..)).front _ (h.tail.next ht).2.1
    simpa only [itemsText, List.flatMap_cons, List.append_assoc] using hf

end starSg

end PV.Gsd.Peg
