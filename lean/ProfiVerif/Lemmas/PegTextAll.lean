/-
Text-level faithfulness for canonical files of every statement kind the parser interprets:
`renderAst` writes a statement list as text, `StmtCanon` says which statements it can write so that the
grammar reads them back, `parse_renderAst : parse (renderAst ast) = interp ast`.
-/
import ProfiVerif.Lemmas.PegTextSlots
import ProfiVerif.Lemmas.PegTextExt
import ProfiVerif.Lemmas.PegTextModule
import ProfiVerif.Lemmas.PegTextDesc

namespace PV.Gsd.Peg
open PV.Gsd

def itemsRef : List ModItem → Option NumTok
  | .reference n :: _ => some n
  | _ => none

def itemsSettings : List ModItem → List Setting
  | [] => []
  | .setting s :: r => s :: itemsSettings r
  | _ :: r => itemsSettings r

/-- A module the canonical printer can write: at least one configuration byte, an optional reference
line first, then settings only. -/
def ModuleCanon (m : ModuleStmt) : Prop :=
  StrCanon m.name ∧ m.config ≠ [] ∧ (∀ x ∈ m.config, NumCanon x) ∧
  m.items = refItems (itemsRef m.items) ++ (itemsSettings m.items).map ModItem.setting ∧
  (∀ n, itemsRef m.items = some n → NatCanon n) ∧ ∀ s ∈ itemsSettings m.items, SettingCanon s

/-- Stands for the statements `StmtCanon` excludes; with its empty text it is not `Good`, and the pair is arbitrary. -/
def nullItem : Item := ⟨[], anyP, .ignored⟩

def stmtItem : Stmt → Item
  | .setting s => settingItem s
  | .prmText t => prmTextItem t
  | .extPrm e => extItem e
  | .slots ss => slotDefItem ss
  | .area a => areaItem a
  | .module m =>
    match m.config with
    | c :: cs => moduleItem m.name c cs (itemsRef m.items) (itemsSettings m.items)
    | [] => nullItem
  | .ignored => nullItem

/-- The statements the canonical printer covers: canonical settings and blocks of every kind the parser
interprets, not the ignored blocks `UnitDiagType`, `Version_Firmware_Download`, `Physical_Interface`,
`Jokerblock_Type`. -/
def StmtCanon : Stmt → Prop
  | .setting s => LineCanon s
  | .prmText t => PrmTextCanon t
  | .extPrm e => ExtCanon e
  | .slots ss => ∀ s ∈ ss, SlotCanon s
  | .area a => AreaCanon a
  | .module m => ModuleCanon m
  | .ignored => False

theorem stmtItem_good : ∀ (st : Stmt), StmtCanon st → (stmtItem st).Good ∧ (stmtItem st).stmt = st
  | .setting s, h => ⟨settingItem_good h, rfl⟩
  | .prmText t, h => ⟨prmTextItem_good t h, rfl⟩
  | .extPrm e, h => ⟨extItem_good e h, rfl⟩
  | .slots ss, h => ⟨slotDefItem_good ss h, rfl⟩
  | .area a, h => ⟨areaItem_good a h, rfl⟩
  | .ignored, h => h.elim
  | .module m, h => by
    obtain ⟨hname, hne, hcfg, hitems, href, hss⟩ := h
    obtain ⟨name, config, items⟩ := m
    simp only at hname hne hcfg hitems href hss
    cases config with
    | nil => exact (hne rfl).elim
    | cons c cs =>
      refine ⟨moduleItem_good name hname c cs hcfg _ href _ hss, ?_⟩
      simp only [stmtItem, moduleItem, modStmt]
      rw [← hitems]

def renderAst (ast : Ast) : Str := fileText (ast.map stmtItem)

theorem parse_renderAst (hf : fuelCheck 1000 = true) (st : Stmt) (rest : Ast) (h : ∀ x ∈ st :: rest, StmtCanon x) :
    parse (renderAst (st :: rest)) = some (interp (st :: rest)) := by
  have hgood : ∀ x ∈ stmtItem st :: rest.map stmtItem, x.Good := by
    intro x hx
    simp only [List.mem_cons, List.mem_map] at hx
    rcases hx with rfl | ⟨y, hy, rfl⟩
    · exact (stmtItem_good st (h st (List.mem_cons_self ..))).1
    · exact (stmtItem_good y (h y (List.mem_cons_of_mem _ hy))).1
  have := parse_items hf (stmtItem st) (rest.map stmtItem) hgood
  have hmap : (stmtItem st :: rest.map stmtItem).map Item.stmt = st :: rest := by
    have : ∀ (l : Ast), (∀ x ∈ l, StmtCanon x) → (l.map stmtItem).map Item.stmt = l := by
      intro l hl
      induction l with
      | nil => rfl
      | cons a l ih =>
        simp only [List.map_cons, (stmtItem_good a (hl a (List.mem_cons_self ..))).2,
          ih (fun x hx => hl x (List.mem_cons_of_mem _ hx))]
    simpa using this (st :: rest) h
  rw [hmap] at this
  exact this

end PV.Gsd.Peg
