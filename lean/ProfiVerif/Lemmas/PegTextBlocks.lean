/-
The PEG on canonical text, block statements: repetition of block lines up to an end keyword, the
`Text(n)="…"` / `Value(n)="…"` lines, `PrmText … EndPrmText` and `Unit_Diag_Area … Unit_Diag_Area_End`.
-/
import ProfiVerif.Lemmas.PegTextGsd

namespace PV.Gsd.Peg

theorem sk_lf (t : Str) (p : Nat) (o : List Pair) : Sk false (mk ('\n' :: t) p o) (.ok (mk ('\n' :: t) p o)) :=
  sk_none (show Head NoSkipChar ('\n' :: t) from noSkip_lf)

structure BlockLine where
  text : Str          -- including the line break(s)
  pairs : List Pair   -- the pairs the line contributes, in order

def blockText : List BlockLine → Str
  | [] => []
  | l :: ls => l.text ++ blockText ls

/-- `x` reads the line, its line break(s) included.  `Starts rest`: behind a line stands the next line or the end
keyword of the block, and only at an identifier character does the `NEWLINE+` that ends the line stop. -/
structure BlockLine.Good (x : Expr) (l : BlockLine) : Prop where
  starts : Starts l.text
  parses : ∀ (rest : Str) (p : Nat) (o : List Pair), Starts rest →
    Ev false x (Peg.mk (l.text ++ rest) p o) (.ok (Peg.mk rest (p + l.text.length) (l.pairs.reverse ++ o)))

def BlockEnd (x : Expr) (tail : Str) : Prop := Starts tail ∧ ∀ p o, Ev false x (mk tail p o) .fail

def blockItems (ls : List BlockLine) : List (Str × List Pair) := ls.map fun l => (l.text, l.pairs)

theorem itemsText_block : ∀ ls : List BlockLine, itemsText (blockItems ls) = blockText ls
  | [] => rfl
  | l :: ls => by
    have := itemsText_block ls
    simp only [itemsText, blockItems, List.map_cons, List.flatMap_cons, blockText] at this ⊢
    rw [this]

theorem itemsPairs_block (ls : List BlockLine) : itemsPairs (blockItems ls) = ls.flatMap (·.pairs) := by
  simp only [itemsPairs, blockItems, List.flatMap_map]

theorem BlockLine.Good.sg {x : Expr} {l : BlockLine} (h : l.Good x) : Sg x l.text l.pairs Starts Starts :=
  ⟨h.parses, fun tail _ => h.starts.append tail⟩

theorem starSg_block {x : Expr} {ls : List BlockLine} (h : ∀ l ∈ ls, l.Good x) :
    StarSg x Starts (BlockEnd x) Starts (blockItems ls) where
  item it hit := by
    obtain ⟨l, hl, rfl⟩ := List.mem_map.mp hit
    exact (h l hl).sg
  link := .starts fun _ h => h
  stop _ ht := ⟨ht.1, ht.1.noSkip, ht.2⟩

theorem Sg.star_block {x : Expr} {ls : List BlockLine} (h : ∀ l ∈ ls, l.Good x) :
    Sg (.star x) (blockText ls) (ls.flatMap (·.pairs)) (BlockEnd x) Starts :=
  ((Sg.star_items (starSg_block h)).cast (itemsText_block ls) (itemsPairs_block ls)).mono (fun _ h => h)
    fun _ h => h.elim id fun h => h.1

theorem Sg.plus_block {x : Expr} {l : BlockLine} {ls : List BlockLine} (h : ∀ m ∈ l :: ls, m.Good x) :
    Sg (.plus x) (blockText (l :: ls)) ((l :: ls).flatMap (·.pairs)) (BlockEnd x) Starts :=
  (Sg.plus_items (items := blockItems ls) (starSg_block h)).cast (itemsText_block (l :: ls)) (itemsPairs_block (l :: ls))

theorem Link.blockEnd {x : Expr} {kw : Str} (hs : Starts kw) (hf : ∀ r p o, Ev false x (mk (kw ++ r) p o) .fail) :
    Link (Begins kw) (BlockEnd x) := by
  rintro _ ⟨r, rfl⟩
  exact ⟨⟨hs.append r, hf r⟩, (hs.append r).noSkip⟩

def strPair (raw : Str) : Pair := .node .string_literal raw []

theorem Sg.string {raw : Str} (h : StrCanon raw) : Sg (.call .string_literal) raw [strPair raw] Any (Fst (· = '"')) := by
  obtain ⟨s, rfl, hs⟩ := h
  refine ⟨fun tail p o _ => ?_, fun tail _ => ⟨'"', _, rfl, rfl⟩⟩
  have := string_ok s tail hs p o
  simpa [strPair, Nat.add_assoc] using this

theorem quote_noSkip : NoSkipChar '"' := by decide

def valueLineText (kwLit : Str) (n : NumTok) (raw : Str) : Str :=
  kwLit ++ '(' :: (numText n ++ ')' :: '=' :: raw)

def valueLinePair (q : Rule) (kwLit : Str) (n : NumTok) (raw : Str) : Pair :=
  .node q (valueLineText kwLit n raw) [numPair n, strPair raw]

def valueLineBody (kwLit : Str) : Expr :=
  .seq (.insens (kwLit.map Char.toLower)) (.seq (.str ['(']) (.seq (.call .number) (.seq (.str [')'])
    (.seq (.str ['=']) (.call .string_literal)))))

theorem valueLine_ok (q : Rule) (kwLit : Str) (hq : ruleDef q = (.normal, valueLineBody kwLit))
    (n : NumTok) (hn : NumCanon n) (raw : Str) (hr : StrCanon raw) :
    Sg (.call q) (valueLineText kwLit n raw) [valueLinePair q kwLit n raw] Any (Begins kwLit) := by
  have :=
    Sg.cons (.insens kwLit) (hm := .anyChar (by decide)) <|
    Sg.cons (.chr '(') (hm := .any fun _ => numHead_noSkip) <|
    Sg.cons (.number hn) (hm := .char (by decide)) <|
    Sg.cons (.chr ')') (hm := .anyChar (by decide)) <|
    Sg.cons (.chr '=') (hm := .anyChar quote_noSkip) <|
    Sg.last (.string hr)
  exact Sg.node hq (this.cast (by simp only [valueLineText, List.cons_append, List.nil_append]) rfl)

def valueBlockLine (q : Rule) (kwLit : Str) (l : NumTok × Str) : BlockLine :=
  ⟨valueLineText kwLit l.1 l.2 ++ ['\n'], [valueLinePair q kwLit l.1 l.2]⟩

def LineOk (l : NumTok × Str) : Prop := NumCanon l.1 ∧ StrCanon l.2

theorem valueBlockLine_good (q : Rule) (kwLit : Str) (hq : ruleDef q = (.normal, valueLineBody kwLit))
    (hkw : Starts kwLit) (l : NumTok × Str) (hl : LineOk l) :
    (valueBlockLine q kwLit l).Good (.seq (.call q) (.plus .newline)) where
  starts := by simpa only [valueBlockLine, valueLineText, List.append_assoc] using hkw.append _
  parses := (Sg.cons (valueLine_ok q kwLit hq l.1 hl.1 l.2 hl.2) (hm := .lf fun _ => trivial) <| Sg.last .nls).reads

theorem valueLine_end (q : Rule) (kwLit : Str) (hq : ruleDef q = (.normal, valueLineBody kwLit))
    (endKw after : Str) (hc : clash (kwLit.map Char.toLower) endKw = true) (p : Nat) (o : List Pair) :
    Ev false (.seq (.call q) (.plus .newline)) (mk (endKw ++ after) p o) .fail := by
  refine Ev.seq_fail (Ev.call_fail (by rw [hq]; exact fun h => RuleTy.noConfusion h) ?_)
  rw [hq]
  exact Ev.seq_fail (Ev.insens_fail (matchInsens_clash after hc))

@[simp] theorem valueLinePair_rule (q : Rule) (kw : Str) (n : NumTok) (raw : Str) :
    (valueLinePair q kw n raw).rule = q := rfl
@[simp] theorem valueLinePair_children (q : Rule) (kw : Str) (n : NumTok) (raw : Str) :
    (valueLinePair q kw n raw).children = [numPair n, strPair raw] := rfl
@[simp] theorem strLit_strPair (raw : Str) : strLit? (strPair raw) = some raw := rfl

theorem valueLines_pairs (q : Rule) (kwLit : Str) : ∀ (ls : List (NumTok × Str)), (∀ l ∈ ls, LineOk l) →
    valueLines? q (ls.map fun l => valueLinePair q kwLit l.1 l.2) = some ls
  | [], _ => rfl
  | l :: ls, h => by
    have hl := h l (List.mem_cons_self ..)
    have ih := valueLines_pairs q kwLit ls (fun m hm => h m (List.mem_cons_of_mem _ hm))
    simp [valueLines?, numTok_numPair hl.1, ih]

def kwText : Str := ['T', 'e', 'x', 't']
def kwPrmText : Str := ['P', 'r', 'm', 'T', 'e', 'x', 't']
def kwEndPrmText : Str := ['E', 'n', 'd', 'P', 'r', 'm', 'T', 'e', 'x', 't']

def textLine (l : NumTok × Str) : BlockLine := valueBlockLine .prm_text_value kwText l

def prmTextText (id : NumTok) (ls : List (NumTok × Str)) : Str :=
  kwPrmText ++ '=' :: (numText id ++ '\n' :: (blockText (ls.map textLine) ++ kwEndPrmText))

def prmTextPair (id : NumTok) (ls : List (NumTok × Str)) : Pair :=
  .node .prm_text (prmTextText id ls) (numPair id :: ls.map fun l => valueLinePair .prm_text_value kwText l.1 l.2)

def PrmTextCanon (t : PrmTextStmt) : Prop := NumCanon t.id ∧ t.values ≠ [] ∧ ∀ l ∈ t.values, LineOk l

theorem numStop_lf : NumStop '\n' := by decide

theorem flatMap_valueLines (q : Rule) (kw : Str) (ls : List (NumTok × Str)) :
    (ls.map (valueBlockLine q kw)).flatMap (·.pairs) = ls.map fun l => valueLinePair q kw l.1 l.2 := by
  induction ls with
  | nil => rfl
  | cons l ls ih => simp [List.flatMap_cons, valueBlockLine, ih]

theorem prmText_ok (id : NumTok) (hid : NumCanon id) (l : NumTok × Str) (ls : List (NumTok × Str))
    (hls : ∀ m ∈ l :: ls, LineOk m) :
    Sg (.call .prm_text) (prmTextText id (l :: ls)) [prmTextPair id (l :: ls)] Any (Begins kwPrmText) := by
  have hq : ruleDef .prm_text_value = (.normal, valueLineBody kwText) := rfl
  have hgood : ∀ m ∈ (l :: ls).map textLine, m.Good (.seq (.call .prm_text_value) (.plus .newline)) := by
    intro m hm
    obtain ⟨k, hk, rfl⟩ := List.mem_map.mp hm
    exact valueBlockLine_good .prm_text_value kwText hq ⟨'T', _, rfl, by decide⟩ k (hls k hk)
  have :=
    Sg.cons (.insens kwPrmText) (hm := .anyChar (by decide)) <|
    Sg.cons (.chr '=') (hm := .any fun _ => numHead_noSkip) <|
    Sg.cons (.number hid) (hm := .lf fun _ => numStop_lf) <|
    Sg.cons .nls (hm := .starts fun _ h => h) <|
    Sg.cons (Sg.plus_block hgood) (hm := .blockEnd ⟨'E', _, rfl, by decide⟩ fun r =>
      valueLine_end .prm_text_value kwText hq kwEndPrmText r (by decide)) <|
    Sg.last (.insens kwEndPrmText)
  refine Sg.node rfl (this.cast ?_ ?_)
  · simp only [prmTextText, List.map_cons, List.cons_append, List.nil_append]
  · simp only [List.nil_append, List.append_nil, List.cons_append]
    exact congrArg (numPair id :: ·) (flatMap_valueLines .prm_text_value kwText (l :: ls))

def prmTextItem (t : PrmTextStmt) : Item := ⟨prmTextText t.id t.values, prmTextPair t.id t.values, .prmText t⟩

theorem prmTextItem_good (t : PrmTextStmt) (h : PrmTextCanon t) : (prmTextItem t).Good := by
  obtain ⟨hid, hne, hls⟩ := h
  obtain ⟨id, values⟩ := t
  have hast : stmt? (prmTextItem ⟨id, values⟩).pair = some (some (prmTextItem ⟨id, values⟩).stmt) := by
    have := valueLines_pairs .prm_text_value kwText values hls
    simp [prmTextItem, prmTextPair, stmt?, Pair.rule, Pair.children, numTok_numPair hid, this]
  cases values with
  | nil => exact (hne rfl).elim
  | cons l ls =>
    exact Item.good_of 0 rfl ⟨'P', _, rfl, by decide⟩ (fun _ => trivial) (by decide)
      (prmText_ok id hid l ls hls) hast

def kwValue : Str := ['V', 'a', 'l', 'u', 'e']
def kwArea : Str := ['U', 'n', 'i', 't', '_', 'D', 'i', 'a', 'g', '_', 'A', 'r', 'e', 'a']
def kwAreaEnd : Str := ['U', 'n', 'i', 't', '_', 'D', 'i', 'a', 'g', '_', 'A', 'r', 'e', 'a', '_', 'E', 'n', 'd']

def valueLineOf (l : NumTok × Str) : BlockLine := valueBlockLine .unit_diag_area_value kwValue l

def areaText (a : AreaStmt) : Str :=
  kwArea ++ '=' :: (numText a.first ++ '-' :: (numText a.last ++ '\n' :: (blockText (a.values.map valueLineOf) ++ kwAreaEnd)))

def areaPair (a : AreaStmt) : Pair :=
  .node .unit_diag_area (areaText a)
    (numPair a.first :: numPair a.last :: a.values.map fun l => valueLinePair .unit_diag_area_value kwValue l.1 l.2)

def AreaCanon (a : AreaStmt) : Prop :=
  NumCanon a.first ∧ NumCanon a.last ∧ a.values ≠ [] ∧ ∀ l ∈ a.values, LineOk l

theorem area_ok (first last : NumTok) (hf : NumCanon first) (hl : NumCanon last) (l : NumTok × Str) (ls : List (NumTok × Str))
    (hls : ∀ m ∈ l :: ls, LineOk m) :
    Sg (.call .unit_diag_area) (areaText ⟨first, last, l :: ls⟩) [areaPair ⟨first, last, l :: ls⟩] Any (Begins kwArea) := by
  have hq : ruleDef .unit_diag_area_value = (.normal, valueLineBody kwValue) := rfl
  have hgood : ∀ m ∈ (l :: ls).map valueLineOf, m.Good (.seq (.call .unit_diag_area_value) (.plus .newline)) := by
    intro m hm
    obtain ⟨k, hk, rfl⟩ := List.mem_map.mp hm
    exact valueBlockLine_good .unit_diag_area_value kwValue hq ⟨'V', _, rfl, by decide⟩ k (hls k hk)
  have :=
    Sg.cons (.insens kwArea) (hm := .anyChar (by decide)) <|
    Sg.cons (.chr '=') (hm := .any fun _ => numHead_noSkip) <|
    Sg.cons (.number hf) (hm := .char (by decide)) <|
    Sg.cons (.chr '-') (hm := .any fun _ => numHead_noSkip) <|
    Sg.cons (.number hl) (hm := .lf fun _ => numStop_lf) <|
    Sg.cons .nls (hm := .starts fun _ h => h) <|
    Sg.cons (Sg.plus_block hgood) (hm := .blockEnd ⟨'U', _, rfl, by decide⟩ fun r =>
      valueLine_end .unit_diag_area_value kwValue hq kwAreaEnd r (by decide)) <|
    Sg.last (.insens kwAreaEnd)
  refine Sg.node rfl (this.cast ?_ ?_)
  · simp only [areaText, List.map_cons, List.cons_append, List.nil_append]
  · simp only [List.nil_append, List.append_nil, List.cons_append]
    exact congrArg (numPair first :: numPair last :: ·) (flatMap_valueLines .unit_diag_area_value kwValue (l :: ls))

def areaItem (a : AreaStmt) : Item := ⟨areaText a, areaPair a, .area a⟩

theorem areaItem_good (a : AreaStmt) (h : AreaCanon a) : (areaItem a).Good := by
  obtain ⟨hf, hl, hne, hls⟩ := h
  obtain ⟨first, last, values⟩ := a
  have hast : stmt? (areaItem ⟨first, last, values⟩).pair = some (some (areaItem ⟨first, last, values⟩).stmt) := by
    have := valueLines_pairs .unit_diag_area_value kwValue values hls
    simp [areaItem, areaPair, stmt?, Pair.rule, Pair.children, numTok_numPair hf, numTok_numPair hl, this]
  cases values with
  | nil => exact (hne rfl).elim
  | cons l ls =>
    exact Item.good_of 5 rfl ⟨'U', _, rfl, by decide⟩ (fun _ => trivial) (by decide)
      (area_ok first last hf hl l ls hls) hast

end PV.Gsd.Peg
