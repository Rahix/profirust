/-
Text-level faithfulness for files of good items, `parse (fileText ss) = interp (ss as statements)`, its
instance for settings files, and that for the scalar part of a station description (identification data, sizes, feature flags,
speeds, response times — the 42 settings of `scalarStmts`).
-/
import ProfiVerif.Lemmas.PegTextFile
import ProfiVerif.Lemmas.PegFuel
import ProfiVerif.Lemmas.GsdFaithful

namespace PV.Gsd.Peg
open PV.Gsd

theorem parseGsd_file (hf : fuelCheck 1000 = true) (s : Item) (ss : List Item) (h : ∀ x ∈ s :: ss, x.Good) :
    parseGsd (fileText (s :: ss)) = some (some (filePair (s :: ss))) := by
  have := (gsd_ok s ss h).at (eval_gsd_fuel hf (fileText (s :: ss)))
  unfold parseGsd
  simp only [c]
  simp only [mk] at this
  rw [this]

theorem parse_items (hf : fuelCheck 1000 = true) (s : Item) (ss : List Item) (h : ∀ x ∈ s :: ss, x.Good) :
    parse (fileText (s :: ss)) = some (interp ((s :: ss).map Item.stmt)) := by
  unfold parse
  rw [parseGsd_file hf s ss h]
  simp only [toAst_filePair (s :: ss) h]

theorem parse_file (hf : fuelCheck 1000 = true) (s : Setting) (ss : List Setting) (h : ∀ x ∈ s :: ss, LineCanon x) :
    parse (fileText ((s :: ss).map settingItem)) = some (interp ((s :: ss).map Stmt.setting)) := by
  have := parse_items hf (settingItem s) (ss.map settingItem) (by
    intro x hx
    simp only [List.mem_cons, List.mem_map] at hx
    rcases hx with rfl | ⟨y, hy, rfl⟩
    · exact settingItem_good (h s (List.mem_cons_self ..))
    · exact settingItem_good (h y (List.mem_cons_of_mem _ hy)))
  simpa [List.map_map, Function.comp_def, settingItem] using this

def keyCharsB (key : Str) : Bool := !key.isEmpty && key.all fun c => decide (IsIdChar c)

theorem keyChars_of_B {key : Str} (h : keyCharsB key = true) : KeyChars key := by
  simp only [keyCharsB, Bool.and_eq_true, Bool.not_eq_true', List.isEmpty_eq_false_iff, List.all_eq_true,
    decide_eq_true_eq] at h
  cases key with
  | nil => exact (h.1 rfl).elim
  | cons c w => exact ⟨c, w, rfl, h.2⟩

def keyOkB (key : Str) : Bool := keyCharsB key && decide (KeyFree key)

theorem keyOk_of_B {key : Str} (h : keyOkB key = true) : KeyChars key ∧ KeyFree key := by
  simp only [keyOkB, Bool.and_eq_true, decide_eq_true_eq] at h
  exact ⟨keyChars_of_B h.1, h.2⟩

theorem digitChar_isDigit : ∀ d, d < 10 → IsDigit (digitChar d) := by decide

theorem decText_natText (n : Nat) : DecText (natText n) := by
  have hne := natText_ne_nil n
  have hd := natText_digits n
  cases h : natText n with
  | nil => exact (hne h).elim
  | cons c w =>
    refine ⟨c, w, .inl rfl, ?_⟩
    intro x hx
    obtain ⟨k, hk, rfl⟩ := hd x (h ▸ hx)
    exact digitChar_isDigit k hk

def NoQuote (s : Str) : Prop := ∀ c ∈ s, c ≠ '"'

instance (s : Str) : Decidable (NoQuote s) := by unfold NoQuote; infer_instance

theorem lineCanon_num {key : String} {n : Nat} (hk : keyOkB key.toList = true) :
    LineCanon { key := key.toList, index := none, value := .num (decTok n) } :=
  ⟨⟨(keyOk_of_B hk).1, ⟨(by intro m hm; cases hm), decText_natText n⟩⟩, (keyOk_of_B hk).2⟩

theorem lineCanon_bool {key : String} {b : Bool} (hk : keyOkB key.toList = true) :
    LineCanon { key := key.toList, index := none, value := .num (boolTok b) } :=
  ⟨⟨(keyOk_of_B hk).1, ⟨(by intro m hm; cases hm), decText_natText _⟩⟩, (keyOk_of_B hk).2⟩

theorem lineCanon_str {key : String} {s : Str} (hk : keyOkB key.toList = true) (hs : NoQuote s) :
    LineCanon { key := key.toList, index := none, value := .str (quote s) } :=
  ⟨⟨(keyOk_of_B hk).1, ⟨(by intro m hm; cases hm), ⟨s, rfl, hs⟩⟩⟩, (keyOk_of_B hk).2⟩

def settingsOf : Ast → List Setting
  | [] => []
  | .setting s :: rest => s :: settingsOf rest
  | _ :: rest => settingsOf rest

theorem scalarStmts_settings (d : Desc) : (settingsOf (scalarStmts d)).map Stmt.setting = scalarStmts d := rfl

structure ScalarsNoQuote (d : Desc) : Prop where
  vendor : NoQuote d.vendor
  model : NoQuote d.model
  revision : NoQuote d.revision
  hardware : NoQuote d.hardwareRelease
  software : NoQuote d.softwareRelease
  implementation : NoQuote d.implementationType

/-- Every key the printer writes at top level is an identifier that no block keyword clashes with:
one evaluation for the whole list. -/
theorem printerKeys_ok : printerKeys.all (fun key => keyOkB key.toList) = true := by
  simp only [printerKeys, List.all_cons, List.all_nil]
  repeat rw [String.toList_ofList]
  decide +kernel

theorem keyOk_of (j : Nat) {key : String} (hj : printerKeys[j]? = some key) : keyOkB key.toList = true :=
  List.all_eq_true.mp printerKeys_ok key (List.mem_of_getElem? hj)

theorem scalar_lines_canon (d : Desc) (hq : ScalarsNoQuote d) : ∀ x ∈ settingsOf (scalarStmts d), LineCanon x := by
  simp only [scalarStmts, setNum, setStr, setBool, settingsOf, List.forall_mem_cons, List.not_mem_nil, false_imp_iff,
    implies_true, and_true]
  refine ⟨lineCanon_num (keyOk_of 0 rfl), lineCanon_str (keyOk_of 1 rfl) hq.vendor, lineCanon_str (keyOk_of 2 rfl) hq.model,
    lineCanon_str (keyOk_of 3 rfl) hq.revision, lineCanon_num (keyOk_of 4 rfl), lineCanon_num (keyOk_of 5 rfl),
    lineCanon_str (keyOk_of 6 rfl) hq.hardware, lineCanon_str (keyOk_of 7 rfl) hq.software,
    lineCanon_str (keyOk_of 8 rfl) hq.implementation,
    lineCanon_bool (keyOk_of 9 rfl), lineCanon_bool (keyOk_of 10 rfl), lineCanon_bool (keyOk_of 11 rfl), lineCanon_bool (keyOk_of 12 rfl),
    lineCanon_bool (keyOk_of 13 rfl), lineCanon_num (keyOk_of 14 rfl), lineCanon_bool (keyOk_of 15 rfl), lineCanon_num (keyOk_of 16 rfl),
    lineCanon_num (keyOk_of 17 rfl), lineCanon_num (keyOk_of 18 rfl), lineCanon_num (keyOk_of 19 rfl),
    lineCanon_bool (keyOk_of 20 rfl), lineCanon_bool (keyOk_of 21 rfl), lineCanon_bool (keyOk_of 22 rfl), lineCanon_bool (keyOk_of 23 rfl),
    lineCanon_bool (keyOk_of 24 rfl), lineCanon_bool (keyOk_of 25 rfl), lineCanon_bool (keyOk_of 26 rfl), lineCanon_bool (keyOk_of 27 rfl),
    lineCanon_bool (keyOk_of 28 rfl), lineCanon_bool (keyOk_of 29 rfl), lineCanon_bool (keyOk_of 30 rfl),
    lineCanon_num (keyOk_of 31 rfl), lineCanon_num (keyOk_of 32 rfl), lineCanon_num (keyOk_of 33 rfl), lineCanon_num (keyOk_of 34 rfl),
    lineCanon_num (keyOk_of 35 rfl), lineCanon_num (keyOk_of 36 rfl), lineCanon_num (keyOk_of 37 rfl), lineCanon_num (keyOk_of 38 rfl),
    lineCanon_num (keyOk_of 39 rfl), lineCanon_num (keyOk_of 40 rfl), lineCanon_num (keyOk_of 41 rfl)⟩

/-- The canonical text of the scalar part of a description: `#Profibus_DP` and 42 lines
`GSD_Revision=…`, `Vendor_Name="…"`, …, `MaxTsdr_12M=…`. -/
def scalarText (d : Desc) : Str := fileText ((settingsOf (scalarStmts d)).map settingItem)

theorem parse_scalarText (hf : fuelCheck 1000 = true) (d : Desc) (hq : ScalarsNoQuote d) :
    parse (scalarText d) = some (interp (scalarStmts d)) := by
  have hc := scalar_lines_canon d hq
  have hne : ∃ s ss, settingsOf (scalarStmts d) = s :: ss := ⟨_, _, rfl⟩
  obtain ⟨s, ss, hs⟩ := hne
  unfold scalarText
  rw [hs] at hc ⊢
  rw [parse_file hf s ss hc, ← hs, scalarStmts_settings]

end PV.Gsd.Peg
