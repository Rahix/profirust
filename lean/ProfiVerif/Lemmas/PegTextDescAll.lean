/-
The canonical AST `astOf d` of a description is a list of canonical statements (`StmtCanon`) — under
`DescCanon d`: no quotation mark inside strings, byte lists of at least two entries, non-empty module
configurations / slot module sets / text tables / enumerations (`astOf_canon`) — so `parse_renderAst` applies to it
(`C19.text_faithful_desc_partial`).
-/
import ProfiVerif.Lemmas.PegTextAll

namespace PV.Gsd.Peg
open PV.Gsd

theorem numCanon_decTok (n : Nat) : NumCanon (decTok n) := decText_natText n

theorem natCanon_decTok (n : Nat) : NatCanon (decTok n) := by
  obtain ⟨d, ds, h, hd⟩ := decText_natText n
  rcases h with h | h
  · exact ⟨d, ds, by simp [decTok, h], hd⟩
  · -- `natText` never starts with a minus sign
    have := natText_digits n '-' (by rw [h]; simp)
    obtain ⟨k, hk, hc⟩ := this
    exact absurd (hc ▸ digitChar_isDigit k hk) (by decide)

theorem numCanon_intTok (z : Int) : NumCanon (intTok z) := by
  unfold intTok intText
  split
  · obtain ⟨d, ds, h, hd⟩ := natCanon_decTok z.natAbs
    simp only [decTok, NumTok.dec.injEq] at h
    exact ⟨d, ds, .inr (by rw [h]), hd⟩
  · exact decText_natText _

theorem numCanon_boolTok (b : Bool) : NumCanon (boolTok b) := decText_natText _

theorem strCanon_quote {s : Str} (h : NoQuote s) : StrCanon (quote s) := ⟨s, rfl, h⟩

theorem lineCanon_idx_str {key : String} (hk : keyOkB key.toList = true) (n : Nat) {s : Str} (hs : NoQuote s) :
    LineCanon { key := key.toList, index := some (decTok n), value := .str (quote s) } :=
  ⟨⟨(keyOk_of_B hk).1, ⟨(by intro m hm; cases hm; exact numCanon_decTok n), strCanon_quote hs⟩⟩, (keyOk_of_B hk).2⟩

theorem lineCanon_const (c : Nat × List Nat) (hc : 2 ≤ c.2.length) :
    LineCanon { key := "Ext_User_Prm_Data_Const".toList, index := some (decTok c.1), value := .list (c.2.map decTok) } :=
  have hk := keyOk_of_B (keyOk_of 43 rfl)
  ⟨⟨hk.1, ⟨(by intro m hm; cases hm; exact numCanon_decTok _),
    ⟨by simpa using hc, by intro n hn; obtain ⟨k, _, rfl⟩ := List.mem_map.mp hn; exact numCanon_decTok k⟩⟩⟩, hk.2⟩

theorem constSettings_canon (cs : List (Nat × List Nat)) (h : ∀ c ∈ cs, 2 ≤ c.2.length) :
    ∀ s ∈ constSettings cs, LineCanon s := by
  intro s hs
  obtain ⟨c, hc, rfl⟩ := List.mem_map.mp hs
  exact lineCanon_const c (h c hc)

theorem refSettings_canon : ∀ (id : Nat) (rs : List (Nat × PrmDef)), ∀ s ∈ refSettings id rs, LineCanon s
  | _, [], s, hs => by cases hs
  | id, r :: rs, s, hs => by
    simp only [refSettings, List.mem_cons] at hs
    rcases hs with rfl | hs
    · have hk := keyOk_of_B (keyOk_of 44 rfl)
      exact ⟨⟨hk.1, ⟨(by intro m hm; cases hm; exact numCanon_decTok _), numCanon_decTok id⟩⟩, hk.2⟩
    · exact refSettings_canon (id + 1) rs s hs

structure DefCanon (f : PrmDef) : Prop where
  name : NoQuote f.name
  enum : ∀ vs, f.constraint = .enum vs → vs ≠ []
  texts : ∀ m, f.textRef = some m → m ≠ [] ∧ ∀ kv ∈ m, NoQuote kv.1

theorem typeCanon_typeNameOf (t : DataType) : TypeCanon (typeNameOf t) := by
  cases t with
  | bit n => exact numCanon_decTok n
  | bitArea a b => exact ⟨numCanon_decTok a, numCanon_decTok b⟩
  | u8 => exact ⟨keyChars_of_B (key := "Unsigned8".toList) (by decide), by decide, by decide⟩
  | u16 => exact ⟨keyChars_of_B (key := "Unsigned16".toList) (by decide), by decide, by decide⟩
  | u32 => exact ⟨keyChars_of_B (key := "Unsigned32".toList) (by decide), by decide, by decide⟩
  | i8 => exact ⟨keyChars_of_B (key := "Signed8".toList) (by decide), by decide, by decide⟩
  | i16 => exact ⟨keyChars_of_B (key := "Signed16".toList) (by decide), by decide, by decide⟩
  | i32 => exact ⟨keyChars_of_B (key := "Signed32".toList) (by decide), by decide, by decide⟩

theorem defStmts_canon (id : Nat) (f : PrmDef) (h : DefCanon f) : ∀ st ∈ defStmts id f, StmtCanon st := by
  intro st hst
  simp only [defStmts, List.mem_append, List.mem_singleton] at hst
  rcases hst with hst | rfl
  · cases hm : f.textRef with
    | none => simp [hm] at hst
    | some m =>
      simp only [hm, List.mem_singleton] at hst
      subst hst
      obtain ⟨hne, hq⟩ := h.texts m hm
      refine ⟨numCanon_decTok id, ?_, ?_⟩
      · simpa [textLines] using hne
      · intro l hl
        obtain ⟨kv, hkv, rfl⟩ := List.mem_map.mp hl
        exact ⟨numCanon_intTok _, strCanon_quote (hq kv hkv)⟩
  · refine ⟨numCanon_decTok id, strCanon_quote h.name, typeCanon_typeNameOf _, numCanon_intTok _, ?_, ?_, ?_, ?_⟩
    · cases hc : f.constraint with
      | unconstrained => trivial
      | minMax a b => exact ⟨numCanon_intTok a, numCanon_intTok b⟩
      | enum vs =>
        refine ⟨by simpa using h.enum vs hc, ?_⟩
        intro v hv
        obtain ⟨z, _, rfl⟩ := List.mem_map.mp hv
        exact numCanon_intTok z
    · intro n hn
      cases hm : f.textRef with
      | none => simp [hm] at hn
      | some m => simp only [hm, Option.map_some, Option.some.injEq] at hn; subst hn; exact numCanon_decTok id
    · intro n hn; cases hn; exact numCanon_boolTok _
    · intro n hn; cases hn; exact numCanon_boolTok _

theorem defsFrom_canon : ∀ (id : Nat) (fs : List PrmDef), (∀ f ∈ fs, DefCanon f) → ∀ st ∈ defsFrom id fs, StmtCanon st
  | _, [], _, st, hst => by cases hst
  | id, f :: fs, h, st, hst => by
    simp only [defsFrom, List.mem_append] at hst
    rcases hst with hst | hst
    · exact defStmts_canon id f (h f (List.mem_cons_self ..)) st hst
    · exact defsFrom_canon (id + 1) fs (fun g hg => h g (List.mem_cons_of_mem _ hg)) st hst

def PrmCanon (p : UserPrmData) : Prop := ∀ c ∈ p.dataConst, 2 ≤ c.2.length

instance (p : UserPrmData) : Decidable (PrmCanon p) := by unfold PrmCanon; infer_instance

theorem stmtCanon_setNum (key : String) (hk : keyOkB key.toList = true) (n : Nat) : StmtCanon (setNum key n) :=
  lineCanon_num hk

theorem userPrmStmts_canon (p : UserPrmData) (h : PrmCanon p) : ∀ st ∈ userPrmStmts p, StmtCanon st := by
  intro st hst
  unfold userPrmStmts at hst
  split at hst
  · simp only [List.mem_cons, List.mem_map] at hst
    rcases hst with rfl | ⟨c, hc, rfl⟩
    · exact stmtCanon_setNum _ (keyOk_of 45 rfl) _
    · have hk := keyOk_of_B (keyOk_of 46 rfl)
      exact ⟨⟨hk.1, ⟨(by intro m hm; cases hm), ⟨by simpa using h c hc,
        by intro n hn; obtain ⟨k, _, rfl⟩ := List.mem_map.mp hn; exact numCanon_decTok k⟩⟩⟩, hk.2⟩
  · simp only [List.mem_cons, List.mem_map, List.mem_append] at hst
    rcases hst with rfl | ⟨s, hs, rfl⟩
    · exact stmtCanon_setNum _ (keyOk_of 42 rfl) _
    · rcases hs with hs | hs
      · exact constSettings_canon _ h s hs
      · exact refSettings_canon _ _ s hs

structure ModCanon (m : Module) : Prop where
  name : NoQuote m.name
  config : m.config ≠ []
  info : ∀ t, m.infoText = some t → NoQuote t
  prm : PrmCanon m.prm

theorem itemsSettings_map (ss : List Setting) : itemsSettings (ss.map ModItem.setting) = ss := by
  induction ss with
  | nil => rfl
  | cons s ss ih => simp [itemsSettings, ih]

theorem itemsRef_settings (ss : List Setting) : itemsRef (ss.map ModItem.setting) = none := by
  cases ss <;> rfl

/-- The settings of a module in `astOf`, as a list. -/
def moduleSettings (id : Nat) (m : Module) : List Setting :=
  (match m.infoText with
   | some t => [{ key := "Info_Text".toList, index := none, value := .str (quote t) }]
   | none => []) ++
  [{ key := "Ext_Module_Prm_Data_Len".toList, index := none, value := .num (decTok m.prm.length) }] ++
  (constSettings m.prm.dataConst ++ refSettings id m.prm.dataRef)

def moduleAst (id : Nat) (m : Module) : ModuleStmt :=
  ⟨quote m.name, m.config.map decTok, refItems (m.reference.map decTok) ++ (moduleSettings id m).map ModItem.setting⟩

theorem moduleStmt_eq (id : Nat) (m : Module) : moduleStmt id m = .module (moduleAst id m) := by
  simp only [moduleStmt, moduleAst, moduleSettings]
  cases m.infoText <;> cases m.reference <;> simp [refItems]

theorem moduleSettings_canon (id : Nat) (m : Module) (h : ModCanon m) : ∀ s ∈ moduleSettings id m, SettingCanon s := by
  intro s hs
  simp only [moduleSettings, List.mem_append, List.mem_singleton] at hs
  rcases hs with (hs | rfl) | hs | hs
  · cases ht : m.infoText with
    | none => simp [ht] at hs
    | some t =>
      simp only [ht, List.mem_singleton] at hs
      subst hs
      exact ⟨keyChars_of_B (key := "Info_Text".toList) (by decide), ⟨(by intro n hn; cases hn), strCanon_quote (h.info t ht)⟩⟩
  · exact ⟨keyChars_of_B (key := "Ext_Module_Prm_Data_Len".toList) (by decide), ⟨(by intro n hn; cases hn), numCanon_decTok _⟩⟩
  · exact (constSettings_canon _ h.prm s hs).1
  · exact (refSettings_canon _ _ s hs).1

theorem moduleStmt_canon (id : Nat) (m : Module) (h : ModCanon m) : StmtCanon (moduleStmt id m) := by
  rw [moduleStmt_eq]
  show ModuleCanon (moduleAst id m)
  have hss := moduleSettings_canon id m h
  unfold moduleAst
  refine ⟨strCanon_quote h.name, by simpa using h.config, ?_, ?_, ?_, ?_⟩
  · intro x hx
    obtain ⟨k, _, rfl⟩ := List.mem_map.mp hx
    exact numCanon_decTok k
  · cases m.reference with
    | none => simp [refItems, itemsRef_settings, itemsSettings_map]
    | some r => simp [refItems, itemsRef, itemsSettings, itemsSettings_map]
  · intro n hn
    cases hr : m.reference with
    | none => simp [hr, refItems, itemsRef_settings] at hn
    | some r =>
      simp only [hr, Option.map_some, refItems, List.cons_append, List.nil_append, itemsRef, Option.some.injEq] at hn
      subst hn; exact natCanon_decTok r
  · intro s hs
    cases hr : m.reference with
    | none => rw [hr] at hs; simp only [Option.map_none, refItems, List.nil_append, itemsSettings_map] at hs; exact hss s hs
    | some r =>
      rw [hr] at hs
      simp only [Option.map_some, refItems, List.cons_append, List.nil_append, itemsSettings, itemsSettings_map] at hs
      exact hss s hs

theorem moduleStmtsFrom_canon : ∀ (id : Nat) (ms : List Module), (∀ m ∈ ms, ModCanon m) →
    ∀ st ∈ moduleStmtsFrom id ms, StmtCanon st
  | _, [], _, st, hst => by cases hst
  | id, m :: ms, h, st, hst => by
    simp only [moduleStmtsFrom, List.mem_cons] at hst
    rcases hst with rfl | hst
    · exact moduleStmt_canon id m (h m (List.mem_cons_self ..))
    · exact moduleStmtsFrom_canon _ ms (fun k hk => h k (List.mem_cons_of_mem _ hk)) st hst

theorem bitStmts_canon (key helpKey : String) (hk : keyOkB key.toList = true) (hh : keyOkB helpKey.toList = true)
    (bits : List (Nat × BitInfo)) (h : ∀ b ∈ bits, NoQuote b.2.text ∧ ∀ t, b.2.help = some t → NoQuote t) :
    ∀ st ∈ bitStmts key helpKey bits, StmtCanon st := by
  intro st hst
  simp only [bitStmts, List.mem_flatMap, List.mem_cons] at hst
  obtain ⟨b, hb, hst⟩ := hst
  rcases hst with rfl | hst
  · exact lineCanon_idx_str hk _ (h b hb).1
  · cases hh' : b.2.help with
    | none => simp [hh'] at hst
    | some t =>
      simp only [hh', List.mem_singleton] at hst
      subst hst
      exact lineCanon_idx_str hh _ ((h b hb).2 t hh')

/-- What the description must satisfy beyond `Desc.WF` for its canonical text to be readable. -/
structure DescCanon (d : Desc) : Prop where
  scalars : ScalarsNoQuote d
  defs : ∀ f ∈ allDefs d, DefCanon f
  prm : PrmCanon d.userPrmData
  modules : ∀ m ∈ d.availableModules, ModCanon m
  slots : ∀ s ∈ d.slots, NoQuote s.name ∧ s.allowed ≠ []
  bits : ∀ b ∈ d.diagBits, NoQuote b.2.text ∧ ∀ t, b.2.help = some t → NoQuote t
  notBits : ∀ b ∈ d.diagNotBits, NoQuote b.2.text ∧ ∀ t, b.2.help = some t → NoQuote t
  areas : ∀ a ∈ d.diagAreas, a.values ≠ [] ∧ ∀ kv ∈ a.values, NoQuote kv.2

theorem scalarStmts_canon (d : Desc) (hq : ScalarsNoQuote d) : ∀ st ∈ scalarStmts d, StmtCanon st := by
  intro st hst
  rw [← scalarStmts_settings d] at hst
  obtain ⟨s, hs, rfl⟩ := List.mem_map.mp hst
  exact scalar_lines_canon d hq s hs

theorem astOf_canon (d : Desc) (h : DescCanon d) : ∀ st ∈ astOf d, StmtCanon st := by
  intro st hst
  simp only [astOf, List.mem_append, List.mem_singleton, List.mem_map] at hst
  rcases hst with ((((((hst | hst) | hst) | hst) | rfl) | hst) | hst) | ⟨a, ha, rfl⟩
  · exact scalarStmts_canon d h.scalars st hst
  · exact defsFrom_canon 0 _ h.defs st hst
  · exact userPrmStmts_canon _ h.prm st hst
  · exact moduleStmtsFrom_canon _ _ h.modules st hst
  · intro s hs
    obtain ⟨sl, hsl, rfl⟩ := List.mem_map.mp hs
    obtain ⟨hn, hne⟩ := h.slots sl hsl
    refine ⟨numCanon_decTok _, strCanon_quote hn, numCanon_decTok _, ?_, ?_⟩
    · simpa [slotStmt] using hne
    · intro v hv
      obtain ⟨i, _, rfl⟩ := List.mem_map.mp hv
      exact numCanon_decTok _
  · exact bitStmts_canon _ _ (keyOk_of 47 rfl) (keyOk_of 48 rfl) _ h.bits st hst
  · exact bitStmts_canon _ _ (keyOk_of 49 rfl) (keyOk_of 50 rfl) _ h.notBits st hst
  · obtain ⟨hne, hq⟩ := h.areas a ha
    refine ⟨numCanon_decTok _, numCanon_decTok _, by simpa [areaStmt, areaLines] using hne, ?_⟩
    intro l hl
    obtain ⟨kv, hkv, rfl⟩ := List.mem_map.mp hl
    exact ⟨numCanon_decTok _, strCanon_quote (hq kv hkv)⟩

end PV.Gsd.Peg
