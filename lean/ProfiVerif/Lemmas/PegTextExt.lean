/-
The PEG on canonical text: `ExtUserPrmData … EndExtUserPrmData`.  What `extPrm?` makes of the pair is read off
`extPrm?_eq` (`PegAst`), which names the constraint step `constraint?`.
-/
import ProfiVerif.Lemmas.PegTextBlocks
import ProfiVerif.Lemmas.PegAst

namespace PV.Gsd.Peg

def kwBit : Str := ['B', 'i', 't']
def kwBitArea : Str := ['B', 'i', 't', 'A', 'r', 'e', 'a']

def typeText : TypeName → Str
  | .bit n => kwBit ++ '(' :: (numText n ++ [')'])
  | .bitArea a b => kwBitArea ++ '(' :: (numText a ++ '-' :: (numText b ++ [')']))
  | .ident name => name

def typeInner (t : TypeName) : Pair :=
  match t with
  | .bit n => .node .bit (typeText t) [numPair n]
  | .bitArea a b => .node .bit_area (typeText t) [numPair a, numPair b]
  | .ident name => .node .identifier name []

def typePair (t : TypeName) : Pair := .node .prm_data_type_name (typeText t) [typeInner t]

def TypeCanon : TypeName → Prop
  | .bit n => NumCanon n
  | .bitArea a b => NumCanon a ∧ NumCanon b
  | .ident name => KeyChars name ∧ clash (kwBit.map Char.toLower) name = true ∧ clash (kwBitArea.map Char.toLower) name = true

theorem typeName_typePair {t : TypeName} (h : TypeCanon t) : typeName? (typePair t) = some t := by
  cases t with
  | bit n => simp [typePair, typeInner, typeName?, Pair.rule, Pair.children, numTok_numPair (show NumCanon n from h)]
  | bitArea a b => simp [typePair, typeInner, typeName?, Pair.rule, Pair.children, numTok_numPair h.1, numTok_numPair h.2]
  | ident name => simp [typePair, typeInner, typeName?, Pair.rule, Pair.children, Pair.text]

theorem type_ok (t : TypeName) (h : TypeCanon t) :
    Sg (.call .prm_data_type_name) (typeText t) [typePair t] (Head (¬ IsIdChar ·)) Starts := by
  refine Sg.node (body := alts [.call .bit, .call .bit_area, .call .identifier]) rfl ?_
  cases t with
  | bit n =>
    have hn : NumCanon n := h
    have :=
      Sg.cons (.insens kwBit) (hm := .anyChar (by decide)) <|
      Sg.cons (.chr '(') (hm := .any fun _ => numHead_noSkip) <|
      Sg.cons (.number hn) (hm := .char (by decide)) <|
      Sg.last (.chr ')')
    exact ((Sg.node (q := .bit) rfl (this.cast (by simp only [typeText, List.cons_append, List.nil_append]) rfl)).mono
      (fun _ _ => trivial) fun _ => Begins.starts ⟨'B', _, rfl, by decide⟩).choice_l
  | bitArea a b =>
    obtain ⟨ha, hb⟩ := h
    -- `bit` matches `Bit` and then fails at `A`
    have hbit : ∀ tail p o, Ev false (.call .bit) (mk (typeText (.bitArea a b) ++ tail) p o) .fail := by
      intro tail p o
      refine Ev.call_fail (by decide) ?_
      show Ev false (.seq (.insens (kwBit.map Char.toLower)) (.seq (.str ['(']) _)) _ _
      have h1 := (Sg.insens kwBit).reads
        ('A' :: 'r' :: 'e' :: 'a' :: '(' :: (numText a ++ '-' :: (numText b ++ [')'])) ++ tail) p [] trivial
      exact Ev.seq h1 (sk_none (show NoSkipChar 'A' by decide))
        (Ev.seq_fail (Ev.str_fail (matchStr_single_none (show ('A' : Char) ≠ '(' by decide))))
    have :=
      Sg.cons (.insens kwBitArea) (hm := .anyChar (by decide)) <|
      Sg.cons (.chr '(') (hm := .any fun _ => numHead_noSkip) <|
      Sg.cons (.number ha) (hm := .char (by decide)) <|
      Sg.cons (.chr '-') (hm := .any fun _ => numHead_noSkip) <|
      Sg.cons (.number hb) (hm := .char (by decide)) <|
      Sg.last (.chr ')')
    exact Sg.choice_r (fun tail p o _ => hbit tail p o) ((Sg.node (q := .bit_area) rfl
      (this.cast (by simp only [typeText, List.cons_append, List.nil_append]) rfl)).mono (fun _ _ => trivial)
        fun _ => Begins.starts ⟨'B', _, rfl, by decide⟩).choice_l
  | ident name =>
    obtain ⟨hkey, hc1, hc2⟩ := h
    have hs : Starts name := by
      obtain ⟨c, w, rfl, hw⟩ := hkey
      exact ⟨c, w, rfl, hw c (List.mem_cons_self ..)⟩
    exact Sg.choice_r (fun tail p o _ => block_fail rfl (matchInsens_clash tail hc1) p o)
      (Sg.choice_r (fun tail p o _ => block_fail rfl (matchInsens_clash tail hc2) p o)
        ((Sg.identifier hkey).mono (fun _ h => h) fun _ => Begins.starts hs))

/-- Text of the constraint incl. the separating blank. -/
def conText : Option PrmConstraintAst → Str
  | none => []
  | some (.range a b) => ' ' :: (numText a ++ '-' :: numText b)
  | some (.set []) => []
  | some (.set (v :: vs)) => ' ' :: listText v vs

def conPairs : Option PrmConstraintAst → List Pair
  | none => []
  | some (.range a b) => [.node .prm_data_value_range (numText a ++ '-' :: numText b) [numPair a, numPair b]]
  | some (.set []) => []
  | some (.set (v :: vs)) => [.node .prm_data_value_set (listText v vs) ((v :: vs).map numPair)]

def ConCanon : Option PrmConstraintAst → Prop
  | none => True
  | some (.range a b) => NumCanon a ∧ NumCanon b
  | some (.set vs) => vs ≠ [] ∧ ∀ v ∈ vs, NumCanon v

def conE : Expr := .opt (.choice (.call .prm_data_value_range) (.call .prm_data_value_set))

theorem numFail_lf (rest : Str) (p : Nat) (o : List Pair) : Ev false (.call .number) (mk ('\n' :: rest) p o) .fail :=
  number_fail ('\n' :: rest) p o (show ¬ IsDigit '\n' ∧ ('\n' : Char) ≠ '-' by decide)

/-- After the default value: the implicit skip and the optional constraint, up to the line break. -/
theorem SgSk.con {c : Option PrmConstraintAst} (h : ConCanon c) :
    SgSk conE (conText c) (conPairs c) AtLf (fun s => Fst (· = ' ') s ∨ AtLf s) := by
  unfold conE
  match c, h with
  | .none, _ =>
    have hf : ∀ (q : Rule) (y : Expr), ruleDef q = (.normal, .seq (.call .number) y) → ∀ r p o,
        Ev false (.call q) (mk ('\n' :: r) p o) .fail := fun q y hq r p o =>
      Ev.call_fail (by rw [hq]; exact fun h => RuleTy.noConfusion h) (by rw [hq]; exact Ev.seq_fail (numFail_lf r p []))
    refine (SgSk.absent (by rintro _ ⟨r, rfl⟩; exact noSkip_lf) ?_).weaken fun _ => .inr
    rintro _ p o ⟨r, rfl⟩
    exact Ev.choice_r (hf _ _ rfl r p o) (hf _ _ rfl r p o)
  | some (.range a b), h =>
    exact (SgSk.blank (((Sg.node (q := .prm_data_value_range) rfl (Sg.range h.1 h.2)).choice_l.opt_some).mono
      (by rintro _ ⟨r, rfl⟩; exact numStop_lf) fun _ h => h) fun _ hs => hs.head fun _ => numHead_noSkip).weaken
      fun _ => .inl
  | some (.set []), h => exact (h.1 rfl).elim
  | some (.set (v :: vs)), h =>
    exact (SgSk.blank (((Sg.choice_r (x := .call .prm_data_value_range) (fun tail p o hs =>
        Ev.call_fail (by decide) (range_fail_set v vs (h.2 v (List.mem_cons_self ..)) tail hs p))
      (Sg.node (q := .prm_data_value_set) rfl (Sg.set h.2))).opt_some).mono
      (by rintro _ ⟨r, rfl⟩; exact setStop_lf) fun _ h => h) fun _ hs => hs.head fun _ => numHead_noSkip).weaken
      fun _ => .inl

def numLineText (kwLit : Str) (n : NumTok) : Str := kwLit ++ '=' :: (numText n ++ ['\n'])

def numLinePair (q : Rule) (kwLit : Str) (n : NumTok) : Pair := .node q (numLineText kwLit n) [numPair n]

def numLineBody (kwLit : Str) : Expr :=
  .seq (.insens (kwLit.map Char.toLower)) (.seq (.str ['=']) (.seq (.call .number) (.plus .newline)))

theorem numLine_ok (q : Rule) (kwLit : Str) (hq : ruleDef q = (.normal, numLineBody kwLit)) (n : NumTok) (hn : NumCanon n) :
    Sg (.call q) (numLineText kwLit n) [numLinePair q kwLit n] Starts (Begins kwLit) := by
  have :=
    Sg.cons (.insens kwLit) (hm := .anyChar (by decide)) <|
    Sg.cons (.chr '=') (hm := .any fun _ => numHead_noSkip) <|
    Sg.cons (.number hn) (hm := .lf fun _ => numStop_lf) <|
    Sg.last .nls
  exact Sg.node hq (this.cast (by simp only [numLineText, List.cons_append, List.nil_append]) rfl)

def optLineText (kwLit : Str) : Option NumTok → Str
  | none => []
  | some n => numLineText kwLit n

def optLinePairs (q : Rule) (kwLit : Str) : Option NumTok → List Pair
  | none => []
  | some n => [numLinePair q kwLit n]

def OptStop (kwLit : Str) (rest : Str) : Prop := Starts rest ∧ matchInsens (kwLit.map Char.toLower) rest = none

theorem optLine_ok (q : Rule) (kwLit : Str) (hq : ruleDef q = (.normal, numLineBody kwLit)) (v : Option NumTok)
    (hv : ∀ n, v = some n → NumCanon n) {S : Str → Prop} (hS : ∀ s, S s → OptStop kwLit s) :
    Sg (.opt (.call q)) (optLineText kwLit v) (optLinePairs q kwLit v) S (fun s => Begins kwLit s ∨ S s) := by
  cases v with
  | none =>
    refine (Sg.opt_none fun rest p o hr => Ev.call_fail (by rw [hq]; exact fun h => RuleTy.noConfusion h) ?_).mono
      (fun _ h => h) fun _ => .inr
    rw [hq]
    exact Ev.seq_fail (Ev.insens_fail (hS rest hr).2)
  | some n => exact (numLine_ok q kwLit hq n (hv n rfl)).opt_some.mono (fun s h => (hS s h).1) fun _ => .inl

theorem optStop_of_begins {kw w s : Str} (hw : Starts w) (hc : clash (kw.map Char.toLower) w = true) (h : Begins w s) :
    OptStop kw s := by
  obtain ⟨r, rfl⟩ := h
  exact ⟨hw.append r, matchInsens_clash r hc⟩

def kwExt : Str := ['E', 'x', 't', 'U', 's', 'e', 'r', 'P', 'r', 'm', 'D', 'a', 't', 'a']
def kwEndExt : Str := ['E', 'n', 'd', 'E', 'x', 't', 'U', 's', 'e', 'r', 'P', 'r', 'm', 'D', 'a', 't', 'a']
def kwRef : Str := ['P', 'r', 'm', '_', 'T', 'e', 'x', 't', '_', 'R', 'e', 'f']
def kwCh : Str := ['C', 'h', 'a', 'n', 'g', 'e', 'a', 'b', 'l', 'e']
def kwVis : Str := ['V', 'i', 's', 'i', 'b', 'l', 'e']

def extTail (e : ExtPrmStmt) : Str :=
  optLineText kwRef e.textRef ++ (optLineText kwCh e.changeable ++ (optLineText kwVis e.visible ++ kwEndExt))

def extText (e : ExtPrmStmt) : Str :=
  kwExt ++ '=' :: (numText e.id ++ ' ' :: (e.name ++ '\n' :: (typeText e.typ ++ ' ' :: (numText e.default ++
    (conText e.constraint ++ '\n' :: extTail e)))))

def extPair (e : ExtPrmStmt) : Pair :=
  .node .ext_user_prm_data (extText e)
    (numPair e.id :: strPair e.name :: typePair e.typ :: numPair e.default ::
      (conPairs e.constraint ++ (optLinePairs .prm_text_ref kwRef e.textRef ++
        (optLinePairs .prm_data_changeable kwCh e.changeable ++ optLinePairs .prm_data_visible kwVis e.visible))))

def ExtCanon (e : ExtPrmStmt) : Prop :=
  NumCanon e.id ∧ StrCanon e.name ∧ TypeCanon e.typ ∧ NumCanon e.default ∧ ConCanon e.constraint ∧
    (∀ n, e.textRef = some n → NumCanon n) ∧ (∀ n, e.changeable = some n → NumCanon n) ∧
    (∀ n, e.visible = some n → NumCanon n)

theorem ext_ok (e : ExtPrmStmt) (h : ExtCanon e) :
    Sg (.call .ext_user_prm_data) (extText e) [extPair e] Any (Begins kwExt) := by
  obtain ⟨hid, hname, hty, hd, hcon, href, hch, hvis⟩ := h
  obtain ⟨id, name, typ, dflt, con, ref, ch, vis⟩ := e
  simp only at hid hname hty hd hcon href hch hvis
  -- what can stand behind each of the optional lines starts a line …
  have sE : ∀ s, Begins kwEndExt s → Starts s := fun _ => Begins.starts ⟨'E', _, rfl, by decide⟩
  have sV : ∀ s, Begins kwVis s ∨ Begins kwEndExt s → Starts s := fun s h =>
    h.elim (Begins.starts ⟨'V', _, rfl, by decide⟩) (sE s)
  have sC : ∀ s, Begins kwCh s ∨ Begins kwVis s ∨ Begins kwEndExt s → Starts s := fun s h =>
    h.elim (Begins.starts ⟨'C', _, rfl, by decide⟩) (sV s)
  have sR : ∀ s, Begins kwRef s ∨ Begins kwCh s ∨ Begins kwVis s ∨ Begins kwEndExt s → Starts s := fun s h =>
    h.elim (Begins.starts ⟨'P', _, rfl, by decide⟩) (sC s)
  -- … and does not spell a keyword it clashes with
  have oE {kw s} (hc : clash (kw.map Char.toLower) kwEndExt = true) (h : Begins kwEndExt s) : OptStop kw s :=
    optStop_of_begins ⟨'E', _, rfl, by decide⟩ hc h
  have oV {kw s} (hc : clash (kw.map Char.toLower) kwVis = true) (h : Begins kwVis s) : OptStop kw s :=
    optStop_of_begins ⟨'V', _, rfl, by decide⟩ hc h
  have oC {kw s} (hc : clash (kw.map Char.toLower) kwCh = true) (h : Begins kwCh s) : OptStop kw s :=
    optStop_of_begins ⟨'C', _, rfl, by decide⟩ hc h
  have :=
    Sg.cons (.insens kwExt) (hm := .anyChar (by decide)) <|
    Sg.cons (.chr '=') (hm := .any fun _ => numHead_noSkip) <|
    Sg.consB (.number hid) (hm := .blank (fun _ => show NumStop ' ' by decide) (by rintro _ rfl; exact quote_noSkip)) <|
    Sg.cons (.string hname) (hm := .lf fun _ => trivial) <|
    Sg.cons .nls (hm := .starts fun _ h => h) <|
    Sg.consB (type_ok typ hty) (hm := .blank (fun _ => show ¬ IsIdChar ' ' by decide) fun _ => numHead_noSkip) <|
    Sg.consSk (.number hd) (hm := by rintro _ (⟨_, r, rfl, rfl⟩ | ⟨r, rfl⟩) <;> (show NumStop _; decide)) <|
    SgSk.cons (.con hcon) (hm := .lf fun r => ⟨r, rfl⟩) <|
    Sg.cons .nls (hm := .starts sR) <|
    Sg.cons (optLine_ok .prm_text_ref kwRef rfl ref href fun s h =>
        h.elim (oC (by decide)) fun h => h.elim (oV (by decide)) (oE (by decide)))
      (hm := .self fun s h => (sC s h).noSkip) <|
    Sg.cons (optLine_ok .prm_data_changeable kwCh rfl ch hch fun s h => h.elim (oV (by decide)) (oE (by decide)))
      (hm := .self fun s h => (sV s h).noSkip) <|
    Sg.cons (optLine_ok .prm_data_visible kwVis rfl vis hvis fun s => oE (by decide))
      (hm := .self fun s h => (sE s h).noSkip) <|
    Sg.last (.insens kwEndExt)
  refine Sg.node rfl (this.cast ?_ ?_)
  · simp only [extText, extTail, List.cons_append, List.nil_append]
  · simp only [List.cons_append, List.nil_append, List.append_nil]

theorem constraint_conPairs (c : Option PrmConstraintAst) (hc : ConCanon c) (rest : List Pair)
    (hrest : ∀ q r, rest = q :: r → q.rule ≠ .prm_data_value_range ∧ q.rule ≠ .prm_data_value_set) :
    constraint? (conPairs c ++ rest) = some (c, rest) := by
  match c, hc with
  | none, _ =>
    cases rest with
    | nil => rfl
    | cons q r =>
      obtain ⟨h1, h2⟩ := hrest q r rfl
      simp [conPairs, constraint?, h1, h2]
  | some (.range a b), h =>
    simp [conPairs, constraint?, Pair.rule, Pair.children, numTok_numPair h.1, numTok_numPair h.2]
  | some (.set []), h => exact (h.1 rfl).elim
  | some (.set (v :: vs)), h =>
    have := numToks_numPairs h.2
    simp only [List.map_cons] at this
    simp [conPairs, constraint?, Pair.rule, Pair.children, this]

theorem optNumChild_optLine (q : Rule) (kw : Str) (v : Option NumTok) (hv : ∀ n, v = some n → NumCanon n) (rest : List Pair)
    (hrest : ∀ x r, rest = x :: r → x.rule ≠ q) :
    optNumChild q (optLinePairs q kw v ++ rest) = some (v, rest) := by
  cases v with
  | none =>
    cases rest with
    | nil => rfl
    | cons x r => simp [optLinePairs, optNumChild, hrest x r rfl]
  | some n => simp [optLinePairs, optNumChild, numLinePair, Pair.rule, Pair.children, numTok_numPair (hv n rfl)]

theorem optLinePairs_rule (q : Rule) (kw : Str) (v : Option NumTok) (x : Pair) (r : List Pair) (rest : List Pair)
    (h : optLinePairs q kw v ++ rest = x :: r) : x.rule = q ∨ rest = x :: r := by
  cases v with
  | none => exact .inr h
  | some n =>
    simp only [optLinePairs, List.cons_append, List.nil_append, List.cons.injEq] at h
    exact .inl (h.1 ▸ rfl)

theorem extPrm_extPair (e : ExtPrmStmt) (h : ExtCanon e) : extPrm? (extPair e) = some e := by
  obtain ⟨hid, hname, hty, hd, hcon, href, hch, hvis⟩ := h
  obtain ⟨id, name, typ, dflt, con, ref, ch, vis⟩ := e
  simp only at hid hname hty hd hcon href hch hvis
  rw [extPrm?_eq]
  -- rules of the pairs that may follow
  have hvisR : ∀ x r, optLinePairs .prm_data_visible kwVis vis = x :: r → x.rule = .prm_data_visible := by
    intro x r hx
    cases vis with
    | none => cases hx
    | some n => simp only [optLinePairs, List.cons.injEq] at hx; exact hx.1 ▸ rfl
  have hchR : ∀ x r, optLinePairs .prm_data_changeable kwCh ch ++ optLinePairs .prm_data_visible kwVis vis = x :: r →
      x.rule = .prm_data_changeable ∨ x.rule = .prm_data_visible := by
    intro x r hx
    rcases optLinePairs_rule _ _ _ _ _ _ hx with h | h
    · exact .inl h
    · exact .inr (hvisR x r h)
  have hrefR : ∀ x r, optLinePairs .prm_text_ref kwRef ref ++ (optLinePairs .prm_data_changeable kwCh ch ++
      optLinePairs .prm_data_visible kwVis vis) = x :: r →
      x.rule = .prm_text_ref ∨ x.rule = .prm_data_changeable ∨ x.rule = .prm_data_visible := by
    intro x r hx
    rcases optLinePairs_rule _ _ _ _ _ _ hx with h | h
    · exact .inl h
    · exact .inr (hchR x r h)
  have c1 := constraint_conPairs con hcon _ (by
    intro x r hx
    rcases hrefR x r hx with h | h | h <;> rw [h] <;> decide)
  have c2 := optNumChild_optLine .prm_text_ref kwRef ref href
    (optLinePairs .prm_data_changeable kwCh ch ++ optLinePairs .prm_data_visible kwVis vis) (by
    intro x r hx
    rcases hchR x r hx with h | h <;> rw [h] <;> decide)
  have c3 := optNumChild_optLine .prm_data_changeable kwCh ch hch (optLinePairs .prm_data_visible kwVis vis) (by
    intro x r hx
    rw [hvisR x r hx]; decide)
  have c4 := optNumChild_optLine .prm_data_visible kwVis vis hvis [] (by intro x r hx; cases hx)
  simp only [List.append_nil] at c4
  simp [extPair, Pair.children, numTok_numPair hid, numTok_numPair hd, typeName_typePair hty, c1, c2, c3, c4]

def extItem (e : ExtPrmStmt) : Item := ⟨extText e, extPair e, .extPrm e⟩

theorem extItem_good (e : ExtPrmStmt) (h : ExtCanon e) : (extItem e).Good := by
  refine Item.good_of 1 rfl ⟨'E', _, rfl, by decide⟩ (fun _ => trivial) (by decide) (ext_ok e h) ?_
  have := extPrm_extPair e h
  simp [extItem, stmt?, extPair, Pair.rule] at this ⊢
  simpa [extPair] using this

end PV.Gsd.Peg
