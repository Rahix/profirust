/-
The PEG on canonical text, file level: the `gsd` rule — a file `#Profibus_DP` + one statement (`Item`) per line or
block is parsed to the pair tree whose `toAst` is the list of those statements.
-/
import ProfiVerif.Lemmas.PegTextGsd

namespace PV.Gsd.Peg

/-- `#Profibus_DP` + line break. -/
def hdr : Str := ['#', 'P', 'r', 'o', 'f', 'i', 'b', 'u', 's', '_', 'D', 'P', '\n']

theorem startBody_ok (rest : Str) (p : Nat) :
    Ev true (ruleDef .start).2 (mk (hdr ++ rest) p []) (.ok (mk rest (p + 13) [])) := by
  show Ev true (.seq (.str ['#']) (.seq (.insens ['p', 'r', 'o', 'f', 'i', 'b', 'u', 's', '_', 'd', 'p']) .newline)) _ _
  have h1 : Ev true (.str ['#']) (mk (hdr ++ rest) p [])
      (.ok (mk (['P', 'r', 'o', 'f', 'i', 'b', 'u', 's', '_', 'D', 'P'] ++ '\n' :: rest) (p + 1) [])) :=
    Ev.str_ok (l := ['#']) (show matchStr ['#'] ('#' :: _) = _ from matchStr_single_some)
  have h2 : Ev true (.insens ['p', 'r', 'o', 'f', 'i', 'b', 'u', 's', '_', 'd', 'p'])
      (mk (['P', 'r', 'o', 'f', 'i', 'b', 'u', 's', '_', 'D', 'P'] ++ '\n' :: rest) (p + 1) [])
      (.ok (mk ('\n' :: rest) (p + 1 + 11) [])) :=
    Ev.insens_ok (matchInsens_lower ['P', 'r', 'o', 'f', 'i', 'b', 'u', 's', '_', 'D', 'P'] ('\n' :: rest))
  have h3 : Ev true .newline (mk ('\n' :: rest) (p + 1 + 11) []) (.ok (mk rest (p + 1 + 11 + 1) [])) :=
    Ev.newline_lf rfl
  exact Ev.seq h1 Sk.atomic (Ev.seq h2 Sk.atomic h3)

def anyP : Pair := .node .any_text [] []
def startP : Pair := .node .start hdr []
def eoiP : Pair := .node .EOI [] []

theorem anyText_ok : Sg (.call .any_text) [] [anyP] (Begins hdr) (Begins hdr) where
  reads := by
    rintro _ p o ⟨rest, rfl⟩
    show Ev false _ (mk (hdr ++ rest) p o) (.ok (mk (hdr ++ rest) p (anyP :: o)))
    have hline : Ev true (.call .any_line) (mk (hdr ++ rest) p []) .fail := by
      refine Ev.call_fail (by decide) ?_
      show Ev true (.seq (.npred (.call .start)) _) _ _
      exact Ev.seq_fail (Ev.npred_fail (Ev.call_atomic (by decide) (startBody_ok rest p)))
    have := Ev.call_node (q := .any_text) (ty := .atomic) (st := mk (hdr ++ rest) p o) rfl (by decide) (Ev.star_nil hline)
    simpa only [mk, Nat.sub_self, List.take_zero, List.reverse_nil, anyP] using this
  front _ h := h

theorem start_ok : Sg (.call .start) hdr [startP] Any (Begins hdr) where
  reads rest p o _ := by
    show Ev false _ (mk (hdr ++ rest) p o) (.ok (mk rest (p + 13) (startP :: o)))
    have := Ev.call_node (q := .start) (ty := .atomic) (st := mk (hdr ++ rest) p o) rfl (by decide) (startBody_ok rest p)
    have ht : List.take (p + 13 - p) (hdr ++ rest) = hdr := take_token hdr rest p
    simpa only [mk, ht, List.reverse_nil, startP] using this
  front tail _ := ⟨tail, rfl⟩

theorem eoi_ok : Sg (.call .EOI) [] [eoiP] (· = []) (· = []) where
  reads := by
    rintro _ p o rfl
    show Ev false _ (mk [] p o) (.ok (mk [] p (eoiP :: o)))
    have := Ev.call_node (q := .EOI) (ty := .normal) (st := mk [] p o) rfl (by decide)
      (show Ev false (.npred .any) (mk [] p []) (.ok (mk [] p [])) from Ev.npred_ok (Ev.any_fail rfl))
    simpa only [mk, Nat.sub_self, List.take_zero, List.reverse_nil, eoiP] using this
  front _ h := h

def linesText : List Item → Str
  | [] => []
  | s :: ss => s.text ++ '\n' :: linesText ss

def fileText (ss : List Item) : Str := hdr ++ linesText ss

def iterE : Expr := .seq (.plus .newline) (.call .statement)

theorem iter_end (p : Nat) (o : List Pair) : Ev false iterE (mk ['\n'] p o) .fail := by
  have hplus : Ev false (.plus .newline) (mk ['\n'] p o) (.ok (mk [] (p + 1) o)) :=
    Ev.plus_one (Ev.newline_lf rfl) (sk_none trivial) (newline_fail_nil (p + 1) o)
  exact Ev.seq hplus (sk_none trivial) (statement_eof_fail (p + 1) o)

/-- The statements behind the first, each with the line feed in front of it; the last line feed stays. -/
def fileItems (ss : List Item) : List (Str × List Pair) := ss.map fun s => ('\n' :: s.text, [s.pair])

theorem itemsText_file : ∀ ss : List Item, itemsText (fileItems ss) ++ ['\n'] = '\n' :: linesText ss
  | [] => rfl
  | s :: ss => by
    have := itemsText_file ss
    simp only [itemsText, fileItems, List.map_cons, List.flatMap_cons, List.cons_append, List.append_assoc,
      linesText] at this ⊢
    rw [this]

theorem itemsPairs_file : ∀ ss : List Item, itemsPairs (fileItems ss) = ss.map Item.pair
  | [] => rfl
  | s :: ss => by
    have := itemsPairs_file ss
    simp only [itemsPairs, fileItems, List.map_cons, List.flatMap_cons, List.cons_append, List.nil_append] at this ⊢
    rw [this]

theorem starSg_file {ss : List Item} (h : ∀ s ∈ ss, s.Good) : StarSg iterE AtLf (· = ['\n']) AtLf (fileItems ss) where
  item it hit := by
    obtain ⟨s, hs, rfl⟩ := List.mem_map.mp hit
    exact Sg.cons .nls (hm := .starts fun _ h => h) <| Sg.last (h s hs).sg
  link := .lf fun r => ⟨r, rfl⟩
  stop := by
    rintro _ rfl
    exact ⟨⟨[], rfl⟩, noSkip_lf, iter_end⟩

def filePair (ss : List Item) : Pair :=
  .node .gsd (fileText ss) (anyP :: startP :: (ss.map Item.pair ++ [eoiP]))

theorem gsd_ok (s : Item) (ss : List Item) (h : ∀ x ∈ s :: ss, x.Good) :
    Ev false (.call .gsd) (mk (fileText (s :: ss)) 0 [])
      (.ok (mk [] (0 + (fileText (s :: ss)).length) [filePair (s :: ss)])) := by
  have hs := h s (List.mem_cons_self ..)
  have hok := starSg_file fun x hx => h x (List.mem_cons_of_mem _ hx)
  have sHdr : ∀ t, Begins hdr t → Head NoSkipChar t := by
    rintro _ ⟨r, rfl⟩
    exact show NoSkipChar '#' by decide
  -- no line break behind the header line, one in front of the end of the text
  have noLf : Sg (.star .newline) [] [] Starts Starts := Sg.star_nil fun t p o ht => ht.newline_fail p o
  have lastLf : Sg (.star .newline) ['\n'] [] (· = []) (· = ['\n']) := by
    refine ⟨?_, by rintro _ rfl; rfl⟩
    rintro _ p o rfl
    exact Ev.star_cons (Ev.newline_lf rfl) (Lp.stop (sk_none trivial) (newline_fail_nil (p + 1) o))
  -- everything behind `SOI`
  have rest :=
    Sg.cons anyText_ok (hm := .self sHdr) <|
    Sg.cons start_ok (hm := fun _ h => ⟨trivial, h.noSkip⟩) <|
    Sg.cons noLf (hm := .starts fun _ h => h) <|
    Sg.cons hs.sg (hm := fun _ h => h.elim (hok.link _) fun h => by subst h; exact ⟨⟨[], rfl⟩, noSkip_lf⟩) <|
    Sg.cons (Sg.star_items hok) (hm := fun _ h => by subst h; exact ⟨rfl, noSkip_lf⟩) <|
    Sg.cons lastLf (hm := fun _ h => by subst h; exact ⟨rfl, trivial⟩) <|
    Sg.last eoi_ok
  have hT : [] ++ (hdr ++ ([] ++ (s.text ++ (itemsText (fileItems ss) ++ (['\n'] ++ []))))) = fileText (s :: ss) := by
    simp only [List.nil_append, List.append_nil, itemsText_file, fileText, linesText]
  have body : Ev false (ruleDef .gsd).2 (mk (fileText (s :: ss)) 0 []) _ :=
    Ev.seq (x := .soi) (Ev.soi_ok rfl) (sk_none (sHdr _ ⟨_, rfl⟩)) (by
      have := rest.reads [] 0 [] rfl
      rwa [List.append_nil, hT] at this)
  have := Ev.call_node (q := .gsd) (ty := .normal) (st := mk (fileText (s :: ss)) 0 []) rfl (by decide) body
  -- bookkeeping: the text of the node is the whole input, its children the pairs of `rest` in text order
  simpa only [mk, Nat.sub_zero, Nat.zero_add, List.take_length, List.append_nil, List.reverse_reverse, itemsPairs_file,
    List.nil_append, List.cons_append, List.singleton_append, List.append_assoc, filePair, List.map_cons] using this

theorem stmts_items : ∀ (ss : List Item), (∀ s ∈ ss, s.Good) →
    stmts? (ss.map Item.pair ++ [eoiP]) = some (ss.map Item.stmt)
  | [], _ => rfl
  | s :: ss, h => by
    have h1 := (h s (List.mem_cons_self ..)).ast
    have h2 := stmts_items ss (fun x hx => h x (List.mem_cons_of_mem _ hx))
    simp [stmts?, h1, h2]

theorem toAst_filePair (ss : List Item) (h : ∀ s ∈ ss, s.Good) :
    toAst (filePair ss) = some (ss.map Item.stmt) := by
  have := stmts_items ss h
  simp [toAst, filePair, Pair.rule, Pair.children, stmts?, stmt?, anyP, startP, this]

end PV.Gsd.Peg
