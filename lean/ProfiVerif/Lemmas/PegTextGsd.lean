/-
The PEG on canonical text, line level: block keywords that do not match a setting key, line starts and line
breaks, the dispatch of `statement` (the rule at place `i` answers when the block keywords in front of it clash with
the text), and statements as items (`Item`: text, pair, AST statement); settings as items.
-/
import ProfiVerif.Lemmas.PegTextSetting

namespace PV.Gsd.Peg

/-- `true`: the lower-case keyword `kw` differs from `key` (compared case-insensitively) at a position
both have — so `^"kw"` fails on `key ++ anything`. -/
def clash : Str → Str → Bool
  | [], _ => false
  | _ :: _, [] => false
  | a :: as, b :: bs => if a = b.toLower then clash as bs else true

theorem matchInsens_clash : ∀ {kw key : Str} (t : Str), clash kw key = true → matchInsens kw (key ++ t) = none
  | [], _, _, h => by simp [clash] at h
  | _ :: _, [], _, h => by simp [clash] at h
  | a :: as, b :: bs, t, h => by
    simp only [clash] at h
    simp only [List.cons_append, matchInsens]
    split
    · next hab => simp only [hab, if_true] at h; exact matchInsens_clash t h
    · rfl

/-- The keywords that open the block statements of gsd.pest (lower case). -/
def blockKeywords : List Str :=
  ["prmtext".toList, "extuserprmdata".toList, "module".toList, "slotdefinition".toList, "unitdiagtype".toList,
   "unit_diag_area".toList, "version_firmware_download".toList, "physical_interface".toList, "jokerblock_type".toList]

def KeyFree (key : Str) : Prop := ∀ kw ∈ blockKeywords, clash kw key = true

instance (key : Str) : Decidable (KeyFree key) := by unfold KeyFree; infer_instance

theorem block_fail {q : Rule} {kw : Str} {body : Expr} (hq : ruleDef q = (.normal, .seq (.insens kw) body))
    {rest : Str} (hm : matchInsens kw rest = none) (p : Nat) (o : List Pair) :
    Ev false (.call q) (mk rest p o) .fail := by
  refine Ev.call_fail (by rw [hq]; exact fun h => RuleTy.noConfusion h) ?_
  rw [hq]
  exact Ev.seq_fail (Ev.insens_fail hm)

theorem idChar_props {c : Char} (h : IsIdChar c) : NoSkipChar c ∧ c ≠ '\n' ∧ c ≠ '\r' := by
  unfold NoSkipChar
  rcases h with h | h | h | h | h
  all_goals (refine ⟨⟨?_, ?_, ?_, ?_⟩, ?_, ?_⟩ <;> (intro e; subst e; revert h; decide))

theorem newline_fail_at {c : Char} {rest : Str} (h : c ≠ '\n' ∧ c ≠ '\r') (p : Nat) (o : List Pair) :
    Ev false .newline (mk (c :: rest) p o) .fail :=
  Ev.newline_fail (by intro ch r' e; cases e; exact h)

theorem newline_fail_nil (p : Nat) (o : List Pair) : Ev false .newline (mk [] p o) .fail :=
  Ev.newline_fail (by intro ch r' e; cases e)

theorem noSkip_lf : NoSkipChar '\n' := by unfold NoSkipChar; decide

def Starts (t : Str) : Prop := ∃ c r, t = c :: r ∧ IsIdChar c

theorem Starts.append {t : Str} (h : Starts t) (u : Str) : Starts (t ++ u) := by
  obtain ⟨c, r, rfl, hc⟩ := h
  exact ⟨c, r ++ u, rfl, hc⟩

theorem Starts.noSkip {t : Str} (h : Starts t) : Head NoSkipChar t :=
  Fst.head h fun _ hc => (idChar_props hc).1

theorem Starts.newline_fail {t : Str} (h : Starts t) (p : Nat) (o : List Pair) : Ev false .newline (mk t p o) .fail := by
  obtain ⟨c, r, rfl, hc⟩ := h
  exact newline_fail_at (idChar_props hc).2 p o

theorem Begins.starts {w s : Str} (hw : Starts w) (h : Begins w s) : Starts s := by
  obtain ⟨r, rfl⟩ := h
  exact hw.append r

theorem Link.starts {T : Str → Prop} (h : ∀ s, T s → Starts s) : Link T Starts :=
  fun s hs => ⟨h s hs, (h s hs).noSkip⟩

def AtLf (tail : Str) : Prop := ∃ r, tail = '\n' :: r

theorem Link.lf {S : Str → Prop} (h : ∀ r, S ('\n' :: r)) : Link AtLf S := by
  rintro _ ⟨r, rfl⟩
  exact ⟨h r, noSkip_lf⟩

theorem valStop_lf : ValStop '\n' := by unfold ValStop NumStop NoSkipChar IsDigit; decide

theorem Sg.nls : Sg (.plus .newline) ['\n'] [] Starts AtLf where
  reads _ p o h := Ev.plus_one (Ev.newline_lf rfl) (sk_none h.noSkip) (h.newline_fail (p + 1) o)
  front tail _ := ⟨tail, rfl⟩

def statementE : Expr := .call .statement

/-- The alternatives of `statement`, in the order of gsd.pest. -/
def stmtRules : List Rule :=
  [.prm_text, .ext_user_prm_data, .module, .slot_definition, .unit_diag_type, .unit_diag_area,
   .version_dl_definition, .physical_interface, .jokerblock_type, .setting]

theorem blockRules_fail {s : Str} {p : Nat} {o : List Pair} : ∀ qk ∈ stmtRules.zip blockKeywords,
    matchInsens qk.2 s = none → Ev false (.call qk.1) (mk s p o) .fail := by
  intro qk h
  simp only [stmtRules, blockKeywords, List.zip_cons_cons, List.zip_nil_right, List.mem_cons, List.not_mem_nil,
    or_false] at h
  -- hands the unifier the characters of the keywords (it would decode each literal otherwise)
  repeat rw [String.toList_ofList] at h
  rcases h with rfl | rfl | rfl | rfl | rfl | rfl | rfl | rfl | rfl
  · exact fun hm => block_fail rfl hm p o
  · exact fun hm => block_fail rfl hm p o
  · exact fun hm => block_fail rfl hm p o
  · exact fun hm => block_fail rfl hm p o
  · exact fun hm => block_fail rfl hm p o
  · exact fun hm => block_fail rfl hm p o
  · exact fun hm => block_fail rfl hm p o
  · exact fun hm => block_fail rfl hm p o
  · exact fun hm => block_fail rfl hm p o

theorem Sg.statement (i : Nat) {q : Rule} (hq : stmtRules[i]? = some q) {w t : Str} {ps : List Pair}
    {S : Str → Prop} (hc : ∀ kw ∈ blockKeywords.take i, clash kw w = true) (h : Sg (.call q) t ps S (Begins w)) :
    Sg statementE t ps S (Begins w) := by
  refine ⟨fun tail p o ht => Ev.call_silent rfl ?_, h.front⟩
  obtain ⟨r, hr⟩ := h.front tail ht
  refine Ev.alts_at (stmtRules.map Expr.call) i (by rw [List.getElem?_map, hq]; rfl) (fun j x hj hx => ?_) (h.reads tail p o ht)
  -- alternative `j < i` is block rule `j` (the one alternative that is not a block rule, `setting`, stands last),
  -- and its keyword clashes with `w`
  rw [List.getElem?_map] at hx
  obtain ⟨qj, hqj, rfl⟩ := Option.map_eq_some_iff.mp hx
  have hi : i < blockKeywords.length + 1 := (List.getElem?_eq_some_iff.mp hq).1
  have hj9 : j < blockKeywords.length := by omega
  have hk : blockKeywords[j]? = some blockKeywords[j] := List.getElem?_eq_getElem hj9
  refine blockRules_fail (qj, blockKeywords[j]) (List.mem_of_getElem? (List.getElem?_zip_eq_some.mpr ⟨hqj, hk⟩)) ?_
  rw [hr]
  exact matchInsens_clash r (hc _ (List.mem_of_getElem? (by rw [List.getElem?_take_of_lt hj]; exact hk)))

theorem statement_eof_fail (p : Nat) (o : List Pair) : Ev false statementE (mk [] p o) .fail := by
  refine Ev.call_silent rfl (Ev.alts_fail (stmtRules.map Expr.call) fun x hx => ?_)
  simp only [stmtRules, List.map_cons, List.map_nil, List.mem_cons, List.not_mem_nil, or_false] at hx
  rcases hx with rfl | rfl | rfl | rfl | rfl | rfl | rfl | rfl | rfl | rfl
  · exact block_fail rfl rfl p o
  · exact block_fail rfl rfl p o
  · exact block_fail rfl rfl p o
  · exact block_fail rfl rfl p o
  · exact block_fail rfl rfl p o
  · exact block_fail rfl rfl p o
  · exact block_fail rfl rfl p o
  · exact block_fail rfl rfl p o
  · exact block_fail rfl rfl p o
  · exact Ev.call_fail (by decide) (Ev.seq_fail (identifier_fail [] p [] trivial))

structure Item where
  text : Str
  pair : Pair
  stmt : Stmt

/-- What the file level needs of a statement.  `head`: the `NEWLINE+` in front of it stops there (`Sg.nls` needs `Starts`);
`parses` is asked for in front of a line feed only, which is what follows every statement of a canonical file. -/
structure Item.Good (it : Item) : Prop where
  head : ∃ c r, it.text = c :: r ∧ IsIdChar c
  parses : ∀ (rest : Str) (p : Nat) (o : List Pair),
    Ev false statementE (Peg.mk (it.text ++ '\n' :: rest) p o) (.ok (Peg.mk ('\n' :: rest) (p + it.text.length) (it.pair :: o)))
  ast : stmt? it.pair = some (some it.stmt)

theorem Item.Good.sg {it : Item} (h : it.Good) : Sg statementE it.text [it.pair] AtLf Starts where
  reads := by
    rintro _ p o ⟨r, rfl⟩
    exact h.parses r p o
  front tail _ := by
    obtain ⟨c, r, hr, hc⟩ := h.head
    exact ⟨c, r ++ tail, by rw [hr]; rfl, hc⟩

/-- A statement from the segment of its rule: the front of the segment gives the head, the dispatch the parse. -/
theorem Item.good_of (i : Nat) {q : Rule} (hq : stmtRules[i]? = some q) {w : Str} (hw : Starts w) {it : Item}
    {S : Str → Prop} (hS : ∀ r, S ('\n' :: r)) (hc : ∀ kw ∈ blockKeywords.take i, clash kw w = true)
    (h : Sg (.call q) it.text [it.pair] S (Begins w)) (hast : stmt? it.pair = some (some it.stmt)) : it.Good where
  head := by
    obtain ⟨c, r, hr, hc⟩ := Begins.starts hw (h.front ['\n'] (hS []))
    cases ht : it.text with
    | nil => rw [ht] at hr; cases hr; exact absurd hc (by decide)
    | cons d u => rw [ht] at hr; cases hr; exact ⟨c, u, rfl, hc⟩
  parses rest p o := (Sg.statement i hq hc h).reads ('\n' :: rest) p o (hS rest)
  ast := hast

def LineCanon (s : Setting) : Prop := SettingCanon s ∧ KeyFree s.key

def settingItem (s : Setting) : Item := ⟨settingText s, settingPair s, .setting s⟩

theorem settingItem_good {s : Setting} (hs : LineCanon s) : (settingItem s).Good := by
  obtain ⟨c, w, hkey, hw⟩ := hs.1.1
  refine Item.good_of 9 rfl ⟨c, w, hkey, hw c (List.mem_cons_self ..)⟩ (fun _ => valStop_lf) hs.2
    (setting_ok s hs.1) ?_
  have h1 := setting_settingPair hs.1
  simp [settingItem, stmt?, settingPair, Pair.rule] at h1 ⊢
  simpa [settingPair] using h1

end PV.Gsd.Peg
