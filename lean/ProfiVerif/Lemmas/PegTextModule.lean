/-
The PEG on canonical text: `Module … EndModule` (name, configuration bytes, optional reference line,
setting lines).
-/
import ProfiVerif.Lemmas.PegTextBlocks

namespace PV.Gsd.Peg

def settingLine (s : Setting) : BlockLine := ⟨settingText s ++ ['\n'], [settingPair s]⟩

def settingLineE : Expr := .seq (.call .setting) (.plus .newline)

theorem settingLine_good (s : Setting) (h : SettingCanon s) : (settingLine s).Good settingLineE where
  starts := by
    obtain ⟨c, w, hkey, hw⟩ := h.1
    exact Begins.starts ⟨c, w, hkey, hw c (List.mem_cons_self ..)⟩ ((setting_ok s h).front ['\n'] valStop_lf)
  parses := (Sg.cons (setting_ok s h) (hm := .lf fun _ => valStop_lf) <| Sg.last .nls).reads

/-- A line consisting of identifier characters only is not a setting (no `=`). -/
theorem setting_fail_line (c : Char) (w rest : Str) (hw : ∀ d ∈ c :: w, IsIdChar d) (p : Nat) (o : List Pair) :
    Ev false (.call .setting) (mk (c :: w ++ '\n' :: rest) p o) .fail := by
  refine Ev.call_fail (by decide) ?_
  show Ev false (.seq (.call .identifier) (.seq (.opt (.seq (.str ['(']) (.seq (.call .number) (.str [')']))))
    (.seq (.str ['=']) (.call .setting_value)))) _ _
  have hid := identifier_ok c w ('\n' :: rest) p [] hw (show ¬ IsIdChar '\n' by decide)
  refine Ev.seq hid (sk_lf _ _ _) (Ev.seq (Ev.opt_none (Ev.seq_fail (Ev.str_fail
    (matchStr_single_none (show ('\n' : Char) ≠ '(' by decide))))) (sk_lf _ _ _)
    (Ev.seq_fail (Ev.str_fail (matchStr_single_none (show ('\n' : Char) ≠ '=' by decide)))))

theorem settingLine_fail (c : Char) (w rest : Str) (hw : ∀ d ∈ c :: w, IsIdChar d) (p : Nat) (o : List Pair) :
    Ev false settingLineE (mk (c :: w ++ '\n' :: rest) p o) .fail :=
  Ev.seq_fail (setting_fail_line c w rest hw p o)

theorem flatMap_settingLines (ss : List Setting) : (ss.map settingLine).flatMap (·.pairs) = ss.map settingPair := by
  induction ss with
  | nil => rfl
  | cons s ss ih => simp [List.flatMap_cons, settingLine, ih]

/-- Reference numbers are written without sign. -/
def NatCanon (n : NumTok) : Prop := ∃ d ds, n = .dec (d :: ds) ∧ ∀ c ∈ d :: ds, IsDigit c

theorem NatCanon.num {n : NumTok} (h : NatCanon n) : NumCanon n := by
  obtain ⟨d, ds, rfl, hd⟩ := h
  exact ⟨d, ds, .inl rfl, hd⟩

theorem isDigit_idChar {c : Char} (h : IsDigit c) : IsIdChar c := .inl h

def refText : Option NumTok → Str
  | none => []
  | some n => numText n ++ ['\n']

def refPairs : Option NumTok → List Pair
  | none => []
  | some n => [.node .module_reference (numText n ++ ['\n']) [numPair n]]

theorem ref_ok (n : NumTok) (hn : NumCanon n) :
    Sg (.call .module_reference) (refText (some n)) (refPairs (some n)) Starts (Fst NumHead) :=
  Sg.node rfl <|
    Sg.cons (.number hn) (hm := .lf fun _ => numStop_lf) <|
    Sg.last .nls

def kwModule : Str := ['M', 'o', 'd', 'u', 'l', 'e']
def kwEndModule : Str := ['E', 'n', 'd', 'M', 'o', 'd', 'u', 'l', 'e']

def dataLineE : Expr := .seq (.call .data_area) (.plus .newline)

/-- Everything between the header line and the line break behind `EndModule`. -/
def modMiddleE : Expr :=
  seqs [.star settingLineE, .opt (.call .module_reference), .star settingLineE, .star dataLineE, .star settingLineE,
    .insens (kwEndModule.map Char.toLower)]

def modMiddleText (ref : Option NumTok) (ss : List Setting) : Str :=
  refText ref ++ (blockText (ss.map settingLine) ++ kwEndModule)

def modText (name : Str) (c : NumTok) (cs : List NumTok) (ref : Option NumTok) (ss : List Setting) : Str :=
  kwModule ++ '=' :: (name ++ ' ' :: (listText c cs ++ '\n' :: modMiddleText ref ss))

def modPair (name : Str) (c : NumTok) (cs : List NumTok) (ref : Option NumTok) (ss : List Setting) : Pair :=
  .node .module (modText name c cs ref ss) (strPair name :: listPair c cs :: (refPairs ref ++ ss.map settingPair))

/-- In front of `EndModule`: no setting line, no data area. -/
def AtEnd (tail : Str) : Prop := ∃ r, tail = kwEndModule ++ '\n' :: r

theorem AtEnd.blockEnd {tail : Str} (h : AtEnd tail) : BlockEnd settingLineE tail := by
  obtain ⟨r, rfl⟩ := h
  exact ⟨⟨'E', _, rfl, by decide⟩, fun p o => settingLine_fail 'E' ['n', 'd', 'M', 'o', 'd', 'u', 'l', 'e'] r (by decide) p o⟩

theorem AtEnd.link : Link AtEnd AtEnd := .self fun _ h => h.blockEnd.1.noSkip

theorem noSettings : Sg (.star settingLineE) [] [] AtEnd AtEnd := Sg.star_nil fun _ p o h => h.blockEnd.2 p o

theorem noData : Sg (.star dataLineE) [] [] AtEnd AtEnd := Sg.star_nil <| by
  rintro _ p o ⟨r, rfl⟩
  exact Ev.seq_fail (block_fail rfl (matchInsens_clash (key := kwEndModule) ('\n' :: r) (by decide)) p o)

theorem endModule_ok : Sg (.insens (kwEndModule.map Char.toLower)) kwEndModule [] AtLf AtEnd :=
  ⟨fun tail p o _ => (Sg.insens kwEndModule).reads tail p o trivial, by rintro _ ⟨r, rfl⟩; exact ⟨r, rfl⟩⟩

/-- The middle of a module: in the text an optional reference line, then setting lines, then `EndModule`; the other
repetitions of the rule are empty. -/
theorem modMiddle_ok {ref : Option NumTok} (href : ∀ n, ref = some n → NatCanon n) {ss : List Setting}
    (hss : ∀ s ∈ ss, SettingCanon s) :
    Sg modMiddleE (modMiddleText ref ss) (refPairs ref ++ ss.map settingPair) AtLf Starts := by
  have hgood : ∀ m ∈ ss.map settingLine, m.Good settingLineE := by
    intro m hm
    obtain ⟨k, hk, rfl⟩ := List.mem_map.mp hm
    exact settingLine_good k (hss k hk)
  have lines : Sg (.star settingLineE) (blockText (ss.map settingLine)) (ss.map settingPair) (BlockEnd settingLineE) Starts :=
    (Sg.star_block hgood).cast rfl (flatMap_settingLines ss)
  have endLines : Link AtEnd (BlockEnd settingLineE) := fun _ h => ⟨h.blockEnd, h.blockEnd.1.noSkip⟩
  cases ref with
  | none =>
    -- the settings, then no reference line
    have noRef : Sg (.opt (.call .module_reference)) [] [] AtEnd AtEnd := Sg.opt_none <| by
      rintro _ p o ⟨r, rfl⟩
      refine Ev.call_fail (by decide) ?_
      show Ev false (.seq (.call .number) _) _ _
      exact Ev.seq_fail (number_fail _ _ _ (show ¬ IsDigit 'E' ∧ ('E' : Char) ≠ '-' by decide))
    have :=
      Sg.cons lines (hm := endLines) <|
      Sg.cons noRef (hm := AtEnd.link) <|
      Sg.cons noSettings (hm := AtEnd.link) <|
      Sg.cons noData (hm := AtEnd.link) <|
      Sg.cons noSettings (hm := AtEnd.link) <|
      Sg.last endModule_ok
    exact this.cast (by simp only [modMiddleText, refText, List.nil_append])
      (by simp only [refPairs, List.nil_append, List.append_nil])
  | some n =>
    -- no setting in front of the reference line (digits only: no `=`), then the settings
    obtain ⟨d, ds, rfl, hd⟩ := href n rfl
    have hw : ∀ c ∈ d :: ds, IsIdChar c := fun c hc => isDigit_idChar (hd c hc)
    have sRef : ∀ s, Begins (refText (some (.dec (d :: ds)))) s → Starts s :=
      fun _ => Begins.starts ⟨d, _, rfl, hw d (List.mem_cons_self ..)⟩
    have first : Sg (.star settingLineE) [] [] (Begins (refText (some (.dec (d :: ds)))))
        (Begins (refText (some (.dec (d :: ds))))) := Sg.star_nil <| by
      rintro _ p o ⟨r, rfl⟩
      have := settingLine_fail d ds r hw p o
      simpa only [refText, numText, List.append_assoc, List.cons_append, List.nil_append] using this
    have :=
      Sg.cons first (hm := .self fun s h => (sRef s h).noSkip) <|
      Sg.cons (ref_ok (.dec (d :: ds)) ⟨d, ds, .inl rfl, hd⟩).begins.opt_some (hm := .starts fun _ h => h) <|
      Sg.cons lines (hm := endLines) <|
      Sg.cons noData (hm := AtEnd.link) <|
      Sg.cons noSettings (hm := AtEnd.link) <|
      Sg.last endModule_ok
    exact (this.cast (by simp only [modMiddleText, List.nil_append])
      (by simp only [List.nil_append, List.append_nil])).mono (fun _ h => h) sRef

theorem module_ok (name : Str) (hname : StrCanon name) (c : NumTok) (cs : List NumTok) (hcfg : ∀ m ∈ c :: cs, NumCanon m)
    (ref : Option NumTok) (href : ∀ n, ref = some n → NatCanon n) (ss : List Setting) (hss : ∀ s ∈ ss, SettingCanon s) :
    Sg (.call .module) (modText name c cs ref ss) [modPair name c cs ref ss] AtLf (Begins kwModule) := by
  have :=
    Sg.cons (.insens kwModule) (hm := .anyChar (by decide)) <|
    Sg.cons (.chr '=') (hm := .anyChar quote_noSkip) <|
    Sg.consB (.string hname) (hm := .blank (fun _ => trivial) fun _ => numHead_noSkip) <|
    Sg.cons (.numberList hcfg) (hm := .lf fun _ => valStop_lf) <|
    Sg.cons .nls (hm := .starts fun _ h => h) <|
    modMiddle_ok href hss
  refine Sg.node rfl (this.cast ?_ ?_)
  · simp only [modText, List.cons_append, List.nil_append]
  · simp only [List.cons_append, List.nil_append]

def refItems : Option NumTok → List ModItem
  | none => []
  | some n => [.reference n]

def modStmt (name : Str) (c : NumTok) (cs : List NumTok) (ref : Option NumTok) (ss : List Setting) : ModuleStmt :=
  { name, config := c :: cs, items := refItems ref ++ ss.map ModItem.setting }

theorem modItems_settings : ∀ (ss : List Setting), (∀ s ∈ ss, SettingCanon s) →
    modItems? (ss.map settingPair) = some (ss.map ModItem.setting)
  | [], _ => rfl
  | s :: ss, h => by
    have h1 := setting_settingPair (h s (List.mem_cons_self ..))
    have h2 := modItems_settings ss (fun x hx => h x (List.mem_cons_of_mem _ hx))
    have hr : (settingPair s).rule = .setting := rfl
    simp [modItems?, hr, h1, h2]

theorem module_modPair (name : Str) (c : NumTok) (cs : List NumTok) (hcfg : ∀ m ∈ c :: cs, NumCanon m)
    (ref : Option NumTok) (href : ∀ n, ref = some n → NatCanon n) (ss : List Setting) (hss : ∀ s ∈ ss, SettingCanon s) :
    module? (modPair name c cs ref ss) = some (modStmt name c cs ref ss) := by
  have h1 := numToks_numPairs hcfg
  simp only [List.map_cons] at h1
  have h2 := modItems_settings ss hss
  cases ref with
  | none => simp [modPair, module?, Pair.children, listPair, Pair.rule, h1, refPairs, refItems, h2, modStmt]
  | some n =>
    have hn := (href n rfl).num
    simp [modPair, module?, Pair.children, listPair, Pair.rule, h1, refPairs, refItems, modItems?, numTok_numPair hn, h2,
      modStmt]

def moduleItem (name : Str) (c : NumTok) (cs : List NumTok) (ref : Option NumTok) (ss : List Setting) : Item :=
  ⟨modText name c cs ref ss, modPair name c cs ref ss, .module (modStmt name c cs ref ss)⟩

theorem moduleItem_good (name : Str) (hname : StrCanon name) (c : NumTok) (cs : List NumTok) (hcfg : ∀ m ∈ c :: cs, NumCanon m)
    (ref : Option NumTok) (href : ∀ n, ref = some n → NatCanon n) (ss : List Setting) (hss : ∀ s ∈ ss, SettingCanon s) :
    (moduleItem name c cs ref ss).Good := by
  refine Item.good_of 2 rfl ⟨'M', _, rfl, by decide⟩ (fun r => ⟨r, rfl⟩) (by decide)
    (module_ok name hname c cs hcfg ref href ss hss) ?_
  have := module_modPair name c cs hcfg ref href ss hss
  simp [moduleItem, stmt?, modPair, Pair.rule] at this ⊢
  simpa [modPair] using this

end PV.Gsd.Peg
