/-
The PEG on canonical text, `setting` level: numbers, number lists, sets and ranges, setting values, settings
(unindexed and indexed), and what `setting?` makes of the resulting pair.
-/
import ProfiVerif.Lemmas.PegText

namespace PV.Gsd.Peg

def numText : NumTok → Str
  | .dec t => t
  | .hex t => t

/-- Canonical number tokens: decimal, no fraction. -/
def NumCanon : NumTok → Prop
  | .dec t => DecText t
  | .hex _ => False

def numPair (n : NumTok) : Pair := .node .dec_number (numText n) []

theorem numTok_numPair {n : NumTok} (h : NumCanon n) : numTok? (numPair n) = some n := by
  cases n with
  | dec t => rfl
  | hex t => exact h.elim

def NumHead (c : Char) : Prop := IsDigit c ∨ c = '-'

theorem DecText.head {t : Str} (h : DecText t) : Fst NumHead t := by
  obtain ⟨d, ds, ht, hd⟩ := h
  rcases ht with rfl | rfl
  · exact ⟨d, ds, rfl, .inl (hd d (List.mem_cons_self ..))⟩
  · exact ⟨'-', d :: ds, rfl, .inr rfl⟩

theorem digit_cases {c : Char} (h : NumHead c) :
    NoSkipChar c ∧ c ≠ '"' ∧ c ≠ ',' ∧ c ≠ '(' ∧ c ≠ '=' ∧ c ≠ '\n' ∧ c ≠ '\r' := by
  rcases h with h | rfl
  · unfold IsDigit at h
    refine ⟨⟨?_, ?_, ?_, ?_⟩, ?_, ?_, ?_, ?_, ?_, ?_⟩ <;> (intro e; subst e; revert h; decide)
  · unfold NoSkipChar; decide

theorem head_of_dec {P : Char → Prop} {t tail : Str} (h : DecText t) (hp : ∀ c, NumHead c → P c) :
    Head P (t ++ tail) := by
  obtain ⟨c, r, rfl, hc⟩ := h.head
  exact hp c hc

def commaNums : List NumTok → Str
  | [] => []
  | n :: ns => ',' :: (numText n ++ commaNums ns)

def listItemE : Expr :=
  .choice (.seq (.str [',']) (.call .number))
    (.choice (.seq (.str ['\\']) .newline)
      (.seq (.str [',']) (.seq (.str ['\\']) (.seq .newline (.call .number)))))

/-- What may stand behind a setting value: the last number ends there (`NumStop`), neither a further list item nor
the look-ahead `number ","` of `setting_value` matches (`,`), nor its look-ahead `number "@"` (a family
identifier), and implicit skipping consumes nothing. -/
def ValStop (c : Char) : Prop := NumStop c ∧ c ≠ ',' ∧ c ≠ '@' ∧ NoSkipChar c

theorem listItem_fail {tail : Str} (hs : Head ValStop tail) (p : Nat) (o : List Pair) :
    Ev false listItemE (mk tail p o) .fail := by
  have hc : matchStr [','] tail = none := matchStr_single_none (hs.mono fun c hc => hc.2.1)
  have hb : matchStr ['\\'] tail = none := matchStr_single_none (hs.mono fun c hc => hc.2.2.2.2.2.1)
  exact Ev.choice_r (Ev.seq_fail (Ev.str_fail hc)) (Ev.choice_r (Ev.seq_fail (Ev.str_fail hb)) (Ev.seq_fail (Ev.str_fail hc)))

instance (c : Char) : Decidable (NumStop c) := by unfold NumStop; infer_instance
instance (c : Char) : Decidable (NoSkipChar c) := by unfold NoSkipChar; infer_instance
instance (c : Char) : Decidable (ValStop c) := by unfold ValStop; infer_instance

theorem numStop_comma : NumStop ',' := by decide
theorem noSkip_comma : NoSkipChar ',' := by decide

theorem head_commaNums_or {P : Char → Prop} (ns : List NumTok) {tail : Str} (hc : P ',') (ht : Head P tail) :
    Head P (commaNums ns ++ tail) := by
  cases ns with
  | nil => exact ht
  | cons n ns => exact hc

theorem numHead_noSkip {c : Char} (h : NumHead c) : NoSkipChar c := (digit_cases h).1

theorem Sg.number {n : NumTok} (h : NumCanon n) :
    Sg (.call .number) (numText n) [numPair n] (Head NumStop) (Fst NumHead) where
  reads _ p o hs := by
    cases n with
    | hex t => exact h.elim
    | dec t => exact number_ok (show DecText t from h) hs p o
  front tail _ := by
    cases n with
    | hex t => exact h.elim
    | dec t =>
      obtain ⟨c, r, rfl, hc⟩ := DecText.head h
      exact ⟨c, r ++ tail, rfl, hc⟩

def listText (n : NumTok) (ns : List NumTok) : Str := numText n ++ commaNums ns

def commaItems (ns : List NumTok) : List (Str × List Pair) := ns.map fun n => (',' :: numText n, [numPair n])

theorem itemsText_comma : ∀ ns : List NumTok, itemsText (commaItems ns) = commaNums ns
  | [] => rfl
  | n :: ns => by
    have := itemsText_comma ns
    simp only [itemsText, commaItems, List.map_cons, List.flatMap_cons, List.cons_append, commaNums] at this ⊢
    rw [this]

theorem itemsPairs_comma : ∀ ns : List NumTok, itemsPairs (commaItems ns) = ns.map numPair
  | [] => rfl
  | n :: ns => by
    have := itemsPairs_comma ns
    simp only [itemsPairs, commaItems, List.map_cons, List.flatMap_cons, List.cons_append, List.nil_append] at this ⊢
    rw [this]

theorem Sg.commaNumber {n : NumTok} (h : NumCanon n) :
    Sg (seqs [.str [','], .call .number]) (',' :: numText n) [numPair n] (Head NumStop) (Fst (· = ',')) :=
  Sg.cons (.chr ',') (hm := .any fun _ => numHead_noSkip) <|
  Sg.last (.number h)

/-- `number (x)*` where `x` reads the items `,n` and stops where `S` holds: the body of `number_list`
and of the value sets. -/
theorem Sg.numbers {x : Expr} {S : Str → Prop} {n : NumTok} {ns : List NumTok} (hn : ∀ m ∈ n :: ns, NumCanon m)
    (hitem : ∀ m, NumCanon m → Sg x (',' :: numText m) [numPair m] (Head NumStop) (Fst (· = ',')))
    (hstop : ∀ s, S s → Head NumStop s ∧ Head NoSkipChar s ∧ ∀ p o, Ev false x (mk s p o) .fail) :
    Sg (seqs [.call .number, .star x]) (listText n ns) ((n :: ns).map numPair) S (Fst NumHead) := by
  have hok : StarSg x (Head NumStop) S (Fst (· = ',')) (commaItems ns) := by
    refine ⟨?_, .char ⟨numStop_comma, noSkip_comma⟩, hstop⟩
    intro it hit
    obtain ⟨m, hm, rfl⟩ := List.mem_map.mp hit
    exact hitem m (hn m (List.mem_cons_of_mem _ hm))
  have :=
    Sg.cons (.number (hn n (List.mem_cons_self ..)))
      (hm := fun s hs => hs.elim (hok.link s) fun h => ⟨(hstop s h).1, (hstop s h).2.1⟩) <|
    Sg.last (Sg.star_items hok)
  exact this.cast (by rw [itemsText_comma]; rfl) (by rw [itemsPairs_comma]; rfl)

def listPair (n : NumTok) (ns : List NumTok) : Pair := .node .number_list (listText n ns) ((n :: ns).map numPair)

theorem Sg.numberList {n : NumTok} {ns : List NumTok} (hn : ∀ m ∈ n :: ns, NumCanon m) :
    Sg (.call .number_list) (listText n ns) [listPair n ns] (Head ValStop) (Fst NumHead) :=
  Sg.node (q := .number_list) (body := seqs [.call .number, .star listItemE]) rfl
    (Sg.numbers hn (fun _ hm => (Sg.commaNumber hm).choice_l) fun _ hs =>
      ⟨hs.mono fun _ hc => hc.1, hs.mono fun _ hc => hc.2.2.2, listItem_fail hs⟩)

/-! ### Number sets `v1,v2,…` and ranges `a-b` (allowed modules of a slot, constraint of a parameter) -/

def commaItemE : Expr := .seq (.str [',']) (.call .number)

/-- What may stand behind a value set: as `ValStop`, with `-` in place of `@` — the range alternative `number "-" number`,
tried first, must fail behind the set's first number when the set has one element (`range_fail_set`). -/
def SetStop (c : Char) : Prop := NumStop c ∧ c ≠ ',' ∧ c ≠ '-' ∧ NoSkipChar c

instance (c : Char) : Decidable (SetStop c) := by unfold SetStop; infer_instance

theorem commaItem_fail {tail : Str} (hs : Head SetStop tail) (p : Nat) (o : List Pair) :
    Ev false commaItemE (mk tail p o) .fail :=
  Ev.seq_fail (Ev.str_fail (matchStr_single_none (hs.mono fun _ hc => hc.2.1)))

/-- Body `number ("," number)*` of `slot_value_set` / `prm_data_value_set`. -/
theorem Sg.set {n : NumTok} {ns : List NumTok} (hn : ∀ m ∈ n :: ns, NumCanon m) :
    Sg (seqs [.call .number, .star commaItemE]) (listText n ns) ((n :: ns).map numPair) (Head SetStop) (Fst NumHead) :=
  Sg.numbers hn (fun _ hm => Sg.commaNumber hm) fun _ hs =>
    ⟨hs.mono fun _ hc => hc.1, hs.mono fun _ hc => hc.2.2.2, commaItem_fail hs⟩

/-- Body `number "-" number` of `slot_value_range` / `prm_data_value_range`. -/
theorem Sg.range {a b : NumTok} (ha : NumCanon a) (hb : NumCanon b) :
    Sg (seqs [.call .number, .str ['-'], .call .number]) (numText a ++ '-' :: numText b)
      [numPair a, numPair b] (Head NumStop) (Fst NumHead) :=
  Sg.cons (.number ha) (hm := .char (by decide)) <|
  Sg.cons (.chr '-') (hm := .any fun _ => numHead_noSkip) <|
  Sg.last (.number hb)

/-- `number "-"` fails to continue on a set (the number is followed by `,` or by what ends the set). -/
theorem range_fail_set (v : NumTok) (vs : List NumTok) (hv : NumCanon v) (tail : Str) (hs : Head SetStop tail) (p : Nat) :
    Ev false (.seq (.call .number) (.seq (.str ['-']) (.call .number))) (mk (listText v vs ++ tail) p []) .fail := by
  have hr : Head (fun c => NumStop c ∧ c ≠ '-' ∧ NoSkipChar c) (commaNums vs ++ tail) :=
    head_commaNums_or vs (by unfold NoSkipChar; decide) (hs.mono fun c hc => ⟨hc.1, hc.2.2.1, hc.2.2.2⟩)
  have h1 := (Sg.number hv).reads _ p [] (hr.mono fun c hc => hc.1)
  rw [listText, List.append_assoc]
  exact Ev.seq h1 (sk_none (hr.mono fun c hc => hc.2.2))
    (Ev.seq_fail (Ev.str_fail (matchStr_single_none (hr.mono fun c hc => hc.2.1))))

theorem setStop_lf : SetStop '\n' := by unfold SetStop NumStop NoSkipChar IsDigit; decide

def StrCanon (raw : Str) : Prop := ∃ s, raw = '"' :: (s ++ ['"']) ∧ ∀ c ∈ s, c ≠ '"'

/-- Canonical values: a string literal, a decimal number, a list of at least two decimal numbers
(a one-element list is written — and read back — as a number). -/
def ValueCanon : Value → Prop
  | .str raw => StrCanon raw
  | .num n => NumCanon n
  | .list ns => 2 ≤ ns.length ∧ ∀ n ∈ ns, NumCanon n
  | .family _ => False

def valueText : Value → Str
  | .str raw => raw
  | .num n => numText n
  | .list [] => []
  | .list (n :: ns) => listText n ns
  | .family raw => raw

def valuePair : Value → Pair
  | .str raw => .node .string_literal raw []
  | .num n => numPair n
  | .list [] => .node .number_list [] []
  | .list (n :: ns) => listPair n ns
  | .family raw => .node .family_ident raw []

theorem numToks_numPairs : ∀ {ns : List NumTok}, (∀ n ∈ ns, NumCanon n) → numToks? (ns.map numPair) = some ns
  | [], _ => rfl
  | n :: ns, h => by
    simp [numToks?, numTok_numPair (h n (List.mem_cons_self ..)),
      numToks_numPairs (ns := ns) (fun m hm => h m (List.mem_cons_of_mem _ hm))]

theorem value_valuePair {v : Value} (hv : ValueCanon v) : value? (valuePair v) = some v := by
  cases v with
  | str raw => rfl
  | num n =>
    cases n with
    | dec t => rfl
    | hex t => exact hv.elim
  | list ns =>
    cases ns with
    | nil => exact absurd hv.1 (by simp)
    | cons n ns =>
      have := numToks_numPairs hv.2
      simp only [List.map_cons] at this
      simp [valuePair, listPair, value?, Pair.rule, Pair.children, this]
  | family raw => exact hv.elim

def valueE : Expr := .call .setting_value

theorem valStop_numStop {tail : Str} (h : Head ValStop tail) : Head NumStop tail := h.mono fun _ hc => hc.1
theorem valStop_noSkip {tail : Str} (h : Head ValStop tail) : Head NoSkipChar tail := h.mono fun _ hc => hc.2.2.2

theorem value_ok (v : Value) (hv : ValueCanon v) (tail : Str) (hs : Head ValStop tail) (p : Nat) (o : List Pair) :
    Ev false valueE (mk (valueText v ++ tail) p o) (.ok (mk tail (p + (valueText v).length) (valuePair v :: o))) := by
  refine Ev.call_silent rfl ?_
  show Ev false (.choice (.call .string_literal)
    (.choice (.seq (.ppred (.seq (.call .number) (.str [',']))) (.call .number_list))
      (.choice (.seq (.ppred (.seq (.call .number) (.str ['@']))) (.call .family_ident)) (.call .number)))) _ _
  cases v with
  | family raw => exact hv.elim
  | str raw =>
    obtain ⟨s, rfl, hs'⟩ := hv
    have := string_ok s tail hs' p o
    refine Ev.choice_l ?_
    simpa [valueText, valuePair, Nat.add_assoc] using this
  | num n =>
    cases n with
    | hex t => exact hv.elim
    | dec t =>
      have ht : DecText t := hv
      have hnum := number_ok ht (valStop_numStop hs) p o
      have hsk : Sk false (mk tail (p + t.length) (.node .dec_number t [] :: o)) (.ok (mk tail (p + t.length) (.node .dec_number t [] :: o))) :=
        sk_none (valStop_noSkip hs)
      refine Ev.choice_r (string_fail _ p o (head_of_dec ht fun c hc => (digit_cases hc).2.1)) ?_
      refine Ev.choice_r (Ev.seq_fail (Ev.ppred_fail (Ev.seq hnum hsk
        (Ev.str_fail (matchStr_single_none (hs.mono fun c hc => hc.2.1)))))) ?_
      refine Ev.choice_r (Ev.seq_fail (Ev.ppred_fail (Ev.seq hnum hsk
        (Ev.str_fail (matchStr_single_none (hs.mono fun c hc => hc.2.2.1)))))) ?_
      exact hnum
  | list ns =>
    obtain ⟨hlen, hns⟩ := hv
    match ns, hlen, hns with
    | n :: m :: ms, _, hns =>
      have hn := hns n (by simp)
      cases n with
      | hex t => exact hn.elim
      | dec t =>
        have ht : DecText t := hn
        have hhead : Head NoSkipChar (listText (.dec t) (m :: ms) ++ tail) := by
          simpa only [listText, numText, List.append_assoc] using
            head_of_dec (tail := commaNums (m :: ms) ++ tail) ht fun c hc => (digit_cases hc).1
        refine Ev.choice_r (string_fail _ p o ?_) ?_
        · simpa only [valueText, listText, numText, List.append_assoc] using
            head_of_dec (tail := commaNums (m :: ms) ++ tail) ht fun c hc => (digit_cases hc).2.1
        refine Ev.choice_l ?_
        have hnum := number_ok (t := t) (tail := commaNums (m :: ms) ++ tail) ht numStop_comma p o
        have hpp : Ev false (.ppred (.seq (.call .number) (.str [',']))) (mk (listText (.dec t) (m :: ms) ++ tail) p o)
            (.ok (mk (listText (.dec t) (m :: ms) ++ tail) p o)) := by
          have hsk : Sk false (mk (commaNums (m :: ms) ++ tail) (p + t.length) (.node .dec_number t [] :: o))
              (.ok (mk (commaNums (m :: ms) ++ tail) (p + t.length) (.node .dec_number t [] :: o))) :=
            sk_none (show Head NoSkipChar (',' :: _) from noSkip_comma)
          have hcomma : Ev false (.str [',']) (mk (commaNums (m :: ms) ++ tail) (p + t.length) (.node .dec_number t [] :: o))
              (.ok (mk (numText m ++ commaNums ms ++ tail) (p + t.length + 1) (.node .dec_number t [] :: o))) :=
            Ev.str_ok (l := [',']) (show matchStr [','] (',' :: _) = _ from matchStr_single_some)
          refine Ev.ppred_ok (Ev.seq ?_ hsk hcomma)
          simpa only [listText, numText, List.append_assoc] using hnum
        exact Ev.seq hpp (sk_none hhead) ((Sg.numberList hns).reads tail p o hs)

def idxText : Option NumTok → Str
  | none => []
  | some n => '(' :: (numText n ++ [')'])

def idxPairs : Option NumTok → List Pair
  | none => []
  | some n => [numPair n]

def settingText (s : Setting) : Str := s.key ++ (idxText s.index ++ '=' :: valueText s.value)

def settingPair (s : Setting) : Pair :=
  .node .setting (settingText s) (.node .identifier s.key [] :: (idxPairs s.index ++ [valuePair s.value]))

def KeyChars (key : Str) : Prop := ∃ c w, key = c :: w ∧ ∀ d ∈ c :: w, IsIdChar d

def SettingCanon (s : Setting) : Prop :=
  KeyChars s.key ∧ (∀ n, s.index = some n → NumCanon n) ∧ ValueCanon s.value

theorem setting_settingPair {s : Setting} (hs : SettingCanon s) : setting? (settingPair s) = some s := by
  obtain ⟨_, hi, hv⟩ := hs
  obtain ⟨key, index, value⟩ := s
  cases index with
  | none => simp [settingPair, setting?, idxPairs, Pair.children, Pair.rule, Pair.text, value_valuePair hv]
  | some n =>
    have hn := hi n rfl
    simp [settingPair, setting?, idxPairs, Pair.children, Pair.rule, Pair.text, value_valuePair hv, numTok_numPair hn]

theorem Sg.identifier {key : Str} (h : KeyChars key) :
    Sg (.call .identifier) key [.node .identifier key []] (Head (¬ IsIdChar ·)) (Begins key) := by
  obtain ⟨c, w, rfl, hw⟩ := h
  exact ⟨fun tail p o hs => identifier_ok c w tail p o hw hs, fun tail _ => ⟨tail, rfl⟩⟩

theorem Sg.value {v : Value} (h : ValueCanon v) : Sg valueE (valueText v) [valuePair v] (Head ValStop) (Fst NoSkipChar) where
  reads tail p o hs := value_ok v h tail hs p o
  front tail hs := by
    cases v with
    | family raw => exact h.elim
    | str raw => obtain ⟨s, rfl, _⟩ := h; exact ⟨'"', _, rfl, by decide⟩
    | num n => exact ((Sg.number h).front tail (valStop_numStop hs)).mono fun _ => numHead_noSkip
    | list ns =>
      cases ns with
      | nil => exact absurd h.1 (by simp)
      | cons n ns => exact ((Sg.numberList h.2).front tail hs).mono fun _ => numHead_noSkip

theorem Sg.index {ix : Option NumTok} (h : ∀ n, ix = some n → NumCanon n) :
    Sg (.opt (seqs [.str ['('], .call .number, .str [')']])) (idxText ix) (idxPairs ix)
      (Fst (· = '=')) (fun s => Fst (· = '(') s ∨ Fst (· = '=') s) := by
  cases ix with
  | none =>
    refine (Sg.opt_none ?_).mono (fun _ h => h) fun _ => .inr
    rintro _ p o ⟨c, r, rfl, rfl⟩
    exact Ev.seq_fail (Ev.str_fail (matchStr_single_none (t := '=' :: r) (show ('=' : Char) ≠ '(' by decide)))
  | some n =>
    have :=
      Sg.cons (.chr '(') (hm := .any fun _ => numHead_noSkip) <|
      Sg.cons (.number (h n rfl)) (hm := .char (by decide)) <|
      Sg.last (.chr ')')
    exact (this.opt_some.cast (by simp only [idxText, List.cons_append, List.nil_append]) rfl).mono
      (fun _ _ => trivial) fun _ => .inl

theorem setting_ok (s : Setting) (hs : SettingCanon s) :
    Sg (.call .setting) (settingText s) [settingPair s] (Head ValStop) (Begins s.key) := by
  obtain ⟨hkey, hi, hv⟩ := hs
  have :=
    Sg.cons (.identifier hkey)
      (hm := fun _ h => h.elim (Link.char (by decide) _) (Link.char (by decide) _)) <|
    Sg.cons (.index hi) (hm := .self fun _ h => h.head (by rintro _ rfl; decide)) <|
    Sg.cons (.chr '=') (hm := .any fun _ h => h) <|
    Sg.last (.value hv)
  refine Sg.node rfl (this.cast ?_ ?_)
  · simp only [settingText, List.cons_append, List.nil_append]
  · simp only [List.cons_append, List.nil_append]

end PV.Gsd.Peg
