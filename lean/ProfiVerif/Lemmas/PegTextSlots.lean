/-
The PEG on canonical text: `SlotDefinition … EndSlotDefinition` with `Slot(n)="name" default allowed`
lines (allowed modules as a range `a-b` or a set `v1,v2,…`).
-/
import ProfiVerif.Lemmas.PegTextBlocks

namespace PV.Gsd.Peg

def allowedText : AllowedAst → Str
  | .range a b => numText a ++ '-' :: numText b
  | .set [] => []
  | .set (v :: vs) => listText v vs

def allowedPair (al : AllowedAst) : Pair :=
  match al with
  | .range a b => .node .slot_value_range (allowedText al) [numPair a, numPair b]
  | .set vs => .node .slot_value_set (allowedText al) (vs.map numPair)

def AllowedCanon : AllowedAst → Prop
  | .range a b => NumCanon a ∧ NumCanon b
  | .set vs => vs ≠ [] ∧ ∀ v ∈ vs, NumCanon v

theorem Sg.allowed {al : AllowedAst} (h : AllowedCanon al) :
    Sg (alts [.call .slot_value_range, .call .slot_value_set]) (allowedText al) [allowedPair al]
      (Head SetStop) (Fst NumHead) := by
  cases al with
  | range a b =>
    exact ((Sg.node (q := .slot_value_range) rfl (Sg.range h.1 h.2)).mono (fun _ hs => hs.mono fun _ hc => hc.1)
      fun _ h => h).choice_l
  | set vs =>
    obtain ⟨hne, hvs⟩ := h
    cases vs with
    | nil => exact (hne rfl).elim
    | cons v vs =>
      exact Sg.choice_r
        (fun tail p o hs => Ev.call_fail (by decide) (range_fail_set v vs (hvs v (List.mem_cons_self ..)) tail hs p))
        (Sg.node (q := .slot_value_set) rfl (Sg.set hvs))

def kwSlot : Str := ['S', 'l', 'o', 't']
def kwSlotDef : Str := ['S', 'l', 'o', 't', 'D', 'e', 'f', 'i', 'n', 'i', 't', 'i', 'o', 'n']
def kwEndSlotDef : Str := ['E', 'n', 'd', 'S', 'l', 'o', 't', 'D', 'e', 'f', 'i', 'n', 'i', 't', 'i', 'o', 'n']

def slotText (s : SlotStmt) : Str :=
  kwSlot ++ '(' :: (numText s.number ++ ')' :: '=' :: (s.name ++ ' ' :: (numText s.default ++ ' ' :: allowedText s.allowed)))

def slotPair (s : SlotStmt) : Pair :=
  .node .slot (slotText s) [numPair s.number, strPair s.name, numPair s.default, allowedPair s.allowed]

def SlotCanon (s : SlotStmt) : Prop := NumCanon s.number ∧ StrCanon s.name ∧ NumCanon s.default ∧ AllowedCanon s.allowed

theorem slot_ok (s : SlotStmt) (h : SlotCanon s) :
    Sg (.call .slot) (slotText s) [slotPair s] (Head SetStop) (Begins kwSlot) := by
  obtain ⟨hn, hname, hd, hal⟩ := h
  have :=
    Sg.cons (.insens kwSlot) (hm := .anyChar (by decide)) <|
    Sg.cons (.chr '(') (hm := .any fun _ => numHead_noSkip) <|
    Sg.cons (.number hn) (hm := .char (by decide)) <|
    Sg.cons (.chr ')') (hm := .anyChar (by decide)) <|
    Sg.cons (.chr '=') (hm := .anyChar quote_noSkip) <|
    Sg.consB (.string hname) (hm := .blank (fun _ => trivial) fun _ => numHead_noSkip) <|
    Sg.consB (.number hd) (hm := .blank (fun _ => show NumStop ' ' by decide) fun _ => numHead_noSkip) <|
    Sg.last (.allowed hal)
  refine Sg.node rfl (this.cast ?_ ?_)
  · simp only [slotText, List.cons_append, List.nil_append]
  · rfl

def slotLine (s : SlotStmt) : BlockLine := ⟨slotText s ++ ['\n'], [slotPair s]⟩

theorem slotLine_good (s : SlotStmt) (h : SlotCanon s) : (slotLine s).Good (.seq (.call .slot) (.plus .newline)) where
  starts := ⟨'S', _, rfl, by decide⟩
  parses := (Sg.cons (slot_ok s h) (hm := .lf fun _ => setStop_lf) <| Sg.last .nls).reads

def slotDefText (ss : List SlotStmt) : Str := kwSlotDef ++ '\n' :: (blockText (ss.map slotLine) ++ kwEndSlotDef)

def slotDefPair (ss : List SlotStmt) : Pair := .node .slot_definition (slotDefText ss) (ss.map slotPair)

theorem flatMap_slotLines (ss : List SlotStmt) : (ss.map slotLine).flatMap (·.pairs) = ss.map slotPair := by
  induction ss with
  | nil => rfl
  | cons s ss ih => simp [List.flatMap_cons, slotLine, ih]

theorem slotDef_ok (ss : List SlotStmt) (h : ∀ s ∈ ss, SlotCanon s) :
    Sg (.call .slot_definition) (slotDefText ss) [slotDefPair ss] Any (Begins kwSlotDef) := by
  have hgood : ∀ m ∈ ss.map slotLine, m.Good (.seq (.call .slot) (.plus .newline)) := by
    intro m hm
    obtain ⟨k, hk, rfl⟩ := List.mem_map.mp hm
    exact slotLine_good k (h k hk)
  have :=
    Sg.cons (.insens kwSlotDef) (hm := .lf fun _ => trivial) <|
    Sg.cons .nls (hm := .starts fun _ h => h) <|
    Sg.cons (Sg.star_block hgood) (hm := .blockEnd ⟨'E', _, rfl, by decide⟩ fun r p o =>
      Ev.seq_fail (block_fail rfl (matchInsens_clash r (by decide)) p o)) <|
    Sg.last (.insens kwEndSlotDef)
  refine Sg.node rfl (this.cast ?_ ?_)
  · simp only [slotDefText, List.cons_append, List.nil_append]
  · simp only [List.nil_append, List.append_nil, flatMap_slotLines]

theorem slots_pairs : ∀ (ss : List SlotStmt), (∀ s ∈ ss, SlotCanon s) → slots? (ss.map slotPair) = some ss
  | [], _ => rfl
  | s :: ss, h => by
    obtain ⟨hn, hname, hd, hal⟩ := h s (List.mem_cons_self ..)
    have ih := slots_pairs ss (fun m hm => h m (List.mem_cons_of_mem _ hm))
    obtain ⟨number, name, dflt, allowed⟩ := s
    simp only at hn hname hd hal
    cases allowed with
    | range a b =>
      simp [slots?, slotPair, Pair.rule, Pair.children, numTok_numPair hn, numTok_numPair hd, allowedPair,
        numTok_numPair hal.1, numTok_numPair hal.2, ih]
    | set vs =>
      simp [slots?, slotPair, Pair.rule, Pair.children, numTok_numPair hn, numTok_numPair hd, allowedPair,
        numToks_numPairs hal.2, ih]

def slotDefItem (ss : List SlotStmt) : Item := ⟨slotDefText ss, slotDefPair ss, .slots ss⟩

theorem slotDefItem_good (ss : List SlotStmt) (h : ∀ s ∈ ss, SlotCanon s) : (slotDefItem ss).Good := by
  refine Item.good_of 3 rfl ⟨'S', _, rfl, by decide⟩ (fun _ => trivial) (by decide) (slotDef_ok ss h) ?_
  have := slots_pairs ss h
  simp [slotDefItem, slotDefPair, stmt?, Pair.rule, Pair.children, this]

end PV.Gsd.Peg
