/-
Helper lemmas for C16 (receive path): what the decoder says on the head of a stream of valid telegrams
(`decode_stream`), and the loop of `receive_all_telegrams` as a relation: `Drain buf calls b ret` has one constructor per
way an iteration can go, and for EVERY buffer the loop is such a run (`receiveAll_drain`), so fuel and accumulator of
`receiveAllFuel` occur in `Drain.run` only, and no call hangs or panics (`receiveAll_never_hangs`).  What is known of a call's result — only the last callback can be flagged, a
flag means an empty buffer, `Some` means a flagged last callback (`Drain.flags`) — and the loop on a stream of valid
telegrams (`drain_stream`) are inductions over the relation and over the stream; `receiveAll_stream` and
`receiveTelegram_stream` say what the two helpers do on a buffer that is a prefix of such a stream.
-/
import ProfiVerif.Lemmas.Codec
import ProfiVerif.Model.PhyRx

namespace PV

theorem decode_wire (t : Telegram) (hv : t.Valid) (rest : Bytes) :
    deserialize (t.wire ++ rest) = .accept t t.wire.length := by
  cases t with
  | data h pdu =>
    obtain ⟨a, b, c⟩ := hv
    exact decode_frame h pdu rest a b c
  | token da sa => exact decode_token da sa rest
  | sc => exact decode_sc rest

theorem wire_pos (t : Telegram) : 0 < t.wire.length := by
  cases t with
  | data h pdu =>
    show 0 < (frameSpec h pdu).length
    rw [frame_length]; unfold Header.telegramLen; simp only; split <;> omega
  | token da sa => simp [Telegram.wire, sendToken]
  | sc => simp [Telegram.wire, sendSc]

theorem prefix_needMore (t : Telegram) (hv : t.Valid) (p q rest : Bytes)
    (hpq : p ++ q = t.wire ++ rest) (hlt : p.length < t.wire.length) : deserialize p = .needMore := by
  apply Decidable.byContradiction
  intro hne
  have hs := decode_append p q hne
  rw [hpq, decode_wire t hv rest] at hs
  have := decode_accept_inside hs.symm
  omega

theorem split_of_append_eq (b pending w s : Bytes) (h : b ++ pending = w ++ s) (hl : w.length ≤ b.length) :
    ∃ b2, b = w ++ b2 ∧ b2 ++ pending = s := by
  refine ⟨b.drop w.length, ?_, ?_⟩
  · have h1 := congrArg (List.take w.length) h
    rw [List.take_append_of_le_length hl, List.take_left'] at h1
    · conv => lhs; rw [← List.take_append_drop w.length b]
      rw [h1]
    · rfl
  · have h2 := congrArg (List.drop w.length) h
    rw [List.drop_append_of_le_length hl, List.drop_left'] at h2
    · exact h2
    · rfl

theorem decode_stream (t : Telegram) (hv : t.Valid) (b pending s : Bytes) (h : b ++ pending = t.wire ++ s) :
    deserialize b = if b.length < t.wire.length then .needMore else .accept t t.wire.length := by
  split
  · next hlt => exact prefix_needMore t hv b pending s h hlt
  · next hge =>
    obtain ⟨b2, hb, -⟩ := split_of_append_eq b pending t.wire s h (by omega)
    rw [hb]; exact decode_wire t hv b2

/-- One call of `receive_all_telegrams`, by what the decoder says at each iteration. -/
inductive Drain : Bytes → List (Telegram × Bool) → Bytes → Bool → Prop
  | wait {b : Bytes} : deserialize b = .needMore → Drain b [] b false
  | reject {b : Bytes} : deserialize b = .reject → Drain b [] [] false
  | last {b : Bytes} {t : Telegram} : deserialize b = .accept t b.length → Drain b [(t, true)] [] true
  | more {b : Bytes} {t : Telegram} {n : Nat} {calls : List (Telegram × Bool)} {b' : Bytes} {ret : Bool} :
      deserialize b = .accept t n → n < b.length → Drain (b.drop n) calls b' ret → Drain b ((t, false) :: calls) b' ret

theorem Drain.run {buf b : Bytes} {calls : List (Telegram × Bool)} {ret : Bool} (d : Drain buf calls b ret) :
    ∀ (fuel : Nat) (acc : List (Telegram × Bool)), buf.length < fuel →
      receiveAllFuel fuel buf acc = .done b (acc ++ calls) ret := by
  induction d with
  | wait h => intro fuel acc hf; cases fuel with
    | zero => omega
    | succ f => simp only [receiveAllFuel, h, List.append_nil]
  | reject h => intro fuel acc hf; cases fuel with
    | zero => omega
    | succ f => simp only [receiveAllFuel, h, List.append_nil]
  | last h => intro fuel acc hf; cases fuel with
    | zero => omega
    | succ f => simp only [receiveAllFuel, h, Nat.lt_irrefl, gt_iff_lt, if_false, beq_self_eq_true, if_true]
  | @more b t n calls b' ret h hn _ ih => intro fuel acc hf; cases fuel with
    | zero => omega
    | succ f =>
      have e1 : ¬ n > b.length := by omega
      have e2 : (n == b.length) = false := by simp; omega
      simp only [receiveAllFuel, h, e1, e2, if_false, Bool.false_eq_true]
      rw [ih f _ (by rw [List.length_drop]; have := (decode_accept_inside h).1; omega), List.append_assoc]
      rfl

/-- **Every buffer is drained**: the loop never hangs and never panics, and its result is a run. -/
theorem drain_total : ∀ (k : Nat) (buf : Bytes), buf.length ≤ k → ∃ calls b ret, Drain buf calls b ret := by
  intro k
  induction k with
  | zero =>
    intro buf hk
    have : buf = [] := List.eq_nil_of_length_eq_zero (by omega)
    exact ⟨[], buf, false, .wait (this ▸ decode_nil)⟩
  | succ k ih =>
    intro buf hk
    rcases decode_cases buf with h | h | ⟨t, n, h⟩
    · exact ⟨_, _, _, .wait h⟩
    · exact ⟨_, _, _, .reject h⟩
    · obtain ⟨h1, h2⟩ := decode_accept_inside h
      by_cases c : n = buf.length
      · exact ⟨_, _, _, .last (c ▸ h)⟩
      · obtain ⟨calls, b, ret, d⟩ := ih (buf.drop n) (by rw [List.length_drop]; omega)
        exact ⟨_, _, _, .more h (by omega) d⟩

/-- With more fuel than buffered bytes the loop is the run of the buffer, whatever it has collected already. -/
theorem receiveAllFuel_drain (fuel : Nat) (buf : Bytes) (acc : List (Telegram × Bool)) (hf : buf.length < fuel) :
    ∃ calls b ret, Drain buf calls b ret ∧ receiveAllFuel fuel buf acc = .done b (acc ++ calls) ret := by
  obtain ⟨calls, b, ret, d⟩ := drain_total buf.length buf (Nat.le_refl _)
  exact ⟨calls, b, ret, d, d.run fuel acc hf⟩

theorem receiveAll_drain (buf : Bytes) : ∃ calls b ret, Drain buf calls b ret ∧ receiveAll buf = .done b calls ret := by
  simpa [receiveAll] using receiveAllFuel_drain (buf.length + 1) buf [] (by omega)

theorem receiveAll_never_hangs (b : Bytes) : receiveAll b ≠ .hang ∧ receiveAll b ≠ .panic := by
  obtain ⟨calls, b', ret, -, e⟩ := receiveAll_drain b
  rw [e]
  exact ⟨fun c => (nomatch c), fun c => (nomatch c)⟩

theorem receiveAll_done {buf b : Bytes} {calls : List (Telegram × Bool)} {ret : Bool}
    (h : receiveAll buf = .done b calls ret) : Drain buf calls b ret := by
  obtain ⟨calls', b', ret', d, e⟩ := receiveAll_drain buf
  rw [h] at e; cases e; exact d

/-- `Some` is returned exactly when the last callback was flagged; only the last can be; a flag means nothing is left. -/
theorem Drain.flags {buf b : Bytes} {calls : List (Telegram × Bool)} {ret : Bool} (d : Drain buf calls b ret) :
    (∀ x ∈ calls.dropLast, x.2 = false) ∧ (∀ x, calls.getLast? = some x → x.2 = ret) ∧ (ret = true → calls ≠ [] ∧ b = []) := by
  induction d with
  | wait _ => exact ⟨fun x hx => (nomatch hx), fun x hx => (nomatch hx), fun c => (nomatch c)⟩
  | reject _ => exact ⟨fun x hx => (nomatch hx), fun x hx => (nomatch hx), fun c => (nomatch c)⟩
  | last _ => exact ⟨fun x hx => (nomatch hx), fun x hx => by cases hx; rfl, fun _ => ⟨by simp, rfl⟩⟩
  | @more b t n calls b' ret _ _ d ih =>
    cases calls with
    | nil => cases d <;> exact ⟨fun x hx => (nomatch hx), fun x hx => by cases hx; rfl, fun c => (nomatch c)⟩
    | cons c cs =>
      refine ⟨fun x hx => ?_, fun x hx => ih.2.1 x (by simpa using hx), fun c => ⟨by simp, (ih.2.2 c).2⟩⟩
      rw [List.dropLast_cons_cons] at hx
      rcases List.mem_cons.mp hx with rfl | hx
      · rfl
      · exact ih.1 x hx

/-- In the callbacks of one `receive_all_telegrams` call only the last one can be flagged `is_last`. -/
theorem receiveAll_flags (buf b : Bytes) (calls : List (Telegram × Bool)) (ret : Bool)
    (h : receiveAll buf = .done b calls ret) : ∀ x ∈ calls.dropLast, x.2 = false := (receiveAll_done h).flags.1

theorem receiveAll_ret_last (buf b : Bytes) (calls : List (Telegram × Bool)) (h : receiveAll buf = .done b calls true) :
    ∃ pre t, calls = pre ++ [(t, true)] := by
  obtain ⟨-, h2, h3⟩ := (receiveAll_done h).flags
  obtain ⟨hne, -⟩ := h3 rfl
  have e := List.dropLast_concat_getLast hne
  have := h2 _ (List.getLast?_eq_some_getLast hne)
  exact ⟨calls.dropLast, (calls.getLast hne).1, by rw [← this]; exact e.symm⟩

theorem receiveAll_true_empty (buf b : Bytes) (calls : List (Telegram × Bool)) (ret : Bool)
    (h : receiveAll buf = .done b calls ret) (hx : ∃ x ∈ calls, x.2 = true) : b = [] := by
  obtain ⟨h1, h2, h3⟩ := (receiveAll_done h).flags
  obtain ⟨x, hx1, hx2⟩ := hx
  have hne : calls ≠ [] := List.ne_nil_of_mem hx1
  rw [← List.dropLast_concat_getLast hne, List.mem_append, List.mem_singleton] at hx1
  rcases hx1 with hx1 | rfl
  · rw [h1 x hx1] at hx2; cases hx2
  · exact (h3 ((h2 _ (List.getLast?_eq_some_getLast hne)).symm.trans hx2)).2

theorem receiveAll_of_needMore {b : Bytes} (h : deserialize b = .needMore) : receiveAll b = .done b [] false := by
  simp only [receiveAll, receiveAllFuel, h]

theorem receiveAll_of_reject {b : Bytes} (h : deserialize b = .reject) : receiveAll b = .done [] [] false := by
  simp only [receiveAll, receiveAllFuel, h]

theorem receiveAll_of_accept {b : Bytes} {t : Telegram} (h : deserialize b = .accept t b.length) :
    receiveAll b = .done [] [(t, true)] true := by
  simp only [receiveAll, receiveAllFuel, h, Nat.lt_irrefl, if_false, beq_self_eq_true, if_true, List.nil_append,
    gt_iff_lt]

theorem receiveAll_nil : receiveAll [] = .done [] [] false := receiveAll_of_needMore decode_nil

theorem receiveTelegram_nil : receiveTelegram [] = .done [] [] false := by
  simp only [receiveTelegram, decode_nil]

theorem receiveTelegram_total (b : Bytes) : ∃ b' calls ret, receiveTelegram b = .done b' calls ret := by
  unfold receiveTelegram
  rcases decode_cases b with h | h | ⟨t, n, h⟩
  · rw [h]; exact ⟨_, _, _, rfl⟩
  · rw [h]; exact ⟨_, _, _, rfl⟩
  · rw [h]
    have ⟨h1, h2⟩ := decode_accept_inside h
    simp only
    rw [if_neg (by omega)]; exact ⟨_, _, _, rfl⟩

/-- One valid telegram arriving in pieces: `receive_all_telegrams` leaves a proper prefix of its characters alone
and delivers the complete telegram, flagged last. -/
theorem receiveAll_one (t : Telegram) (hv : t.Valid) (m : Nat) :
    (m < t.wire.length → receiveAll (t.wire.take m) = .done (t.wire.take m) [] false) ∧
    receiveAll t.wire = .done [] [(t, true)] true := by
  constructor
  · intro hm
    exact receiveAll_of_needMore (prefix_needMore t hv (t.wire.take m) (t.wire.drop m) []
      (by rw [List.take_append_drop, List.append_nil]) (by rw [List.length_take]; omega))
  · have hd := decode_wire t hv []
    rw [List.append_nil] at hd
    exact receiveAll_of_accept hd

/-- The run on a buffer that is a prefix of a stream of valid telegrams: exactly the complete telegrams are handed over,
in order, and the incomplete tail stays.  What holds of the flags and the return value of every run is `Drain.flags`;
on a stream nothing is rejected, so something handed over and nothing left means the last frame ended the buffer. -/
theorem drain_stream (ts : List Telegram) : ∀ (b pending : Bytes), b ++ pending = streamOf ts → (∀ t ∈ ts, t.Valid) →
    ∃ d ts' b' ret, Drain b d b' ret ∧ ts = d.map Prod.fst ++ ts' ∧ b' ++ pending = streamOf ts' ∧
      (∀ t, ts'.head? = some t → b'.length < t.wire.length) ∧ (d = [] → b' = b) ∧ (d ≠ [] → b' = [] → ret = true) := by
  induction ts with
  | nil =>
    intro b pending hs _
    have hb : b = [] := by simp [streamOf] at hs; exact hs.1
    subst hb
    exact ⟨[], [], [], false, .wait decode_nil, rfl, hs, fun t ht => (nomatch ht), fun _ => rfl, fun c => absurd rfl c⟩
  | cons t rest ih =>
    intro b pending hs hv
    have hvt : t.Valid := hv t List.mem_cons_self
    have hs' : b ++ pending = t.wire ++ streamOf rest := by simpa [streamOf] using hs
    have hd := decode_stream t hvt b pending _ hs'
    by_cases hlt : b.length < t.wire.length
    · exact ⟨[], t :: rest, b, false, .wait (hd.trans (if_pos hlt)), rfl, hs,
        fun t' ht' => by cases ht'; exact hlt, fun _ => rfl, fun c => absurd rfl c⟩
    · obtain ⟨b2, hb, hb2⟩ := split_of_append_eq b pending t.wire _ hs' (by omega)
      have hdec := hd.trans (if_neg hlt)
      by_cases hb2e : b2 = []
      · subst hb2e
        have hlen : t.wire.length = b.length := by rw [hb]; simp
        exact ⟨[(t, true)], rest, [], true, .last (hlen ▸ hdec), rfl, hb2,
          fun t' _ => by simpa using wire_pos t', fun c => (nomatch c), fun _ _ => rfl⟩
      · obtain ⟨d, ts', b', ret, hr, hts, hbp, hinc, hnil, hret⟩ :=
          ih b2 pending hb2 fun x hx => hv x (List.mem_cons_of_mem _ hx)
        have hlen : t.wire.length < b.length := by
          rw [hb, List.length_append]; have := List.length_pos_iff.mpr hb2e; omega
        have hdrop : b.drop t.wire.length = b2 := by rw [hb]; simp
        refine ⟨(t, false) :: d, ts', b', ret, .more hdec hlen (hdrop ▸ hr), by rw [hts]; rfl, hbp, hinc,
          fun c => (nomatch c), fun _ hb' => hret (fun hd => hb2e ((hnil hd).symm.trans hb')) hb'⟩

theorem receiveAll_stream (ts : List Telegram) (b pending : Bytes)
    (hs : b ++ pending = streamOf ts) (hv : ∀ t ∈ ts, t.Valid) :
    ∃ d ts' b' ret, receiveAll b = .done b' d ret ∧
      ts = d.map Prod.fst ++ ts' ∧ b' ++ pending = streamOf ts' ∧
      (∀ t, ts'.head? = some t → b'.length < t.wire.length) ∧
      (∀ x ∈ d, x.2 = true → b' = []) ∧ (ret = true ↔ (d ≠ [] ∧ b' = [])) := by
  obtain ⟨d, ts', b', ret, hr, a, b1, c, -, hret⟩ := drain_stream ts b pending hs hv
  have e : receiveAll b = .done b' d ret := by simpa [receiveAll] using hr.run (b.length + 1) [] (by omega)
  exact ⟨d, ts', b', ret, e, a, b1, c, fun x hx hx2 => receiveAll_true_empty b b' d ret e ⟨x, hx, hx2⟩,
    hr.flags.2.2, fun h => hret h.1 h.2⟩

theorem receiveTelegram_stream (t : Telegram) (rest : List Telegram) (b pending : Bytes)
    (hs : b ++ pending = streamOf (t :: rest)) (hv : t.Valid) :
    (b.length < t.wire.length → receiveTelegram b = .done b [] false) ∧
    (t.wire.length ≤ b.length → ∃ b2, receiveTelegram b = .done b2 [(t, b2 == [])] true ∧
        b2 ++ pending = streamOf rest) := by
  have hs' : b ++ pending = t.wire ++ streamOf rest := by simpa [streamOf] using hs
  have hd := decode_stream t hv b pending _ hs'
  constructor
  · intro hlt
    have hn := hd.trans (if_pos hlt)
    simp [receiveTelegram, hn]
  · intro hle
    obtain ⟨b2, hb, hb2⟩ := split_of_append_eq b pending t.wire _ hs' hle
    have hdec := hd.trans (if_neg (by omega))
    refine ⟨b2, ?_, hb2⟩
    have hdrop : b.drop t.wire.length = b2 := by rw [hb]; simp
    have e1 : ¬ (t.wire.length > b.length) := by omega
    simp only [receiveTelegram, hdec, e1, if_false, hdrop]
    have : (t.wire.length == b.length) = (b2 == []) := by
      rw [hb]; cases b2 <;> simp
    rw [this]

end PV
