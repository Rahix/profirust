/-
Helper lemmas for C20 (`Props/C20.lean`): arithmetic of big-endian images, bit fields of a byte
(compared bit by bit through `bitOf`), every field write as an `overlay` of the field's image (`fieldImage`,
`prmWrite_eq`; the list surgery is done on `overlay` only), and the step-by-step agreement of
the model of the code (`Model/Gsd/Prm.lean`) with the specification (`Model/Gsd/PrmSpec.lean`).
-/
import ProfiVerif.Model.Gsd.PrmSpec

namespace PV.Prm
open PV

theorem forall_range (n : Nat) (p : Nat → Bool) (h : (List.range n).all p = true) (k : Nat) (hk : k < n) :
    p k = true := by
  rw [List.all_eq_true] at h
  exact h k (by simp [List.mem_range]; exact hk)

theorem ofNat_congr {a b : Nat} (h : a % 256 = b % 256) : UInt8.ofNat a = UInt8.ofNat b := by
  apply UInt8.toNat_inj.mp
  simp [UInt8.toNat_ofNat', h]

theorem eq_of_bitOf {a b : UInt8} (h : ∀ i, i < 8 → bitOf a i = bitOf b i) : a = b := by
  apply UInt8.toNat_inj.mp
  apply Nat.eq_of_testBit_eq
  intro i
  by_cases hi : i < 8
  · exact h i hi
  · have hp : 2 ^ 8 ≤ 2 ^ i := Nat.pow_le_pow_right (by decide) (by omega)
    rw [Nat.testBit_lt_two_pow (Nat.lt_of_lt_of_le a.toNat_lt hp),
      Nat.testBit_lt_two_pow (Nat.lt_of_lt_of_le b.toNat_lt hp)]

theorem bitOf_or (a b : UInt8) (i : Nat) : bitOf (a ||| b) i = (bitOf a i || bitOf b i) := by
  simp [bitOf, UInt8.toNat_or, Nat.testBit_or]

theorem bitOf_and (a b : UInt8) (i : Nat) : bitOf (a &&& b) i = (bitOf a i && bitOf b i) := by
  simp [bitOf, UInt8.toNat_and, Nat.testBit_and]

theorem bitOf_not (a : UInt8) (i : Nat) (hi : i < 8) : bitOf (~~~a) i = !bitOf a i := by
  have : ∀ x : UInt8, x.toNat.testBit i = x.toBitVec.getLsbD i := fun _ => rfl
  simp only [bitOf, this, UInt8.toBitVec_not, BitVec.getLsbD_not]
  simp [hi]

theorem placed_bit (f : Nat) (v : Int) (i : Nat) (hi : i < 8) :
    bitOf (placed f v) i = (decide (f ≤ i) && v.toNat.testBit (i - f)) := by
  simp only [bitOf, placed, UInt8.toNat_ofNat']
  rw [Nat.testBit_mod_two_pow, Nat.testBit_mul_two_pow]
  simp [hi]

theorem fieldMask_bit (f l i : Nat) (hfl : f ≤ l) (hi : i < 8) :
    bitOf (fieldMask f l) i = (decide (f ≤ i) && decide (i ≤ l)) := by
  simp only [bitOf, fieldMask, UInt8.toNat_ofNat']
  rw [Nat.testBit_mod_two_pow, Nat.testBit_mul_two_pow, Nat.testBit_two_pow_sub_one]
  by_cases h1 : f ≤ i <;> by_cases h2 : i ≤ l <;> simp [hi, h1, h2] <;> omega

theorem shl_ofNat (n f : Nat) (hf : f ≤ 7) : UInt8.ofNat n <<< UInt8.ofNat f = UInt8.ofNat (n * 2 ^ f) := by
  apply UInt8.toNat_inj.mp
  have h1 : f % 256 % 8 = f := by omega
  simp only [UInt8.toNat_shiftLeft, UInt8.toNat_ofNat', h1, Nat.shiftLeft_eq]
  exact Nat.mod_mul_mod ..

/-- `u8::try_from(value)? << first` is the value placed at bit `first`. -/
theorem shift_eq_placed (f : Nat) (v : Int) (hf : f ≤ 7) :
    UInt8.ofNat v.toNat <<< UInt8.ofNat f = placed f v :=
  shl_ofNat _ _ hf

/-- Inside its mask the placed value is untouched: a set bit `i - f` of `v < 2 ^ (l - f + 1)` has `i ≤ l`. -/
theorem placed_and_mask (f l : Nat) (v : Int) (hfl : f ≤ l) (h0 : 0 ≤ v)
    (h1 : v < 2 ^ (l - f + 1)) : placed f v &&& fieldMask f l = placed f v := by
  have hv : v.toNat < 2 ^ (l - f + 1) := by
    have : ((v.toNat : Nat) : Int) < ((2 ^ (l - f + 1) : Nat) : Int) := by
      rw [Int.toNat_of_nonneg h0]; simpa using h1
    exact Int.ofNat_lt.mp this
  apply eq_of_bitOf
  intro i hi
  rw [bitOf_and, placed_bit f v i hi, fieldMask_bit f l i hfl hi]
  cases hb : v.toNat.testBit (i - f) with
  | false => simp
  | true =>
    have hlt : 2 ^ (i - f) < 2 ^ (l - f + 1) := Nat.lt_of_le_of_lt (Nat.ge_two_pow_of_testBit hb) hv
    have : i - f < l - f + 1 := (Nat.pow_lt_pow_iff_right (by decide)).mp hlt
    by_cases h2 : f ≤ i
    · have : i ≤ l := by omega
      simp [h2, this]
    · simp [h2]

/-- `s[0] = (s[0] & !(1 << b)) | (value << b)` is the masked write of the one-bit field `b..b`. -/
theorem bit_write_eq (old : UInt8) (b : Nat) (v : Int) (hb : b ≤ 7) (hv : v = 0 ∨ v = 1) :
    (old &&& ~~~((1 : UInt8) <<< UInt8.ofNat b)) ||| (UInt8.ofNat v.toNat <<< UInt8.ofNat b) =
      maskedWrite old b b v := by
  have hm : (1 : UInt8) <<< UInt8.ofNat b = fieldMask b b := by
    rw [show (1 : UInt8) = UInt8.ofNat 1 from rfl, shl_ofNat 1 b hb, fieldMask, Nat.add_sub_cancel_left]
  have h1 : v < 2 ^ (b - b + 1) := by
    rw [Nat.sub_self]
    rcases hv with rfl | rfl <;> decide
  rw [hm, shift_eq_placed b v hb, maskedWrite, placed_and_mask b b v (Nat.le_refl _) (by omega) h1]

theorem mask_alg (a p m : UInt8) : ((a &&& ~~~m) ||| (p &&& m)) &&& ~~~m = a &&& ~~~m := by
  apply UInt8.eq_of_toBitVec_eq
  ext i hi
  simp
  cases a.toBitVec[i] <;> cases p.toBitVec[i] <;> cases m.toBitVec[i] <;> rfl

theorem and_not_of_and_eq (p m : UInt8) (h : p &&& m = p) : p &&& ~~~m = 0 := by
  rw [← h]
  apply UInt8.eq_of_toBitVec_eq
  ext i hi
  simp

theorem maskedWrite_eq_placed_iff (old : UInt8) (f l : Nat) (v : Int) (hfl : f ≤ l)
    (h0 : 0 ≤ v) (h1 : v < 2 ^ (l - f + 1)) :
    maskedWrite old f l v = placed f v ↔ old &&& ~~~ fieldMask f l = 0 := by
  have hp := placed_and_mask f l v hfl h0 h1
  constructor
  · intro h
    have := mask_alg old (placed f v) (fieldMask f l)
    rw [show (old &&& ~~~fieldMask f l ||| placed f v &&& fieldMask f l) = maskedWrite old f l v from rfl,
      h, and_not_of_and_eq _ _ hp] at this
    exact this.symm
  · intro h
    simp [maskedWrite, h, hp]

theorem beImage1 (v : Int) : beImage 1 v = [UInt8.ofNat (v % 256).toNat] := by
  simp [beImage, beByte, List.range, List.range.loop]

theorem beImage2 (v : Int) :
    beImage 2 v = [UInt8.ofNat ((v / 256) % 256).toNat, UInt8.ofNat (v % 256).toNat] := by
  simp [beImage, beByte, List.range, List.range.loop]

theorem beImage4 (v : Int) :
    beImage 4 v = [UInt8.ofNat ((v / 16777216) % 256).toNat, UInt8.ofNat ((v / 65536) % 256).toNat,
      UInt8.ofNat ((v / 256) % 256).toNat, UInt8.ofNat (v % 256).toNat] := by
  simp [beImage, beByte, List.range, List.range.loop]

theorem beImage_length (n : Nat) (v : Int) : (beImage n v).length = n := by simp [beImage]

/-- Digit `d` (a power of 256) of a bit pattern `u` that differs from `v` by a multiple of `256 * d`:
covers unsigned values (`k = 0`) and the two's complement of negative ones (`k = 1`). -/
theorem digit_congr (u : Nat) (v k : Int) (d : Nat) (hd : 0 < d) (h : (u : Int) = v + k * 256 * d) :
    UInt8.ofNat (u / d) = UInt8.ofNat ((v / d) % 256).toNat := by
  apply ofNat_congr
  have hd' : (d : Int) ≠ 0 := by omega
  have h1 : ((u / d : Nat) : Int) = v / d + k * 256 := by
    rw [Int.natCast_ediv, h, Int.add_mul_ediv_right _ _ hd']
  have h2 : ((u / d : Nat) : Int) % 256 = (v / d) % 256 := by
    rw [h1, Int.add_mul_emod_self_right]
  omega

theorem be4_of (u : Nat) (v k : Int) (h : (u : Int) = v + k * 4294967296) : be4 u = beImage 4 v := by
  have e3 := digit_congr u v k 16777216 (by decide) (by omega)
  have e2 := digit_congr u v (k * 256) 65536 (by decide) (by omega)
  have e1 := digit_congr u v (k * 65536) 256 (by decide) (by omega)
  have e0 := digit_congr u v (k * 16777216) 1 (by decide) (by omega)
  simp only [Int.natCast_one, Int.ediv_one, Nat.div_one] at e0 e1 e2 e3
  rw [beImage4, be4, e0, e1, e2, e3]
  rfl
theorem be2_of (u : Nat) (v k : Int) (h : (u : Int) = v + k * 65536) : be2 u = beImage 2 v := by
  have e1 := digit_congr u v k 256 (by decide) (by omega)
  have e0 := digit_congr u v (k * 256) 1 (by decide) (by omega)
  simp only [Int.natCast_one, Int.ediv_one, Nat.div_one] at e0 e1
  rw [beImage2, be2, e0, e1]
  rfl
theorem be1_of (u : Nat) (v k : Int) (h : (u : Int) = v + k * 256) : be1 u = beImage 1 v := by
  have e0 := digit_congr u v k 1 (by decide) (by omega)
  simp only [Int.natCast_one, Int.ediv_one, Nat.div_one] at e0
  rw [beImage1, be1, e0]
/-! ## A write is an overlay of the field's image; `write_value_to_slice` in one normal form -/

theorem overlay_zero (s d : Bytes) : overlay s 0 d = d ++ s.drop d.length := by
  simp [overlay]

/-- The `t.size` bytes a write of `v` puts at the field, `old` being the byte there before. -/
def fieldImage (cl : Bool) (old : UInt8) (t : DataType) (v : Int) : Bytes :=
  match t with
  | .bit b => [maskedWrite old b b v]
  | .bitArea f l => [if cl then placed f v else maskedWrite old f l v]
  | t => beImage t.size v

theorem fieldImage_length (cl : Bool) (old : UInt8) (t : DataType) (v : Int) :
    (fieldImage cl old t v).length = t.size := by
  cases t <;> simp [fieldImage, DataType.size, beImage_length]

theorem set_eq_overlay (blk : Bytes) (off : Nat) (x : UInt8) (h : off < blk.length) :
    blk.set off x = overlay blk off [x] := by
  rw [List.set_eq_take_append_cons_drop, if_pos h]; simp [overlay]

theorem prmWrite_eq (cl : Bool) (blk : Bytes) (off : Nat) (t : DataType) (v : Int) (h : off + t.size ≤ blk.length) :
    prmWrite cl blk off t v = overlay blk off (fieldImage cl (blk.getD off 0) t v) := by
  cases t <;> simp only [prmWrite, fieldImage, DataType.size] at h ⊢ <;> exact set_eq_overlay _ _ _ (by omega)

/-- `uN::try_from(v)?.to_be_bytes()` is the `n`-byte image of `v`, for `v` in the unsigned range `0..m`. -/
theorem tryFromU_map (bits n : Nat) (v : Int) (be : Nat → Bytes) (m : Int) (hM : (2 : Int) ^ bits = m + 1)
    (hbe : ∀ (u : Nat) (k : Int), (u : Int) = v + k * (m + 1) → be u = beImage n v) :
    (tryFromU bits v).map be = if 0 ≤ v ∧ v ≤ m then some (beImage n v) else none := by
  unfold tryFromU
  rw [hM]
  by_cases h : 0 ≤ v ∧ v ≤ m
  · rw [if_pos h, if_pos (by omega)]; exact congrArg some (hbe _ 0 (by omega))
  · rw [if_neg h, if_neg (by omega)]; rfl

/-- … and `iN::try_from(v)?.to_be_bytes()` for `v` in the signed range `lo..m` (two's complement). -/
theorem tryFromS_map (bits n : Nat) (v : Int) (be : Nat → Bytes) (lo m : Int)
    (hm : (2 : Int) ^ (bits - 1) = m + 1) (hlo : lo = -(m + 1)) (hM : (2 : Int) ^ bits = 2 * (m + 1))
    (hbe : ∀ (u : Nat) (k : Int), (u : Int) = v + k * (2 * (m + 1)) → be u = beImage n v) :
    (tryFromS bits v).map be = if lo ≤ v ∧ v ≤ m then some (beImage n v) else none := by
  unfold tryFromS
  rw [hm, hM]
  by_cases h : lo ≤ v ∧ v ≤ m
  · rw [if_pos h, if_pos (by omega)]
    by_cases hn : v < 0
    · rw [if_pos hn]; exact congrArg some (hbe _ 1 (by omega))
    · rw [if_neg hn]; exact congrArg some (hbe _ 0 (by omega))
  · rw [if_neg h, if_neg (by omega)]; rfl

theorem copyPrefix_eq (s : Bytes) (n : Nat) (src : Option Bytes) (ok : Prop) [Decidable ok] (img : Bytes)
    (hsrc : src = if ok then some img else none) (hn : img.length = n) :
    copyPrefix s n src =
      if ok then (if s.length < n then .panic else .ok (overlay s 0 img))
      else if s.length < n then .panic else .rangeErr := by
  unfold copyPrefix
  rw [hsrc, overlay_zero, hn]
  by_cases h : ok <;> by_cases hl : s.length < n <;> simp [h, hl]

def DataType.isByteType : DataType → Bool
  | .bit _ | .bitArea _ _ => false
  | _ => true

theorem writeValue_eq (t : DataType) (v : Int) (s : Bytes) :
    writeValue t v s =
      if t.holds v then (if s.length < t.size then .panic else .ok (overlay s 0 (fieldImage true (s.getD 0 0) t v)))
      else if t.isByteType ∧ s.length < t.size then .panic else .rangeErr := by
  cases t
  case u8 =>
    simp only [writeValue, DataType.holds, DataType.size, DataType.isByteType, fieldImage, true_and, decide_eq_true_eq]
    exact copyPrefix_eq s 1 _ _ _ (tryFromU_map 8 1 v be1 255 (by decide) (be1_of · v ·)) (beImage_length _ _)
  case u16 =>
    simp only [writeValue, DataType.holds, DataType.size, DataType.isByteType, fieldImage, true_and, decide_eq_true_eq]
    exact copyPrefix_eq s 2 _ _ _ (tryFromU_map 16 2 v be2 65535 (by decide) (be2_of · v ·)) (beImage_length _ _)
  case u32 =>
    simp only [writeValue, DataType.holds, DataType.size, DataType.isByteType, fieldImage, true_and, decide_eq_true_eq]
    exact copyPrefix_eq s 4 _ _ _ (tryFromU_map 32 4 v be4 4294967295 (by decide) (be4_of · v ·)) (beImage_length _ _)
  case s8 =>
    simp only [writeValue, DataType.holds, DataType.size, DataType.isByteType, fieldImage, true_and, decide_eq_true_eq]
    exact copyPrefix_eq s 1 _ _ _ (tryFromS_map 8 1 v be1 (-128) 127 (by decide) (by decide) (by decide) (be1_of · v ·))
      (beImage_length _ _)
  case s16 =>
    simp only [writeValue, DataType.holds, DataType.size, DataType.isByteType, fieldImage, true_and, decide_eq_true_eq]
    exact copyPrefix_eq s 2 _ _ _ (tryFromS_map 16 2 v be2 (-32768) 32767 (by decide) (by decide) (by decide) (be2_of · v ·))
      (beImage_length _ _)
  case s32 =>
    simp only [writeValue, DataType.holds, DataType.size, DataType.isByteType, fieldImage, true_and, decide_eq_true_eq]
    exact copyPrefix_eq s 4 _ _ _ (tryFromS_map 32 4 v be4 (-2147483648) 2147483647 (by decide) (by decide) (by decide)
      (be4_of · v ·)) (beImage_length _ _)
  case bit b =>
    simp only [writeValue, DataType.holds, DataType.size, DataType.isByteType, fieldImage, decide_eq_true_eq,
      Bool.false_eq_true, false_and, if_false]
    by_cases h : b ≤ 7 ∧ (v = 0 ∨ v = 1)
    · rw [if_neg (by omega), if_pos h]
      cases s with
      | nil => rfl
      | cons x xs => simp [overlay, bit_write_eq x b v h.1 h.2]
    · rw [if_pos (by omega), if_neg h]
  case bitArea f l =>
    simp only [writeValue, DataType.holds, DataType.size, DataType.isByteType, fieldImage, decide_eq_true_eq,
      Bool.false_eq_true, false_and, if_false, if_true]
    by_cases h : f ≤ l ∧ l ≤ 7 ∧ 0 ≤ v ∧ v < 2 ^ (l - f + 1)
    · rw [if_neg (by omega), if_neg (by omega), if_pos h, shift_eq_placed f v (by omega)]
      cases s with
      | nil => rfl
      | cons x xs => simp [overlay]
    · rw [if_neg h]
      by_cases h1 : l < f ∨ l > 7
      · rw [if_pos h1]
      · rw [if_neg h1, if_pos (by omega)]

theorem writeValue_accept (t : DataType) (v : Int) (s : Bytes) (hs : t.size ≤ s.length)
    (h : t.holds v = true) : writeValue t v s = .ok (prmActual s 0 t v) := by
  rw [writeValue_eq, if_pos h, if_neg (by omega), prmActual, prmWrite_eq _ _ _ _ _ (by omega)]

theorem writeValue_reject (t : DataType) (v : Int) (s : Bytes) (hs : t.size ≤ s.length)
    (h : t.holds v = false) : writeValue t v s = .rangeErr := by
  rw [writeValue_eq, h, if_neg (by simp), if_neg (by omega)]

theorem writeValue_panic_iff (t : DataType) (v : Int) (s : Bytes) :
    writeValue t v s = .panic ↔ s.length < t.size ∧ (t.isByteType = true ∨ t.holds v = true) := by
  rw [writeValue_eq]
  by_cases h : t.holds v = true <;> by_cases hl : s.length < t.size <;> by_cases hb : t.isByteType = true <;>
    simp [h, hl, hb]

theorem overlay_length (blk : Bytes) (off : Nat) (d : Bytes) (h : off + d.length ≤ blk.length) :
    (overlay blk off d).length = blk.length := by
  simp [overlay]; omega

theorem overlay_shift (blk : Bytes) (off : Nat) (d : Bytes) :
    blk.take off ++ overlay (blk.drop off) 0 d = overlay blk off d := by
  simp [overlay, List.drop_drop, Nat.add_comm]

theorem overlay_outside (blk : Bytes) (off : Nat) (d : Bytes) (i : Nat)
    (h : off + d.length ≤ blk.length) (hi : i < off ∨ off + d.length ≤ i) :
    (overlay blk off d)[i]? = blk[i]? := by
  unfold overlay
  rcases hi with hi | hi
  · rw [List.append_assoc, List.getElem?_append_left (by simp; omega), List.getElem?_take_of_lt hi]
  · rw [List.getElem?_append_right (by simp; omega)]
    simp only [List.length_append, List.length_take, List.getElem?_drop]
    congr 1; omega

theorem overlay_inside (blk : Bytes) (off : Nat) (d : Bytes) (j : Nat)
    (h : off + d.length ≤ blk.length) (hj : j < d.length) :
    (overlay blk off d)[off + j]? = d[j]? := by
  unfold overlay
  rw [List.append_assoc, List.getElem?_append_right (by simp; omega)]
  simp only [List.length_take]
  rw [List.getElem?_append_left (by omega)]
  congr 1; omega

theorem getD_drop_zero (blk : Bytes) (off : Nat) : (blk.drop off).getD 0 0 = blk.getD off 0 := by
  simp [List.getD_eq_getElem?_getD]

theorem prmWrite_length (c : Bool) (blk : Bytes) (off : Nat) (t : DataType) (v : Int)
    (h : off + t.size ≤ blk.length) : (prmWrite c blk off t v).length = blk.length := by
  rw [prmWrite_eq _ _ _ _ _ h, overlay_length _ _ _ (by rwa [fieldImage_length])]

theorem prmWrite_shift (c : Bool) (blk : Bytes) (off : Nat) (t : DataType) (v : Int)
    (h : off + t.size ≤ blk.length) :
    blk.take off ++ prmWrite c (blk.drop off) 0 t v = prmWrite c blk off t v := by
  rw [prmWrite_eq _ _ _ _ _ h, prmWrite_eq _ _ _ _ _ (by rw [List.length_drop]; omega), getD_drop_zero, overlay_shift]

theorem prmWrite_outside (c : Bool) (blk : Bytes) (off : Nat) (t : DataType) (v : Int) (i : Nat)
    (h : off + t.size ≤ blk.length) (hi : i < off ∨ off + t.size ≤ i) :
    (prmWrite c blk off t v)[i]? = blk[i]? := by
  rw [prmWrite_eq _ _ _ _ _ h, overlay_outside _ _ _ _ (by rwa [fieldImage_length]) (by rwa [fieldImage_length])]

/-! ## One call of the builder against `callWith` -/

/-- Every referenced parameter lies inside the block (established by `PrmBuilder::new`). -/
def Inv (b : Builder) : Prop := ∀ r ∈ b.desc.refs, r.1 + r.2.dataType.size ≤ b.prm.length

theorem lookup_eq_find (m : List (String × Int)) (k : String) :
    m.lookup k = (m.find? (fun kv => kv.1 == k)).map (·.2) := by
  induction m with
  | nil => rfl
  | cons x xs ih =>
    obtain ⟨a, b⟩ := x
    by_cases h : a = k
    · subst h; simp [List.lookup, List.find?]
    · have h1 : (k == a) = false := by simp; exact fun e => h e.symm
      have h2 : (a == k) = false := by simp; exact h
      simp only [List.lookup, List.find?, h1, h2, ih]

theorem valid_eq_holds (c : Constraint) (v : Int) : c.valid v = c.holds v := by
  cases c with
  | minMax lo hi =>
    simp only [Constraint.valid, Constraint.holds]
    by_cases h1 : lo > v <;> by_cases h2 : v > hi <;> simp [h1, h2] <;> omega
  | enum vs => simp [Constraint.valid, Constraint.holds]
  | unconstrained => rfl

theorem getPrm_mem (L : Layout) (name : String) (r : Nat × PrmDef) (h : L.getPrm name = some r) :
    r ∈ L.refs := List.mem_of_find?_eq_some h

theorem writeConstrained_eq (b : Builder) (off : Nat) (d : PrmDef) (v : Int)
    (h : off + d.dataType.size ≤ b.prm.length) :
    writeConstrained b off d v =
      if !d.constraint.holds v then .err .valueConstraint
      else if !d.dataType.holds v then .err .valueRange
      else .ok { b with prm := prmActual b.prm off d.dataType v } := by
  unfold writeConstrained
  rw [if_neg (by omega), valid_eq_holds]
  by_cases hc : d.constraint.holds v
  · simp only [hc, Bool.not_true, Bool.false_eq_true, if_false]
    have hs : d.dataType.size ≤ (b.prm.drop off).length := by simp; omega
    by_cases ht : d.dataType.holds v
    · rw [writeValue_accept _ _ _ hs ht]
      simp only [ht, Bool.not_true, Bool.false_eq_true, if_false]
      rw [prmActual, prmWrite_shift _ _ _ _ _ h]
      rfl
    · simp only [Bool.not_eq_true] at ht
      rw [writeValue_reject _ _ _ hs ht]
      simp [ht]
  · simp [hc]

def outcomeOf (b : Builder) : Except SetErr Bytes → SetOutcome
  | .ok blk => .ok { b with prm := blk }
  | .error e => .err e

theorem target_mem (L : Layout) (c : Call) (off : Nat) (d : PrmDef) (v : Int)
    (h : target L c = .ok (off, d, v)) : (off, d) ∈ L.refs := by
  cases c with
  | set name v' =>
    simp only [target] at h
    split at h
    · cases h
    · rename_i hg; cases h; exact getPrm_mem _ _ _ hg
  | setText name text =>
    simp only [target] at h
    split at h
    · cases h
    · rename_i hg
      split at h
      · cases h
      · split at h
        · cases h
        · cases h; exact getPrm_mem _ _ _ hg

/-- Both calls look the parameter (and for a text, the value) up and then do the same write. -/
theorem call_target (b : Builder) (c : Call) :
    b.call c = match target b.desc c with
      | .error e => .err e
      | .ok (off, d, v) => writeConstrained b off d v := by
  cases c with
  | set name v =>
    simp only [Builder.call, Builder.setPrm, target]
    cases b.desc.getPrm name <;> rfl
  | setText name text =>
    simp only [Builder.call, Builder.setPrmFromText, target, PrmDef.valueFromText, lookup_eq_find]
    cases b.desc.getPrm name with
    | none => rfl
    | some r =>
      obtain ⟨off, d⟩ := r
      simp only
      cases d.texts with
      | none => rfl
      | some m => simp only; cases m.find? (fun kv => kv.1 == text) <;> rfl

theorem call_eq (b : Builder) (c : Call) (hI : Inv b) :
    b.call c = outcomeOf b (callWith true b.desc b.prm c) := by
  rw [call_target]
  unfold callWith
  cases ht : target b.desc c with
  | error e => rfl
  | ok r =>
    obtain ⟨off, d, v⟩ := r
    simp only [writeConstrained_eq b off d v (hI _ (target_mem _ _ _ _ _ ht))]
    by_cases hc : d.constraint.holds v <;> by_cases hd : d.dataType.holds v <;> simp [hc, hd, outcomeOf, prmActual]

theorem callWith_ok_inv (cl : Bool) (L : Layout) (blk : Bytes) (c : Call) (blk' : Bytes)
    (h : callWith cl L blk c = .ok blk') :
    ∃ off d v, target L c = .ok (off, d, v) ∧ d.constraint.holds v = true ∧
      d.dataType.holds v = true ∧ blk' = prmWrite cl blk off d.dataType v := by
  unfold callWith at h
  cases ht : target L c with
  | error e => simp [ht] at h
  | ok r =>
    obtain ⟨off, d, v⟩ := r
    simp only [ht] at h
    by_cases hc : d.constraint.holds v <;> by_cases hd : d.dataType.holds v <;>
      simp [hc, hd] at h
    exact ⟨off, d, v, rfl, hc, hd, h.symm⟩

/-- `Inv` with layout and length apart: calls change the block, not its length (`blockAfter_length`), so this is the
form that goes through a run. -/
def fits (L : Layout) (n : Nat) : Prop := ∀ r ∈ L.refs, r.1 + r.2.dataType.size ≤ n

theorem Inv.fits {b : Builder} (h : Inv b) : fits b.desc b.prm.length := h

def untouched (L : Layout) (i : Nat) : Prop := ∀ r ∈ L.refs, i < r.1 ∨ r.1 + r.2.dataType.size ≤ i

theorem blockAfter_length (cl : Bool) (L : Layout) (blk : Bytes) (c : Call) (hf : fits L blk.length) :
    (blockAfter cl L blk c).length = blk.length := by
  unfold blockAfter
  cases h : callWith cl L blk c with
  | error e => rfl
  | ok blk' =>
    obtain ⟨off, d, v, ht, _, _, rfl⟩ := callWith_ok_inv _ _ _ _ _ h
    exact prmWrite_length _ _ _ _ _ (hf _ (target_mem _ _ _ _ _ ht))

theorem blockAfter_outside (cl : Bool) (L : Layout) (blk : Bytes) (c : Call) (i : Nat)
    (hf : fits L blk.length) (hi : untouched L i) : (blockAfter cl L blk c)[i]? = blk[i]? := by
  unfold blockAfter
  cases h : callWith cl L blk c with
  | error e => rfl
  | ok blk' =>
    obtain ⟨off, d, v, ht, _, _, rfl⟩ := callWith_ok_inv _ _ _ _ _ h
    have hm := target_mem _ _ _ _ _ ht
    exact prmWrite_outside _ _ _ _ _ _ (hf _ hm) (hi _ hm)

theorem runWith_length (cl : Bool) (L : Layout) (blk : Bytes) (cs : List Call) (hf : fits L blk.length) :
    (runWith cl L blk cs).length = blk.length := by
  induction cs generalizing blk with
  | nil => rfl
  | cons c cs ih =>
    simp only [runWith, List.foldl] at ih ⊢
    have hl := blockAfter_length cl L blk c hf
    rw [ih _ (by rw [hl]; exact hf), hl]

theorem runWith_outside (cl : Bool) (L : Layout) (blk : Bytes) (cs : List Call) (i : Nat)
    (hf : fits L blk.length) (hi : untouched L i) : (runWith cl L blk cs)[i]? = blk[i]? := by
  induction cs generalizing blk with
  | nil => rfl
  | cons c cs ih =>
    simp only [runWith, List.foldl] at ih ⊢
    have hl := blockAfter_length cl L blk c hf
    rw [ih _ (by rw [hl]; exact hf), blockAfter_outside cl L blk c i hf hi]

theorem after_eq (b : Builder) (c : Call) (hI : Inv b) :
    b.after c = some { b with prm := blockAfter true b.desc b.prm c } := by
  unfold Builder.after blockAfter
  rw [call_eq b c hI]
  cases callWith true b.desc b.prm c <;> rfl

theorem run_eq (b : Builder) (cs : List Call) (hI : Inv b) :
    b.run cs = some { b with prm := runWith true b.desc b.prm cs } := by
  induction cs generalizing b with
  | nil => rfl
  | cons c cs ih =>
    simp only [Builder.run, after_eq b c hI]
    have hI' : Inv { b with prm := blockAfter true b.desc b.prm c } := by
      intro r hr
      simp only [blockAfter_length true b.desc b.prm c hI.fits]
      exact hI r hr
    rw [ih _ hI']
    rfl

/-! ## `PrmBuilder::new` against `initWith` -/

/-- The code grows the block as it goes (`updateLen`), the specification starts from zeros of the final length: `pad n p`
is the code's block seen at length `n`, and the two are compared through it. -/
def pad (n : Nat) (p : Bytes) : Bytes := p ++ List.replicate (n - p.length) 0

theorem pad_self (n : Nat) (p : Bytes) (h : n ≤ p.length) : pad n p = p := by
  simp [pad, Nat.sub_eq_zero_of_le h]

theorem pad_nil (n : Nat) : pad n [] = List.replicate n 0 := by simp [pad]

theorem pad_grow (n k : Nat) (p : Bytes) (hk : k ≤ n) :
    pad n (p ++ List.replicate (k - p.length) 0) = pad n p := by
  simp only [pad, List.append_assoc, List.replicate_append_replicate, List.length_append,
    List.length_replicate]
  congr 2
  omega

theorem overlay_pad (n : Nat) (p : Bytes) (off : Nat) (d : Bytes) (h : off + d.length ≤ p.length) :
    overlay (pad n p) off d = pad n (overlay p off d) := by
  simp only [pad, overlay_length p off d h]
  simp only [overlay, List.append_assoc]
  rw [List.take_append_of_le_length (by omega), List.drop_append_of_le_length (by omega)]

theorem getD_pad (n : Nat) (p : Bytes) (off : Nat) (h : off < p.length) :
    (pad n p).getD off 0 = p.getD off 0 := by
  simp only [pad, List.getD_eq_getElem?_getD]
  rw [List.getElem?_append_left h]

theorem prmWrite_pad (cl : Bool) (n : Nat) (p : Bytes) (off : Nat) (t : DataType) (v : Int)
    (h : off + t.size ≤ p.length) : prmWrite cl (pad n p) off t v = pad n (prmWrite cl p off t v) := by
  have hp : p.length ≤ (pad n p).length := by simp [pad]
  have ht : 0 < t.size := by cases t <;> simp [DataType.size]
  rw [prmWrite_eq _ _ _ _ _ h, prmWrite_eq _ _ _ _ _ (by omega), getD_pad _ _ _ (by omega),
    overlay_pad _ _ _ _ (by rwa [fieldImage_length])]

theorem updateLen_some (p : Bytes) (off size : Nat) (h : off + size < usizeLimit) :
    updateLen p off size = some (p ++ List.replicate (off + size - p.length) 0) := by
  unfold updateLen
  rw [if_neg (by omega)]

theorem updateLen_none (p : Bytes) (off size : Nat) (h : usizeLimit ≤ off + size) :
    updateLen p off size = none := by
  unfold updateLen
  rw [if_pos (by omega)]

theorem foldl_max_ge (xs : List Nat) (a : Nat) : a ≤ xs.foldl max a := by
  induction xs generalizing a with
  | nil => exact Nat.le_refl _
  | cons x xs ih => exact Nat.le_trans (Nat.le_max_left a x) (ih _)

theorem le_foldl_max (xs : List Nat) (a x : Nat) (h : x ∈ xs) : x ≤ xs.foldl max a := by
  induction xs generalizing a with
  | nil => cases h
  | cons y ys ih =>
    rcases List.mem_cons.mp h with rfl | h
    · exact Nat.le_trans (Nat.le_max_right a x) (foldl_max_ge _ _)
    · exact ih _ h

/-- Whether `write_default_prm_data` reaches an `offset + size` overflow before a default is rejected. -/
def refsPanic : List (Nat × PrmDef) → Bool
  | [] => false
  | (off, d) :: rs => decide (usizeLimit ≤ off + d.dataType.size) || (d.dataType.holds d.default && refsPanic rs)

/-- `write_const_prm_data` on any list: some `offset + len` leaves the `usize` range, or the constants are laid over
the block (`n`: any length that covers them all). -/
theorem writeConsts_spec (cs : List (Nat × Bytes)) (p : Bytes) (n : Nat) (hn : ∀ c ∈ cs, c.1 + c.2.length ≤ n) :
    match writeConsts cs p with
    | some p' => (∀ c ∈ cs, c.1 + c.2.length < usizeLimit) ∧ pad n p' = overlayConsts (pad n p) cs ∧
        p'.length = (cs.map fun c => c.1 + c.2.length).foldl max p.length
    | none => ∃ c ∈ cs, usizeLimit ≤ c.1 + c.2.length := by
  induction cs generalizing p with
  | nil => exact ⟨fun _ h => (nomatch h), rfl, rfl⟩
  | cons c cs ih =>
    obtain ⟨off, data⟩ := c
    have hle : off + data.length ≤ n := hn (off, data) (List.mem_cons_self ..)
    by_cases hw : off + data.length < usizeLimit
    · simp only [writeConsts, updateLen_some p off data.length hw]
      generalize hq : p ++ List.replicate (off + data.length - p.length) 0 = q
      have hlen : q.length = max p.length (off + data.length) := by rw [← hq]; simp; omega
      have hpad : pad n q = pad n p := by rw [← hq]; exact pad_grow _ _ _ hle
      rw [if_neg (by omega)]
      have := ih (overlay q off data) (fun c hc => hn c (List.mem_cons_of_mem _ hc))
      rw [overlay] at this
      cases hr : writeConsts cs (q.take off ++ data ++ q.drop (off + data.length)) with
      | some p' =>
        simp only [hr] at this ⊢
        obtain ⟨h0, h2, h3⟩ := this
        refine ⟨List.forall_mem_cons.mpr ⟨hw, h0⟩, ?_, ?_⟩
        · rw [h2, ← overlay, ← overlay_pad _ _ _ _ (by omega), hpad]; rfl
        · rw [h3, ← overlay, overlay_length _ _ _ (by omega), hlen]; rfl
      | none =>
        simp only [hr] at this ⊢
        obtain ⟨c, hc, ho⟩ := this
        exact ⟨c, List.mem_cons_of_mem _ hc, ho⟩
    · simp only [writeConsts, updateLen_none p off data.length (by omega)]
      exact ⟨_, List.mem_cons_self .., by simp only; omega⟩

/-- `write_default_prm_data` on any list, the three outcomes at once: the defaults are laid over the block and it has
grown to cover them, a default is not a value of its data type, or an `offset + size` overflow comes first. -/
theorem writeDefaults_spec (rs : List (Nat × PrmDef)) (p : Bytes) (n : Nat)
    (hn : ∀ r ∈ rs, r.1 + r.2.dataType.size ≤ n) :
    match writeDefaults rs p with
    | .ok p' => refsPanic rs = false ∧ overlayDefaults true (pad n p) rs = some (pad n p') ∧
        p'.length = (rs.map fun r => r.1 + r.2.dataType.size).foldl max p.length
    | .rangeErr => refsPanic rs = false ∧ overlayDefaults true (pad n p) rs = none
    | .panic => refsPanic rs = true := by
  induction rs generalizing p with
  | nil => exact ⟨rfl, rfl, rfl⟩
  | cons r rs ih =>
    obtain ⟨off, d⟩ := r
    have hle : off + d.dataType.size ≤ n := hn (off, d) (List.mem_cons_self ..)
    by_cases hw : off + d.dataType.size < usizeLimit
    · have hno : decide (usizeLimit ≤ off + d.dataType.size) = false := by simp; omega
      simp only [writeDefaults, updateLen_some p off d.dataType.size hw, overlayDefaults, refsPanic, hno, Bool.false_or]
      generalize hp1 : p ++ List.replicate (off + d.dataType.size - p.length) 0 = p1
      have hlen : p1.length = max p.length (off + d.dataType.size) := by rw [← hp1]; simp; omega
      have hpad : pad n p1 = pad n p := by rw [← hp1]; exact pad_grow _ _ _ hle
      rw [if_neg (by omega)]
      have hs : d.dataType.size ≤ (p1.drop off).length := by simp; omega
      by_cases ht : d.dataType.holds d.default
      · rw [writeValue_accept _ _ _ hs ht, if_pos ht, ht, Bool.true_and]
        simp only [prmActual, prmWrite_shift true p1 off d.dataType d.default (by omega)]
        have := ih (prmWrite true p1 off d.dataType d.default) (fun c hc => hn c (List.mem_cons_of_mem _ hc))
        rwa [← prmWrite_pad _ _ _ _ _ _ (by omega), hpad, prmWrite_length _ _ _ _ _ (by omega), hlen] at this
      · simp only [Bool.not_eq_true] at ht
        rw [writeValue_reject _ _ _ hs ht]
        simp [ht]
    · simp only [writeDefaults, updateLen_none p off d.dataType.size (by omega), refsPanic]
      simp; omega

/-- **`PrmBuilder::new` on every layout**, well-formed or not: a panic, the range error, or the block the
code-as-is builds.  (Where a reference overflows only behind a rejected default, `actualInit` is `none` as well.) -/
theorem new_closed (L : Layout) :
    Builder.new L =
      if (∃ c ∈ L.consts, usizeLimit ≤ c.1 + c.2.length) ∨ refsPanic L.refs = true then .panic
      else match actualInit L with
        | none => .rangeErr
        | some blk => .ok { desc := L, prm := blk } := by
  have hnc : ∀ c ∈ L.consts, c.1 + c.2.length ≤ blockLen L := fun c h =>
    le_foldl_max _ _ _ (List.mem_append_left _ (List.mem_map.mpr ⟨c, h, rfl⟩))
  have hnr : ∀ r ∈ L.refs, r.1 + r.2.dataType.size ≤ blockLen L := fun r h =>
    le_foldl_max _ _ _ (List.mem_append_right _ (List.mem_map.mpr ⟨r, h, rfl⟩))
  have hc := writeConsts_spec L.consts [] (blockLen L) hnc
  unfold Builder.new
  split at hc
  · next p1 h1 =>
    obtain ⟨hwf, h2, h3⟩ := hc
    have hno : ¬ ∃ c ∈ L.consts, usizeLimit ≤ c.1 + c.2.length := fun ⟨c, hc, ho⟩ => by have := hwf c hc; omega
    have hd := writeDefaults_spec L.refs p1 (blockLen L) hnr
    simp only [h1, hno, false_or, actualInit, initWith, ← pad_nil, ← h2]
    split at hd
    · next p2 hw =>
      obtain ⟨hp, ho, hl⟩ := hd
      have hl : blockLen L ≤ p2.length := by rw [hl, h3, blockLen, List.foldl_append]; exact Nat.le_refl _
      simp [hw, hp, ho, pad_self _ _ hl]
    · next hw => simp [hw, hd.1, hd.2]
    · next hw => simp [hw, hd]
  · next h1 => simp [h1, hc]

theorem refsPanic_iff (rs : List (Nat × PrmDef)) :
    refsPanic rs = true ↔ ∃ pre r post, rs = pre ++ r :: post ∧ usizeLimit ≤ r.1 + r.2.dataType.size ∧
      ∀ q ∈ pre, q.2.dataType.holds q.2.default = true := by
  induction rs with
  | nil => simp [refsPanic]
  | cons r rs ih =>
    obtain ⟨off, d⟩ := r
    simp only [refsPanic, Bool.or_eq_true, decide_eq_true_eq, Bool.and_eq_true, ih]
    constructor
    · rintro (h | ⟨hd, pre, r, post, rfl, hr, hpre⟩)
      · exact ⟨[], (off, d), rs, rfl, h, fun q hq => by cases hq⟩
      · refine ⟨(off, d) :: pre, r, post, rfl, hr, fun q hq => ?_⟩
        rcases List.mem_cons.mp hq with rfl | hq
        · exact hd
        · exact hpre q hq
    · rintro ⟨pre, r, post, heq, hr, hpre⟩
      cases pre with
      | nil =>
        simp only [List.nil_append, List.cons.injEq] at heq
        obtain ⟨rfl, rfl⟩ := heq
        exact Or.inl hr
      | cons q pre =>
        simp only [List.cons_append, List.cons.injEq] at heq
        obtain ⟨rfl, rfl⟩ := heq
        exact Or.inr ⟨hpre _ (List.mem_cons_self ..), pre, r, post, rfl, hr,
          fun q hq => hpre q (List.mem_cons_of_mem _ hq)⟩

theorem new_eq (L : Layout) (hwf : wellFormed L = true) :
    Builder.new L = match actualInit L with
      | none => .rangeErr
      | some blk => .ok { desc := L, prm := blk } := by
  simp only [wellFormed, Bool.and_eq_true, List.all_eq_true, decide_eq_true_eq] at hwf
  rw [new_closed, if_neg]
  rintro (⟨c, hc, ho⟩ | hp)
  · have := hwf.1 c hc; omega
  · obtain ⟨pre, r, post, hr, ho, _⟩ := (refsPanic_iff L.refs).mp hp
    have := hwf.2 r (by rw [hr]; simp)
    omega

theorem new_panic_iff (L : Layout) :
    Builder.new L = .panic ↔ (∃ c ∈ L.consts, usizeLimit ≤ c.1 + c.2.length) ∨ refsPanic L.refs = true := by
  rw [new_closed]
  split
  · next h => exact iff_of_true rfl h
  · next h => exact iff_of_false (by cases actualInit L <;> simp) h

/-- `new` establishes the invariant, for every layout (well-formed or not): the block has grown to cover every
reference. -/
theorem inv_of_new (L : Layout) (b : Builder) (h : Builder.new L = .ok b) : b.desc = L ∧ Inv b := by
  unfold Builder.new at h
  cases hc : writeConsts L.consts [] with
  | none => simp [hc] at h
  | some p1 =>
    have hd := writeDefaults_spec L.refs p1 _ fun r hr => le_foldl_max _ 0 _ (List.mem_map.mpr ⟨r, hr, rfl⟩)
    simp only [hc] at h
    cases hw : writeDefaults L.refs p1 <;> simp only [hw, BuildOutcome.ok.injEq, reduceCtorEq] at h hd
    subst h
    exact ⟨rfl, fun r hr => hd.2.2 ▸ le_foldl_max _ _ _ (List.mem_map.mpr ⟨r, hr, rfl⟩)⟩

theorem prmWrite_clobber_irrelevant (blk : Bytes) (off : Nat) (t : DataType) (v : Int)
    (h : t.isBitArea = false) : prmWrite true blk off t v = prmWrite false blk off t v := by
  cases t <;> first | rfl | simp [DataType.isBitArea] at h

theorem set_eq_set_iff (blk : Bytes) (off : Nat) (x y : UInt8) (h : off < blk.length) :
    blk.set off x = blk.set off y ↔ x = y := by
  constructor
  · intro he
    have : (blk.set off x)[off]? = (blk.set off y)[off]? := by rw [he]
    simpa [List.getElem?_set_self h] using this
  · rintro rfl; rfl

theorem bitArea_write_eq_iff (blk : Bytes) (off f l : Nat) (v : Int) (hoff : off < blk.length)
    (hv : (DataType.bitArea f l).holds v = true) :
    prmWrite true blk off (.bitArea f l) v = prmWrite false blk off (.bitArea f l) v ↔
      blk.getD off 0 &&& ~~~ fieldMask f l = 0 := by
  simp only [DataType.holds, decide_eq_true_eq] at hv
  simp only [prmWrite, if_true, Bool.false_eq_true, if_false]
  rw [set_eq_set_iff _ _ _ _ hoff, eq_comm]
  exact maskedWrite_eq_placed_iff _ f l v hv.1 hv.2.2.1 hv.2.2.2

def obsOf (b : Builder) : SetOutcome → Obs
  | .ok b' => .ok b'.prm
  | .err e => .err e b.prm
  | .panic => .panic

theorem k2Call_held (L : Layout) (blk : Bytes) (c : Call) (off : Nat) (d : PrmDef) (v : Int)
    (ht : target L c = .ok (off, d, v)) (hc : d.constraint.holds v = true) (hd : d.dataType.holds v = true) :
    k2Call L blk c = k2Type d.dataType (blk.getD off 0) := by
  simp [k2Call, ht, hc, hd]

theorem k2Call_rejected (L : Layout) (blk : Bytes) (c : Call)
    (h : ∀ off d v, target L c = .ok (off, d, v) → ¬ (d.constraint.holds v = true ∧ d.dataType.holds v = true)) :
    k2Call L blk c = false := by
  unfold k2Call
  cases ht : target L c with
  | error e => rfl
  | ok r =>
    obtain ⟨off, d, v⟩ := r
    have := h off d v ht
    simp only
    cases hc : d.constraint.holds v <;> cases hd : d.dataType.holds v <;> simp_all

/-- For an accepted call the code's block equals the specified block exactly outside the K2 class. -/
theorem actual_eq_spec_iff (L : Layout) (blk : Bytes) (c : Call) (off : Nat) (d : PrmDef) (v : Int)
    (ht : target L c = .ok (off, d, v)) (hc : d.constraint.holds v = true) (hd : d.dataType.holds v = true)
    (hfit : off + d.dataType.size ≤ blk.length) :
    prmWrite true blk off d.dataType v = prmWrite false blk off d.dataType v ↔ k2Call L blk c = false := by
  rw [k2Call_held L blk c off d v ht hc hd]
  cases hdt : d.dataType with
  | bitArea f l =>
    have hoff : off < blk.length := by simp only [hdt, DataType.size] at hfit; omega
    rw [bitArea_write_eq_iff blk off f l v hoff (by rw [← hdt]; exact hd)]
    simp [k2Type]
  | _ => simp only [k2Type, iff_true]; exact prmWrite_clobber_irrelevant _ _ _ _ rfl

theorem judgeCall_model (b : Builder) (c : Call) (hI : Inv b) :
    judgeCall b.desc b.prm c (obsOf b (b.call c)) =
      if k2Call b.desc b.prm c then .k2 else .pass := by
  rw [call_eq b c hI]
  cases ht : target b.desc c with
  | error e =>
    have h1 : ∀ cl, callWith cl b.desc b.prm c = .error e := fun cl => by simp [callWith, ht]
    have hk := k2Call_rejected b.desc b.prm c (fun off d v h => by rw [ht] at h; cases h)
    simp [h1, outcomeOf, obsOf, judgeCall, specCall, hk]
  | ok r =>
    obtain ⟨off, d, v⟩ := r
    have hfit := hI _ (target_mem _ _ _ _ _ ht)
    by_cases hc : d.constraint.holds v
    · by_cases hd : d.dataType.holds v
      · have h1 : ∀ cl, callWith cl b.desc b.prm c = .ok (prmWrite cl b.prm off d.dataType v) :=
          fun cl => by simp [callWith, ht, hc, hd]
        have hiff := actual_eq_spec_iff b.desc b.prm c off d v ht hc hd hfit
        simp only [h1, outcomeOf, obsOf, judgeCall, specCall, okIs, decide_true, Bool.and_true]
        by_cases hk : k2Call b.desc b.prm c = true
        · have hne : ¬ prmWrite true b.prm off d.dataType v = prmWrite false b.prm off d.dataType v :=
            fun h => by rw [hiff.mp h] at hk; cases hk
          simp [hne, hk]
        · simp only [Bool.not_eq_true] at hk
          simp [hiff.mpr hk, hk]
      · have h1 : ∀ cl, callWith cl b.desc b.prm c = .error .valueRange := fun cl => by
          simp [callWith, ht, hc, hd]
        have hk := k2Call_rejected b.desc b.prm c (fun off' d' v' h => by
          rw [ht] at h; cases h; exact fun hh => hd hh.2)
        simp [h1, outcomeOf, obsOf, judgeCall, specCall, hk]
    · have h1 : ∀ cl, callWith cl b.desc b.prm c = .error .valueConstraint := fun cl => by
        simp [callWith, ht, hc]
      have hk := k2Call_rejected b.desc b.prm c (fun off' d' v' h => by
        rw [ht] at h; cases h; exact fun hh => hc hh.1)
      simp [h1, outcomeOf, obsOf, judgeCall, specCall, hk]

/-! ## Layouts without `BitArea` fields: the code is exact -/

theorem overlayDefaults_noBitArea (blk : Bytes) (rs : List (Nat × PrmDef))
    (h : ∀ r ∈ rs, r.2.dataType.isBitArea = false) :
    overlayDefaults true blk rs = overlayDefaults false blk rs := by
  induction rs generalizing blk with
  | nil => rfl
  | cons r rs ih =>
    obtain ⟨off, d⟩ := r
    simp only [overlayDefaults]
    rw [prmWrite_clobber_irrelevant _ _ _ _ (h (off, d) (List.mem_cons_self ..)),
      ih _ (fun r hr => h r (List.mem_cons_of_mem _ hr))]

theorem hasBitArea_false_iff (L : Layout) :
    L.hasBitArea = false ↔ ∀ r ∈ L.refs, r.2.dataType.isBitArea = false := by
  simp [Layout.hasBitArea]

theorem actualInit_eq_specInit (L : Layout) (h : L.hasBitArea = false) : actualInit L = specInit L := by
  unfold actualInit specInit initWith
  exact overlayDefaults_noBitArea _ _ ((hasBitArea_false_iff L).mp h)

theorem overlayDefaults_isSome (cl cl' : Bool) (blk blk' : Bytes) (rs : List (Nat × PrmDef)) :
    (overlayDefaults cl blk rs).isSome = (overlayDefaults cl' blk' rs).isSome := by
  induction rs generalizing blk blk' with
  | nil => rfl
  | cons r rs ih =>
    obtain ⟨off, d⟩ := r
    simp only [overlayDefaults]
    by_cases hd : d.dataType.holds d.default
    · simp only [hd, if_true]; exact ih _ _
    · simp [hd]

theorem callWith_noBitArea (L : Layout) (blk : Bytes) (c : Call) (h : L.hasBitArea = false) :
    callWith true L blk c = callWith false L blk c := by
  unfold callWith
  cases ht : target L c with
  | error e => rfl
  | ok r =>
    obtain ⟨off, d, v⟩ := r
    have := (hasBitArea_false_iff L).mp h _ (target_mem _ _ _ _ _ ht)
    simp only [prmWrite_clobber_irrelevant _ _ _ _ this]

theorem runWith_noBitArea (L : Layout) (blk : Bytes) (cs : List Call) (h : L.hasBitArea = false) :
    runWith true L blk cs = specRun L blk cs := by
  unfold specRun runWith
  congr 1
  funext blk c
  simp only [blockAfter, callWith_noBitArea L blk c h]

def newObsOf : BuildOutcome → NewObs
  | .ok b => .ok b.prm
  | .rangeErr => .rangeErr
  | .panic => .panic

theorem judgeNew_model (L : Layout) :
    judgeNew L (newObsOf (Builder.new L)) =
      if wellFormed L && decide (actualInit L ≠ specInit L) then .k2 else .pass := by
  unfold judgeNew
  by_cases hwf : wellFormed L = true
  · simp only [hwf, Bool.not_true, Bool.false_eq_true, if_false, new_eq L hwf, Bool.true_and]
    have hsome := overlayDefaults_isSome true false
      (overlayConsts (List.replicate (blockLen L) 0) L.consts)
      (overlayConsts (List.replicate (blockLen L) 0) L.consts) L.refs
    change (actualInit L).isSome = (specInit L).isSome at hsome
    cases ha : actualInit L with
    | none =>
      rw [ha] at hsome
      cases hs : specInit L with
      | none => simp [newObsOf]
      | some w => rw [hs] at hsome; cases hsome
    | some a =>
      rw [ha] at hsome
      cases hs : specInit L with
      | none => rw [hs] at hsome; cases hsome
      | some w =>
        simp only [newObsOf]
        by_cases he : a = w
        · simp [he]
        · have hb : L.hasBitArea = true := by
            cases hb : L.hasBitArea with
            | true => rfl
            | false =>
              have := actualInit_eq_specInit L hb
              rw [ha, hs] at this
              exact absurd (Option.some.inj this) he
          simp [he, hb]
  · simp [hwf]

theorem maskedWrite_bit (old : UInt8) (f l : Nat) (v : Int) (i : Nat) (hfl : f ≤ l) (hi : i < 8) :
    bitOf (maskedWrite old f l v) i =
      if f ≤ i ∧ i ≤ l then v.toNat.testBit (i - f) else bitOf old i := by
  simp only [maskedWrite, bitOf_or, bitOf_and, bitOf_not _ _ hi, fieldMask_bit f l i hfl hi,
    placed_bit f v i hi]
  by_cases h1 : f ≤ i <;> by_cases h2 : i ≤ l <;> simp [h1, h2]

theorem intBit_nonneg (v : Int) (h : 0 ≤ v) (k : Nat) : intBit v k = v.toNat.testBit k := by
  cases v with
  | ofNat n => rfl
  | negSucc n => exact absurd h (by simp)

theorem int_digit_bit (v : Int) (m i : Nat) (hi : i < 8) :
    ((v / 2 ^ (8 * m)) % 256).toNat.testBit i = intBit v (8 * m + i) := by
  have hc : (2 : Int) ^ (8 * m) = ((2 ^ (8 * m) : Nat) : Int) := by norm_cast
  cases v with
  | ofNat a =>
    have h1 : ((a : Int) / 2 ^ (8 * m)) % 256 = (((a / 2 ^ (8 * m)) % 2 ^ 8 : Nat) : Int) := by
      rw [hc, show (256 : Int) = ((2 ^ 8 : Nat) : Int) from rfl, ← Int.natCast_ediv, ← Int.natCast_emod]
    show (((a : Int) / 2 ^ (8 * m)) % 256).toNat.testBit i = a.testBit (8 * m + i)
    rw [h1, Int.toNat_natCast, Nat.testBit_mod_two_pow, Nat.testBit_div_two_pow]
    simp [hi, Nat.add_comm]
  | negSucc a =>
    have hpos : (0 : Int) < ((2 ^ (8 * m) : Nat) : Int) := by
      have : 0 < 2 ^ (8 * m) := Nat.pow_pos (by decide)
      omega
    have h1 : (Int.negSucc a / 2 ^ (8 * m)) % 256 = ((255 - (a / 2 ^ (8 * m)) % 2 ^ 8 : Nat) : Int) := by
      rw [hc, Int.negSucc_ediv a hpos]
      have : Int.ediv (a : Int) ((2 ^ (8 * m) : Nat) : Int) = ((a / 2 ^ (8 * m) : Nat) : Int) := rfl
      rw [this]
      generalize a / 2 ^ (8 * m) = c
      omega
    -- the digit of `-(a + 1)` is 255 minus the digit of `a` (`h1`), and bit `i` of `255 - x` is the negation of bit `i` of `x`
    show (Int.negSucc a / 2 ^ (8 * m) % 256).toNat.testBit i = !a.testBit (8 * m + i)
    rw [h1, Int.toNat_natCast]
    have hlt : (a / 2 ^ (8 * m)) % 2 ^ 8 < 2 ^ 8 := Nat.mod_lt _ (by decide)
    have := Nat.testBit_two_pow_sub_succ hlt i
    rw [show 255 - a / 2 ^ (8 * m) % 2 ^ 8 = 2 ^ 8 - (a / 2 ^ (8 * m) % 2 ^ 8 + 1) by omega, this,
      Nat.testBit_mod_two_pow, Nat.testBit_div_two_pow]
    simp [hi, Nat.add_comm]

/-- Big-endian two's complement, bit by bit: bit `i` of byte `j` of the `n`-byte image of `v` is bit
`8·(n-1-j) + i` of `v`. -/
theorem beByte_bit (n j : Nat) (v : Int) (i : Nat) (hi : i < 8) :
    bitOf (beByte n j v) i = intBit v (8 * (n - 1 - j) + i) := by
  have hp : (256 : Int) ^ (n - 1 - j) = 2 ^ (8 * (n - 1 - j)) := by
    rw [Int.pow_mul]; rfl
  simp only [bitOf, beByte, UInt8.toNat_ofNat', hp]
  rw [Nat.testBit_mod_two_pow, int_digit_bit v _ i hi]
  simp [hi]

end PV.Prm
