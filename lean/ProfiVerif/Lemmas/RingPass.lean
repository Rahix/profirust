/-
One token pass against a ring view whose LAS is a known set: a pass over an interval that holds no member
(`Gapless`) enters the sender and changes nothing else; the own pass makes its destination NS; the ring as
a cycle (`nth`); the ring view of a station that knows the ring (`ViewOk`: what the abstract ring of C02 asks of a
member; `RingView` of the timed rings, `Lemmas/TimedRing2.lean`, is `ViewOk` together with `IsRing M` and `x ∈ M`).
-/
import ProfiVerif.Lemmas.Neighbours

namespace PV
namespace TokenRing

/-- A ring as a list: non-empty, strictly ascending, valid addresses (same as `C02.Ring`). -/
structure IsRing (S : List Nat) : Prop where
  ne : S ≠ []
  asc : Asc S
  bound : ∀ z ∈ S, z ≤ 125

/-- `old`: the bits the pass is recorded over — the LAS itself for `updateLas`, the LAS with the new NS already entered
for `set_next_station` (`viewOk_setNext`). -/
theorem lasIs_passBit (r' : TokenRing) (old : Nat → Bool) (M M' : List Nat) (sa da : Nat)
    (hact : ∀ b, b < 128 → r'.isActive b = passBit sa da b (old b)) (hold : ∀ b, b < 128 → old b = decide (b ∈ M))
    (hfree : Gapless M sa da) (hM' : ∀ x, x ∈ M' ↔ x = sa ∨ x ∈ M) : LasIs r' M' := by
  intro a ha
  rw [hact a ha, hold a ha]
  unfold passBit
  by_cases h1 : a = sa
  · rw [if_pos h1]; symm; simp [hM', h1]
  · rw [if_neg h1]
    by_cases h2 : inPassGap sa da a = true
    · rw [if_pos h2]
      have : a ∉ M := fun hm => hfree a hm (((inPassGap_iff sa da a).mp h2).resolve_left h1)
      symm; simp [hM', h1, this]
    · rw [if_neg h2]
      simp [hM', h1]

theorem updateLas_lasIs (r : TokenRing) (M M' : List Nat) (sa da : Nat) (hl : LasIs r M)
    (hfree : Gapless M sa da) (hM' : ∀ x, x ∈ M' ↔ x = sa ∨ x ∈ M) :
    LasIs (r.updateLas sa da) M' :=
  lasIs_passBit _ r.isActive M M' sa da (updateLas_active r sa da) hl hfree hM'

theorem between_inPassGap (h n b : Nat) (hb : Between h n b) : inPassGap h n b = true :=
  (inPassGap_iff h n b).mpr (.inr hb)

theorem updateLas_succ_stable (r : TokenRing) (M : List Nat) (h : Nat) (hl : LasIs r M) (hh : h ∈ M) :
    LasIs (r.updateLas h (cycSucc h M)) M :=
  updateLas_lasIs r M M h _ hl (cycSucc_gapless h M).2 fun _ => ⟨Or.inr, fun hx => hx.elim (fun e => e ▸ hh) id⟩

theorem nbr_ns_of_none_between (r : TokenRing) (a : Nat) (hn : Nbr r) (ha : r.isActive a = true)
    (hfree : ∀ x, Between r.ts a x → r.isActive x = false) : r.ns = a := by
  rw [hn.1]
  refine (cycSucc_iff.mpr ⟨.inr ((mem_activeList r a).mpr ha), fun x hx hb => ?_⟩).symm
  have := (mem_activeList r x).mp hx
  rw [hfree x hb] at this
  cases this

theorem inPassGap_da (sa da : Nat) (h : da ≠ sa) : ¬ inPassGap sa da da = true := fun hc => by
  rw [inPassGap_iff, between_arith] at hc
  omega

/-- Once the own pass TS → `a` has been recorded over a LAS that holds `a`, NS = `a`: the pass clears
everything strictly between the two. -/
theorem nbr_ns_of_own_pass (r : TokenRing) (a : Nat) (old : Nat → Bool) (hn : Nbr r) (ha : a < 128) (hne : a ≠ r.ts)
    (hold : old a = true) (hact : ∀ b, b < 128 → r.isActive b = passBit r.ts a b (old b)) : r.ns = a := by
  refine nbr_ns_of_none_between r a hn ?_ fun x hx => ?_
  · rw [hact a ha]
    unfold passBit
    rw [if_neg hne, if_neg (inPassGap_da r.ts a hne), hold]
  · by_cases hx128 : x < 128
    · rw [hact x hx128]
      unfold passBit
      rw [if_neg hx.1, if_pos (between_inPassGap _ _ _ hx)]
    · unfold isActive; rw [dif_neg hx128]

theorem updateLas_own_ns (r : TokenRing) (a : Nat) (ha : a < 128) (hact : r.isActive a = true) (hne : a ≠ r.ts) :
    (r.updateLas r.ts a).ns = a :=
  nbr_ns_of_own_pass _ a r.isActive (updateLas_nbr r r.ts a) ha (by rw [(updateLas_las r _ _).2]; exact hne) hact
    (fun b hb => by rw [(updateLas_las r _ _).2]; exact updateLas_active r r.ts a b hb)

theorem setNextStation_ns (r r' : TokenRing) (a : Nat) (h : r.setNextStation a = some r') (hne : a ≠ r.ts) :
    r'.ns = a := by
  have hts := setNextStation_ts r r' a h
  exact nbr_ns_of_own_pass r' a (fun b => if b = a then true else r.isActive b) (setNextStation_nbr r r' a h)
    (setNextStation_lt r r' a h) (by rw [hts]; exact hne) (if_pos rfl)
    (fun b hb => by rw [hts]; exact setNextStation_active r r' a h b hb)

theorem setNextStation_entered (r r' : TokenRing) (a : Nat) (h : r.setNextStation a = some r') (hne : a ≠ r.ts) :
    r'.isActive a = true := by
  rw [setNextStation_active r r' a h a (setNextStation_lt r r' a h)]
  unfold passBit
  rw [if_neg hne, if_neg (inPassGap_da r.ts a hne), if_pos rfl]

/-- Recording the own pass TS → NS keeps NS, whenever NS is the successor the LAS dictates: the pass sweeps exactly the
interval that holds no entry.  (A station alone in its LAS passes to itself: the pass sweeps everything else.) -/
theorem updateLas_own_pass_ns (r : TokenRing) (h : r.ns = cycSucc r.ts r.activeList) :
    (r.updateLas r.ts r.ns).ns = r.ns := by
  have hg := (cycSucc_gapless r.ts r.activeList).1
  rw [← h] at hg
  by_cases c : r.ns = r.ts
  · rw [c, (updateLas_nbr r r.ts r.ts).1, (updateLas_las r _ _).2]
    refine cycSucc_alone _ _ fun a ha => Decidable.byContradiction fun hne => ?_
    rw [mem_activeList] at ha
    rw [updateLas_active r _ _ a (isActive_lt _ a ha),
      passBit_swept _ _ _ _ hne ((inPassGap_iff _ _ _).mpr (.inr ⟨hne, by simp⟩))] at ha
    cases ha
  · have hm := (mem_activeList r _).mp (hg.resolve_left c)
    exact updateLas_own_ns r r.ns (isActive_lt r _ hm) hm c

/-- … in every phase: a witnessed own pass only changes the phase or records the pass. -/
theorem witness_own_pass_ns (r : TokenRing) (h : r.ns = cycSucc r.ts r.activeList) :
    (r.witness r.ts r.ns).ns = r.ns := by
  obtain ⟨l, e | e⟩ := witness_shape r r.ts r.ns
  · rw [e]
  · have hu := updateLas_own_pass_ns r h
    rw [e]
    -- `update_next_previous` stays folded (trap: see the header of `Lemmas/TokenRing.lean`)
    generalize r.updateLas r.ts r.ns = x at hu
    exact hu

theorem setNextStation_witness_ns (r r' : TokenRing) (a : Nat) (h : r.setNextStation a = some r') (hne : a ≠ r.ts) :
    (r'.witness r.ts a).ns = a := by
  have := witness_own_pass_ns r' (setNextStation_nbr r r' a h).1
  rwa [setNextStation_ts r r' a h, setNextStation_ns r r' a h hne] at this

theorem cycSucc_enlarged (M M' : List Nat) (h a : Nat) (hh : h ∈ M) (hbt : Between h (cycSucc h M) a)
    (hM' : ∀ y, y ∈ M' ↔ y = a ∨ y ∈ M) : cycSucc a M' = cycSucc h M := by
  rw [cycSucc_congr a M' (a :: M) (fun y => by rw [hM', List.mem_cons]), cycSucc_cons_self]
  exact cycSucc_of_between h a M hh hbt

def nth (M : List Nat) (j : Nat) : Nat := M.getD (j % M.length) 0

theorem nth_add_length (M : List Nat) (i : Nat) : nth M (i + M.length) = nth M i := by
  unfold nth; rw [Nat.add_mod_right]

theorem getD_eq_getElem (l : List Nat) (i : Nat) (h : i < l.length) : l.getD i 0 = l[i] := by
  simp [List.getD_eq_getElem?_getD, h]

theorem nth_eq (M : List Nat) (hne : M ≠ []) (j : Nat) :
    nth M j = M[j % M.length]'(Nat.mod_lt _ (List.length_pos_iff.mpr hne)) :=
  getD_eq_getElem M _ (Nat.mod_lt _ (List.length_pos_iff.mpr hne))

theorem nth_mem (M : List Nat) (hne : M ≠ []) (j : Nat) : nth M j ∈ M := by
  rw [nth_eq M hne]; exact List.getElem_mem _

theorem mem_nth (M : List Nat) (x : Nat) (hx : x ∈ M) : ∃ i, i < M.length ∧ nth M i = x := by
  obtain ⟨i, hi, e⟩ := List.mem_iff_getElem.mp hx
  refine ⟨i, hi, ?_⟩
  unfold nth
  rw [Nat.mod_eq_of_lt hi, getD_eq_getElem M i hi]; exact e

theorem cycSucc_nth (M : List Nat) (hne : M ≠ []) (hasc : Asc M) (j : Nat) : cycSucc (nth M j) M = nth M (j + 1) := by
  have hpos : 0 < M.length := List.length_pos_iff.mpr hne
  rw [nth_eq M hne, nth_eq M hne, cycSucc_index M hasc _ (Nat.mod_lt _ hpos)]
  congr 1
  exact Nat.mod_add_mod j M.length 1

theorem rotGo_eq_map (first : Nat) (l : List Nat) :
    rotGo first l = (List.range l.length).map
      (fun j => (l.getD j 0, if j + 1 < l.length then l.getD (j + 1) 0 else first)) := by
  induction l with
  | nil => rfl
  | cons x t ih =>
    cases t with
    | nil => rfl
    | cons y t' =>
      have e : (x :: y :: t').length = (y :: t').length + 1 := rfl
      rw [rotGo, ih, e, List.range_succ_eq_map, List.map_cons, List.map_map]
      congr 1
      apply List.map_congr_left
      intro j _
      simp only [Function.comp, Nat.succ_eq_add_one, List.getD_cons_succ]
      congr 1
      by_cases c : j + 1 < (y :: t').length
      · rw [if_pos c, if_pos (by omega)]
      · rw [if_neg c, if_neg (by omega)]

theorem rotation_eq_map (M : List Nat) (hne : M ≠ []) :
    rotation M = (List.range M.length).map (fun j => (nth M j, nth M (j + 1))) := by
  cases M with
  | nil => exact absurd rfl hne
  | cons s0 t =>
    show rotGo s0 (s0 :: t) = _
    rw [rotGo_eq_map]
    apply List.map_congr_left
    intro j hj
    have hj' : j < (s0 :: t).length := by simpa using hj
    unfold nth
    rw [Nat.mod_eq_of_lt hj']
    congr 1
    by_cases c : j + 1 < (s0 :: t).length
    · rw [if_pos c, Nat.mod_eq_of_lt c]
    · have e : j + 1 = (s0 :: t).length := by omega
      rw [if_neg c, e, Nat.mod_self]; rfl

theorem rotation_succ (M : List Nat) (hne : M ≠ []) (hasc : Asc M) :
    ∀ p ∈ rotation M, p.1 ∈ M ∧ p.2 = cycSucc p.1 M := by
  intro p hp
  rw [rotation_eq_map M hne] at hp
  obtain ⟨j, -, rfl⟩ := List.mem_map.mp hp
  exact ⟨nth_mem M hne j, (cycSucc_nth M hne hasc j).symm⟩

theorem rotation_mem (M : List Nat) (hne : M ≠ []) (hasc : Asc M) (x : Nat) (hx : x ∈ M) :
    (x, cycSucc x M) ∈ rotation M := by
  rw [rotation_eq_map M hne]
  obtain ⟨i, hi, rfl⟩ := mem_nth M x hx
  exact List.mem_map.mpr ⟨i, List.mem_range.mpr hi, by rw [cycSucc_nth M hne hasc i]⟩

end TokenRing

namespace AbstractRing
open TokenRing

/-- What a station in the ring knows when the ring agrees on the member set `M`. -/
structure ViewOk (M : List Nat) (x : Nat) (r : TokenRing) : Prop where
  ts : r.ts = x
  valid : r.las = .valid
  las : LasIs r M
  nbr : Nbr r

theorem viewOk_ns (M : List Nat) (hM : IsRing M) (x : Nat) (r : TokenRing) (v : ViewOk M x r) :
    r.ns = cycSucc x M ∧ r.ps = cycPred x M := by
  have := nbr_lasIs r M v.nbr v.las hM.bound
  rw [v.ts] at this
  exact this

theorem viewOk_witness_gen (X X' : List Nat) (x sa da : Nat) (r : TokenRing) (v : ViewOk X x r)
    (hsa : sa ≤ 125) (hda : da ≤ 125) (hfree : Gapless X sa da)
    (hX' : ∀ y, y ∈ X' ↔ y = sa ∨ y ∈ X) : ViewOk X' x (r.witness sa da) := by
  rw [witness_valid r sa da v.valid hsa hda]
  exact ⟨(updateLas_las r _ _).2.trans v.ts, (updateLas_las r _ _).1.trans v.valid,
    updateLas_lasIs r X X' sa da v.las hfree hX', updateLas_nbr r _ _⟩

theorem viewOk_witness (M : List Nat) (hM : IsRing M) (x h : Nat) (r : TokenRing) (hh : h ∈ M) (v : ViewOk M x r) :
    ViewOk M x (r.witness h (cycSucc h M)) :=
  viewOk_witness_gen M M x h _ r v (hM.bound h hh) (hM.bound _ (cycSucc_mem h M hh)) (cycSucc_gapless h M).2
    fun _ => ⟨Or.inr, fun hy => hy.elim (fun e => e ▸ hh) id⟩

theorem viewOk_setNext (M M' : List Nat) (h a : Nat) (r r' : TokenRing) (v : ViewOk M h r) (hh : h ∈ M)
    (hbt : Between h (cycSucc h M) a) (hM' : ∀ y, y ∈ M' ↔ y = a ∨ y ∈ M)
    (e : r.setNextStation a = some r') : ViewOk M' h r' := by
  refine ⟨(setNextStation_ts r r' a e).trans v.ts, (setNextStation_las r r' a e).trans v.valid, ?_,
    setNextStation_nbr r r' a e⟩
  -- `set_next_station` enters `a` and then records the pass `h → a`, which sweeps only GAP addresses of `h`
  refine lasIs_passBit r' (fun b => if b = a then true else r.isActive b) (a :: M) M' h a
    (fun b hb => by rw [← v.ts]; exact setNextStation_active r r' a e b hb) (fun b hb => ?_)
    (((cycSucc_gapless h M).2.left hbt).cons_right hbt.1) (fun y => ?_)
  · rw [v.las b hb]
    by_cases c : b = a
    · rw [if_pos c, c]; simp
    · rw [if_neg c]; simp [c]
  · rw [hM', List.mem_cons]
    exact ⟨Or.inr, fun hy => hy.elim (fun c => .inr (c ▸ hh)) id⟩

end AbstractRing
end PV
