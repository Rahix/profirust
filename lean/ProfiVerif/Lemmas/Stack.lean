/-
FDL ∘ DP (`Model/Stack.lean`): the master calls of every run of the composed system form a history in
the sense of `Lemmas/Dp.lean` — `grun` never refuses them.  This discharges, at model level, the
assumption "the FDL layer keeps the C15 contract" under which the DP theorems (C03 / C04 / C08 / C14)
are stated: the contract is what the station model does (`poll_contract` of `Lemmas/Contract.lean`, the per-poll
form of C15 `reply_or_timeout_once` / `one_outstanding` as an automaton), and the history relation accepts whatever
that automaton accepts (`replay_contract`).
-/
import ProfiVerif.Model.Stack
import ProfiVerif.Lemmas.Dp
import ProfiVerif.Lemmas.Contract

namespace PV.Stack
open PV PV.Dp

def toOp : MCall → Op
  | .tx now hp => .tx now hp
  | .reply a t => .reply a t
  | .timeout a => .timeout a
  | .take => .take
  | .writeQ slot bs => .writeQ slot bs
  | .diagReq slot => .diagReq slot
  | .resetAddr slot a => .resetAddr slot a

theorem bind_ok {α β : Type} {r : Res α} {f : α → Res β} {b : β} (h : r.bind f = .ok b) :
    ∃ a, r = .ok a ∧ f a = .ok b := by
  cases r <;> simp only [Res.bind] at h <;> first | exact ⟨_, rfl, h⟩ | cases h

/-- Poll times are non-decreasing and below 2⁶² µs (`Instant` of a monotonic clock); `t` is the time of
the previous poll (a lower bound for the first one). -/
def TimesOk : Int → List Call → Prop
  | _, [] => True
  | t, .poll now _ _ :: rest => t ≤ now ∧ now < (2:Int)^62 ∧ TimesOk now rest
  | t, _ :: rest => TimesOk t rest

/-- The composed state `k` and the ghost state `g` of the DP history belong together: same master;
while the station awaits a data reply from `a`, the history has a request outstanding to `a`; the
history's clock is not ahead of the station's. -/
structure Link (fp : FdlParams) (k : State) (g : G) (t : Int) : Prop where
  m : g.m = k.m
  out : ∀ a, k.s.awaited = some a → g.out.map (·.toNat) = some a
  now : ∀ t0, g.now = some t0 → t0 ≤ t
  lo : -(2:Int)^62 < t
  addr : fp.address.toNat = k.s.p.address
  inv : Dp.Inv fp g

theorem allowed_of_valid {own a8 : UInt8} {ts a : Nat} (h1 : own.toNat = ts) (h2 : a8.toNat = a) {t : Telegram}
    (hv : validReplyB ts a t = true) : replyAllowed own a8 t = true := by
  cases t with
  | token da sa => simp [validReplyB] at hv
  | sc => rfl
  | data hd pdu =>
    simp only [validReplyB, Bool.and_eq_true, decide_eq_true_eq] at hv
    obtain ⟨⟨e1, e2⟩, e3⟩ := hv
    have hsa : hd.sa = a8 := UInt8.toNat_inj.mp (by omega)
    have hda : hd.da = own := UInt8.toNat_inj.mp (by omega)
    simp only [replyAllowed, hsa, hda, beq_self_eq_true, Bool.true_and]
    cases hfc : hd.fc with
    | response st stt => rfl
    | request f r => rw [hfc] at e3; simp at e3

/-- The `transmit_telegram` callback replayed through the master: the step of the history (`tx_total`), whose closed
form names what `Master.transmit` returned. -/
theorem callback_tx {fp : FdlParams} (hfp : FpOk fp) {g : G} (hI : Dp.Inv fp g) {now : Int} (hto : timeOk g now = true)
    {i : Nat} {hp : Bool} {ans : AppAnswer} {m' : Master} {x : MCall}
    (h : callback fp now g.m (.transmit i hp ans) = .ok (m', x)) :
    x = .tx now hp ∧ ∃ g', gstep fp g (.tx now hp) = .ok g' ∧ g'.m = m' ∧ g'.now = some now ∧
      g'.out.map (·.toNat) = Contract.asked ans := by
  obtain ⟨g', hg', hF⟩ := tx_total hfp hI hto hp
  have hnow : g'.now = some now := by cases hF <;> rfl
  simp only [callback] at h
  rcases hF.returned with ⟨hd, pdu, e, ho⟩ | ⟨e, ho⟩
  · rw [e] at h
    simp only at h
    split at h
    · rename_i ha
      cases h
      exact ⟨rfl, g', hg', rfl, hnow, by rw [ha, ho]; rfl⟩
    · cases h
  · rw [e] at h
    simp only at h
    split at h
    · rename_i ha
      cases h
      exact ⟨rfl, g', hg', rfl, hnow, by rw [ha, ho]; rfl⟩
    · cases h

/-- The `receive_reply` callback for the reply the station admitted to the outstanding request: it does not make the
master panic, and it is the step of the history (`reply_total`).  Stated forward, unlike its two neighbours, because
`StackTotal.poll_total` needs that the callback is regular; `replay_contract` rewrites its hypothesis with it. -/
theorem callback_reply {fp : FdlParams} {g : G} (hI : Dp.Inv fp g) {now : Int} {i a : Nat} {t : Telegram}
    (ho : g.out.map (·.toNat) = some a) (hv : validReplyB fp.address.toNat a t = true) :
    ∃ g', callback fp now g.m (.reply i a t) = .ok (g'.m, .reply (UInt8.ofNat a) t) ∧
      gstep fp g (.reply (UInt8.ofNat a) t) = .ok g' ∧ g'.out = none ∧ g'.now = g.now := by
  obtain ⟨a8, ho, ha⟩ := Option.map_eq_some_iff.mp ho
  have e8 : UInt8.ofNat a = a8 := by rw [← ha]; exact UInt8.ofNat_toNat
  obtain ⟨g', hg', hF, hm⟩ := reply_total hI ho (allowed_of_valid (own := fp.address) rfl ha hv)
  refine ⟨g', by simp only [callback, e8, hm], by rw [e8]; exact hg', ?_⟩
  rcases hF with ⟨_, _, _, _, _, _, _, _, _, _, _, rfl⟩ | ⟨_, _, _, _, _, _, _, rfl⟩
  · exact ⟨rfl, rfl⟩
  · exact ⟨rfl, rfl⟩

theorem callback_timeout {fp : FdlParams} {g : G} {i a : Nat} (ho : g.out.map (·.toNat) = some a)
    {m' : Master} {x : MCall} (h : callback fp now g.m (.timeout i a) = .ok (m', x)) :
    ∃ g', gstep fp g (toOp x) = .ok g' ∧ g'.m = m' ∧ g'.out = none ∧ g'.now = g.now := by
  obtain ⟨a8, ho, ha⟩ := Option.map_eq_some_iff.mp ho
  have e8 : UInt8.ofNat a = a8 := by rw [← ha]; exact UInt8.ofNat_toNat
  simp only [callback, e8, Res.ok.injEq, Prod.mk.injEq] at h
  obtain ⟨rfl, rfl⟩ := h
  exact ⟨{ g with m := g.m.handleTimeout a8, out := none, o := .timedOut },
    by simp only [toOp, gstep, ho, ne_eq, not_true_eq_false, if_false], rfl, rfl, rfl⟩

/-- **The history relation accepts what the contract allows**: callbacks that the contract automaton
accepts from what the history has outstanding, replayed through the master, are steps of `grun`, and the
history has outstanding afterwards what the automaton says. -/
theorem replay_contract {fp : FdlParams} (hfp : FpOk fp) {now : Int} : ∀ (cs : List AppCall) (g : G) (m' : Master)
    (l : List MCall) (o o' : Option (Nat × Nat)), Dp.Inv fp g → timeOk g now = true →
    g.out.map (·.toNat) = o.map (·.2) → Contract.run fp.address.toNat o cs = some o' →
    replay fp now g.m cs = .ok (m', l) →
    ∃ g', grun fp g (l.map toOp) = .ok g' ∧ g'.m = m' ∧ Dp.Inv fp g' ∧ timeOk g' now = true ∧
      g'.out.map (·.toNat) = o'.map (·.2) := by
  intro cs
  induction cs with
  | nil =>
    intro g m' l o o' hI hto hlk hr h
    simp only [replay, Res.ok.injEq, Prod.mk.injEq] at h
    obtain ⟨rfl, rfl⟩ := h
    cases hr
    exact ⟨g, rfl, rfl, hI, hto, hlk⟩
  | cons c rest ih =>
    intro g m' l o o' hI hto hlk hr h
    simp only [replay] at h
    obtain ⟨⟨m1, x⟩, h1, h⟩ := bind_ok h
    obtain ⟨⟨m2, xs⟩, h2, h⟩ := bind_ok h
    simp only [Res.ok.injEq, Prod.mk.injEq] at h
    obtain ⟨rfl, rfl⟩ := h
    obtain ⟨o1, hs, hr⟩ := Contract.run_cons_inv hr
    -- one callback: a step of the history, with the clock kept and `o1` outstanding
    have one : ∃ g1, gstep fp g (toOp x) = .ok g1 ∧ g1.m = m1 ∧ timeOk g1 now = true ∧
        g1.out.map (·.toNat) = o1.map (·.2) := by
      cases c with
      | transmit i hp ans =>
        obtain ⟨rfl, g1, hg1, hm1, hn1, hout1⟩ := callback_tx hfp hI hto h1
        cases hs
        refine ⟨g1, hg1, hm1, ?_, by rw [hout1, Contract.askedBy_snd]⟩
        rw [timeOk_iff] at hto ⊢
        exact ⟨hto.1, fun t0 ht0 => by rw [hn1] at ht0; cases ht0; exact Int.le_refl _⟩
      | reply i a t =>
        obtain ⟨ho, hv, rfl⟩ := Contract.step_reply_inv hs
        rw [ho] at hlk
        obtain ⟨g1, hcb, hg1, ho1, hn1⟩ := callback_reply (now := now) (i := i) hI hlk hv
        rw [hcb] at h1
        cases h1
        exact ⟨g1, hg1, rfl, by rw [timeOk_iff, hn1, ← timeOk_iff]; exact hto, by rw [ho1]; rfl⟩
      | timeout i a =>
        obtain ⟨ho, rfl⟩ := Contract.step_timeout_inv hs
        rw [ho] at hlk
        obtain ⟨g1, hg1, hm1, ho1, hn1⟩ := callback_timeout hlk h1
        exact ⟨g1, hg1, hm1, by rw [timeOk_iff, hn1, ← timeOk_iff]; exact hto, by rw [ho1]; rfl⟩
    obtain ⟨g1, hg1, rfl, hto1, hlk1⟩ := one
    obtain ⟨g2, hg2, hm2, hI2, hto2, ho2⟩ := ih g1 m2 xs o1 o' (inv_step hfp hI _ hg1) hto1 hlk1 hr h2
    exact ⟨g2, by simp only [List.map_cons, grun, hg1]; exact hg2, hm2, hI2, hto2, ho2⟩

/-- **One composed poll.**  Whatever the station does in the poll, the master calls it makes are
accepted by the DP history relation, and the link is kept: `poll_contract`, then `replay_contract`. -/
theorem link_poll {fp : FdlParams} (hfp : FpOk fp) {k k' : State} {g : G} {t now : Int} {phy : Bool}
    {arrived : Bytes} {l : List MCall} (hL : Link fp k g t) (ht1 : t ≤ now) (ht2 : now < (2:Int)^62)
    (h : poll fp k now phy arrived = .ok (k', l)) :
    ∃ g', grun fp g (l.map toOp) = .ok g' ∧ Link fp k' g' now := by
  have hlo : -(2:Int)^62 < now := Int.lt_of_lt_of_le hL.lo ht1
  have hto : timeOk g now = true := by
    rw [timeOk_iff]
    exact ⟨⟨hlo, ht2⟩, fun t0 h0 => Int.le_trans (hL.now t0 h0) ht1⟩
  simp only [poll] at h
  cases hp : k.s.poll [[answer fp now (k.s.askHp now) k.m]] now phy (k.rx ++ arrived) with
  | panic site => rw [hp] at h; cases h
  | ok c =>
    rw [hp] at h
    simp only at h
    obtain ⟨⟨m', l'⟩, hrep, h⟩ := bind_ok h
    simp only [Res.ok.injEq, Prod.mk.injEq] at h
    obtain ⟨rfl, rfl⟩ := h
    have haddr : fp.address.toNat = c.s.p.address := by rw [(poll_frame _ _ _ _ _ _ hp).1]; exact hL.addr
    -- the request outstanding in the history is the one the (single) application made
    obtain ⟨o', hrun, hlink⟩ := poll_contract _ _ _ _ _ _ hp (o := g.out.map fun a8 => (k.s.nextApp, a8.toNat))
      (fun a ha => by
        obtain ⟨a8, e1, e2⟩ := Option.map_eq_some_iff.mp (hL.out a ha)
        rw [e1, ← e2]; rfl)
    rw [← hL.addr, ← hL.m] at *
    obtain ⟨g', hg', hm', hI', hto', ho'⟩ :=
      replay_contract hfp c.calls g m' l' _ o' hL.inv hto (by rw [Option.map_map]; rfl) hrun hrep
    exact ⟨g', hg', ⟨hm', fun a ha => by rw [ho', hlink a ha]; rfl, (timeOk_iff.mp hto').2, hlo, haddr, hI'⟩⟩

theorem link_user {fp : FdlParams} (hfp : FpOk fp) {k : State} {g : G} {t : Int} (hL : Link fp k g t)
    {r : Option Master} {x : MCall} {k' : State} {l : List MCall} (h : userCall k r x = .ok (k', l))
    (hstep : ∀ m', r = some m' → ∃ g', gstep fp g (toOp x) = .ok g' ∧ g'.m = m' ∧ g'.out = g.out ∧ g'.now = g.now) :
    ∃ g', grun fp g (l.map toOp) = .ok g' ∧ Link fp k' g' t := by
  cases r with
  | none => cases h
  | some m' =>
    simp only [userCall, Res.ok.injEq, Prod.mk.injEq] at h
    obtain ⟨rfl, rfl⟩ := h
    obtain ⟨g', hg', hm', ho', hn'⟩ := hstep m' rfl
    refine ⟨g', by simp only [List.map_cons, List.map_nil, grun, hg'], ⟨hm', ?_, ?_, hL.lo, hL.addr, inv_step hfp hL.inv _ hg'⟩⟩
    · intro a ha; rw [ho']; exact hL.out a ha
    · intro t0 h0; rw [hn'] at h0; exact hL.now t0 h0

theorem link_step {fp : FdlParams} (hfp : FpOk fp) {k k' : State} {g : G} {t : Int} (c : Call) (rest : List Call)
    {l : List MCall} (hL : Link fp k g t) (ht : TimesOk t (c :: rest)) (h : step fp k c = .ok (k', l)) :
    ∃ g' t', grun fp g (l.map toOp) = .ok g' ∧ Link fp k' g' t' ∧ TimesOk t' rest := by
  cases c with
  | poll now phy arrived =>
    obtain ⟨h1, h2, h3⟩ := ht
    obtain ⟨g', hg', hL'⟩ := link_poll hfp hL h1 h2 h
    exact ⟨g', now, hg', hL', h3⟩
  | setOnline =>
    simp only [step, Res.ok.injEq, Prod.mk.injEq] at h
    obtain ⟨rfl, rfl⟩ := h
    exact ⟨g, t, rfl, ⟨hL.m, hL.out, hL.now, hL.lo, hL.addr, hL.inv⟩, ht⟩
  | setOffline =>
    simp only [step, Res.ok.injEq, Prod.mk.injEq] at h
    obtain ⟨rfl, rfl⟩ := h
    refine ⟨g, t, rfl, ⟨hL.m, ?_, hL.now, hL.lo, ?_, hL.inv⟩, ht⟩
    · intro a ha
      obtain ⟨d, hst⟩ := Station.awaited_eq.mp ha
      rw [(setOffline_fields k.s).2.2.1] at hst; cases hst
    · have h3 := (setOffline_fields k.s).1
      simp only
      rw [h3]; exact hL.addr
  | take =>
    simp only [step, Res.ok.injEq, Prod.mk.injEq] at h
    obtain ⟨rfl, rfl⟩ := h
    have hg' : ∃ g', gstep fp g .take = .ok g' ∧ g'.m = k.m.takeLastEvents.1 ∧ g'.out = g.out ∧ g'.now = g.now := by
      simp only [gstep, ← hL.m]
      exact ⟨_, rfl, rfl, rfl, rfl⟩
    obtain ⟨g', hg', hm', ho', hn'⟩ := hg'
    refine ⟨g', t, by simp only [List.map_cons, List.map_nil, toOp, grun, hg'],
      ⟨hm', ?_, ?_, hL.lo, hL.addr, inv_step hfp hL.inv _ hg'⟩, ht⟩
    · intro a ha; rw [ho']; exact hL.out a ha
    · intro t0 h0; rw [hn'] at h0; exact hL.now t0 h0
  | writeQ slot bs =>
    obtain ⟨g', hg', hL'⟩ := link_user hfp hL h (by
      intro m' hm
      simp only [toOp, gstep, hL.m, hm]
      exact ⟨_, rfl, rfl, rfl, rfl⟩)
    exact ⟨g', t, hg', hL', ht⟩
  | diagReq slot =>
    obtain ⟨g', hg', hL'⟩ := link_user hfp hL h (by
      intro m' hm
      simp only [toOp, gstep, hL.m, hm]
      exact ⟨_, rfl, rfl, rfl, rfl⟩)
    exact ⟨g', t, hg', hL', ht⟩
  | resetAddr slot a =>
    simp only [step] at h
    by_cases ha : a ≥ 128
    · rw [if_pos ha] at h; cases h
    · rw [if_neg ha] at h
      obtain ⟨g', hg', hL'⟩ := link_user hfp hL h (by
        intro m' hm
        simp only [toOp, gstep, if_neg ha, hL.m, hm]
        exact ⟨_, rfl, rfl, rfl, rfl⟩)
      exact ⟨g', t, hg', hL', ht⟩

theorem link_run {fp : FdlParams} (hfp : FpOk fp) : ∀ (calls : List Call) (k k' : State) (g : G) (t : Int)
    (l : List MCall), Link fp k g t → TimesOk t calls → run fp k calls = .ok (k', l) →
    ∃ g' t', grun fp g (l.map toOp) = .ok g' ∧ Link fp k' g' t' := by
  intro calls
  induction calls with
  | nil =>
    intro k k' g t l hL _ h
    simp only [run, Res.ok.injEq, Prod.mk.injEq] at h
    obtain ⟨rfl, rfl⟩ := h
    exact ⟨g, t, rfl, hL⟩
  | cons c rest ih =>
    intro k k' g t l hL ht h
    simp only [run] at h
    obtain ⟨⟨k1, l1⟩, h1, h⟩ := bind_ok h
    obtain ⟨⟨k2, l2⟩, h2, h⟩ := bind_ok h
    simp only [Res.ok.injEq, Prod.mk.injEq] at h
    obtain ⟨rfl, rfl⟩ := h
    obtain ⟨g1, t1, hg1, hL1, ht1⟩ := link_step hfp c rest hL ht h1
    obtain ⟨g2, t2, hg2, hL2⟩ := ih k1 k2 g1 t1 l2 hL1 ht1 h2
    refine ⟨g2, t2, ?_, hL2⟩
    rw [List.map_append, grun_append _ _ _ _ hg1]
    exact hg2

theorem link_init {fp : FdlParams} (p : Params) (haddr : fp.address.toNat = p.address)
    {slots : List (Option Peripheral)} (hinit : InitOk fp slots) (gr : Bool) {t0 : Int} (ht0 : -(2:Int)^62 < t0) :
    Link fp (init p slots gr) (G.init slots gr) t0 :=
  ⟨rfl, (by intro a ha; simp [init, Station.new, Station.awaited] at ha), (by intro t h; cases h), ht0, haddr, inv_init hinit gr⟩

/-- **`station_log_is_contract_history`.**  Take the composed system — the station model with the DP
master model as its only application — from its initial state (station fresh and offline, master in
Operate with freshly added peripherals) through ANY sequence of API calls: polls with any arriving
bytes, PHY flags and non-decreasing times, `set_online` / `set_offline`, and user calls into the master
(`take_last_events`, `pi_q` writes, `request_diagnostics`, `reset_address`) between polls.  If the run
is regular (`.ok`; that it always is: `run_total`, `Lemmas/StackTotal.lean`), then the sequence `l` of
master calls it made — the callbacks of the station in the order it made them, interleaved with the
user calls — is a history in the sense of `Lemmas/Dp.lean`: `grun` accepts every one of them (never
`.refused`), and the ghost run ends in the very master state the composed run ends in.

So the FDL→application contract the DP theorems assume (a reply or time-out only for the address the
last request expects a reply from, at most one of them per request, a reply only if it is a short
confirmation or a response from that address to this station, time never going backwards) is a
theorem about the station model, not an assumption, when the application is the DP master. -/
theorem station_log_is_contract_history {fp : FdlParams} (hfp : FpOk fp) (p : Params)
    (haddr : fp.address.toNat = p.address) {slots : List (Option Peripheral)} (hinit : InitOk fp slots) (gr : Bool)
    (calls : List Call) {t0 : Int} (ht0 : -(2:Int)^62 < t0) (ht : TimesOk t0 calls)
    {k' : State} {l : List MCall} (h : run fp (init p slots gr) calls = .ok (k', l)) :
    ∃ g', grun fp (G.init slots gr) (l.map toOp) = .ok g' ∧ g'.m = k'.m ∧ Dp.Inv fp g' := by
  obtain ⟨g', t', hg', hL'⟩ := link_run hfp calls _ k' _ t0 l (link_init p haddr hinit gr ht0) ht h
  exact ⟨g', hg', hL'.m, hL'.inv⟩

end PV.Stack
