/-
FDL ∘ LiveList / FDL ∘ DpScanner: the station model (`Model/Station.lean`) with ONE application that
is the live-list or the DP-scanner model (`Model/LiveList.lean`, `Model/Scanner.lean`, both instances
of `Apps.App` over the shared `Sweep` state) instead of an answer script.

Same construction as `Model/Stack.lean` (FDL ∘ DP), with one difference: `handle_timeout` of these
applications CHANGES their state (`current_address_done = true`), and `do_await_data_response` asks
the application again in the same poll right after the time-out (`C15.ask_after_timeout_same_poll`).
A poll that starts in `AwaitDataResponse` can only ask after a time-out, so the one-element script of
such a poll is the answer the application gives AFTER the time-out (`preState`).  As in
`Model/Stack.lean`, the replay checks at the `transmit_telegram` record that the answer the station
used is what the application returns there (`.mismatch` otherwise, proved unreachable).

Results: `apps_log_is_contract_history` (the callbacks of every composed run are a history of
`Lemmas/Apps.lean`: never `.refused`) and `apps_run_total` (every run is regular).
-/
import ProfiVerif.Lemmas.Apps
import ProfiVerif.Lemmas.Contract
import ProfiVerif.Lemmas.StationOneApp

namespace PV.StackApps
open PV PV.Apps

variable {ε : Type}

structure State (ε : Type) where
  s : Station
  a : Sweep ε
  rx : Bytes

inductive Res (α : Type)
  | ok (a : α)
  | stationPanic (site : String)
  | appPanic
  | mismatch

@[inline] def Res.bind {α β : Type} (r : Res α) (f : α → Res β) : Res β :=
  match r with
  | .ok a => f a
  | .stationPanic s => .stationPanic s
  | .appPanic => .appPanic
  | .mismatch => .mismatch

theorem bind_ok {α β : Type} {r : Res α} {f : α → Res β} {b : β} (h : r.bind f = .ok b) :
    ∃ a, r = .ok a ∧ f a = .ok b := by
  cases r <;> simp only [Res.bind] at h <;> first | exact ⟨_, rfl, h⟩ | cases h

/-- What the application answers to `transmit_telegram`: the request `hdr q own` (empty PDU) to the
cursor address `q`, or nothing.  (`hdr` = `fdlStatusRequestHeader` for the live list,
`Scanner.diagRequestHeader` for the scanner: `LiveList.transmit` / `Scanner.transmit`.) -/
def answer (hdr : UInt8 → UInt8 → Header) (own : UInt8) (a : Sweep ε) : AppAnswer :=
  match a.transmit with
  | (_, some q) => .send (hdr (UInt8.ofNat q) own) []
  | (_, none) => .decline

def callback (A : App ε) (hdr : UInt8 → UInt8 → Header) (own : UInt8) (a : Sweep ε) : AppCall → Res (Sweep ε × Op)
  | .transmit _ _ ans =>
    match a.transmit with
    | (a', some q) => if ans = .send (hdr (UInt8.ofNat q) own) [] then .ok (a', .tx) else .mismatch
    | (a', none) => if ans = .decline then .ok (a', .tx) else .mismatch
  | .reply _ x t =>
    match A.reply a x t with
    | .ok a' => .ok (a', .reply x t)
    | .panic => .appPanic
  | .timeout _ x =>
    match a.handleTimeout A.lost x with
    | .ok a' => .ok (a', .timeout x)
    | .panic => .appPanic

def replay (A : App ε) (hdr : UInt8 → UInt8 → Header) (own : UInt8) : Sweep ε → List AppCall → Res (Sweep ε × List Op)
  | a, [] => .ok (a, [])
  | a, c :: rest =>
    (callback A hdr own a c).bind fun r1 =>
    (replay A hdr own r1.1 rest).bind fun r2 => .ok (r2.1, r1.2 :: r2.2)

/-- The application state in which it would be asked in this poll: after the time-out if the station
awaits a reply (then only a time-out can precede the question), else the current one.  The `.panic` arm only makes
the function total: in a linked state the time-out for the awaited address is regular (`poll_total`). -/
def preState (A : App ε) (k : State ε) : Sweep ε :=
  match k.s.st with
  | .awaitData x _ =>
    match k.a.handleTimeout A.lost x with
    | .ok a' => a'
    | .panic => k.a
  | _ => k.a

def own8 (k : State ε) : UInt8 := UInt8.ofNat k.s.p.address

def poll (A : App ε) (hdr : UInt8 → UInt8 → Header) (k : State ε) (now : Int) (phy : Bool) (arrived : Bytes) :
    Res (State ε × List Op) :=
  match k.s.poll [[answer hdr (own8 k) (preState A k)]] now phy (k.rx ++ arrived) with
  | .panic site => .stationPanic site
  | .ok c => (replay A hdr (own8 k) k.a c.calls).bind fun r => .ok ({ s := c.s, a := r.1, rx := c.rx }, r.2)

inductive Call
  | poll (now : Int) (phy : Bool) (arrived : Bytes)
  | setOnline
  | setOffline
  | take

def step (A : App ε) (hdr : UInt8 → UInt8 → Header) (k : State ε) : Call → Res (State ε × List Op)
  | .poll now phy arrived => poll A hdr k now phy arrived
  | .setOnline => .ok ({ k with s := k.s.setOnline }, [])
  | .setOffline => .ok ({ k with s := k.s.setOffline }, [])
  | .take => .ok ({ k with a := k.a.takeLastEvent.1 }, [.take])

def run (A : App ε) (hdr : UInt8 → UInt8 → Header) (k : State ε) : List Call → Res (State ε × List Op)
  | [] => .ok (k, [])
  | c :: rest => (step A hdr k c).bind fun r1 => (run A hdr r1.1 rest).bind fun r2 => .ok (r2.1, r1.2 ++ r2.2)

def init (p : Params) : State ε := { s := Station.new p, a := Sweep.init, rx := [] }

/-- What the composition needs to know about the request builder. -/
structure HdrOk (hdr : UInt8 → UInt8 → Header) : Prop where
  expects : ∀ da sa, expectsReplyOf (hdr da sa) = some da
  len : ∀ da sa, (hdr da sa).lengthByte 0 ≤ 249

theorem llHdr_ok : HdrOk fdlStatusRequestHeader :=
  ⟨fun _ _ => rfl, fun _ _ => by simp [Header.lengthByte, Header.saps, fdlStatusRequestHeader]⟩

theorem scHdr_ok : HdrOk Scanner.diagRequestHeader :=
  ⟨fun _ _ => rfl, fun _ _ => by simp [Header.lengthByte, Header.saps, Scanner.diagRequestHeader, SAP_SLAVE_DIAGNOSIS, SAP_MASTER_MS0]⟩

theorem grun_append {A : App ε} {own : Nat} {R : Nat → Bool} : ∀ (l1 l2 : List Op) (g g1 : Ghost ε),
    grun A own R g l1 = .ok g1 → grun A own R g (l1 ++ l2) = grun A own R g1 l2 := by
  intro l1
  induction l1 with
  | nil => intro l2 g g1 h; simp only [grun, Apps.Res.ok.injEq] at h; subst h; rfl
  | cons x xs ih =>
    intro l2 g g1 h
    simp only [grun, List.cons_append] at h ⊢
    cases hs : gstep A own R g x with
    | ok g' => rw [hs] at h; simp only; exact ih l2 g' g1 h
    | panic => rw [hs] at h; cases h
    | refused => rw [hs] at h; cases h

structure Link (A : App ε) (R : Nat → Bool) (k : State ε) (g : Ghost ε) : Prop where
  a : g.s = k.a
  out : ∀ x, k.s.awaited = some x → g.out = some x
  inv : Apps.Inv A R g
  addr : k.s.p.address < 256

theorem allowed_of_valid {own x : Nat} {t : Telegram} (hv : validReplyB own x t = true) :
    Apps.replyAllowed own x t = true := by
  cases t with
  | token da sa => simp [validReplyB] at hv
  | sc => rfl
  | data hd pdu =>
    simp only [validReplyB, Bool.and_eq_true, decide_eq_true_eq] at hv
    obtain ⟨⟨e1, e2⟩, e3⟩ := hv
    simp only [Apps.replyAllowed, e1, e2, beq_self_eq_true, Bool.true_and]
    cases hfc : hd.fc with
    | response st stt => rfl
    | request f r => rw [hfc] at e3; simp at e3

/-- One callback the contract allows, handed to the application: a step of the history relation, with
outstanding afterwards what the contract automaton says. -/
theorem callback_step {A : App ε} (hS : A.Spec) {hdr : UInt8 → UInt8 → Header} (hh : HdrOk hdr) {own8 : UInt8} {own : Nat} {R : Nat → Bool}
    {g : Ghost ε} (hI : Struct g) {c : AppCall} {o o1 : Option (Nat × Nat)} (hlk : g.out = o.map (·.2))
    (hs : Contract.step own o c = some o1) {a' : Sweep ε} {x : Op} (h : callback A hdr own8 g.s c = .ok (a', x)) :
    ∃ g', gstep A own R g x = .ok g' ∧ g'.s = a' ∧ g'.out = o1.map (·.2) := by
  cases c with
  | transmit i hp ans =>
    cases hs
    simp only [callback] at h
    rcases ht : g.s.transmit with ⟨s1, o⟩
    rw [ht] at h
    cases o with
    | none =>
      simp only at h
      split at h
      · rename_i ha
        simp only [Res.ok.injEq, Prod.mk.injEq] at h
        obtain ⟨rfl, rfl⟩ := h
        exact ⟨{ g with s := s1, out := none, idle := true }, by simp only [gstep, ht], rfl, by rw [ha]; rfl⟩
      · cases h
    | some q =>
      simp only at h
      split at h
      · rename_i ha
        simp only [Res.ok.injEq, Prod.mk.injEq] at h
        obtain ⟨rfl, rfl⟩ := h
        refine ⟨{ g with s := s1, out := some q, lastProbe := some (q, false), idle := false }, by simp only [gstep, ht], rfl, ?_⟩
        -- the probe is the cursor, ≤ 125
        have hq : q ≤ 125 := by
          unfold Sweep.transmit at ht
          split at ht
          · cases ht
          · simp only [Prod.mk.injEq, Option.some.injEq] at ht
            rw [← ht.2]; exact hI.cur
        rw [ha, Contract.askedBy_snd]
        simp only [Contract.asked, hh.expects, Option.map_some, ofNat_toNat_le _ (show q ≤ 255 by omega)]
      · cases h
  | reply i a t =>
    obtain ⟨ho, hv, rfl⟩ := Contract.step_reply_inv hs
    rw [ho] at hlk
    obtain ⟨old, -, hrep, -, -⟩ := gstep_callback hS (own := own) (R := R) hI hlk
    obtain ⟨e, he, -, hgs⟩ := hrep t (allowed_of_valid hv)
    simp only [callback, he, Res.ok.injEq, Prod.mk.injEq] at h
    obtain ⟨rfl, rfl⟩ := h
    exact ⟨_, hgs, rfl, rfl⟩
  | timeout i a =>
    obtain ⟨ho, rfl⟩ := Contract.step_timeout_inv hs
    rw [ho] at hlk
    obtain ⟨old, -, -, hto, hgs⟩ := gstep_callback hS (own := own) (R := R) hI hlk
    simp only [callback, hto, Res.ok.injEq, Prod.mk.injEq] at h
    obtain ⟨rfl, rfl⟩ := h
    exact ⟨_, hgs, rfl, rfl⟩

/-- **The history relation accepts what the contract allows.** -/
theorem replay_contract {A : App ε} (hS : A.Spec) {hdr : UInt8 → UInt8 → Header} (hh : HdrOk hdr) {own8 : UInt8} {own : Nat}
    {R : Nat → Bool} : ∀ (cs : List AppCall) (g : Ghost ε) (a' : Sweep ε) (l : List Op) (o o' : Option (Nat × Nat)),
    Apps.Inv A R g → g.out = o.map (·.2) → Contract.run own o cs = some o' → replay A hdr own8 g.s cs = .ok (a', l) →
    ∃ g', grun A own R g l = .ok g' ∧ g'.s = a' ∧ Apps.Inv A R g' ∧ g'.out = o'.map (·.2) := by
  intro cs
  induction cs with
  | nil =>
    intro g a' l o o' hI hlk hr h
    simp only [replay, Res.ok.injEq, Prod.mk.injEq] at h
    obtain ⟨rfl, rfl⟩ := h
    cases hr
    exact ⟨g, rfl, rfl, hI, hlk⟩
  | cons c rest ih =>
    intro g a' l o o' hI hlk hr h
    simp only [replay] at h
    obtain ⟨⟨a1, x⟩, h1, h⟩ := bind_ok h
    obtain ⟨⟨a2, xs⟩, h2, h⟩ := bind_ok h
    simp only [Res.ok.injEq, Prod.mk.injEq] at h
    obtain ⟨rfl, rfl⟩ := h
    obtain ⟨o1, hs, hr⟩ := Contract.run_cons_inv hr
    obtain ⟨g1, hg1, rfl, hlk1⟩ := callback_step (R := R) hS hh hI.st hlk hs h1
    obtain ⟨g2, hg2, ha2, hI2, ho2⟩ := ih g1 a2 xs o1 o' (Apps.inv_step hS hI _ hg1) hlk1 hr h2
    exact ⟨g2, by simp only [grun, hg1]; exact hg2, ha2, hI2, ho2⟩

/-- **One composed poll**: the callbacks are accepted by the history relation, the link is kept. -/
theorem link_poll {A : App ε} (hS : A.Spec) {hdr : UInt8 → UInt8 → Header} (hh : HdrOk hdr) {R : Nat → Bool}
    {k k' : State ε} {g : Ghost ε} {now : Int} {phy : Bool} {arrived : Bytes} {l : List Op}
    (hL : Link A R k g) (h : poll A hdr k now phy arrived = .ok (k', l)) :
    ∃ g', grun A k.s.p.address R g l = .ok g' ∧ Link A R k' g' ∧ k'.s.p = k.s.p := by
  simp only [poll] at h
  cases hp : k.s.poll [[answer hdr (own8 k) (preState A k)]] now phy (k.rx ++ arrived) with
  | panic site => rw [hp] at h; cases h
  | ok c =>
    rw [hp] at h
    simp only at h
    obtain ⟨⟨a', l'⟩, hrep, h⟩ := bind_ok h
    simp only [Res.ok.injEq, Prod.mk.injEq] at h
    obtain ⟨rfl, rfl⟩ := h
    have hfr := (poll_frame _ _ _ _ _ _ hp).1
    -- the request outstanding in the history is the one the (single) application made
    obtain ⟨o', hrun, hlink⟩ := poll_contract _ _ _ _ _ _ hp (o := g.out.map fun x => (k.s.nextApp, x))
      (fun x hx => by rw [hL.out x hx]; rfl)
    rw [← hL.a] at hrep
    obtain ⟨g', hg', ha', hI', ho'⟩ :=
      replay_contract hS hh c.calls g a' l' _ o' hL.inv (by rw [Option.map_map]; exact Option.map_id'.symm) hrun hrep
    exact ⟨g', hg', ⟨ha', fun x hx => by rw [ho', hlink x hx]; rfl, hI', by rw [hfr]; exact hL.addr⟩, hfr⟩

theorem link_step {A : App ε} (hS : A.Spec) {hdr : UInt8 → UInt8 → Header} (hh : HdrOk hdr) {R : Nat → Bool}
    {k k' : State ε} {g : Ghost ε} (c : Call) {l : List Op} (hL : Link A R k g) (h : step A hdr k c = .ok (k', l)) :
    ∃ g', grun A k.s.p.address R g l = .ok g' ∧ Link A R k' g' ∧ k'.s.p = k.s.p := by
  cases c with
  | poll now phy arrived => exact link_poll hS hh hL h
  | setOnline =>
    simp only [step, Res.ok.injEq, Prod.mk.injEq] at h
    obtain ⟨rfl, rfl⟩ := h
    exact ⟨g, rfl, ⟨hL.a, hL.out, hL.inv, hL.addr⟩, rfl⟩
  | setOffline =>
    simp only [step, Res.ok.injEq, Prod.mk.injEq] at h
    obtain ⟨rfl, rfl⟩ := h
    have h3 := setOffline_fields k.s
    refine ⟨g, rfl, ⟨hL.a, ?_, hL.inv, ?_⟩, h3.1⟩
    · intro x hx
      obtain ⟨d, hst⟩ := Station.awaited_eq.mp hx
      rw [h3.2.2.1] at hst; cases hst
    · simp only; rw [h3.1]; exact hL.addr
  | take =>
    simp only [step, Res.ok.injEq, Prod.mk.injEq] at h
    obtain ⟨rfl, rfl⟩ := h
    have hg' : gstep A k.s.p.address R g .take =
        .ok { g with s := g.s.takeLastEvent.1, dirty := false, evs := fun w => pendFor A w g.s ++ g.evs w } := rfl
    refine ⟨_, by simp only [grun, hg'], ⟨by simp only [hL.a], ?_, Apps.inv_step hS hL.inv _ hg', hL.addr⟩, rfl⟩
    exact hL.out

theorem link_run {A : App ε} (hS : A.Spec) {hdr : UInt8 → UInt8 → Header} (hh : HdrOk hdr) {R : Nat → Bool} :
    ∀ (calls : List Call) (k k' : State ε) (g : Ghost ε) (l : List Op), Link A R k g →
    run A hdr k calls = .ok (k', l) →
    ∃ g', grun A k.s.p.address R g l = .ok g' ∧ Link A R k' g' ∧ k'.s.p = k.s.p := by
  intro calls
  induction calls with
  | nil =>
    intro k k' g l hL h
    simp only [run, Res.ok.injEq, Prod.mk.injEq] at h
    obtain ⟨rfl, rfl⟩ := h
    exact ⟨g, rfl, hL, rfl⟩
  | cons c rest ih =>
    intro k k' g l hL h
    simp only [run] at h
    obtain ⟨⟨k1, l1⟩, h1, h⟩ := bind_ok h
    obtain ⟨⟨k2, l2⟩, h2, h⟩ := bind_ok h
    simp only [Res.ok.injEq, Prod.mk.injEq] at h
    obtain ⟨rfl, rfl⟩ := h
    obtain ⟨g1, hg1, hL1, hp1⟩ := link_step hS hh c hL h1
    obtain ⟨g2, hg2, hL2, hp2⟩ := ih k1 k2 g1 l2 hL1 h2
    refine ⟨g2, ?_, hL2, hp2.trans hp1⟩
    rw [grun_append _ _ _ _ hg1, ← hp1]
    exact hg2

/-- **`apps_log_is_contract_history`.**  The station model with the live-list / DP-scanner model as
its only application, from the initial state through ANY sequence of polls (any bytes, PHY flags,
times), `set_online` / `set_offline` and `take_last_event` calls: if the run is regular (it always is:
`apps_run_total`), the callbacks the station made, interleaved with the `take_last_event` calls, are a
history of `Lemmas/Apps.lean` — `grun` never refuses — ending in the application's state.  So every
theorem of C18 holds of the composed system with no assumption about the FDL layer. -/
theorem apps_log_is_contract_history {A : App ε} (hS : A.Spec) {hdr : UInt8 → UInt8 → Header} (hh : HdrOk hdr)
    (R : Nat → Bool) (p : Params) (hp : p.address < 256) (calls : List Call) {k' : State ε} {l : List Op}
    (h : run A hdr (init p) calls = .ok (k', l)) :
    ∃ g, grun A p.address R Ghost.init l = .ok g ∧ g.s = k'.a := by
  have hL : Link A R (init p : State ε) Ghost.init :=
    ⟨rfl, (by intro x hx; simp [init, Station.new, Station.awaited] at hx), inv_init A R, hp⟩
  obtain ⟨g, hg, hL', -⟩ := link_run hS hh calls _ k' _ l hL h
  exact ⟨g, hg, hL'.a⟩

theorem answer_ok {hdr : UInt8 → UInt8 → Header} (hh : HdrOk hdr) (o8 : UInt8) (a : Sweep ε) :
    ScriptsOk [[answer hdr o8 a]] := by
  intro script hs ans ha h pdu he
  simp only [List.mem_singleton] at hs
  subst hs
  simp only [List.mem_singleton] at ha
  subst ha
  unfold answer at he
  rcases ht : a.transmit with ⟨s1, o⟩
  rw [ht] at he
  cases o with
  | none => cases he
  | some q =>
    simp only [AppAnswer.send.injEq] at he
    obtain ⟨rfl, rfl⟩ := he
    exact hh.len _ _

theorem callback_answer (A : App ε) (hdr : UInt8 → UInt8 → Header) (o8 : UInt8) (a : Sweep ε) (i : Nat) (hp : Bool) :
    callback A hdr o8 a (.transmit i hp (answer hdr o8 a)) = .ok (a.transmit.1, .tx) := by
  rcases ht : a.transmit with ⟨s1, o⟩
  cases o <;> simp [callback, answer, ht]

theorem replay_one {A : App ε} {hdr : UInt8 → UInt8 → Header} {o8 : UInt8} {a a' : Sweep ε} {c : AppCall} {x : Op}
    (h : callback A hdr o8 a c = .ok (a', x)) : replay A hdr o8 a [c] = .ok (a', [x]) := by
  simp only [replay, h, Res.bind]

theorem replay_two {A : App ε} {hdr : UInt8 → UInt8 → Header} {o8 : UInt8} {a a1 a2 : Sweep ε} {c1 c2 : AppCall} {x1 x2 : Op}
    (h1 : callback A hdr o8 a c1 = .ok (a1, x1)) (h2 : callback A hdr o8 a1 c2 = .ok (a2, x2)) :
    replay A hdr o8 a [c1, c2] = .ok (a2, [x1, x2]) := by
  simp only [replay, h1, h2, Res.bind]

theorem poll_total {A : App ε} (hS : A.Spec) {hdr : UInt8 → UInt8 → Header} (hh : HdrOk hdr) {R : Nat → Bool}
    {k : State ε} {g : Ghost ε} (now : Int) (phy : Bool) (arrived : Bytes) (hL : Link A R k g) (hSt : PV.Inv k.s [[]]) :
    ∃ k' l, poll A hdr k now phy arrived = .ok (k', l) ∧ PV.Inv k'.s [[]] := by
  obtain ⟨c, hp, hS'⟩ := poll_single_ok hSt (answer_ok hh (own8 k) (preState A k)) now phy (k.rx ++ arrived)
  have fin : ∀ a' l, replay A hdr (own8 k) k.a c.calls = .ok (a', l) →
      ∃ k' l, poll A hdr k now phy arrived = .ok (k', l) ∧ PV.Inv k'.s [[]] := by
    intro a' l hr
    refine ⟨{ s := c.s, a := a', rx := c.rx }, l, ?_, hS'⟩
    simp only [poll, hp, hr, Res.bind]
  -- while a reply from `x` is awaited the history has it outstanding: both callbacks for `x` are regular
  have cb : ∀ {x d}, k.s.st = .awaitData x d →
      (∀ tg, validReplyB k.s.p.address x tg = true → ∃ a1, A.reply k.a x tg = .ok a1) ∧
      ∃ a1, k.a.handleTimeout A.lost x = .ok a1 := by
    intro x d hst
    obtain ⟨old, -, hrep, hto, -⟩ := gstep_callback hS (own := k.s.p.address) (R := R) hL.inv.st
      (hL.out x (Station.awaited_eq.mpr ⟨d, hst⟩))
    rw [hL.a] at hrep hto
    exact ⟨fun tg hv => let ⟨_, he, _⟩ := hrep tg (allowed_of_valid hv); ⟨_, he⟩, _, hto⟩
  have hsh := poll_shaped _ _ _ _ _ _ hp
  generalize c.calls = cs at hsh fin
  cases hsh with
  | quiet => exact fin k.a [] rfl
  | ask i hst =>
    -- token visit: the application is asked in its current state
    have hpre : preState A k = k.a := by simp only [preState, hst]
    rw [hpre] at fin
    exact fin _ _ (replay_one (callback_answer A hdr (own8 k) k.a i _))
  | @reply x d tg hst hv =>
    obtain ⟨a1, he⟩ := (cb hst).1 tg hv
    have hcb : callback A hdr (own8 k) k.a (.reply k.s.nextApp x tg) = .ok (a1, .reply x tg) := by
      simp only [callback, he]
    exact fin _ _ (replay_one hcb)
  | @timeout x d hst =>
    obtain ⟨a1, hto⟩ := (cb hst).2
    have hcb : callback A hdr (own8 k) k.a (.timeout k.s.nextApp x) = .ok (a1, .timeout x) := by
      simp only [callback, hto]
    exact fin _ _ (replay_one hcb)
  | @timeoutAsk x d j hst =>
    -- the application is asked in the same poll, in the state after the time-out
    obtain ⟨a1, hto⟩ := (cb hst).2
    have hpre : preState A k = a1 := by simp only [preState, hst, hto]
    have hcb : callback A hdr (own8 k) k.a (.timeout k.s.nextApp x) = .ok (a1, .timeout x) := by
      simp only [callback, hto]
    rw [hpre] at fin
    exact fin _ _ (replay_two hcb (callback_answer A hdr (own8 k) _ j _))

theorem step_total {A : App ε} (hS : A.Spec) {hdr : UInt8 → UInt8 → Header} (hh : HdrOk hdr) {R : Nat → Bool}
    {k : State ε} {g : Ghost ε} (c : Call) (hL : Link A R k g) (hSt : PV.Inv k.s [[]]) :
    ∃ k' l g', step A hdr k c = .ok (k', l) ∧ grun A k.s.p.address R g l = .ok g' ∧ Link A R k' g' ∧
      PV.Inv k'.s [[]] ∧ k'.s.p = k.s.p := by
  have lift : ∀ k' l, step A hdr k c = .ok (k', l) → PV.Inv k'.s [[]] →
      ∃ k' l g', step A hdr k c = .ok (k', l) ∧ grun A k.s.p.address R g l = .ok g' ∧ Link A R k' g' ∧
        PV.Inv k'.s [[]] ∧ k'.s.p = k.s.p := by
    intro k' l hs hi
    obtain ⟨g', hg', hL', hp'⟩ := link_step hS hh c hL hs
    exact ⟨k', l, g', hs, hg', hL', hi, hp'⟩
  cases c with
  | poll now phy arrived =>
    obtain ⟨k', l, hp, hi⟩ := poll_total hS hh now phy arrived hL hSt
    exact lift k' l hp hi
  | setOnline =>
    exact lift _ _ rfl (inv_setOnline hSt)
  | setOffline => exact lift _ _ rfl (inv_new _ _ hSt.addr hSt.hsa hSt.scripts)
  | take => exact lift _ _ rfl hSt

theorem run_total_from {A : App ε} (hS : A.Spec) {hdr : UInt8 → UInt8 → Header} (hh : HdrOk hdr) {R : Nat → Bool} :
    ∀ (calls : List Call) (k : State ε) (g : Ghost ε), Link A R k g → PV.Inv k.s [[]] →
    ∃ k' l g', run A hdr k calls = .ok (k', l) ∧ grun A k.s.p.address R g l = .ok g' ∧ Link A R k' g' ∧
      k'.s.p = k.s.p := by
  intro calls
  induction calls with
  | nil => intro k g hL _; exact ⟨k, [], g, rfl, rfl, hL, rfl⟩
  | cons c rest ih =>
    intro k g hL hSt
    obtain ⟨k1, l1, g1, hs, hg1, hL1, hS1, hp1⟩ := step_total hS hh c hL hSt
    obtain ⟨k2, l2, g2, hr, hg2, hL2, hp2⟩ := ih k1 g1 hL1 hS1
    refine ⟨k2, l1 ++ l2, g2, by simp only [run, hs, hr, Res.bind], ?_, hL2, hp2.trans hp1⟩
    rw [grun_append _ _ _ _ hg1, ← hp1]
    exact hg2

/-- **`apps_run_total`**: the station model with the live-list / DP-scanner model as its application is
total — for every parameter set `ParametersBuilder` produces and EVERY sequence of polls (any bytes,
PHY flags, times), `set_online` / `set_offline` and `take_last_event` calls, the run is regular: the
station reaches none of its panic sites, the application does not panic (its `.get(addr).unwrap()`
always finds the address the station hands in), the composition is well defined — and the callbacks
made are a contract history ending in the application's state. -/
theorem apps_run_total {A : App ε} (hS : A.Spec) {hdr : UInt8 → UInt8 → Header} (hh : HdrOk hdr) (R : Nat → Bool)
    (p : Params) (h1 : p.address < p.hsa) (h2 : p.hsa ≤ 126) (calls : List Call) :
    ∃ k' l g, run A hdr (init p : State ε) calls = .ok (k', l) ∧ grun A p.address R Ghost.init l = .ok g ∧
      g.s = k'.a ∧ Apps.Inv A R g := by
  have hL : Link A R (init p : State ε) Ghost.init :=
    ⟨rfl, (by intro x hx; simp [init, Station.new, Station.awaited] at hx), inv_init A R, by show p.address < 256; omega⟩
  have hSt : PV.Inv (init p : State ε).s [[]] := inv_new p [[]] h1 h2 scriptsOk_nil
  obtain ⟨k', l, g, hr, hg, hL', -⟩ := run_total_from hS hh calls _ _ hL hSt
  exact ⟨k', l, g, hr, hg, hL'.a, hL'.inv⟩

end PV.StackApps
