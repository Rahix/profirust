/-
A concrete run of the composed system FDL ∘ DP from the initial state, used by the non-vacuity
examples of `Props/C03Stack.lean` … `Props/C14Stack.lean`: station 2 (HSA 3) claims the token on a
silent bus and the master brings the peripheral at address 7 up to data exchange — every request is
asked for by the station model, every reply goes through its receive path and admission filter.
-/
import ProfiVerif.Lemmas.StackTotal

namespace PV.Stack.Ex
open PV PV.Dp PV.Stack

def params : Params :=
  { address := 2, rate := 500000, slotBits := 200, ttrBits := 20000, gapWait := 10, hsa := 3, maxRetry := 1, minTsdrBits := 11 }
def fp : FdlParams := { address := 2, slotUs := 400, maxRetry := 1, minTsdr := 11, watchdog := some (1, 10) }
def opts : Options := { ident := 0x80b1, sync := false, freeze := true, groups := 3, userPrm := some [1, 2, 3], config := some [0x11, 0x21] }
def slots : List (Option Peripheral) := [none, some (Peripheral.new 7 opts [0] [0, 0] 16)]

theorem fp_ok : FpOk fp := ⟨by decide, by decide, by decide, by decide⟩

theorem init_ok : InitOk fp slots where
  len := by decide
  fresh := by
    intro i q hi
    have : q = Peripheral.new 7 opts [0] [0, 0] 16 := by
      match i, hi with
      | 1, hi => simpa [slots] using hi.symm
    subst this
    exact ⟨pinv_new _ _ _ _ _ _ (by intro up h; simp [opts] at h; subst h; decide)
      (by intro c h; simp [opts] at h; subst h; decide) (by decide) (by decide), rfl, rfl, rfl, rfl, rfl⟩

/-- Wire bytes: diagnostics response with PRM_REQ / STATION_NOT_READY (before parameterisation), the
short confirmation, a clean diagnostics response, a Data_Exchange response with one input byte. -/
def diagNotReady : Bytes := [162, 130, 135, 8, 62, 60, 2, 5, 0, 255, 128, 177, 194, 22]
def sc : Bytes := [229]
def diagReady : Bytes := [162, 130, 135, 8, 62, 60, 0, 4, 0, 2, 128, 177, 194, 22]
def dxReply : Bytes := [104, 4, 4, 104, 2, 7, 8, 66, 83, 22]

def calls : List Call :=
  [.setOnline, .poll 0 false [], .poll 100000 false [], .poll 101000 false [], .poll 102000 false [],
   .poll 103000 false [], .poll 104000 false [], .poll 105000 false [], .poll 106000 false [], .poll 107000 false [],
   .poll 108000 false diagNotReady, .poll 109000 false [], .poll 110000 false [], .poll 111000 false [],
   .poll 112000 false [], .poll 113000 false sc, .poll 114000 false [], .poll 115000 false [],
   .poll 116000 false sc, .poll 117000 false [], .poll 118000 false [], .poll 119000 false diagReady,
   .poll 120000 false [], .poll 121000 false [], .take, .writeQ 1 [5, 6], .poll 122000 false dxReply, .poll 123000 false [],
   .poll 124000 false []]

theorem times_ok : TimesOk 0 calls := by simp [calls, TimesOk]

def anyStep (f : G → Op → G → Bool) (g : G) : List Op → Bool
  | [] => false
  | op :: rest =>
    match gstep fp g op with
    | .ok g' => f g op g' || anyStep f g' rest
    | _ => false

/-- Does the composed run make a master call on which `f` holds? -/
def runHas (f : G → Op → G → Bool) : Bool :=
  match run fp (init params slots false) calls with
  | .ok (_, l) => anyStep f (G.init slots false) (l.map toOp)
  | _ => false

/-! What `Props/C03Stack.lean` … `Props/C14Stack.lean` look for in the run, one predicate per example. -/

def sendsDxInS4 (g : G) (_ : Op) (g' : G) : Bool :=
  match g'.o with
  | .sent i hd _ => reqKind hd == .dx && (g.sg i).s == 4 && !g.tainted
  | _ => false

def replySetsInputs (g : G) (op : Op) (g' : G) : Bool :=
  match op with
  | .reply _ (.data _ pdu) => slotPiI g'.m 1 != slotPiI g.m 1 && slotPiI g'.m 1 == some pdu
  | _ => false

def dxCarriesOutputs (g : G) (_ : Op) (g' : G) : Bool :=
  match g'.o with
  | .sent i hd pdu => reqKind hd == .dx && slotPiQ g.m i == some pdu && pdu == [5, 6]
  | _ => false

def firstRequestIsFirst (g : G) (_ : Op) (g' : G) : Bool :=
  match g'.o with
  | .sent i hd _ => (g.sg i).expectFirst && !g.tainted && fcbOf hd == .first
  | _ => false

def asksMaster (_ : G) (op : Op) (_ : G) : Bool :=
  match op with
  | .tx _ _ => true
  | _ => false

/-- The one evaluation of the composed run (29 calls, 26 of them polls of the station model).  All five searches are
decided in a single declaration: the kernel keeps the value of `run … calls` only while it checks
one declaration, so five separate questions would evaluate the run five times. -/
theorem run_has :
    (runHas sendsDxInS4 && runHas replySetsInputs && runHas dxCarriesOutputs && runHas firstRequestIsFirst &&
      runHas asksMaster &&
      match run fp (init params slots false) calls with
      | .ok _ => true
      | _ => false) = true := by decide +kernel

theorem run_ok : ∃ k l, run fp (init params slots false) calls = .ok (k, l) := by
  have h := run_has
  simp only [Bool.and_eq_true] at h
  cases hr : run fp (init params slots false) calls with
  | ok r => exact ⟨r.1, r.2, rfl⟩
  | _ => rw [hr] at h; cases h.2

end PV.Stack.Ex
