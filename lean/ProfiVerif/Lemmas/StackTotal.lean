/-
FDL ∘ DP (`Model/Stack.lean`) is total: from the initial state every API-call sequence with
non-decreasing poll times runs regularly — the station model does not panic (C05), the master model
neither panics nor spins (C03/C04/C08 `never_panics`, C14 `turn_ends`), and the answer the composed
poll hands to the station as a one-element script is exactly what the master returns when the station
asks (`.mismatch` is unreachable): the station asks its single application at most once per poll, with
`high_prio_only = Station.askHp`, and only `handle_timeout` — which leaves the master untouched — can
precede the question in the same poll (`PollShape`, `Lemmas/StationOneApp.lean`).
-/
import ProfiVerif.Lemmas.Stack
import ProfiVerif.Lemmas.StationOneApp

namespace PV.Stack
open PV PV.Dp

/-- The one-element script of a composed poll satisfies the station's application contract: what the master answers is
encodable (`transmit_len`). -/
theorem answer_ok (fp : FdlParams) (now : Int) (hp : Bool) (m : Master) : ScriptsOk [[answer fp now hp m]] := by
  intro script hs ans ha h pdu he
  simp only [List.mem_singleton] at hs
  subst hs
  simp only [List.mem_singleton] at ha
  subst ha
  unfold answer at he
  cases ht : Master.transmit fp now hp m with
  | send m' h' pdu' =>
    rw [ht] at he
    cases he
    exact transmit_len ht
  | none m' => rw [ht] at he; cases he
  | panic => rw [ht] at he; cases he
  | hang => rw [ht] at he; cases he

/-- The answer the composed poll computed beforehand is the answer the master gives when the replay asks. -/
theorem callback_answer {fp : FdlParams} (hfp : FpOk fp) {g : G} (hI : Dp.Inv fp g) {now : Int} (hto : timeOk g now = true)
    (i : Nat) (hp : Bool) :
    ∃ m', callback fp now g.m (.transmit i hp (answer fp now hp g.m)) = .ok (m', .tx now hp) := by
  obtain ⟨g', -, hF⟩ := tx_total hfp hI hto hp
  rcases hF.returned with ⟨_, _, e, -⟩ | ⟨e, -⟩
  · exact ⟨g'.m, by simp only [callback, answer, e, if_true]⟩
  · exact ⟨g'.m, by simp only [callback, answer, e, if_true]⟩

theorem replay_one {fp : FdlParams} {now : Int} {m m' : Master} {c : AppCall} {x : MCall}
    (h : callback fp now m c = .ok (m', x)) : replay fp now m [c] = .ok (m', [x]) := by
  simp only [replay, h, Res.bind]

theorem replay_two {fp : FdlParams} {now : Int} {m m1 m2 : Master} {c1 c2 : AppCall} {x1 x2 : MCall}
    (h1 : callback fp now m c1 = .ok (m1, x1)) (h2 : callback fp now m1 c2 = .ok (m2, x2)) :
    replay fp now m [c1, c2] = .ok (m2, [x1, x2]) := by
  simp only [replay, h1, h2, Res.bind]

/-- **One composed poll is regular**: the station does not panic, the master neither panics nor spins,
and the answer the station was given is the answer the master gives. -/
theorem poll_total {fp : FdlParams} (hfp : FpOk fp) {k : State} {g : G} {t now : Int} (phy : Bool) (arrived : Bytes)
    (hL : Link fp k g t) (hS : PV.Inv k.s [[]]) (ht1 : t ≤ now) (ht2 : now < (2:Int)^62) :
    ∃ k' l, poll fp k now phy arrived = .ok (k', l) ∧ PV.Inv k'.s [[]] := by
  have hlo : -(2:Int)^62 < now := Int.lt_of_lt_of_le hL.lo ht1
  have hto : timeOk g now = true := timeOk_iff.mpr ⟨⟨hlo, ht2⟩, fun t0 h0 => Int.le_trans (hL.now t0 h0) ht1⟩
  obtain ⟨c, hp, hS'⟩ := poll_single_ok hS (answer_ok fp now (k.s.askHp now) k.m) now phy (k.rx ++ arrived)
  have fin : ∀ m' l, replay fp now k.m c.calls = .ok (m', l) →
      ∃ k' l, poll fp k now phy arrived = .ok (k', l) ∧ PV.Inv k'.s [[]] := by
    intro m' l hr
    refine ⟨{ s := c.s, m := m', rx := c.rx }, l, ?_, hS'⟩
    simp only [poll, hp, hr, Res.bind]
  -- the callbacks of the poll, one shape after the other, replayed through the master
  have hsh := poll_shaped _ _ _ _ _ _ hp
  rw [← hL.m] at fin hsh
  generalize c.calls = cs at hsh fin
  cases hsh with
  | quiet => exact fin g.m [] rfl
  | ask i _ =>
    obtain ⟨m', hm'⟩ := callback_answer hfp hL.inv hto i (k.s.askHp now)
    exact fin m' _ (replay_one hm')
  | @reply x d tg hst hv =>
    -- it answers the outstanding request and passed the admission filter
    rw [← hL.addr] at hv
    obtain ⟨g', hcb, -⟩ := callback_reply (now := now) (i := k.s.nextApp) hL.inv
      (hL.out x (Station.awaited_eq.mpr ⟨d, hst⟩)) hv
    exact fin _ _ (replay_one hcb)
  | timeout _ => exact fin _ _ (replay_one (c := .timeout _ _) rfl)
  | timeoutAsk j _ =>
    obtain ⟨m', hm'⟩ := callback_answer hfp hL.inv hto j (k.s.askHp now)
    exact fin m' _ (replay_two (c1 := .timeout _ _) rfl hm')

/-- State of the composed system reached from the initial one: linked to a ghost state of the DP
history, station invariant. -/
structure Reached (fp : FdlParams) (k : State) (g : G) (t : Int) : Prop where
  link : Link fp k g t
  st : PV.Inv k.s [[]]

theorem step_total {fp : FdlParams} (hfp : FpOk fp) {k : State} {g : G} {t : Int} (c : Call) (rest : List Call)
    (hR : Reached fp k g t) (ht : TimesOk t (c :: rest)) :
    step fp k c = .userError ∨
    ∃ k' l g' t', step fp k c = .ok (k', l) ∧ grun fp g (l.map toOp) = .ok g' ∧ Reached fp k' g' t' ∧ TimesOk t' rest := by
  have lift : ∀ k' l, step fp k c = .ok (k', l) → PV.Inv k'.s [[]] →
      ∃ k' l g' t', step fp k c = .ok (k', l) ∧ grun fp g (l.map toOp) = .ok g' ∧ Reached fp k' g' t' ∧ TimesOk t' rest := by
    intro k' l hs hi
    obtain ⟨g', t', hg', hL', ht'⟩ := link_step hfp c rest hR.link ht hs
    exact ⟨k', l, g', t', hs, hg', ⟨hL', hi⟩, ht'⟩
  cases c with
  | poll now phy arrived =>
    obtain ⟨k', l, hp, hi⟩ := poll_total hfp phy arrived hR.link hR.st ht.1 ht.2.1
    exact .inr (lift k' l hp hi)
  | setOnline =>
    exact .inr (lift _ _ rfl (inv_setOnline hR.st))
  | setOffline =>
    refine .inr (lift _ _ rfl ?_)
    exact inv_new _ _ hR.st.addr hR.st.hsa hR.st.scripts
  | take => exact .inr (lift _ _ rfl hR.st)
  | writeQ slot bs =>
    cases hw : k.m.writePiQ slot bs with
    | none => left; simp only [step, hw, userCall]
    | some m' => exact .inr (lift { k with m := m' } [.writeQ slot bs] (by simp only [step, hw, userCall]) hR.st)
  | diagReq slot =>
    cases hw : k.m.requestDiagnostics slot with
    | none => left; simp only [step, hw, userCall]
    | some m' => exact .inr (lift { k with m := m' } [.diagReq slot] (by simp only [step, hw, userCall]) hR.st)
  | resetAddr slot a =>
    by_cases ha : a ≥ 128
    · left; simp only [step, if_pos ha]
    · cases hw : k.m.resetAddress slot a with
      | none => left; simp only [step, if_neg ha, hw, userCall]
      | some m' => exact .inr (lift { k with m := m' } [.resetAddr slot a] (by simp only [step, if_neg ha, hw, userCall]) hR.st)

theorem run_total_from {fp : FdlParams} (hfp : FpOk fp) : ∀ (calls : List Call) (k : State) (g : G) (t : Int),
    Reached fp k g t → TimesOk t calls →
    run fp k calls = .userError ∨
    ∃ k' l g' t', run fp k calls = .ok (k', l) ∧ grun fp g (l.map toOp) = .ok g' ∧ Reached fp k' g' t' := by
  intro calls
  induction calls with
  | nil => intro k g t hR _; exact .inr ⟨k, [], g, t, rfl, rfl, hR⟩
  | cons c rest ih =>
    intro k g t hR ht
    rcases step_total hfp c rest hR ht with he | ⟨k1, l1, g1, t1, hs, hg1, hR1, ht1⟩
    · left; simp only [run, he, Res.bind]
    · rcases ih k1 g1 t1 hR1 ht1 with he | ⟨k2, l2, g2, t2, hr, hg2, hR2⟩
      · left; simp only [run, hs, he, Res.bind]
      · right
        refine ⟨k2, l1 ++ l2, g2, t2, by simp only [run, hs, hr, Res.bind], ?_, hR2⟩
        rw [List.map_append, grun_append _ _ _ _ hg1]
        exact hg2

theorem reached_init {fp : FdlParams} (p : Params) (h1 : p.address < p.hsa) (h2 : p.hsa ≤ 126)
    (haddr : fp.address.toNat = p.address) {slots : List (Option Peripheral)} (hinit : InitOk fp slots) (gr : Bool)
    {t0 : Int} (ht0 : -(2:Int)^62 < t0) : Reached fp (init p slots gr) (G.init slots gr) t0 :=
  ⟨link_init p haddr hinit gr ht0, inv_new p [[]] h1 h2 scriptsOk_nil⟩

/-- **`run_total`** — the composed system is total.  For every parameter set `ParametersBuilder` can
produce (station address < HSA ≤ 126, retry limit 1..15), every set of freshly added peripherals and
EVERY sequence of API calls (polls with any arriving bytes / PHY flags at non-decreasing times,
`set_online` / `set_offline`, user calls into the master between polls): unless a user call violates
its documented precondition (`.userError`: no peripheral in that slot, `pi_q` write of the wrong
length, address ≥ 128), the run is regular — the station reaches none of its panic sites, the master
neither panics nor spins, the answers the station used are the master's (`.mismatch` does not occur) —
and the master calls made are a contract history ending in the master's state. -/
theorem run_total {fp : FdlParams} (hfp : FpOk fp) (p : Params) (h1 : p.address < p.hsa) (h2 : p.hsa ≤ 126)
    (haddr : fp.address.toNat = p.address) {slots : List (Option Peripheral)} (hinit : InitOk fp slots) (gr : Bool)
    (calls : List Call) {t0 : Int} (ht0 : -(2:Int)^62 < t0) (ht : TimesOk t0 calls) :
    run fp (init p slots gr) calls = .userError ∨
    ∃ k' l g', run fp (init p slots gr) calls = .ok (k', l) ∧
      grun fp (G.init slots gr) (l.map toOp) = .ok g' ∧ g'.m = k'.m ∧ Dp.Inv fp g' ∧ PV.Inv k'.s [[]] := by
  rcases run_total_from hfp calls _ _ t0 (reached_init p h1 h2 haddr hinit gr ht0) ht with he | ⟨k', l, g', t', hr, hg, hR⟩
  · exact .inl he
  · exact .inr ⟨k', l, g', hr, hg, hR.link.m, hR.link.inv, hR.st⟩

/-- **`stack_never_panics`**: no run of the composed system panics (station or master), spins in the
master's `transmit_telegram`, or uses an answer that is not the master's. -/
theorem stack_never_panics {fp : FdlParams} (hfp : FpOk fp) (p : Params) (h1 : p.address < p.hsa) (h2 : p.hsa ≤ 126)
    (haddr : fp.address.toNat = p.address) {slots : List (Option Peripheral)} (hinit : InitOk fp slots) (gr : Bool)
    (calls : List Call) {t0 : Int} (ht0 : -(2:Int)^62 < t0) (ht : TimesOk t0 calls) :
    (∀ site, run fp (init p slots gr) calls ≠ .stationPanic site) ∧ run fp (init p slots gr) calls ≠ .masterPanic ∧
    run fp (init p slots gr) calls ≠ .masterHang ∧ run fp (init p slots gr) calls ≠ .mismatch := by
  rcases run_total hfp p h1 h2 haddr hinit gr calls ht0 ht with he | ⟨k', l, g', hr, -⟩
  · rw [he]; exact ⟨fun _ h => (by cases h), fun h => (by cases h), fun h => (by cases h), fun h => (by cases h)⟩
  · rw [hr]; exact ⟨fun _ h => (by cases h), fun h => (by cases h), fun h => (by cases h), fun h => (by cases h)⟩

/-- **Transfer principle.**  Every master call `x` of a regular composed run is a step `gstep` of the
DP history relation, taken in the ghost state `g` that the master calls before it lead to from the
initial state — so every theorem of C03 / C04 / C08 / C14, stated for steps from states reached by
contract histories, applies to every callback the station model makes and every user call in between. -/
theorem stack_step {fp : FdlParams} (hfp : FpOk fp) (p : Params) (haddr : fp.address.toNat = p.address)
    {slots : List (Option Peripheral)} (hinit : InitOk fp slots) (gr : Bool)
    (calls : List Call) {t0 : Int} (ht0 : -(2:Int)^62 < t0) (ht : TimesOk t0 calls)
    {k' : State} {l : List MCall} (h : run fp (init p slots gr) calls = .ok (k', l))
    {pre post : List MCall} {x : MCall} (hl : l = pre ++ x :: post) :
    ∃ g g', grun fp (G.init slots gr) (pre.map toOp) = .ok g ∧ gstep fp g (toOp x) = .ok g' := by
  obtain ⟨gE, hg, -, -⟩ := station_log_is_contract_history hfp p haddr hinit gr calls ht0 ht h
  rw [hl, List.map_append, List.map_cons] at hg
  obtain ⟨g1, g2, e1, e2, -⟩ := grun_split _ _ _ _ _ hg
  exact ⟨g1, g2, e1, e2⟩

end PV.Stack
