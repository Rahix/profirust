/-
Normal forms for `Model/Station.lean`: the lazily initialised activity stamp (`stamped`;
`wait_synchronization_pause`, `check_slot_expired` and `handle_lost_token` in terms of it), the transitions as
plain updates of the FDL state (`SetsSt`), inversion of `tr`, `transmit` and `encodeOrPanic`, the closed form of
`await_gap_poll_response` (`awaitGap_eq`), induction over a batch of telegrams (only its last one is flagged
`is_last`: `dropLast_*`), and the equations of the two handlers that start with `handle_lost_token`.
-/
import ProfiVerif.Model.Station

namespace PV

namespace StationGap

/-- The station after the lazily initialised activity time-stamp was filled in. -/
def stamped (s : Station) (now : Int) : Station :=
  { s with lastBusActivity := some (s.lastBusActivity.getD now) }

@[simp] theorem stamped_st (s now) : (stamped s now).st = s.st := rfl
@[simp] theorem stamped_gap (s now) : (stamped s now).gap = s.gap := rfl
@[simp] theorem stamped_ring (s now) : (stamped s now).ring = s.ring := rfl
@[simp] theorem stamped_p (s now) : (stamped s now).p = s.p := rfl
@[simp] theorem stamped_online (s now) : (stamped s now).online = s.online := rfl
@[simp] theorem stamped_nextApp (s now) : (stamped s now).nextApp = s.nextApp := rfl
@[simp] theorem stamped_lastTokenTime (s now) : (stamped s now).lastTokenTime = s.lastTokenTime := rfl
@[simp] theorem stamped_endTokenHoldTime (s now) : (stamped s now).endTokenHoldTime = s.endTokenHoldTime := rfl

theorem stamped_stamped (s : Station) (now : Int) : stamped (stamped s now) now = stamped s now := by
  simp [stamped]

theorem stamped_of_last {s : Station} {l : Int} (h : s.lastBusActivity = some l) (now : Int) :
    stamped s now = s := by
  cases s; simp_all [stamped]

theorem getOrInsert_eq (s : Station) (now : Int) :
    getOrInsertLast s now = (stamped s now, s.lastBusActivity.getD now) := by
  unfold getOrInsertLast stamped
  cases h : s.lastBusActivity with
  | none => simp
  | some l => cases s; simp_all

theorem sync_stamped (s : Station) (now : Int) : (waitSyncPause s now).1 = stamped s now := by
  simp [waitSyncPause, getOrInsert_eq]

theorem slot_stamped (s : Station) (now : Int) : (checkSlotExpired s now).1 = stamped s now := by
  simp [checkSlotExpired, getOrInsert_eq]

/-- The synchronisation pause (33 bit times of bus silence) is over. -/
def SyncOver (s : Station) (now : Int) : Prop := (waitSyncPause s now).2 = false

instance (s : Station) (now : Int) : Decidable (SyncOver s now) := by unfold SyncOver; infer_instance

theorem syncOver_iff (s : Station) (now : Int) :
    SyncOver s now ↔ s.lastBusActivity.getD now + (s.p.bits 33 : Nat) < now := by
  simp [SyncOver, waitSyncPause, getOrInsert_eq]

theorem syncOver_stamped (s : Station) (now : Int) : SyncOver (stamped s now) now ↔ SyncOver s now := by
  simp [syncOver_iff, stamped]

def SlotExpired (s : Station) (now : Int) : Prop := (checkSlotExpired s now).2 = true

instance (s : Station) (now : Int) : Decidable (SlotExpired s now) := by unfold SlotExpired; infer_instance

theorem slotExpired_iff (s : Station) (now : Int) :
    SlotExpired s now ↔ s.lastBusActivity.getD now + (s.p.slotTime : Nat) < now := by
  simp [SlotExpired, checkSlotExpired, getOrInsert_eq]

/-- The token-lost time-out `Tsl · (6 + 2·TS)` of bus silence has elapsed. -/
def TokenLost (s : Station) (now : Int) : Prop :=
  (now - s.lastBusActivity.getD now).natAbs ≥ s.p.tokenLostTimeout

instance (s : Station) (now : Int) : Decidable (TokenLost s now) := by unfold TokenLost; infer_instance

theorem handleLostToken_none (c : Ctx) (now : Int) (h : ¬ TokenLost c.s now) :
    handleLostToken c now = ({ c with s := stamped c.s now }, none) := by
  unfold handleLostToken
  simp only [getOrInsert_eq, stamped_p]
  unfold TokenLost at h
  rw [if_neg h]

theorem handleLostToken_lost (c : Ctx) (now : Int) (h : TokenLost c.s now) :
    handleLostToken c now =
      ({ c with s := stamped c.s now },
       some (match toClaimToken (stamped c.s now) with
             | none => .panic "transition_claim_token"
             | some s'' => doClaimToken { c with s := s'' } now 2)) := by
  unfold handleLostToken
  simp only [getOrInsert_eq, stamped_p]
  unfold TokenLost at h
  rw [if_pos h]
  cases toClaimToken (stamped c.s now) <;> rfl

/-- What the first pending telegram means to a station `ts` that awaits the status reply of `addr`:
`some (state, status)` iff it is a response telegram from `addr` to `ts`. -/
def replyOf (ts addr : Nat) : Telegram → Option (ResponseState × ResponseStatus)
  | .data h _ =>
    if h.sa.toNat = addr ∧ h.da.toNat = ts then
      match h.fc with
      | .response state status => some (state, status)
      | _ => none
    else none
  | _ => none

/-- The replies that make the polled station the new successor: status Ok and state "master, ready to
enter the ring" or "master in the ring". -/
def Admits (state : ResponseState) (status : ResponseStatus) : Prop :=
  status = .ok ∧ (state = .masterWithoutToken ∨ state = .masterInRing)

instance (state : ResponseState) (status : ResponseStatus) : Decidable (Admits state status) := by
  unfold Admits; infer_instance

/-- `await_gap_poll_response` past its assertions, by what the first pending telegram means
(`replyOf`, `Admits`). -/
theorem awaitGap_eq (c : Ctx) (now : Int) (addr : Nat) (hne : addr ≠ c.s.p.address) (hg : c.s.gap = .doPoll addr) :
    awaitGapPollResponse c now addr =
      match receiveTelegram c.rx with
      | .panic => (.panic "receive_telegram", .waitingForBus)
      | .hang => (.panic "receive_telegram hang", .waitingForBus)
      | .done rx' [] _ =>
        (.ok { c with rx := rx', s := stamped c.s now },
         if (checkSlotExpired c.s now).2 then .noResponse else .waitingForBus)
      | .done rx' ((t, _) :: _) _ =>
        match replyOf c.s.p.address addr t with
        | none => (.ok { c with rx := rx', s := markRx c.s now }, .unexpected)
        | some (state, status) =>
          if Admits state status then
            match c.s.ring.setNextStation addr with
            | some r => (.ok { c with rx := rx', s := { (markRx c.s now) with ring := r } }, .responded)
            | none => (.panic "set_next_station index", .waitingForBus)
          else (.ok { c with rx := rx', s := markRx c.s now }, .responded) := by
  unfold awaitGapPollResponse
  simp only [hne, if_false, hg, ne_eq, not_true_eq_false]
  cases receiveTelegram c.rx with
  | panic => rfl
  | hang => rfl
  | done rx' calls ret =>
    cases calls with
    | nil => simp only; rw [← slot_stamped]
    | cons x rest =>
      obtain ⟨t, l⟩ := x
      cases t with
      | sc => rfl
      | token da sa => rfl
      | data h pdu =>
        have hp : (markRx c.s now).p = c.s.p := rfl
        have hring : (markRx c.s now).ring = c.s.ring := rfl
        simp only [replyOf, hp, hring]
        by_cases hcond : h.sa.toNat = addr ∧ h.da.toNat = c.s.p.address
        · simp only [hcond, and_self, if_true]
          cases h.fc with
          | request a b => rfl
          | response state status =>
            by_cases ha : status = .ok ∧ (state = .masterWithoutToken ∨ state = .masterInRing)
            · simp only [Admits, ha, and_self, if_true]
              cases c.s.ring.setNextStation addr <;> rfl
            · simp only [Admits, ha, if_false]
        · simp only [hcond, if_false]

end StationGap

open StationGap

variable {c c1 : Ctx} {now : Int} {r : Res}

theorem getOrInsert_last (s : Station) (now : Int) (l : Int) (h : s.lastBusActivity = some l) :
    getOrInsertLast s now = (s, l) := by
  rw [getOrInsert_eq, stamped_of_last h, h]; rfl

theorem tr_cases (c : Ctx) (f : Station → Option Station) (site : String) (c' : Ctx) (h : tr c f site = .ok c') :
    ∃ s', f c.s = some s' ∧ c' = { c with s := s' } := by
  unfold tr at h
  split at h
  · cases h; exact ⟨_, by assumption, rfl⟩
  · cases h

/-- A `transition_*` function, where defined, sets the FDL state to `st'` and touches nothing else. -/
def SetsSt (f : Station → Option Station) (st' : FState) : Prop :=
  ∀ s s', f s = some s' → s' = { s with st := st' }

theorem setsSt_toOffline : SetsSt toOffline .offline := by
  intro s s' h; unfold toOffline at h; split at h <;> first | (cases h; rfl) | cases h
theorem setsSt_toListenToken : SetsSt toListenToken (.listenToken none 0) := by
  intro s s' h; unfold toListenToken at h; split at h <;> first | (cases h; rfl) | cases h
theorem setsSt_toActiveIdle : SetsSt toActiveIdle (.activeIdle none none 0) := by
  intro s s' h; unfold toActiveIdle at h; split at h <;> first | (cases h; rfl) | cases h
theorem setsSt_toUseToken (d : UseData) : SetsSt (fun s => toUseToken s d) (.useToken d false) := by
  intro s s' h; simp only [toUseToken] at h; split at h <;> first | (cases h; rfl) | cases h
theorem setsSt_toClaimToken : SetsSt toClaimToken (.claimToken .firstToken) := by
  intro s s' h; unfold toClaimToken at h; split at h <;> first | (cases h; rfl) | cases h
theorem setsSt_toAwaitData (a : Nat) (d : UseData) : SetsSt (fun s => toAwaitData s a d) (.awaitData a d) := by
  intro s s' h; simp only [toAwaitData] at h; split at h <;> first | (cases h; rfl) | cases h
theorem setsSt_toPassToken (g : Bool) (a : Attempt) : SetsSt (fun s => toPassToken s g a) (.passToken g a) := by
  intro s s' h; simp only [toPassToken] at h; split at h <;> first | (cases h; rfl) | cases h
theorem setsSt_toCheckTokenPass (a : Attempt) : SetsSt (fun s => toCheckTokenPass s a) (.checkTokenPass a) := by
  intro s s' h; simp only [toCheckTokenPass] at h; split at h <;> first | (cases h; rfl) | cases h
theorem setsSt_toAwaitStatus (a : Nat) : SetsSt (fun s => toAwaitStatus s a) (.awaitStatus a) := by
  intro s s' h; simp only [toAwaitStatus] at h; split at h <;> first | (cases h; rfl) | cases h

theorem tr_setsSt {f : Station → Option Station} {st' : FState} (hf : SetsSt f st') {c c' : Ctx} {site : String}
    (h : tr c f site = .ok c') : c' = upd c fun s => { s with st := st' } := by
  obtain ⟨s', hs, rfl⟩ := tr_cases c f site c' h
  rw [hf _ _ hs]; rfl

theorem upd_tx (c : Ctx) (f : Station → Station) : (upd c f).tx = c.tx := by cases c; rfl

theorem transmit_cases (c : Ctx) (now : Int) (bytes : Bytes) (c' : Ctx) (h : transmit c now bytes = .ok c') :
    c.tx = none ∧ c' = { c with tx := some bytes, s := markTx c.s now bytes.length } := by
  unfold transmit at h
  split at h
  · cases h
  · cases h; exact ⟨by assumption, rfl⟩

theorem encodeOrPanic_cases (c : Ctx) (now : Int) (h : Header) (pdu : Bytes) (c' : Ctx)
    (he : encodeOrPanic c now h pdu = .ok c') :
    ∃ bytes, h.serialize pdu = .ok bytes ∧ c.tx = none ∧ c' = { c with tx := some bytes, s := markTx c.s now bytes.length } := by
  unfold encodeOrPanic at he
  split at he
  · rename_i bytes hser
    obtain ⟨h0, hc⟩ := transmit_cases _ _ _ _ he
    exact ⟨bytes, hser, h0, hc⟩
  · cases he

/-- New bytes in the receive buffer count as bus activity at `now`. -/
theorem checkBusActivity_eq (s : Station) (now : Int) (n : Nat) :
    checkBusActivity s now n =
      { s with
        lastBusActivity :=
          if s.pendingBytes < n then some (max (s.lastBusActivity.getD now) now) else s.lastBusActivity,
        pendingBytes := max s.pendingBytes n } := by
  unfold checkBusActivity markBusActivity
  by_cases h : s.pendingBytes < n
  · rw [if_pos h, if_pos h, Nat.max_eq_right (Nat.le_of_lt h)]
  · rw [if_neg h, if_neg h, Nat.max_eq_left (Nat.le_of_not_lt h)]

theorem checkBusActivity_id (s : Station) (now : Int) (n : Nat) (h : n ≤ s.pendingBytes) :
    checkBusActivity s now n = s := by
  unfold checkBusActivity
  rw [if_neg (by omega)]

theorem dropLast_cons_flags {α : Type} {x : α × Bool} {rest : List (α × Bool)}
    (hfl : ∀ y ∈ (x :: rest).dropLast, y.2 = false) : ∀ y ∈ rest.dropLast, y.2 = false := by
  intro y hy
  apply hfl y
  cases rest with
  | nil => simp at hy
  | cons z zs => simp [List.dropLast] at hy ⊢; right; exact hy

theorem dropLast_head_flag {α : Type} {x : α × Bool} {z : α × Bool} {zs : List (α × Bool)}
    (hfl : ∀ y ∈ (x :: z :: zs).dropLast, y.2 = false) : x.2 = false :=
  hfl x (by simp [List.dropLast])

/-- `I` is indexed by the telegrams still to come, so that a step may depend on what follows it. -/
theorem foldTelegrams_inv {f : Ctx → Telegram → Bool → Res} (I : List (Telegram × Bool) → Ctx → Prop)
    (step : ∀ c t l rest, I ((t, l) :: rest) c → ∃ c', f c t l = .ok c' ∧ I rest c') :
    ∀ (calls : List (Telegram × Bool)) (c : Ctx), I calls c → ∃ c', foldTelegrams f c calls = .ok c' ∧ I [] c' := by
  intro calls
  induction calls with
  | nil => intro c h; exact ⟨c, rfl, h⟩
  | cons x rest ih =>
    intro c h
    obtain ⟨t, l⟩ := x
    obtain ⟨c1, h1, hi1⟩ := step c t l rest h
    obtain ⟨c2, h2, hi2⟩ := ih c1 hi1
    exact ⟨c2, by simp only [foldTelegrams, h1, Res.bind, h2], hi2⟩

theorem foldTelegrams_post {f : Ctx → Telegram → Bool → Res} (Q : Ctx → Prop)
    (step : ∀ c t l c', Q c → f c t l = .ok c' → Q c') :
    ∀ (calls : List (Telegram × Bool)) (c c' : Ctx), Q c → foldTelegrams f c calls = .ok c' → Q c' := by
  intro calls
  induction calls with
  | nil => intro c c' hq h; simp only [foldTelegrams] at h; cases h; exact hq
  | cons x rest ih =>
    intro c c' hq h
    obtain ⟨t, l⟩ := x
    simp only [foldTelegrams] at h
    cases h1 : f c t l with
    | panic m => rw [h1] at h; cases h
    | ok c1 =>
      rw [h1] at h
      exact ih c1 c' (step c t l c1 hq h1) h

theorem handleLost_quiet (c : Ctx) (now l : Int) (hl : c.s.lastBusActivity = some l)
    (hq : ¬ (now - l).natAbs ≥ c.s.p.tokenLostTimeout) : handleLostToken c now = (c, none) := by
  have hnl : ¬ TokenLost c.s now := by unfold TokenLost; rw [hl]; exact hq
  rw [handleLostToken_none c now hnl, stamped_of_last hl]

/-! ### `do_listen_token`, `do_active_idle`, with the result of `handle_lost_token` as a hypothesis

Trap: both handlers are `match c.s.st with | … => match handleLostToken c now with …`.  Rewriting the outer
discriminant while `handleLostToken c now` is still in the term makes the kernel unfold
`handleLostToken → doClaimToken … 2`, which is very slow.  Replace it by its value first (`rw [hx]`), as the
proofs below do; a proof about these two handlers starts from these equations, or destructures
`handleLostToken c now` before it touches the outer match. -/

theorem doListenToken_lost {sr : Option Nat} {coll : Nat}
    (hst : c.s.st = .listenToken sr coll) (hx : handleLostToken c now = (c1, some r)) :
    doListenToken c now = r := by
  unfold doListenToken
  rw [hx]
  simp only [hst]

theorem doListenToken_recv {sr : Option Nat} {coll coll1 : Nat}
    (hst : c.s.st = .listenToken sr coll) (hx : handleLostToken c now = (c1, none))
    (h1 : c1.s.st = .listenToken none coll1) :
    doListenToken c now = match receiveAll c1.rx with
      | .panic => .panic "receive_all_telegrams"
      | .hang => .panic "receive_all_telegrams hang"
      | .done rx' calls _ => foldTelegrams (listenTelegram now) { c1 with rx := rx' } calls := by
  unfold doListenToken
  rw [hx]
  simp only [hst, h1]
  rfl

theorem doListenToken_reply {sr : Option Nat} {coll coll1 src : Nat}
    (hst : c.s.st = .listenToken sr coll) (hx : handleLostToken c now = (c1, none))
    (h1 : c1.s.st = .listenToken (some src) coll1) :
    doListenToken c now =
      let (s', waiting) := waitSyncPause c1.s now
      let c := { c1 with s := s' }
      if waiting then .ok c else
      let ready := c.s.ring.readyForRing
      let state : ResponseState :=
        if ready ∧ src = c.s.ring.ps then .masterWithoutToken else .masterNotReady
      (encodeOrPanic c now (fdlStatusResponseHeader (UInt8.ofNat src) (UInt8.ofNat c.s.p.address) state .ok) []).bind fun c =>
      if ready then tr c toActiveIdle "transition_active_idle"
      else .ok (upd c fun s => { s with st := .listenToken none coll1 }) := by
  unfold doListenToken
  rw [hx]
  simp only [hst, h1]

theorem doActiveIdle_lost {sr np : Option Nat} {coll : Nat}
    (hst : c.s.st = .activeIdle sr np coll) (hx : handleLostToken c now = (c1, some r)) :
    doActiveIdle c now = r := by
  unfold doActiveIdle
  rw [hx]
  simp only [hst]

theorem doActiveIdle_recv {sr np np1 : Option Nat} {coll coll1 : Nat}
    (hst : c.s.st = .activeIdle sr np coll) (hx : handleLostToken c now = (c1, none))
    (h1 : c1.s.st = .activeIdle none np1 coll1) :
    doActiveIdle c now = match receiveAll c1.rx with
      | .panic => .panic "receive_all_telegrams"
      | .hang => .panic "receive_all_telegrams hang"
      | .done rx' calls _ =>
        foldTelegrams (fun c t isLast => handleTelegram (upd c fun s => markRx s now) now t isLast)
          { c1 with rx := rx' } calls := by
  unfold doActiveIdle
  rw [hx]
  simp only [hst, h1]
  rfl

theorem doActiveIdle_reply {sr np np1 : Option Nat} {coll coll1 src : Nat}
    (hst : c.s.st = .activeIdle sr np coll) (hx : handleLostToken c now = (c1, none))
    (h1 : c1.s.st = .activeIdle (some src) np1 coll1) :
    doActiveIdle c now =
      let (s', waiting) := waitSyncPause c1.s now
      let c := { c1 with s := s' }
      if waiting then .ok c else
      (encodeOrPanic c now (fdlStatusResponseHeader (UInt8.ofNat src) (UInt8.ofNat c.s.p.address) .masterInRing .ok) []).bind fun c =>
      .ok (upd c fun s => { s with st := .activeIdle none np1 coll1 }) := by
  unfold doActiveIdle
  rw [hx]
  simp only [hst, h1]

end PV
