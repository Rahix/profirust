/-
Exact step equations of the GAP-related handlers of `Model/Station.lean` (GAP polls, token pass,
claiming steps, the answer to a GAP poll case by case), `nextGap` as `next_gap_poll`, and the frames the station
builds itself (`statusRequestBytes`, `tokenBytes`, …).  They hold for every station state: no invariant is assumed.
-/
import ProfiVerif.Lemmas.StationEq

namespace PV
namespace StationGap

/-- The SD1 frame of a header without SAPs and without PDU. -/
def sd1Frame (h : Header) : Bytes := [SD1] ++ h.body [] ++ [checksum (h.body []), ED]

theorem serialize_noSap (h : Header) (h1 : h.dsap = none) (h2 : h.ssap = none) :
    h.serialize [] = .ok (sd1Frame h) := by
  simp [Header.serialize, Header.lengthByte, Header.saps, h1, h2, sd1Frame]

/-- The FDL status request `ts → a` as it goes to the PHY. -/
def statusRequestBytes (a ts : Nat) : Bytes :=
  sd1Frame (fdlStatusRequestHeader (UInt8.ofNat a) (UInt8.ofNat ts))

/-- The FDL status response `ts → dst` reporting `state` (status Ok). -/
def statusResponseBytes (dst ts : Nat) (state : ResponseState) : Bytes :=
  sd1Frame (fdlStatusResponseHeader (UInt8.ofNat dst) (UInt8.ofNat ts) state .ok)

/-- The token telegram `ts → ns`. -/
def tokenBytes (ns ts : Nat) : Bytes := sendToken (UInt8.ofNat ns) (UInt8.ofNat ts)

theorem statusRequest_serialize (a ts : Nat) :
    (fdlStatusRequestHeader (UInt8.ofNat a) (UInt8.ofNat ts)).serialize [] = .ok (statusRequestBytes a ts) :=
  serialize_noSap _ rfl rfl

theorem statusResponse_serialize (dst ts : Nat) (state : ResponseState) :
    (fdlStatusResponseHeader (UInt8.ofNat dst) (UInt8.ofNat ts) state .ok).serialize [] =
      .ok (statusResponseBytes dst ts state) :=
  serialize_noSap _ rfl rfl

theorem statusRequestBytes_length (a ts : Nat) : (statusRequestBytes a ts).length = 6 := by
  simp [statusRequestBytes, sd1Frame, Header.body, fdlStatusRequestHeader, optByte]

theorem statusResponseBytes_length (d ts : Nat) (st : ResponseState) : (statusResponseBytes d ts st).length = 6 := by
  simp [statusResponseBytes, sd1Frame, Header.body, fdlStatusResponseHeader, optByte]

/-- A status request / response starts with SD1, a token with SD4: they are never confused. -/
theorem statusRequest_ne_token (a ts ns ts' : Nat) : statusRequestBytes a ts ≠ tokenBytes ns ts' := by
  simp [statusRequestBytes, sd1Frame, tokenBytes, sendToken, Header.body, optByte]

theorem statusResponse_ne_token (d ts ns ts' : Nat) (st : ResponseState) :
    statusResponseBytes d ts st ≠ tokenBytes ns ts' := by
  simp [statusResponseBytes, sd1Frame, tokenBytes, sendToken, Header.body, optByte]

theorem nextGap_waiting_iff {s : Station} {cur r : Nat} :
    nextGap s cur = some (.waiting r) ↔ nextGapPoll s.p.address s.ring.ns s.p.hsa cur = .waiting ∧ r = 0 := by
  unfold nextGap; cases nextGapPoll s.p.address s.ring.ns s.p.hsa cur <;> simp [eq_comm]

theorem nextGap_poll_iff {s : Station} {cur a : Nat} :
    nextGap s cur = some (.doPoll a) ↔ nextGapPoll s.p.address s.ring.ns s.p.hsa cur = .poll a := by
  unfold nextGap; cases nextGapPoll s.p.address s.ring.ns s.p.hsa cur <;> simp [eq_comm]

theorem transmitGapPoll_poll (c : Ctx) (now : Int) (a : Nat) (hg : c.s.gap = .doPoll a)
    (hne : a ≠ c.s.p.address) (htx : c.tx = none) :
    transmitGapPoll c now =
      (.ok { c with tx := some (statusRequestBytes a c.s.p.address), s := markTx c.s now 6 }, some a) := by
  unfold transmitGapPoll
  rw [hg]
  simp only [hne, if_false, statusRequest_serialize, transmit, htx, statusRequestBytes_length]

theorem transmitGapPoll_self (c : Ctx) (now : Int) (hg : c.s.gap = .doPoll c.s.p.address) :
    transmitGapPoll c now = (.panic "debug_assert_ne!(current_address, self.p.address)", none) := by
  unfold transmitGapPoll
  rw [hg]
  simp

theorem transmitGapPoll_waiting (c : Ctx) (now : Int) (r : Nat) (hg : c.s.gap = .waiting r) :
    transmitGapPoll c now = (.ok c, none) := by
  unfold transmitGapPoll
  rw [hg]

theorem passTokenOn_eq (c : Ctx) (now : Int) (att : Attempt) (g : Bool) (a0 : Attempt)
    (hst : c.s.st = .passToken g a0) (htx : c.tx = none) :
    passTokenOn c now att =
      .ok { c with
        tx := some (tokenBytes c.s.ring.ns c.s.p.address),
        s := { (markTx c.s now 3) with
          ring := c.s.ring.witness c.s.p.address c.s.ring.ns,
          st := if (c.s.ring.witness c.s.p.address c.s.ring.ns).ns = c.s.p.address
                then FState.useToken ⟨now, none⟩ false else FState.checkTokenPass att } } := by
  unfold passTokenOn
  simp only [transmit, htx, Res.bind, upd, markTx, sendToken, List.length_cons, List.length_nil]
  split
  · rename_i h
    simp only [tr, toUseToken, hst, tokenBytes, sendToken]
    simp [h]
  · rename_i h
    simp only [tr, toCheckTokenPass, hst, tokenBytes, sendToken]
    simp [h]

theorem doClaimToken_claim (c : Ctx) (now : Int) (fuel : Nat) (step : ClaimStep)
    (hstep : step = .firstToken ∨ step = .secondToken) (hst : c.s.st = .claimToken step)
    (htx : c.tx = none) (hw : SyncOver c.s now) :
    doClaimToken c now (fuel + 1) =
      .ok { c with
        tx := some (tokenBytes c.s.p.address c.s.p.address),
        s := { (markTx (stamped c.s now) now 3) with
          ring := c.s.ring.claimToken,
          st := .claimToken (if step = .firstToken then .secondToken else .scan),
          gap := .doPoll c.s.p.address } } := by
  have hw' : (waitSyncPause c.s now).2 = false := hw
  unfold doClaimToken
  rw [hst]
  rcases hstep with rfl | rfl <;>
    simp [hw', sync_stamped, transmit, htx, Res.bind, upd, markTx, tokenBytes, sendToken]

theorem doClaimToken_claim_waits (c : Ctx) (now : Int) (fuel : Nat) (step : ClaimStep)
    (hstep : step = .firstToken ∨ step = .secondToken) (hst : c.s.st = .claimToken step)
    (hw : ¬ SyncOver c.s now) :
    doClaimToken c now (fuel + 1) = .ok { c with s := stamped c.s now } := by
  have hw' : (waitSyncPause c.s now).2 = true := by simpa [SyncOver] using hw
  unfold doClaimToken
  rw [hst]
  rcases hstep with rfl | rfl <;> simp [hw', sync_stamped]

theorem awaitGap_silent (c : Ctx) (now : Int) (addr : Nat) (rx' : Bytes) (ret : Bool)
    (hne : addr ≠ c.s.p.address) (hg : c.s.gap = .doPoll addr)
    (hrx : receiveTelegram c.rx = .done rx' [] ret) :
    awaitGapPollResponse c now addr =
      (.ok { c with rx := rx', s := stamped c.s now },
       if (checkSlotExpired c.s now).2 then .noResponse else .waitingForBus) := by
  rw [awaitGap_eq c now addr hne hg, hrx]

theorem awaitGap_unexpected (c : Ctx) (now : Int) (addr : Nat) (rx' : Bytes) (t : Telegram) (l ret : Bool)
    (rest : List (Telegram × Bool))
    (hne : addr ≠ c.s.p.address) (hg : c.s.gap = .doPoll addr)
    (hrx : receiveTelegram c.rx = .done rx' ((t, l) :: rest) ret)
    (hr : replyOf c.s.p.address addr t = none) :
    awaitGapPollResponse c now addr = (.ok { c with rx := rx', s := markRx c.s now }, .unexpected) := by
  rw [awaitGap_eq c now addr hne hg, hrx]
  simp only [hr]

theorem awaitGap_other (c : Ctx) (now : Int) (addr : Nat) (rx' : Bytes) (t : Telegram) (l ret : Bool)
    (rest : List (Telegram × Bool)) (state : ResponseState) (status : ResponseStatus)
    (hne : addr ≠ c.s.p.address) (hg : c.s.gap = .doPoll addr)
    (hrx : receiveTelegram c.rx = .done rx' ((t, l) :: rest) ret)
    (hr : replyOf c.s.p.address addr t = some (state, status)) (hna : ¬ Admits state status) :
    awaitGapPollResponse c now addr = (.ok { c with rx := rx', s := markRx c.s now }, .responded) := by
  rw [awaitGap_eq c now addr hne hg, hrx]
  simp only [hr, if_neg hna]

theorem awaitGap_admit (c : Ctx) (now : Int) (addr : Nat) (rx' : Bytes) (t : Telegram) (l ret : Bool)
    (rest : List (Telegram × Bool)) (state : ResponseState) (status : ResponseStatus)
    (hne : addr ≠ c.s.p.address) (hg : c.s.gap = .doPoll addr)
    (hrx : receiveTelegram c.rx = .done rx' ((t, l) :: rest) ret)
    (hr : replyOf c.s.p.address addr t = some (state, status)) (ha : Admits state status) :
    awaitGapPollResponse c now addr =
      match c.s.ring.setNextStation addr with
      | some r => (.ok { c with rx := rx', s := { (markRx c.s now) with ring := r } }, .responded)
      | none => (.panic "set_next_station index", .waitingForBus) := by
  rw [awaitGap_eq c now addr hne hg, hrx]
  simp only [hr, if_pos ha]
  cases c.s.ring.setNextStation addr <;> rfl

/-- The state a listening station reports to requester `src`: "ready" only when its LAS is valid
(two identical token rotations seen) AND the requester is its registered predecessor. -/
def listenReport (s : Station) (src : Nat) : ResponseState :=
  if s.ring.readyForRing = true ∧ src = s.ring.ps then .masterWithoutToken else .masterNotReady

end StationGap
end PV
