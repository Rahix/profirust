/-
Two-party handshake timing (C01): the token hand-over (the poll at which the receiver accepts, the sender
supervising for one slot time; that the receiver then rests for the synchronisation pause is `holder_schedule` of
`TimedRingApps.lean`) and the request/reply exchange, as theorems about the station model.  The single-poll results
about an idle, a listening or a supervising station are instances of three equations, `idle_poll_recv`,
`listen_poll_recv` and `check_poll_eq`: the poll as a fold of the state's callback over what `receive_all_telegrams`
returns.  They rest on the `checkBA_*` lemmas: what `check_for_bus_activity` leaves as stamp, and that neither time-out
has then run out.  Part 3 is arithmetic without a station: which poll times, given the arrival times of a telegram's
characters, keep a supervising station from seeing its slot time expire (`Dense`, `dense_of_arrivals`).  The property
theorems are in `Props/C01.lean`.
-/
import ProfiVerif.Lemmas.StationProgress

namespace PV

/-- A poll at a time not later than the stamp returns from `check_for_ongoing_transmision` and changes nothing. -/
theorem poll_ongoing (s : Station) (apps : Apps) (now : Int) (phy : Bool) (rx : Bytes) (hon : s.online = true)
    (hno : s.st ≠ .offline) (hnp : s.st ≠ .passiveIdle) (l : Int) (hl : s.lastBusActivity = some l) (hle : now ≤ l) :
    s.poll apps now phy rx = .ok { s := s, apps := apps, rx := rx } := by
  unfold Station.poll
  rw [pollInner_started now phy hon hno hnp, if_pos ((ongoing_eq_true_iff _ now phy).2 (.inr ⟨l, hl, hle⟩)),
    markBus_same _ _ _ hl hle]

/-- `hlate`: the poll is later than the stamp, and the PHY is not transmitting (`phy = false`), so
`check_for_ongoing_transmision` lets it through to `check_for_bus_activity` and the handler of the FDL state. -/
theorem poll_dispatch (s : Station) (apps : Apps) (now : Int) (rx : Bytes) (hon : s.online = true)
    (hno : s.st ≠ .offline) (hnp : s.st ≠ .passiveIdle) (hlate : ∀ l, s.lastBusActivity = some l → l < now) :
    s.poll apps now false rx =
      dispatch { s := checkBusActivity s now rx.length, apps := apps, rx := rx } now := by
  unfold Station.poll
  rw [pollInner_started now false hon hno hnp, if_neg]
  rw [Bool.not_eq_true, ongoing_eq_false_iff]
  exact ⟨rfl, hlate⟩

theorem late_of_some {s : Station} {now l : Int} (hl : s.lastBusActivity = some l) (hlt : l < now) :
    ∀ l', s.lastBusActivity = some l' → l' < now := by
  intro l' hl'; rw [hl] at hl'; cases hl'; exact hlt

theorem poll_silent (s : Station) (apps : Apps) (now l : Int) (hon : s.online = true)
    (hno : s.st ≠ .offline) (hnp : s.st ≠ .passiveIdle) (hl : s.lastBusActivity = some l) (hlt : l < now) :
    s.poll apps now false [] = dispatch { s := s, apps := apps, rx := [] } now := by
  rw [poll_dispatch s apps now [] hon hno hnp (late_of_some hl hlt)]
  simp only [List.length_nil, checkBus_nil]

theorem checkBA_last (s : Station) (now : Int) (n : Nat) (hlate : ∀ l, s.lastBusActivity = some l → l < now) :
    (checkBusActivity s now n).lastBusActivity =
      if n > s.pendingBytes then some now else s.lastBusActivity := by
  unfold checkBusActivity
  split
  · simp only [markBusActivity]
    cases hl : s.lastBusActivity with
    | none => simp
    | some l => have := hlate l hl; simp; omega
  · rfl

theorem poll_ok_inv {s : Station} {apps : Apps} {now : Int} {phy : Bool} {rx : Bytes} {c : Ctx} (hinv : Inv s apps)
    (h : s.poll apps now phy rx = .ok c) : Inv c.s c.apps ∧ c.apps.length = apps.length := by
  obtain ⟨c', hc', hinv', hlen⟩ := pollInner_good { s := s, apps := apps, rx := rx } now phy hinv rfl
  have h' : pollInner { s := s, apps := apps, rx := rx } now phy = .ok c := h
  rw [hc'] at h'
  cases h'
  exact ⟨hinv', hlen⟩

theorem receiveAll_token (da sa : UInt8) :
    receiveAll (sendToken da sa) = .done [] [(.token da sa, true)] true :=
  (receiveAll_one (.token da sa) trivial 0).2

/-! ## Part 1 — the receiver of a token -/

theorem markRx_at (s : Station) (now l : Int) (hl : s.lastBusActivity = some l) (hle : l ≤ now) :
    markRx s now = { s with pendingBytes := 0, lastBusActivity := some now } := by
  unfold markRx markBusActivity
  simp only [hl, Option.getD_some]
  rw [Int.max_eq_right hle]

theorem checkBA_fields (s : Station) (now : Int) (n : Nat) :
    (checkBusActivity s now n).st = s.st ∧ (checkBusActivity s now n).p = s.p ∧
    (checkBusActivity s now n).ring = s.ring ∧ (checkBusActivity s now n).online = s.online ∧
    (checkBusActivity s now n).gap = s.gap ∧ (checkBusActivity s now n).nextApp = s.nextApp ∧
    (checkBusActivity s now n).lastTokenTime = s.lastTokenTime ∧
    (checkBusActivity s now n).endTokenHoldTime = s.endTokenHoldTime := by
  rw [checkBusActivity_eq]
  exact ⟨rfl, rfl, rfl, rfl, rfl, rfl, rfl, rfl⟩

/-- `h` is for the station that has no stamp yet: it gets one only from new bytes. -/
theorem checkBA_stamp (s : Station) (now : Int) (n : Nat) (hlate : ∀ l, s.lastBusActivity = some l → l < now)
    (h : s.pendingBytes < n ∨ ∃ l, s.lastBusActivity = some l) :
    ∃ l1, (checkBusActivity s now n).lastBusActivity = some l1 ∧ l1 ≤ now ∧
      ((s.pendingBytes < n ∧ l1 = now) ∨ (¬ s.pendingBytes < n ∧ s.lastBusActivity = some l1)) := by
  rw [checkBA_last s now n hlate]
  by_cases hn : n > s.pendingBytes
  · rw [if_pos hn]; exact ⟨now, rfl, Int.le_refl _, .inl ⟨hn, rfl⟩⟩
  · rw [if_neg hn]
    rcases h with h | ⟨l, hl⟩
    · exact absurd h hn
    · exact ⟨l, hl, Int.le_of_lt (hlate l hl), .inr ⟨hn, hl⟩⟩

theorem markRx_checkBA (s : Station) (now : Int) (n : Nat) (hlate : ∀ l, s.lastBusActivity = some l → l < now) :
    markRx (checkBusActivity s now n) now = { s with pendingBytes := 0, lastBusActivity := some now } := by
  have hmax : max (s.lastBusActivity.getD now) now = now := by
    cases hl : s.lastBusActivity with
    | none => simp
    | some l => have := hlate l hl; simp; omega
  unfold markRx checkBusActivity markBusActivity
  split
  · simp only [Option.getD_some, hmax, Int.max_self]
  · simp only [hmax]

/-- After `check_for_bus_activity` the stamp is at most `d` old if (`hfresh`) the poll sees bytes it has not counted
yet (then the stamp is `now`) or the old stamp was.  Both time-outs of a station without the token are read off this. -/
theorem checkBA_within (s : Station) (now : Int) (n d : Nat) (hlate : ∀ l, s.lastBusActivity = some l → l < now)
    (hfresh : s.pendingBytes < n ∨ ∃ l, s.lastBusActivity = some l ∧ now ≤ l + d) :
    ∃ l1, (checkBusActivity s now n).lastBusActivity = some l1 ∧ l1 ≤ now ∧ now ≤ l1 + d := by
  obtain ⟨l1, hl1, hle1, hcase⟩ := checkBA_stamp s now n hlate (hfresh.imp id (fun ⟨l, h, _⟩ => ⟨l, h⟩))
  refine ⟨l1, hl1, hle1, ?_⟩
  rcases hcase with ⟨_, rfl⟩ | ⟨hn, hl⟩
  · omega
  · rcases hfresh with h | ⟨l, hl', hlt⟩
    · exact absurd h hn
    · rw [hl] at hl'; cases hl'; exact hlt

theorem checkBA_not_lost (s : Station) (now : Int) (n : Nat) (hlate : ∀ l, s.lastBusActivity = some l → l < now)
    (hto : 0 < s.p.tokenLostTimeout)
    (hfresh : s.pendingBytes < n ∨ ∃ l, s.lastBusActivity = some l ∧ now < l + (s.p.tokenLostTimeout : Nat)) :
    ∃ l1, (checkBusActivity s now n).lastBusActivity = some l1 ∧ l1 ≤ now ∧
      ¬ (now - l1).natAbs ≥ (checkBusActivity s now n).p.tokenLostTimeout := by
  obtain ⟨l1, hl1, hle1, h⟩ := checkBA_within s now n (s.p.tokenLostTimeout - 1) hlate
    (hfresh.imp id fun ⟨l, hl, h⟩ => ⟨l, hl, by omega⟩)
  exact ⟨l1, hl1, hle1, by rw [(checkBA_fields s now n).2.1]; omega⟩

theorem checkBA_not_expired (s : Station) (now : Int) (n : Nat) (hlate : ∀ l, s.lastBusActivity = some l → l < now)
    (hfresh : s.pendingBytes < n ∨ ∃ l, s.lastBusActivity = some l ∧ now ≤ l + (s.p.slotTime : Nat)) :
    ∃ l1, (checkBusActivity s now n).lastBusActivity = some l1 ∧ l1 ≤ now ∧
      ¬ now > l1 + ((checkBusActivity s now n).p.slotTime : Nat) := by
  obtain ⟨l1, hl1, hle1, h⟩ := checkBA_within s now n s.p.slotTime hlate hfresh
  exact ⟨l1, hl1, hle1, by rw [(checkBA_fields s now n).2.1]; omega⟩

/-- The per-telegram callback of `do_active_idle` / `do_check_token_pass`. -/
def idleF (now : Int) : Ctx → Telegram → Bool → Res :=
  fun c t isLast => handleTelegram (upd c fun s => markRx s now) now t isLast

theorem idleF_checkBA (s : Station) (apps : Apps) (now : Int) (n : Nat) (rx' : Bytes) (t : Telegram) (isLast : Bool)
    (hlate : ∀ l, s.lastBusActivity = some l → l < now) :
    idleF now { s := checkBusActivity s now n, apps := apps, rx := rx' } t isLast =
      handleTelegram { s := { s with pendingBytes := 0, lastBusActivity := some now }, apps := apps, rx := rx' } now t isLast := by
  simp only [idleF, upd]
  rw [markRx_checkBA s now n hlate]

theorem idleF_checkBA_st (s : Station) (apps : Apps) (now : Int) (n : Nat) (rx' : Bytes) (t : Telegram) (isLast : Bool)
    (st' : FState) (hlate : ∀ l, s.lastBusActivity = some l → l < now) :
    idleF now { s := { (checkBusActivity s now n) with st := st' }, apps := apps, rx := rx' } t isLast =
      handleTelegram { s := { s with st := st', pendingBytes := 0, lastBusActivity := some now }, apps := apps, rx := rx' }
        now t isLast := by
  simp only [idleF, upd]
  show handleTelegram { s := { (markRx (checkBusActivity s now n) now) with st := st' }, apps := apps, rx := rx' } now t isLast = _
  rw [markRx_checkBA s now n hlate]

theorem idle_poll_recv (s : Station) (apps : Apps) (now : Int) (rx rx' : Bytes) (calls : List (Telegram × Bool)) (ret : Bool)
    (np : Option Nat) (coll : Nat) (hon : s.online = true) (hst : s.st = .activeIdle none np coll)
    (hlate : ∀ l, s.lastBusActivity = some l → l < now) (hto : 0 < s.p.tokenLostTimeout)
    (hfresh : s.pendingBytes < rx.length ∨ ∃ l, s.lastBusActivity = some l ∧ now < l + (s.p.tokenLostTimeout : Nat))
    (hrx : receiveAll rx = .done rx' calls ret) :
    s.poll apps now false rx =
      foldTelegrams (idleF now) { s := checkBusActivity s now rx.length, apps := apps, rx := rx' } calls := by
  have hst1 := (checkBA_fields s now rx.length).1.trans hst
  obtain ⟨l1, hl1, -, hq⟩ := checkBA_not_lost s now rx.length hlate hto hfresh
  rw [poll_dispatch s apps now rx hon (by rw [hst]; simp) (by rw [hst]; simp) hlate]
  unfold dispatch
  simp only [hst1]
  rw [doActiveIdle_recv hst1 (handleLost_quiet { s := checkBusActivity s now rx.length, apps := apps, rx := rx } now l1 hl1 hq) hst1]
  simp only [hrx]
  rfl

theorem doCheckTokenPass_recv (c : Ctx) (now l1 : Int) (att : Attempt) (hst : c.s.st = .checkTokenPass att)
    (hl : c.s.lastBusActivity = some l1) (hq : ¬ now > l1 + (c.s.p.slotTime : Nat)) :
    doCheckTokenPass c now = match receiveAll c.rx with
      | .panic => .panic "receive_all_telegrams"
      | .hang => .panic "receive_all_telegrams hang"
      | .done rx' calls _ =>
        match calls with
        | [] => .ok { c with rx := rx' }
        | x :: rest =>
          foldTelegrams (idleF now) { c with rx := rx', s := { c.s with st := .activeIdle none none 0 } } (x :: rest) := by
  have hne : ¬ StationGap.SlotExpired c.s now := fun h => hq ((slotExpired_some hl).1 h)
  have hs := doCheckTokenPass_step now hst
  generalize doCheckTokenPass c now = r at hs
  cases hs with
  | retry h _ _ => exact absurd h hne
  | noRetry h _ => exact absurd h hne
  | rxPanic _ hrx => rw [hrx]
  | rxHang _ hrx => rw [hrx]
  | quiet _ hrx => rw [hrx, StationGap.stamped_of_last hl]
  | heard _ hrx hr => rw [hrx, ← hr, StationGap.stamped_of_last hl]; rfl

theorem check_poll_eq (s : Station) (apps : Apps) (now : Int) (rx : Bytes)
    (att : Attempt) (hon : s.online = true) (hst : s.st = .checkTokenPass att)
    (hlate : ∀ l, s.lastBusActivity = some l → l < now)
    (hfresh : s.pendingBytes < rx.length ∨ ∃ l, s.lastBusActivity = some l ∧ now ≤ l + (s.p.slotTime : Nat)) :
    s.poll apps now false rx = match receiveAll rx with
      | .panic => .panic "receive_all_telegrams"
      | .hang => .panic "receive_all_telegrams hang"
      | .done rx' calls _ =>
        match calls with
        | [] => .ok { s := checkBusActivity s now rx.length, apps := apps, rx := rx' }
        | x :: rest => foldTelegrams (idleF now)
            { s := { (checkBusActivity s now rx.length) with st := .activeIdle none none 0 }, apps := apps, rx := rx' }
            (x :: rest) := by
  have hst1 := (checkBA_fields s now rx.length).1.trans hst
  obtain ⟨l1, hl1, -, hq⟩ := checkBA_not_expired s now rx.length hlate hfresh
  rw [poll_dispatch s apps now rx hon (by rw [hst]; simp) (by rw [hst]; simp) hlate]
  unfold dispatch
  simp only [hst1]
  exact doCheckTokenPass_recv { s := checkBusActivity s now rx.length, apps := apps, rx := rx } now l1 att hst1 hl1 hq

theorem check_poll_recv (s : Station) (apps : Apps) (now : Int) (rx rx' : Bytes) (calls : List (Telegram × Bool)) (ret : Bool)
    (att : Attempt) (hon : s.online = true) (hst : s.st = .checkTokenPass att)
    (hlate : ∀ l, s.lastBusActivity = some l → l < now)
    (hfresh : s.pendingBytes < rx.length ∨ ∃ l, s.lastBusActivity = some l ∧ now ≤ l + (s.p.slotTime : Nat))
    (hrx : receiveAll rx = .done rx' calls ret) :
    s.poll apps now false rx = match calls with
      | [] => .ok { s := checkBusActivity s now rx.length, apps := apps, rx := rx' }
      | x :: rest => foldTelegrams (idleF now)
          { s := { (checkBusActivity s now rx.length) with st := .activeIdle none none 0 }, apps := apps, rx := rx' }
          (x :: rest) := by
  rw [check_poll_eq s apps now rx att hon hst hlate hfresh]
  simp only [hrx]
  cases calls <;> rfl

theorem listen_poll_recv (s : Station) (apps : Apps) (now : Int) (rx rx' : Bytes) (calls : List (Telegram × Bool)) (ret : Bool)
    (coll : Nat) (hon : s.online = true) (hst : s.st = .listenToken none coll)
    (hlate : ∀ l, s.lastBusActivity = some l → l < now) (hto : 0 < s.p.tokenLostTimeout)
    (hfresh : s.pendingBytes < rx.length ∨ ∃ l, s.lastBusActivity = some l ∧ now < l + (s.p.tokenLostTimeout : Nat))
    (hrx : receiveAll rx = .done rx' calls ret) :
    s.poll apps now false rx =
      foldTelegrams (listenTelegram now) { s := checkBusActivity s now rx.length, apps := apps, rx := rx' } calls := by
  have hst1 := (checkBA_fields s now rx.length).1.trans hst
  obtain ⟨l1, hl1, -, hq⟩ := checkBA_not_lost s now rx.length hlate hto hfresh
  rw [poll_dispatch s apps now rx hon (by rw [hst]; simp) (by rw [hst]; simp) hlate]
  unfold dispatch
  simp only [hst1]
  rw [doListenToken_recv hst1 (handleLost_quiet { s := checkBusActivity s now rx.length, apps := apps, rx := rx } now l1 hl1 hq) hst1]
  simp only [hrx]

/-- The ring view after accepting a token: untouched when it comes from the registered predecessor,
otherwise (pending stranger) the stranger's pass is witnessed. -/
def acceptRing (r : TokenRing) (sa da : Nat) : TokenRing := if sa = r.ps then r else r.witness sa da

theorem handleTelegram_accepts (c : Ctx) (now : Int) (np : Option Nat) (coll : Nat) (da sa : UInt8)
    (hst : c.s.st = .activeIdle none np coll) (hda : da.toNat = c.s.p.address) (hsa : sa.toNat ≠ c.s.p.address)
    (hsrc : sa.toNat = c.s.ring.ps ∨ np = some sa.toNat) :
    handleTelegram c now (.token da sa) true =
      .ok { c with s := { c.s with st := .useToken ⟨now, none⟩ false, ring := acceptRing c.s.ring sa.toNat da.toNat } } := by
  unfold acceptRing
  by_cases hps : sa.toNat = c.s.ring.ps
  · rw [if_pos hps]
    exact (handleTelegram_step now (.token da sa) true hst).unique (.accept hsa hda rfl hps)
  · rw [if_neg hps]
    exact (handleTelegram_step now (.token da sa) true hst).unique (.acceptNew hsa hda rfl hps (hsrc.resolve_left hps))

/-- The poll at which an idle station finds the token addressed to it complete: it accepts (the last byte of the
token is new at this poll: first case of `hfresh`). -/
theorem idle_poll_accepts (s : Station) (apps : Apps) (p1 : Int) (rx rx' : Bytes) (np : Option Nat) (coll : Nat)
    (da sa : UInt8) (ret : Bool) (hon : s.online = true) (hst : s.st = .activeIdle none np coll)
    (hlate : ∀ l, s.lastBusActivity = some l → l < p1) (hto : 0 < s.p.tokenLostTimeout)
    (hfresh : s.pendingBytes < rx.length ∨ ∃ l, s.lastBusActivity = some l ∧ p1 < l + (s.p.tokenLostTimeout : Nat))
    (hrx : receiveAll rx = .done rx' [(.token da sa, true)] ret)
    (hda : da.toNat = s.p.address) (hsa : sa.toNat ≠ s.p.address) (hsrc : sa.toNat = s.ring.ps ∨ np = some sa.toNat) :
    s.poll apps p1 false rx = .ok {
      s := { s with
        st := .useToken ⟨p1, none⟩ false, ring := acceptRing s.ring sa.toNat da.toNat,
        pendingBytes := 0, lastBusActivity := some p1 },
      apps := apps, rx := rx' } := by
  rw [idle_poll_recv s apps p1 rx rx' _ ret np coll hon hst hlate hto hfresh hrx]
  simp only [foldTelegrams]
  rw [idleF_checkBA _ _ _ _ _ _ _ hlate, handleTelegram_accepts _ p1 np coll da sa hst hda hsa hsrc]
  rfl

/-- From `CheckTokenPass` (the slot time of the own pass not yet expired — e.g. in a two-station ring the
token comes straight back) only a token from the registered predecessor is accepted: `toActiveIdle` clears
the pending stranger. -/
theorem check_poll_accepts (s : Station) (apps : Apps) (p1 : Int) (rx rx' : Bytes) (att : Attempt)
    (da sa : UInt8) (ret : Bool) (hon : s.online = true) (hst : s.st = .checkTokenPass att)
    (hlate : ∀ l, s.lastBusActivity = some l → l < p1)
    (hfresh : s.pendingBytes < rx.length ∨ ∃ l, s.lastBusActivity = some l ∧ p1 ≤ l + (s.p.slotTime : Nat))
    (hrx : receiveAll rx = .done rx' [(.token da sa, true)] ret)
    (hda : da.toNat = s.p.address) (hsa : sa.toNat ≠ s.p.address) (hsrc : sa.toNat = s.ring.ps) :
    s.poll apps p1 false rx = .ok {
      s := { s with st := .useToken ⟨p1, none⟩ false, ring := s.ring, pendingBytes := 0, lastBusActivity := some p1 },
      apps := apps, rx := rx' } := by
  rw [check_poll_recv s apps p1 rx rx' _ ret att hon hst hlate hfresh hrx]
  simp only [foldTelegrams]
  rw [idleF_checkBA_st _ _ _ _ _ _ _ _ hlate, handleTelegram_accepts _ p1 none 0 da sa rfl hda hsa (.inl hsrc)]
  simp only [acceptRing, hsrc, if_true]
  rfl

/-! ## Part 2 — the sender of a token supervises its pass -/

theorem handleTelegram_stamp (c : Ctx) (now : Int) (t : Telegram) (isLast : Bool) (c' : Ctx)
    (h : handleTelegram c now t isLast = .ok c') : c'.s.lastBusActivity = c.s.lastBusActivity := by
  obtain ⟨st', r, rfl⟩ := handleTelegram_frame h
  rfl

/-- A batch handled in `ActiveIdle` ends with the poll time as stamp: every callback starts with `mark_rx`, and
`handle_telegram` leaves the stamp alone. -/
theorem foldIdle_stamp (now : Int) : ∀ (calls : List (Telegram × Bool)) (c c' : Ctx),
    foldTelegrams (idleF now) c calls = .ok c' → calls ≠ [] →
    (∀ l, c.s.lastBusActivity = some l → l ≤ now) → c'.s.lastBusActivity = some now := by
  intro calls
  induction calls with
  | nil => intro c c' _ hne; exact absurd rfl hne
  | cons x rest ih =>
    intro c c' h _ hl
    obtain ⟨t, l⟩ := x
    simp only [foldTelegrams] at h
    obtain ⟨c1, h1, h2⟩ := bind_ok_inv h
    have hl1 : c1.s.lastBusActivity = some now := by
      rw [handleTelegram_stamp _ now t l c1 h1]
      simp only [upd, markRx, markBusActivity]
      cases hc : c.s.lastBusActivity with
      | none => simp
      | some l0 => have := hl l0 hc; simp; omega
    cases rest with
    | nil => simp only [foldTelegrams] at h2; cases h2; exact hl1
    | cons y ys => exact ih c1 c' h2 (by simp) (fun l hl' => by rw [hl1] at hl'; cases hl'; exact Int.le_refl _)

theorem check_poll_waits (s : Station) (apps : Apps) (now : Int) (rx : Bytes) (c' : Ctx) (att : Attempt) (l : Int)
    (hon : s.online = true) (hst : s.st = .checkTokenPass att) (hl : s.lastBusActivity = some l) (hlt : l < now)
    (hne : s.pendingBytes < rx.length ∨ now ≤ l + (s.p.slotTime : Nat))
    (h : s.poll apps now false rx = .ok c') :
    c'.tx = none ∧ c'.calls = [] ∧ c'.apps = apps ∧ c'.s.p = s.p ∧ c'.s.online = true ∧
    ((c'.s = checkBusActivity s now rx.length ∧ ∃ rx' ret, receiveAll rx = .done rx' [] ret ∧ c'.rx = rx') ∨
     (c'.s.lastBusActivity = some now ∧ (∀ a, c'.s.st ≠ .checkTokenPass a) ∧
        ∃ rx' x rest ret, receiveAll rx = .done rx' (x :: rest) ret)) := by
  have hlate := late_of_some hl hlt
  obtain ⟨-, hf2, -, hf4, -⟩ := checkBA_fields s now rx.length
  rw [check_poll_eq s apps now rx att hon hst hlate (hne.imp id fun h => ⟨l, hl, h⟩)] at h
  rcases hrx : receiveAll rx with ⟨rx', calls, ret⟩ | _ | _ <;> rw [hrx] at h
  · cases calls with
    | nil =>
      cases h
      exact ⟨rfl, rfl, rfl, hf2, hf4.trans hon, .inl ⟨rfl, rx', ret, rfl, rfl⟩⟩
    | cons x rest =>
      simp only at h
      obtain ⟨hqu, hon', -, hfin⟩ := foldIdle_eff now none (x :: rest) _ c' (.inl ⟨none, 0, rfl⟩)
        (receiveAll_flags _ _ _ _ hrx) h
      refine ⟨fold_noTx _ (idleTelegram_noTx now) _ _ c' h, hqu.calls, hqu.apps, hqu.p.trans hf2, hon'.trans (hf4.trans hon), .inr ⟨?_, ?_, rx', x, rest, ret, rfl⟩⟩
      · refine foldIdle_stamp now _ _ c' h (by simp) (fun l1 hl1 => ?_)
        obtain ⟨l2, hl2, hle2, -⟩ := checkBA_stamp s now rx.length hlate (.inr ⟨l, hl⟩)
        have hl1' : (checkBusActivity s now rx.length).lastBusActivity = some l1 := hl1
        rw [hl2] at hl1'; cases hl1'; exact hle2
      · intro a ha
        rcases hfin with ⟨_, _, _, h'⟩ | ⟨_, _, h'⟩ | ⟨_, _, _, _, _, _, _, h'⟩ <;> rw [h'] at ha <;> cases ha
  · cases h
  · cases h

/-- What the polls of a supervising station must look like for the slot time never to be found
expired: starting from stamp `l` and pending count `n`, every poll `(a, rx)` is either not later than
the stamp (no-op), or sees more bytes than accounted for (then stamp := `a`, count := `|rx|`), or is
not later than stamp + slot time. -/
def Dense (slot : Nat) : Int → Nat → List (Int × Bytes) → Prop
  | _, _, [] => True
  | l, n, (a, rx) :: rest =>
    if a ≤ l then Dense slot l n rest
    else if n < rx.length then Dense slot a rx.length rest
    else a ≤ l + slot ∧ Dense slot l n rest

theorem Dense.step {slot : Nat} {s : Station} {l a : Int} {rx : Bytes} {rest : List (Int × Bytes)}
    (hl : s.lastBusActivity = some l) (hla : ¬ a ≤ l) (hd : Dense slot l s.pendingBytes ((a, rx) :: rest)) :
    (s.pendingBytes < rx.length ∨ a ≤ l + slot) ∧
    ∃ l', (checkBusActivity s a rx.length).lastBusActivity = some l' ∧
      Dense slot l' (checkBusActivity s a rx.length).pendingBytes rest := by
  simp only [Dense] at hd
  rw [if_neg hla, checkBusActivity_eq] at *
  by_cases hn : s.pendingBytes < rx.length
  · rw [if_pos hn] at hd ⊢
    refine ⟨.inl hn, a, ?_, ?_⟩
    · show some (max (s.lastBusActivity.getD a) a) = some a
      rw [hl, Option.getD_some, Int.max_eq_right (by omega)]
    · show Dense slot a (max s.pendingBytes rx.length) rest
      rw [Nat.max_eq_right (Nat.le_of_lt hn)]; exact hd
  · rw [if_neg hn] at hd ⊢
    refine ⟨.inr hd.1, l, hl, ?_⟩
    show Dense slot l (max s.pendingBytes rx.length) rest
    rw [Nat.max_eq_left (Nat.le_of_not_lt hn)]; exact hd.2

/-- All polls of the list return regularly, transmit nothing and call no application, for as long as
the station stays in `CheckTokenPass att` (it leaves that state only by hearing a complete telegram). -/
def SupervisesQuietly (att : Attempt) : Station → Apps → List (Int × Bytes) → Prop
  | _, _, [] => True
  | s, apps, (a, rx) :: rest => ∃ c, s.poll apps a false rx = .ok c ∧ c.tx = none ∧ c.calls = [] ∧
      (c.s.st = .checkTokenPass att → SupervisesQuietly att c.s c.apps rest)

theorem sender_run (att : Attempt) (p : Params) : ∀ (polls : List (Int × Bytes)) (s : Station) (apps : Apps) (l : Int),
    Inv s apps → s.online = true → s.st = .checkTokenPass att → s.lastBusActivity = some l → s.p = p →
    Dense p.slotTime l s.pendingBytes polls → SupervisesQuietly att s apps polls := by
  intro polls
  induction polls with
  | nil => intro s apps l _ _ _ _ _ _; trivial
  | cons x rest ih =>
    intro s apps l hinv hon hst hl hp hd
    obtain ⟨a, rx⟩ := x
    by_cases hle : a ≤ l
    · refine ⟨_, poll_ongoing s apps a false rx hon (by rw [hst]; simp) (by rw [hst]; simp) l hl hle, rfl, rfl, fun _ => ?_⟩
      exact ih s apps l hinv hon hst hl hp (by simpa only [Dense, if_pos hle] using hd)
    · obtain ⟨c', hc', hinv', -⟩ := pollInner_good { s := s, apps := apps, rx := rx } a false hinv rfl
      obtain ⟨hne, l', hl', hd'⟩ := Dense.step hl hle hd
      obtain ⟨h1, h2, h3, h4, h5, h6⟩ := check_poll_waits s apps a rx c' att l hon hst hl (by omega) (by rw [hp]; exact hne) hc'
      refine ⟨c', hc', h1, h2, fun hst' => ?_⟩
      rcases h6 with ⟨hs, -⟩ | ⟨-, hno, -⟩
      · exact ih c'.s c'.apps l' hinv' h5 hst' (by rw [hs]; exact hl') (h4.trans hp) (by rw [hs]; exact hd')
      · exact absurd hst' (hno att)

/-! ## Part 3 — arithmetic about poll times and character arrival times (no station model) -/

theorem first_exceed (t : Nat → Int) (B : Int) : ∀ k, B < t k → ∃ n, n ≤ k ∧ B < t n ∧ ∀ i, i < n → t i ≤ B := by
  intro k
  induction k using Nat.strongRecOn with
  | _ k ih =>
    intro h
    by_cases hall : ∀ i, i < k → t i ≤ B
    · exact ⟨k, Nat.le_refl _, h, hall⟩
    · have : ∃ i, i < k ∧ B < t i := by
        apply Classical.byContradiction
        intro hne
        apply hall
        intro i hi
        apply Classical.byContradiction
        intro hc
        exact hne ⟨i, hi, by omega⟩
      obtain ⟨i, hi, hit⟩ := this
      obtain ⟨n, hn, h1, h2⟩ := ih i hi hit
      exact ⟨n, by omega, h1, h2⟩

theorem first_exceed_timed (t : Nat → Int) (l : Int) (b P : Nat) (h0 : t 0 ≤ l + P) (hgap : ∀ i, t (i + 1) ≤ t i + P)
    (k : Nat) (hk : l + b < t k) :
    ∃ n, l + b < t n ∧ t n ≤ l + b + P ∧ ∀ i, i < n → t i ≤ l + b := by
  obtain ⟨n, -, h1, h2⟩ := first_exceed t (l + b) k hk
  refine ⟨n, h1, ?_, h2⟩
  cases n with
  | zero => omega
  | succ m => have := hgap m; have := h2 m (Nat.lt_succ_self _); omega

/-- Arrival model of ONE telegram of `n` characters at an observing station: `arr k` is the time from
which character `k` is in the observer's receive buffer, `vis a` the number of characters in the buffer
at time `a`. -/
structure Arrivals (n : Nat) (arr : Nat → Int) (vis : Int → Nat) : Prop where
  spec : ∀ a k, k < n → (k < vis a ↔ arr k ≤ a)
  le : ∀ a, vis a ≤ n

theorem Arrivals.mono {n : Nat} {arr : Nat → Int} {vis : Int → Nat} (h : Arrivals n arr vis) {a a' : Int}
    (haa : a ≤ a') : vis a ≤ vis a' := by
  apply Classical.byContradiction
  intro hc
  have hlt : vis a' < vis a := by omega
  have hn : vis a' < n := Nat.lt_of_lt_of_le hlt (h.le a)
  have h1 := (h.spec a (vis a') hn).1 hlt
  have h2 := (h.spec a' (vis a') hn).2 (by omega)
  omega

/-- Polls in time order, each seeing what has arrived of ONE telegram whose characters follow one another within the
slot time, are `Dense`: `m` characters are counted at stamp `l`, character `m` is due within the slot time of `l`, and
no poll but the last sees the telegram complete (the poll that does ends the supervision). -/
theorem dense_of_arrivals (slot n : Nat) (arr : Nat → Int) (vis : Int → Nat) (hA : Arrivals n arr vis)
    (hgap : ∀ k, k + 1 < n → arr (k + 1) ≤ arr k + slot) :
    ∀ (polls : List (Int × Bytes)) (l : Int) (m : Nat),
      polls.Pairwise (fun x y => x.1 ≤ y.1) →
      (∀ x ∈ polls, x.2.length = vis x.1) →
      (∀ x ∈ polls, ∀ y ∈ polls, x.1 < y.1 → vis x.1 < n) →
      (∀ x ∈ polls, l < x.1 → m ≤ vis x.1) →
      (m < n → arr m ≤ l + slot) →
      (m = n → ∀ x ∈ polls, x.1 ≤ l) →
      Dense slot l m polls := by
  intro polls
  induction polls with
  | nil => intro l m _ _ _ _ _ _; trivial
  | cons x rest ih =>
    intro l m hpw hlen hinc hseen hnext hdone
    obtain ⟨a, rx⟩ := x
    have hpw' := (List.pairwise_cons.1 hpw)
    have hlen' : ∀ x ∈ rest, x.2.length = vis x.1 := fun x hx => hlen x (List.mem_cons_of_mem _ hx)
    have hinc' : ∀ x ∈ rest, ∀ y ∈ rest, x.1 < y.1 → vis x.1 < n :=
      fun x hx y hy => hinc x (List.mem_cons_of_mem _ hx) y (List.mem_cons_of_mem _ hy)
    simp only [Dense]
    by_cases hle : a ≤ l
    · rw [if_pos hle]
      exact ih l m hpw'.2 hlen' hinc' (fun x hx => hseen x (List.mem_cons_of_mem _ hx)) hnext
        (fun hm x hx => hdone hm x (List.mem_cons_of_mem _ hx))
    · rw [if_neg hle]
      have hla : l < a := by omega
      have hrl : rx.length = vis a := hlen (a, rx) (List.mem_cons_self ..)
      have hmv : m ≤ vis a := hseen (a, rx) (List.mem_cons_self ..) hla
      have hmn : m < n := by
        have hle' := Nat.le_trans hmv (hA.le a)
        rcases Nat.lt_or_ge m n with h | h
        · exact h
        · have := hdone (by omega) (a, rx) (List.mem_cons_self ..)
          simp only at this
          omega
      rw [hrl]
      by_cases hnew : m < vis a
      · rw [if_pos hnew]
        refine ih a (vis a) hpw'.2 hlen' hinc' ?_ ?_ ?_
        · intro x hx hax
          exact hA.mono (Int.le_of_lt hax)
        · intro hvn
          have hk : vis a - 1 < n := by omega
          have h1 := (hA.spec a (vis a - 1) hk).1 (by omega)
          have h2 := hgap (vis a - 1) (by omega)
          have e : vis a - 1 + 1 = vis a := by omega
          rw [e] at h2
          omega
        · intro hvn x hx
          apply Classical.byContradiction
          intro hc
          have := hinc (a, rx) (List.mem_cons_self ..) x (List.mem_cons_of_mem _ hx) (by simp only; omega)
          simp only at this
          omega
      · rw [if_neg hnew]
        have hna : ¬ arr m ≤ a := fun h => hnew ((hA.spec a m hmn).2 h)
        have := hnext hmn
        refine ⟨by omega, ?_⟩
        exact ih l m hpw'.2 hlen' hinc' (fun x hx => hseen x (List.mem_cons_of_mem _ hx)) hnext
          (fun hm x hx => hdone hm x (List.mem_cons_of_mem _ hx))

/-! ## Part 4 — request / reply (FDL status) -/

/-- The station (listening or in the ring) remembers a status request of `src` that it has not answered yet. -/
def Registered (s : Station) (src : Nat) : Prop :=
  (∃ coll, s.st = .listenToken (some src) coll) ∨ (∃ np coll, s.st = .activeIdle (some src) np coll)

theorem Registered.awake {s : Station} {src : Nat} (h : Registered s src) : s.st ≠ .offline ∧ s.st ≠ .passiveIdle := by
  rcases h with ⟨a, h⟩ | ⟨a, b, h⟩ <;> rw [h] <;> simp

theorem responder_handler_waits (c : Ctx) (now l : Int) (src : Nat) (hreg : Registered c.s src)
    (hl : c.s.lastBusActivity = some l) (hq : ¬ (now - l).natAbs ≥ c.s.p.tokenLostTimeout)
    (hw : now ≤ l + (c.s.p.bits 33 : Nat)) : dispatch c now = .ok c := by
  have hnl : ¬ StationGap.TokenLost c.s now := fun h => hq ((tokenLost_some hl).1 h)
  have hns : ¬ StationGap.SyncOver c.s now := fun h => by have := (syncOver_some hl).1 h; omega
  rcases hreg with ⟨coll, hst⟩ | ⟨np, coll, hst⟩
  · rw [dispatch_listenToken now hst, (doListenToken_step now hst).unique (.wait hnl hns), StationGap.stamped_of_last hl]
  · rw [dispatch_activeIdle now hst, (doActiveIdle_step now hst).unique (.wait hnl hns), StationGap.stamped_of_last hl]

/-- State after the reply: an idle station stays idle; a listener joins (`ActiveIdle`) if its LAS is
valid, otherwise keeps listening. -/
def afterReply (s : Station) : FState :=
  match s.st with
  | .listenToken _ coll => if s.ring.readyForRing then .activeIdle none none 0 else .listenToken none coll
  | .activeIdle _ np coll => .activeIdle none np coll
  | st => st

theorem responder_handler_goes (c : Ctx) (now l : Int) (src : Nat) (hreg : Registered c.s src)
    (hl : c.s.lastBusActivity = some l) (hq : ¬ (now - l).natAbs ≥ c.s.p.tokenLostTimeout)
    (hsy : l + (c.s.p.bits 33 : Nat) < now) (c' : Ctx) (h : dispatch c now = .ok c') :
    ∃ b, c'.tx = some b ∧ IsStatusReply c.s.p.address src b ∧ c'.s.st = afterReply c.s ∧ c'.calls = c.calls ∧
      c'.rx = c.rx ∧ c'.s.p = c.s.p := by
  have hnl : ¬ StationGap.TokenLost c.s now := fun h => hq ((tokenLost_some hl).1 h)
  have hso : StationGap.SyncOver c.s now := (syncOver_some hl).2 hsy
  -- with a requester remembered, the time-out not run out and the pause over, only `reply` is left; its result shows the rest
  have goes : ∀ {report st tel}, IdlingStep c now report st tel (some src) (.ok c') → afterReply c.s = st →
      ∃ b, c'.tx = some b ∧ IsStatusReply c.s.p.address src b ∧ c'.s.st = afterReply c.s ∧ c'.calls = c.calls ∧
        c'.rx = c.rx ∧ c'.s.p = c.s.p := by
    intro report st tel hs hst
    cases hs with
    | lost hlost _ => exact absurd hlost hnl
    | wait _ hn => exact absurd hso hn
    | reply _ _ _ => exact ⟨_, rfl, ⟨_, StationGap.statusResponse_serialize _ _ _⟩, hst.symm, rfl, rfl, rfl⟩
  rcases hreg with ⟨coll, hst⟩ | ⟨np, coll, hst⟩
  · rw [dispatch_listenToken now hst] at h
    exact goes (h ▸ doListenToken_step now hst) (by simp [afterReply, hst])
  · rw [dispatch_activeIdle now hst] at h
    exact goes (h ▸ doActiveIdle_step now hst) (by simp [afterReply, hst])

theorem idle_poll_registers (s : Station) (apps : Apps) (r1 : Int) (rx rx' : Bytes) (np : Option Nat) (coll : Nat)
    (h : Header) (pdu : Bytes) (fcb : FrameCountBit) (ret : Bool) (hon : s.online = true)
    (hst : s.st = .activeIdle none np coll)
    (hlate : ∀ l, s.lastBusActivity = some l → l < r1) (hto : 0 < s.p.tokenLostTimeout)
    (hfresh : s.pendingBytes < rx.length ∨ ∃ l, s.lastBusActivity = some l ∧ r1 < l + (s.p.tokenLostTimeout : Nat))
    (hrx : receiveAll rx = .done rx' [(.data h pdu, true)] ret)
    (hfc : h.fc = .request fcb .fdlStatus) (hda : h.da.toNat = s.p.address) :
    s.poll apps r1 false rx = .ok {
      s := { s with st := .activeIdle (some h.sa.toNat) np coll, pendingBytes := 0, lastBusActivity := some r1 },
      apps := apps, rx := rx' } := by
  rw [idle_poll_recv s apps r1 rx rx' _ ret np coll hon hst hlate hto hfresh hrx]
  simp only [foldTelegrams]
  rw [idleF_checkBA _ _ _ _ _ _ _ hlate, (handleTelegram_step r1 (.data h pdu) true hst).unique (.request ⟨⟨fcb, hfc⟩, hda, rfl⟩)]
  rfl

/-- In `ListenToken` the request must not carry the station's own address as source (`hsa`): that would
count as an address collision. -/
theorem listen_poll_registers (s : Station) (apps : Apps) (r1 : Int) (rx rx' : Bytes) (coll : Nat)
    (h : Header) (pdu : Bytes) (fcb : FrameCountBit) (ret : Bool) (hon : s.online = true)
    (hst : s.st = .listenToken none coll)
    (hlate : ∀ l, s.lastBusActivity = some l → l < r1) (hto : 0 < s.p.tokenLostTimeout)
    (hfresh : s.pendingBytes < rx.length ∨ ∃ l, s.lastBusActivity = some l ∧ r1 < l + (s.p.tokenLostTimeout : Nat))
    (hrx : receiveAll rx = .done rx' [(.data h pdu, true)] ret)
    (hfc : h.fc = .request fcb .fdlStatus) (hda : h.da.toNat = s.p.address) (hsa : h.sa.toNat ≠ s.p.address) :
    s.poll apps r1 false rx = .ok {
      s := { s with st := .listenToken (some h.sa.toNat) coll, pendingBytes := 0, lastBusActivity := some r1 },
      apps := apps, rx := rx' } := by
  rw [listen_poll_recv s apps r1 rx rx' _ ret coll hon hst hlate hto hfresh hrx]
  simp only [foldTelegrams, listenTelegram, upd]
  rw [markRx_checkBA s r1 rx.length hlate,
    (listenTelegramCore_step (.data h pdu) true hon hst).unique (.request hsa ⟨⟨fcb, hfc⟩, hda, rfl⟩)]
  rfl

theorem responder_poll_waits (s : Station) (apps : Apps) (now l : Int) (src : Nat) (hon : s.online = true)
    (hreg : Registered s src) (hl : s.lastBusActivity = some l)
    (hto : s.p.bits 33 < s.p.tokenLostTimeout) (hw : now ≤ l + (s.p.bits 33 : Nat)) :
    s.poll apps now false [] = .ok { s := s, apps := apps, rx := [] } := by
  by_cases hle : now ≤ l
  · exact poll_ongoing s apps now false [] hon hreg.awake.1 hreg.awake.2 l hl hle
  · rw [poll_silent s apps now l hon hreg.awake.1 hreg.awake.2 hl (by omega)]
    exact responder_handler_waits { s := s, apps := apps, rx := [] } now l src hreg hl (by simp only; omega) hw

theorem responder_poll_goes (s : Station) (apps : Apps) (now l : Int) (src : Nat) (hinv : Inv s apps)
    (hon : s.online = true) (hreg : Registered s src) (hl : s.lastBusActivity = some l)
    (hsy : l + (s.p.bits 33 : Nat) < now) (hq : now < l + (s.p.tokenLostTimeout : Nat)) :
    ∃ c' b, s.poll apps now false [] = .ok c' ∧ c'.tx = some b ∧ IsStatusReply s.p.address src b ∧
      c'.s.st = afterReply s ∧ c'.calls = [] ∧ c'.rx = [] ∧
      c'.s.lastBusActivity = some (now + (s.p.bits (11 * b.length) : Nat)) ∧ Inv c'.s c'.apps := by
  obtain ⟨c', hc', hinv', -⟩ := pollInner_good { s := s, apps := apps, rx := [] } now false hinv rfl
  have hd : s.poll apps now false [] = dispatch { s := s, apps := apps, rx := [] } now := by
    rw [poll_silent s apps now l hon hreg.awake.1 hreg.awake.2 hl (by omega)]
  have hc'' : s.poll apps now false [] = .ok c' := hc'
  rw [hd] at hc''
  obtain ⟨b, h1, h2, h3, h4, h5, h6⟩ := responder_handler_goes { s := s, apps := apps, rx := [] } now l src hreg hl
    (by simp only; omega) hsy c' hc''
  have hmark := pollInner_marks { s := s, apps := apps, rx := [] } now false c' b hc' rfl h1
  exact ⟨c', b, hc', h1, h2, h3, h4, h5, by rw [hmark, h6], hinv'⟩

/-- Silent-bus schedule of a responder: the polls at the times `early` are complete no-ops, the poll at
`t` hands the FDL status reply to `src` to the PHY. -/
def QuietThenReply (ts src : Nat) : Station → Apps → List Int → Int → Prop
  | s, apps, [], t => ∃ c b, s.poll apps t false [] = .ok c ∧ c.tx = some b ∧ IsStatusReply ts src b ∧
      c.s.st = afterReply s ∧ c.calls = [] ∧ c.s.lastBusActivity = some (t + (s.p.bits (11 * b.length) : Nat))
  | s, apps, e :: es, t => s.poll apps e false [] = .ok { s := s, apps := apps, rx := [] } ∧
      QuietThenReply ts src s apps es t

theorem responder_schedule (s : Station) (apps : Apps) (l t : Int) (src : Nat) (hinv : Inv s apps)
    (hon : s.online = true) (hreg : Registered s src) (hl : s.lastBusActivity = some l)
    (hto : s.p.bits 33 < s.p.tokenLostTimeout)
    (hsy : l + (s.p.bits 33 : Nat) < t) (hq : t < l + (s.p.tokenLostTimeout : Nat)) :
    ∀ early : List Int, (∀ e ∈ early, e ≤ l + (s.p.bits 33 : Nat)) → QuietThenReply s.p.address src s apps early t := by
  intro early
  induction early with
  | nil =>
    intro _
    obtain ⟨c', b, h1, h2, h3, h4, h5, -, h7, -⟩ := responder_poll_goes s apps t l src hinv hon hreg hl hsy hq
    exact ⟨c', b, h1, h2, h3, h4, h5, h7⟩
  | cons e es ih =>
    intro he
    exact ⟨responder_poll_waits s apps e l src hon hreg hl hto (he e (by simp)), ih (fun x hx => he x (by simp [hx]))⟩

theorem awaitGap_not_expired {c c1 : Ctx} {now l1 : Int} {addr : Nat} {g : GapPollResponse}
    (hl : c.s.lastBusActivity = some l1) (hq : ¬ now > l1 + (c.s.p.slotTime : Nat))
    (h : AwaitGapStep c now addr (.ok c1, g)) :
    g ≠ .noResponse ∧ c1.tx = c.tx ∧ c1.calls = c.calls ∧
    (∀ rx' ret, receiveTelegram c.rx = .done rx' [] ret → c1 = { c with rx := rx' } ∧ g = .waitingForBus) := by
  have hne : ¬ StationGap.SlotExpired c.s now := fun h => hq ((slotExpired_some hl).1 h)
  cases h with
  | waits _ hrx _ =>
    refine ⟨by simp, rfl, rfl, fun rx' ret hr => ?_⟩
    rw [hrx] at hr
    cases hr
    exact ⟨by rw [StationGap.stamped_of_last hl], rfl⟩
  | timeout _ _ hex => exact absurd hex hne
  | unexpected _ hrx _ => exact ⟨by simp, rfl, rfl, fun rx' ret hr => by rw [hrx] at hr; cases hr⟩
  | other _ hrx _ _ => exact ⟨by simp, rfl, rfl, fun rx' ret hr => by rw [hrx] at hr; cases hr⟩
  | admits _ hrx _ _ _ => exact ⟨by simp, rfl, rfl, fun rx' ret hr => by rw [hrx] at hr; cases hr⟩

/-- A requester state: waiting for the reply to a GAP poll (from `PassToken` or while claiming) or
to an application request. -/
def Awaiting (s : Station) : Prop :=
  (∃ a, s.st = .awaitStatus a) ∨ (∃ a, s.st = .claimToken (.scanAwait a)) ∨ (∃ a d, s.st = .awaitData a d)

theorem Awaiting.awake {s : Station} (h : Awaiting s) : s.st ≠ .offline ∧ s.st ≠ .passiveIdle := by
  rcases h with ⟨a, h⟩ | ⟨a, h⟩ | ⟨a, d, h⟩ <;> rw [h] <;> simp

/-- The application callbacks a non-expiring requester poll can make: none, or the delivery of the
admitted reply — never a `timeout`. -/
def NoTimeout (before after : List AppCall) : Prop :=
  after = before ∨ ∃ i a t, after = before ++ [.reply i a t]

/-- `hfin` is what the handlers of `AwaitStatusResponse` and of the claiming scan do with the report of
`await_gap_poll_response`: nothing when it is `Err(PollDone::waiting_for_bus())` (`.waitingForBus` in the model),
otherwise nothing to the transmit slot or the call log. -/
theorem gap_requester_waits {c c1 c' : Ctx} {now l1 : Int} {a : Nat} {g : GapPollResponse}
    (hl : c.s.lastBusActivity = some l1) (hq : ¬ now > l1 + (c.s.p.slotTime : Nat))
    (hg : AwaitGapStep c now a (.ok c1, g))
    (hfin : g ≠ .noResponse → (g = .waitingForBus → c' = c1) ∧ c'.tx = c1.tx ∧ c'.calls = c1.calls) :
    c'.tx = c.tx ∧ NoTimeout c.calls c'.calls ∧
    (∀ rx' ret, receiveTelegram c.rx = .done rx' [] ret → c' = { c with rx := rx' }) := by
  obtain ⟨hno, htx, hcalls, hw⟩ := awaitGap_not_expired hl hq hg
  obtain ⟨hwait, htx', hcalls'⟩ := hfin hno
  refine ⟨htx'.trans htx, .inl (hcalls'.trans hcalls), fun rx' ret hrx => ?_⟩
  obtain ⟨hc1, hgw⟩ := hw rx' ret hrx
  rw [hwait hgw, hc1]

theorem requester_handler_waits (c : Ctx) (now l1 : Int) (c' : Ctx) (haw : Awaiting c.s)
    (hl : c.s.lastBusActivity = some l1) (hq : ¬ now > l1 + (c.s.p.slotTime : Nat))
    (h : dispatch c now = .ok c') :
    c'.tx = c.tx ∧ NoTimeout c.calls c'.calls ∧
    (∀ rx' ret, receiveTelegram c.rx = .done rx' [] ret → c' = { c with rx := rx' }) := by
  have gap : ∀ {a st next}, AwaitStep c now a st next (.ok c') → c'.tx = c.tx ∧ NoTimeout c.calls c'.calls ∧
      (∀ rx' ret, receiveTelegram c.rx = .done rx' [] ret → c' = { c with rx := rx' }) := by
    intro a st next hs
    cases hs with
    | waits hg => exact gap_requester_waits hl hq hg fun _ => ⟨fun _ => rfl, rfl, rfl⟩
    | responded hg => exact gap_requester_waits hl hq hg fun _ => ⟨(fun hc => by cases hc), rfl, rfl⟩
    | timeout hg _ => exact absurd rfl (awaitGap_not_expired hl hq hg).1
    | unexpected hg => exact gap_requester_waits hl hq hg fun _ => ⟨(fun hc => by cases hc), rfl, rfl⟩
  rcases haw with ⟨a, hst⟩ | ⟨a, hst⟩ | ⟨a, d, hst⟩
  · rw [dispatch_awaitStatus now hst] at h
    have hs := doAwaitStatusResponse_step now hst
    rw [h] at hs
    exact gap hs
  · rw [dispatch_claimToken now hst] at h
    have hs := doClaimToken_await_step now 1 hst
    rw [h] at hs
    exact gap hs
  · rw [dispatch_awaitData now hst] at h
    have hne : ¬ StationGap.SlotExpired c.s now := fun hx => hq ((slotExpired_some hl).1 hx)
    have hs := doAwaitDataResponse_step now hst
    rw [h] at hs
    cases hs with
    | waits _ hrx _ =>
      refine ⟨rfl, .inl rfl, fun rx' ret hr => ?_⟩
      rw [hrx] at hr
      cases hr
      rw [StationGap.stamped_of_last hl]
    | timeout _ _ hex _ => exact absurd hex hne
    | reply _ hrx _ => exact ⟨rfl, .inr ⟨_, _, _, rfl⟩, fun rx' ret hr => by rw [hrx] at hr; cases hr⟩
    | backOff _ hrx _ => exact ⟨rfl, .inl rfl, fun rx' ret hr => by rw [hrx] at hr; cases hr⟩

theorem requester_poll_waits (s : Station) (apps : Apps) (now : Int) (rx : Bytes) (c' : Ctx) (l : Int)
    (hon : s.online = true) (haw : Awaiting s) (hl : s.lastBusActivity = some l) (hlt : l < now)
    (hne : s.pendingBytes < rx.length ∨ now ≤ l + (s.p.slotTime : Nat))
    (h : s.poll apps now false rx = .ok c') :
    c'.tx = none ∧ NoTimeout [] c'.calls ∧
    (∀ rx' ret, receiveTelegram rx = .done rx' [] ret →
      c' = { s := checkBusActivity s now rx.length, apps := apps, rx := rx' }) := by
  have hlate := late_of_some hl hlt
  obtain ⟨hf1, hf2, -⟩ := checkBA_fields s now rx.length
  obtain ⟨l1, hl1, -, hq⟩ := checkBA_not_expired s now rx.length hlate (hne.imp id fun h => ⟨l, hl, h⟩)
  rw [poll_dispatch s apps now rx hon haw.awake.1 haw.awake.2 hlate] at h
  have haw1 : Awaiting ({ s := checkBusActivity s now rx.length, apps := apps, rx := rx } : Ctx).s := by
    unfold Awaiting
    simp only [hf1]
    exact haw
  exact requester_handler_waits _ now l1 c' haw1 hl1 hq h

/-- All polls of the list return regularly, transmit nothing and report no `timeout`, for as long as the
polls find no complete telegram in the receive buffer. -/
def AwaitsQuietly : Station → Apps → List (Int × Bytes) → Prop
  | _, _, [] => True
  | s, apps, (a, rx) :: rest => ∃ c, s.poll apps a false rx = .ok c ∧ c.tx = none ∧ NoTimeout [] c.calls ∧
      ((∃ rx' ret, receiveTelegram rx = .done rx' [] ret) → c.s.st = s.st ∧ AwaitsQuietly c.s c.apps rest)

theorem requester_run (p : Params) : ∀ (polls : List (Int × Bytes)) (s : Station) (apps : Apps) (l : Int),
    Inv s apps → s.online = true → Awaiting s → s.lastBusActivity = some l → s.p = p →
    Dense p.slotTime l s.pendingBytes polls → AwaitsQuietly s apps polls := by
  intro polls
  induction polls with
  | nil => intro s apps l _ _ _ _ _ _; trivial
  | cons x rest ih =>
    intro s apps l hinv hon haw hl hp hd
    obtain ⟨a, rx⟩ := x
    by_cases hle : a ≤ l
    · refine ⟨_, poll_ongoing s apps a false rx hon haw.awake.1 haw.awake.2 l hl hle, rfl, .inl rfl, fun _ => ⟨rfl, ?_⟩⟩
      exact ih s apps l hinv hon haw hl hp (by simpa only [Dense, if_pos hle] using hd)
    · obtain ⟨c', hc', hinv', -⟩ := pollInner_good { s := s, apps := apps, rx := rx } a false hinv rfl
      obtain ⟨hne, l', hl', hd'⟩ := Dense.step hl hle hd
      obtain ⟨h1, h2, h3⟩ := requester_poll_waits s apps a rx c' l hon haw hl (by omega) (by rw [hp]; exact hne) hc'
      refine ⟨c', hc', h1, h2, fun ⟨rx', ret, hrx⟩ => ?_⟩
      have hs := h3 rx' ret hrx
      subst hs
      obtain ⟨hf1, hf2, -, hf4, -⟩ := checkBA_fields s a rx.length
      exact ⟨hf1, ih _ apps l' hinv' (hf4.trans hon) (by unfold Awaiting; rw [hf1]; exact haw) hl' (hf2.trans hp) hd'⟩

end PV
