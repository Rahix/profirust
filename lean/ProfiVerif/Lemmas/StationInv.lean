/-
The station invariant behind C05 ("poll never panics") and its preservation by every handler of
`Model/Station.lean`, up to one whole poll (`pollInner_good`).  Per handler the proof is `cases` on its step relation
(`PassTokenStep.good`, …; once for the handlers that are instances of one relation: `AwaitStep.good`, `IdlingStep.good`):
a regular constructor gives the invariant of an explicit term, a panic constructor is
refuted from the invariant.  The batch of received telegrams is an instance of `foldTelegrams_inv` (`foldIdle_good`,
`foldListen_good`); the loop over the applications asked keeps an induction of its own (`appsTransmit_good`).
-/
import ProfiVerif.Lemmas.StationStepIdle
import ProfiVerif.Lemmas.Codec
import ProfiVerif.Lemmas.Gap
import ProfiVerif.Lemmas.Neighbours
import ProfiVerif.Lemmas.PhyRx
namespace PV
namespace TokenRing

/-- NS is TS or an entry of the LAS (`updateNextPrev_nbr`), hence a valid bit index. -/
theorem updateNextPrev_ns_lt (r : TokenRing) (hts : r.ts < 128) :
    (updateNextPrev r).ns < 128 ∧ (updateNextPrev r).ts = r.ts := by
  refine ⟨?_, rfl⟩
  rw [(updateNextPrev_nbr r).1, updateNextPrev_activeList, (updateNextPrev_las r).2]
  rcases (cycSucc_gapless r.ts r.activeList).1 with e | hm
  · rw [e]; exact hts
  · exact isActive_lt r _ ((mem_activeList r _).mp hm)

/-- Well-formed ring view: own address and successor are valid bit indices. -/
def RingOk (r : TokenRing) : Prop := r.ts < 128 ∧ r.ns < 128

theorem upd_ok (r : TokenRing) (v : Vector Bool 128) (h : RingOk r) :
    RingOk (updateNextPrev { r with active := v }) ∧ (updateNextPrev { r with active := v }).ts = r.ts := by
  have := updateNextPrev_ns_lt { r with active := v } h.1
  exact ⟨⟨by rw [this.2]; exact h.1, this.1⟩, this.2⟩

/-- A change of phase touches neither TS nor NS, and `update_next_previous` finds NS among valid bit indices. -/
theorem ringOk_op (r r' : TokenRing) (o : Op) (h : RingOk r) (e : applyOp r o = some r') :
    RingOk r' ∧ r'.ts = r.ts :=
  op_ind (fun q => RingOk q ∧ q.ts = r.ts) (fun _ _ hq => hq)
    (fun q v hq => ⟨(upd_ok q v hq.1).1, (upd_ok q v hq.1).2.trans hq.2⟩) r r' o ⟨h, rfl⟩ e

theorem witness_ok (r : TokenRing) (sa da : Nat) (h : RingOk r) : RingOk (r.witness sa da) ∧ (r.witness sa da).ts = r.ts :=
  ringOk_op r _ (.witness sa da) h rfl

theorem claimToken_ok (r : TokenRing) (h : RingOk r) : RingOk r.claimToken ∧ r.claimToken.ts = r.ts := ⟨h, rfl⟩

theorem removeStation_ok (r : TokenRing) (a : Nat) (ha : a < 128) (h : RingOk r) :
    ∃ r', r.removeStation a = some r' ∧ RingOk r' ∧ r'.ts = r.ts := by
  unfold removeStation
  rw [if_neg (by omega)]
  exact ⟨_, rfl, upd_ok r _ h⟩

theorem new_ok (ts : Nat) (h : ts < 128) : RingOk (TokenRing.new ts) := ⟨h, h⟩

end TokenRing

open TokenRing StationGap

/-- Scripts contain only telegrams the encoder accepts (the documented application contract). -/
def ScriptsOk (apps : Apps) : Prop :=
  ∀ script ∈ apps, ∀ ans ∈ script, ∀ h pdu, ans = AppAnswer.send h pdu → h.lengthByte pdu.length ≤ 249

/-- The station invariant behind "poll never panics".  `await1`/`await2`: while a GAP reply is awaited the
GAP cursor is the polled address, which is not TS (the two assertions of `await_gap_poll_response`);
`app`: the round-robin index is a valid application index whenever there are applications; `appWait`: it
is one while a data reply is awaited (`do_await_data_response` indexes `apps` without a check). -/
structure Inv (s : Station) (apps : Apps) : Prop where
  addr : s.p.address < s.p.hsa
  hsa : s.p.hsa ≤ 126
  ring : RingOk s.ring
  off : s.online = false → s.st = .offline
  gap : ∀ cur, s.gap = .doPoll cur → cur < s.p.hsa
  await1 : ∀ a, s.st = .awaitStatus a → s.gap = .doPoll a ∧ a ≠ s.p.address
  await2 : ∀ a, s.st = .claimToken (.scanAwait a) → s.gap = .doPoll a ∧ a ≠ s.p.address
  app : 0 < apps.length → s.nextApp < apps.length
  appWait : ∀ a d, s.st = .awaitData a d → s.nextApp < apps.length
  scripts : ScriptsOk apps
  noPassive : s.st ≠ .passiveIdle

theorem Inv.congr {s s' : Station} {apps : Apps} (h : Inv s apps)
    (hp : s'.p = s.p) (hr : s'.ring = s.ring) (ho : s'.online = s.online) (hg : s'.gap = s.gap)
    (hs : s'.st = s.st) (hn : s'.nextApp = s.nextApp) : Inv s' apps := by
  constructor
  · rw [hp]; exact h.addr
  · rw [hp]; exact h.hsa
  · rw [hr]; exact h.ring
  · rw [ho, hs]; exact h.off
  · rw [hg, hp]; exact h.gap
  · rw [hs, hg, hp]; exact h.await1
  · rw [hs, hg, hp]; exact h.await2
  · rw [hn]; exact h.app
  · rw [hs, hn]; exact h.appWait
  · exact h.scripts
  · rw [hs]; exact h.noPassive

theorem inv_markBusActivity {s apps} (h : Inv s apps) (now : Int) : Inv (markBusActivity s now) apps :=
  h.congr rfl rfl rfl rfl rfl rfl

theorem inv_markRx {s apps} (h : Inv s apps) (now : Int) : Inv (markRx s now) apps :=
  h.congr rfl rfl rfl rfl rfl rfl

theorem inv_markTx {s apps} (h : Inv s apps) (now : Int) (n : Nat) : Inv (markTx s now n) apps :=
  h.congr rfl rfl rfl rfl rfl rfl

theorem inv_checkBusActivity {s apps} (h : Inv s apps) (now : Int) (n : Nat) : Inv (checkBusActivity s now n) apps := by
  rw [checkBusActivity_eq]
  exact h.congr rfl rfl rfl rfl rfl rfl

/-- `n`: the number of applications, which no handler changes (`Inv.app` bounds the turn by it). -/
def Good (n : Nat) (r : Res) : Prop := ∃ c, r = .ok c ∧ Inv c.s c.apps ∧ c.apps.length = n

structure Pre (c : Ctx) : Prop where
  inv : Inv c.s c.apps
  on : c.s.online = true
  tx : c.tx = none

theorem good_ok {n : Nat} (c : Ctx) (h : Inv c.s c.apps) (hl : c.apps.length = n) : Good n (.ok c) := ⟨c, rfl, h, hl⟩

theorem Inv.setSt {s : Station} {apps : Apps} (h : Inv s apps) (hon : s.online = true) (st' : FState)
    (h1 : ∀ a, st' = .awaitStatus a → s.gap = .doPoll a ∧ a ≠ s.p.address)
    (h2 : ∀ a, st' = .claimToken (.scanAwait a) → s.gap = .doPoll a ∧ a ≠ s.p.address)
    (h3 : ∀ a d, st' = .awaitData a d → s.nextApp < apps.length) (h4 : st' ≠ .passiveIdle := by simp) :
    Inv { s with st := st' } apps :=
  ⟨h.addr, h.hsa, h.ring, fun ho => by simp [hon] at ho, h.gap, h1, h2, h.app, h3, h.scripts, h4⟩

/-- The FDL states for which the invariant has no clause of its own. -/
def FState.plain : FState → Bool
  | .awaitStatus _ | .claimToken (.scanAwait _) | .awaitData _ _ | .passiveIdle => false
  | _ => true

theorem Inv.setPlain {s : Station} {apps : Apps} (h : Inv s apps) (hon : s.online = true) (st' : FState)
    (hp : st'.plain = true) : Inv { s with st := st' } apps :=
  h.setSt hon st' (by intro a e; subst e; cases hp) (by intro a e; subst e; cases hp)
    (by intro a d e; subst e; cases hp) (by intro e; subst e; cases hp)

theorem Inv.setRing {s : Station} {apps : Apps} (h : Inv s apps) (r : TokenRing) (hr : RingOk r) :
    Inv { s with ring := r } apps :=
  ⟨h.addr, h.hsa, hr, h.off, h.gap, h.await1, h.await2, h.app, h.appWait, h.scripts, h.noPassive⟩

theorem nextGap_ok {s : Station} {apps : Apps} (h : Inv s apps) (cur : Nat) (hc : cur < s.p.hsa) :
    ∃ g, nextGap s cur = some g ∧ (∀ a, g = .doPoll a → a < s.p.hsa ∧ a ≠ s.p.address) := by
  have hh : 0 < s.p.hsa := by have := h.addr; omega
  unfold nextGap
  cases hn : nextGapPoll s.p.address s.ring.ns s.p.hsa cur with
  | poll a =>
    have := inGap_ne _ _ _ a (nextGapPoll_poll s.p.address s.ring.ns s.p.hsa cur a hh h.hsa hc hn).1
    exact ⟨_, rfl, fun a' ha' => by cases ha'; exact ⟨this.2.2, this.1⟩⟩
  | waiting => exact ⟨_, rfl, fun a' ha' => by cases ha'⟩
  | panic => exact absurd hn (nextGapPoll_no_panic _ _ _ _ hh h.hsa hc)

/-- Two stations agree on everything the invariant looks at. -/
def CoreEq (s' s : Station) : Prop :=
  s'.p = s.p ∧ s'.ring = s.ring ∧ s'.online = s.online ∧ s'.gap = s.gap ∧ s'.st = s.st ∧ s'.nextApp = s.nextApp

theorem inv_stamped {s : Station} {apps : Apps} (h : Inv s apps) (now : Int) : Inv (stamped s now) apps :=
  h.congr rfl rfl rfl rfl rfl rfl

theorem inv_passed {c : Ctx} (now : Int) (att : Attempt) (hi : Inv c.s c.apps) (hon : c.s.online = true) :
    Inv (passed c now att).s c.apps :=
  ((inv_markTx hi now 3).setRing _ (witness_ok c.s.ring c.s.p.address c.s.ring.ns hi.ring).1).setPlain hon _
    (by split <;> rfl)

theorem gapAdvance_ok {s : Station} {apps : Apps} (h : Inv s apps) :
    ∃ g, gapAdvance s = some g ∧ (∀ a, g = .doPoll a → a < s.p.hsa ∧ a ≠ s.p.address) := by
  unfold gapAdvance
  cases hg : s.gap with
  | waiting rot =>
    simp only
    split
    · exact nextGap_ok h _ h.addr
    · exact ⟨_, rfl, fun a ha => by cases ha⟩
  | doPoll cur => exact nextGap_ok h cur (h.gap cur hg)

theorem Inv.setGap {s : Station} {apps : Apps} (h : Inv s apps) (g : GapState)
    (hg : ∀ a, g = .doPoll a → a < s.p.hsa)
    (h1 : ∀ a, s.st ≠ .awaitStatus a) (h2 : ∀ a, s.st ≠ .claimToken (.scanAwait a)) :
    Inv { s with gap := g } apps :=
  ⟨h.addr, h.hsa, h.ring, h.off, hg, fun a ha => absurd ha (h1 a), fun a ha => absurd ha (h2 a), h.app, h.appWait, h.scripts, h.noPassive⟩

/-- The GAP cursor moves only to GAP addresses (`gapAdvance_ok`), so the poll is not addressed to the station
itself; nothing was transmitted in this poll before. -/
theorem PassTokenStep.good {c : Ctx} {now : Int} {att : Attempt} {g : Bool} {r : Res} (h : PassTokenStep c now att g r)
    (hpre : Pre c) (hst : c.s.st = .passToken g att) : Good c.apps.length r := by
  have his := inv_stamped hpre.inv now
  obtain ⟨gs, hgs, hgp⟩ := gapAdvance_ok his
  have hig : Inv { (stamped c.s now) with gap := gs } c.apps :=
    his.setGap gs (fun a ha => (hgp a ha).1) (by intro a; rw [stamped_st, hst]; simp) (by intro a; rw [stamped_st, hst]; simp)
  cases h with
  | wait _ => exact good_ok _ his rfl
  | overflow _ hga => rw [hga] at hgs; cases hgs
  | self _ hga => rw [hga] at hgs; cases hgs; exact absurd rfl (hgp _ rfl).2
  | poll _ hga hne _ =>
    rw [hga] at hgs; cases hgs
    exact good_ok _ ((inv_markTx hig now 6).setSt hpre.on _ (by intro a' e; cases e; exact ⟨rfl, hne⟩) (by simp) (by simp)) rfl
  | passGap _ hga _ => rw [hga] at hgs; cases hgs; exact good_ok _ (inv_passed now att hig hpre.on) rfl
  | pass _ _ => exact good_ok _ (inv_passed now att his hpre.on) rfl
  | busy _ hb => rw [hpre.tx] at hb; cases hb

theorem doPassToken_good (c : Ctx) (now : Int) (hpre : Pre c) (g : Bool) (att : Attempt)
    (hst : c.s.st = .passToken g att) : Good c.apps.length (doPassToken c now) :=
  (doPassToken_step now hst).good hpre hst

/-- FDL states in which `handle_telegram` does not panic: `ActiveIdle`, whose batch it handles, and `ListenToken`, where a
collision earlier in the same batch sends the station and the rest of the batch is skipped (`do_listen_token` itself has
another callback, `listenTelegram`). -/
def IdleLike (st : FState) : Prop := (∃ a b c, st = .activeIdle a b c) ∨ (∃ a b, st = .listenToken a b)

/-- What later steps of the same poll need to know about a context produced by an earlier step. -/
structure Step (c c' : Ctx) : Prop where
  inv : Inv c'.s c'.apps
  on : c'.s.online = true
  apps : c'.apps = c.apps
  tx : c'.tx = c.tx

/-- Each regular outcome of `await_gap_poll_response` changes, of what the invariant looks at, at most the ring
view (the polled station becomes NS). -/
theorem AwaitGapStep.step_ok {c c1 : Ctx} {now : Int} {addr : Nat} {g : GapPollResponse}
    (h : AwaitGapStep c now addr (.ok c1, g)) (hinv : Inv c.s c.apps) (hon : c.s.online = true) : Step c c1 := by
  have hinv1 : Inv (markRx c.s now) c.apps := inv_markRx hinv now
  have his := inv_stamped hinv now
  cases h with
  | waits _ _ _ => exact ⟨his, hon, rfl, rfl⟩
  | timeout _ _ _ => exact ⟨his, hon, rfl, rfl⟩
  | unexpected _ _ _ => exact ⟨hinv1, hon, rfl, rfl⟩
  | other _ _ _ _ => exact ⟨hinv1, hon, rfl, rfl⟩
  | admits _ _ _ _ hs => exact ⟨hinv1.setRing _ (ringOk_op _ _ (.setNext addr) hinv.ring hs).1, hon, rfl, rfl⟩

theorem AwaitGapStep.pre_setSt {c c1 : Ctx} {now : Int} {addr : Nat} {g : GapPollResponse}
    (h : AwaitGapStep c now addr (.ok c1, g)) (hpre : Pre c) (st' : FState) (hp : st'.plain = true) :
    Pre { c1 with s := { c1.s with st := st' } } ∧ c1.apps.length = c.apps.length :=
  have hs := h.step_ok hpre.inv hpre.on
  ⟨⟨hs.inv.setPlain hs.on _ hp, hs.on, hs.tx.trans hpre.tx⟩, congrArg List.length hs.apps⟩

/-- No panic: the two assertions hold by the invariant (`GapAsked`), the receive helper is total, the polled
address is a valid bit index. -/
theorem AwaitGapStep.no_panic {c : Ctx} {now : Int} {addr : Nat} {m : String} {g : GapPollResponse}
    (h : AwaitGapStep c now addr (.panic m, g)) (hinv : Inv c.s c.apps) (ha : GapAsked c addr) : False := by
  obtain ⟨rx', calls, ret, hrx⟩ := receiveTelegram_total c.rx
  cases h with
  | assertSelf h => exact ha.1 h
  | assertGap _ h => exact h ha.2
  | rxPanic _ h => rw [hrx] at h; cases h
  | rxHang _ h => rw [hrx] at h; cases h
  | admitFails _ _ _ _ hs =>
    obtain ⟨r, hr⟩ := setNextStation_isSome c.s.ring addr (by have := hinv.gap addr ha.2; have := hinv.hsa; omega)
    rw [hr] at hs; cases hs

/-- The query does not panic (`ha`: `GapAsked c addr` as `Inv.await1` gives it, by the invariant), and each regular outcome satisfies the invariant in the plain
state `st`: so the handler is as good as the one that goes on from there after `NoResponse`. -/
theorem AwaitStep.good {c : Ctx} {now : Int} {addr : Nat} {st : FState} {next : Ctx → Res} {r : Res}
    (h : AwaitStep c now addr st next r) (hpre : Pre c) (ha : c.s.gap = .doPoll addr ∧ addr ≠ c.s.p.address)
    (hp : st.plain = true) (hnext : ∀ c1, Pre c1 → c1.s.st = st → Good c1.apps.length (next c1)) :
    Good c.apps.length r := by
  cases h with
  | waits hq =>
    have hs := hq.step_ok hpre.inv hpre.on
    exact good_ok _ hs.inv (congrArg List.length hs.apps)
  | responded hq =>
    obtain ⟨hpre2, hlen⟩ := hq.pre_setSt hpre st hp
    exact good_ok _ hpre2.inv hlen
  | timeout hq hv =>
    obtain ⟨hpre2, hlen⟩ := hq.pre_setSt hpre st hp
    exact hlen ▸ hv ▸ hnext _ hpre2 rfl
  | unexpected hq =>
    obtain ⟨hpre2, hlen⟩ := hq.pre_setSt hpre (.activeIdle none none 0) rfl
    exact good_ok _ hpre2.inv hlen
  | panic hq => exact (hq.no_panic hpre.inv ⟨ha.2, ha.1⟩).elim

theorem StatusStep.good {c : Ctx} {now : Int} {addr : Nat} {r : Res} (h : StatusStep c now addr r)
    (hpre : Pre c) (hst : c.s.st = .awaitStatus addr) : Good c.apps.length r :=
  AwaitStep.good h hpre (hpre.inv.await1 addr hst) rfl fun _ hpre1 hst1 => (doPassToken_step now hst1).good hpre1 hst1

theorem doAwaitStatusResponse_good (c : Ctx) (now : Int) (hpre : Pre c) (a : Nat)
    (hst : c.s.st = .awaitStatus a) : Good c.apps.length (doAwaitStatusResponse c now) :=
  (doAwaitStatusResponse_step now hst).good hpre hst

/-- `handle_telegram` in `ActiveIdle` sets the FDL state to one the invariant says nothing about and at most
witnesses a pass in the ring view; the token is accepted only from a telegram flagged last. -/
theorem IdleTelStep.step_ok {c : Ctx} {now : Int} {sr np : Option Nat} {coll : Nat} {isLast : Bool} {t : Telegram}
    {r : Res} (h : IdleTelStep c now sr np coll isLast t r) (hinv : Inv c.s c.apps) (hon : c.s.online = true)
    (hst : c.s.st = .activeIdle sr np coll) :
    ∃ c', r = .ok c' ∧ Step c c' ∧ (IdleLike c'.s.st ∨ (isLast = true ∧ ∃ d, c'.s.st = .useToken d false)) := by
  have hw : ∀ sa da, Inv { c.s with ring := c.s.ring.witness sa da } c.apps :=
    fun sa da => hinv.setRing _ (witness_ok _ sa da hinv.ring).1
  cases h with
  | collision _ _ => exact ⟨_, rfl, ⟨hinv.setPlain hon _ rfl, hon, rfl, rfl⟩, .inl (.inl ⟨_, _, _, rfl⟩)⟩
  | backOff _ _ => exact ⟨_, rfl, ⟨hinv.setPlain hon _ rfl, hon, rfl, rfl⟩, .inl (.inr ⟨_, _, rfl⟩)⟩
  | heard _ _ => exact ⟨_, rfl, ⟨(hw _ _).setPlain hon _ rfl, hon, rfl, rfl⟩, .inl (.inl ⟨_, _, _, rfl⟩)⟩
  | accept _ _ hl _ => exact ⟨_, rfl, ⟨hinv.setPlain hon _ rfl, hon, rfl, rfl⟩, .inr ⟨hl, _, rfl⟩⟩
  | acceptNew _ _ hl _ _ => exact ⟨_, rfl, ⟨(hw _ _).setPlain hon _ rfl, hon, rfl, rfl⟩, .inr ⟨hl, _, rfl⟩⟩
  | stranger _ _ _ _ _ => exact ⟨_, rfl, ⟨hinv.setPlain hon _ rfl, hon, rfl, rfl⟩, .inl (.inl ⟨_, _, _, rfl⟩)⟩
  | request _ => exact ⟨_, rfl, ⟨hinv.setPlain hon _ rfl, hon, rfl, rfl⟩, .inl (.inl ⟨_, _, _, rfl⟩)⟩
  | ignore _ => exact ⟨c, rfl, ⟨hinv, hon, rfl, rfl⟩, .inl (.inl ⟨_, _, _, hst⟩)⟩
  | sc => exact ⟨c, rfl, ⟨hinv, hon, rfl, rfl⟩, .inl (.inl ⟨_, _, _, hst⟩)⟩

theorem handleTelegram_good (c : Ctx) (now : Int) (t : Telegram) (isLast : Bool)
    (hinv : Inv c.s c.apps) (hon : c.s.online = true) (hst : IdleLike c.s.st) :
    ∃ c', handleTelegram c now t isLast = .ok c' ∧ Step c c' ∧
      (IdleLike c'.s.st ∨ (isLast = true ∧ ∃ d, c'.s.st = .useToken d false)) := by
  rcases hst with ⟨sr, np, coll, hst⟩ | ⟨sr, coll, hst⟩
  · exact (handleTelegram_step now t isLast hst).step_ok hinv hon hst
  · exact ⟨c, handleTelegram_listening now t isLast hst, ⟨hinv, hon, rfl, rfl⟩, .inl (.inr ⟨_, _, hst⟩)⟩

theorem foldIdle_good (now : Int) : ∀ (calls : List (Telegram × Bool)) (c : Ctx),
    Inv c.s c.apps → c.s.online = true → IdleLike c.s.st → (∀ x ∈ calls.dropLast, x.2 = false) →
    ∃ c', foldTelegrams (fun c t isLast => handleTelegram (upd c fun s => markRx s now) now t isLast) c calls = .ok c' ∧ Step c c' := by
  intro calls c hinv hon hst hfl
  -- once the token is accepted (only possible for a telegram flagged last) nothing is left to fold
  obtain ⟨c', h, hi, ho, ha, ht, -⟩ := foldTelegrams_inv
    (f := fun c t isLast => handleTelegram (upd c fun s => markRx s now) now t isLast)
    (fun rest x => Inv x.s x.apps ∧ x.s.online = true ∧ x.apps = c.apps ∧ x.tx = c.tx ∧
      (∀ y ∈ rest.dropLast, y.2 = false) ∧ (IdleLike x.s.st ∨ rest = []))
    (fun x t l rest ⟨hi, ho, ha, ht, hf, hs⟩ => by
      have hidle : IdleLike x.s.st := hs.resolve_right (by simp)
      obtain ⟨x1, h1, hs1, hpost⟩ := handleTelegram_good (upd x fun s => markRx s now) now t l (inv_markRx hi now) ho hidle
      refine ⟨x1, h1, hs1.inv, hs1.on, hs1.apps.trans ha, hs1.tx.trans ht, ?_, ?_⟩
      · exact dropLast_cons_flags hf
      · rcases hpost with hidle1 | ⟨hl, -⟩
        · exact Or.inl hidle1
        · right
          cases rest with
          | nil => rfl
          | cons z zs =>
            have hlf : l = false := dropLast_head_flag hf
            rw [hlf] at hl
            cases hl)
    calls c ⟨hinv, hon, rfl, rfl, hfl, Or.inl hst⟩
  exact ⟨c', h, ⟨hi, ho, ha, ht⟩⟩

theorem RetryStep.ringOk {r r0 : TokenRing} {att att' : Attempt} (h : RetryStep r att att' r0) (hr : RingOk r) :
    RingOk r0 := by
  rcases h with ⟨-, -, rfl⟩ | ⟨-, -, rfl⟩ | ⟨-, -, h3⟩
  · exact hr
  · exact hr
  · obtain ⟨r', e, hok, -⟩ := removeStation_ok r r.ns hr.2 hr
    rw [h3] at e; cases e; exact hok

theorem CheckStep.good {c : Ctx} {now : Int} {att : Attempt} {r : Res} (h : CheckStep c now att r)
    (hpre : Pre c) : Good c.apps.length r := by
  have his := inv_stamped hpre.inv now
  cases h with
  | retry _ hr hp =>
    exact hp ▸ (doPassToken_step now rfl).good
      ⟨(his.setRing _ (hr.ringOk hpre.inv.ring)).setPlain hpre.on _ rfl, hpre.on, hpre.tx⟩ rfl
  | noRetry _ _ hrm =>
    obtain ⟨r', e, -⟩ := removeStation_ok c.s.ring c.s.ring.ns hpre.inv.ring.2 hpre.inv.ring
    rw [hrm] at e; cases e
  | rxPanic _ h => exact absurd h (receiveAll_never_hangs c.rx).2
  | rxHang _ h => exact absurd h (receiveAll_never_hangs c.rx).1
  | quiet _ _ => exact good_ok _ his rfl
  | @heard rx' x rest _ _ _ hrx hf =>
    obtain ⟨c2, h2, hs2⟩ := foldIdle_good now (x :: rest)
      { c with rx := rx', s := { (stamped c.s now) with st := .activeIdle none none 0 } }
      (his.setPlain hpre.on _ rfl) hpre.on (.inl ⟨_, _, _, rfl⟩) (receiveAll_flags _ _ _ _ hrx)
    rw [h2] at hf
    subst hf
    exact good_ok _ hs2.inv (congrArg List.length hs2.apps)

theorem doCheckTokenPass_good (c : Ctx) (now : Int) (hpre : Pre c) (att : Attempt)
    (hst : c.s.st = .checkTokenPass att) : Good c.apps.length (doCheckTokenPass c now) :=
  (doCheckTokenPass_step now hst).good hpre

theorem ClaimTokStep.good {c : Ctx} {now : Int} {step : ClaimStep} {r : Res} (h : ClaimTokStep c now step r)
    (hpre : Pre c) (hstep : step = .firstToken ∨ step = .secondToken) (hst : c.s.st = .claimToken step) :
    Good c.apps.length r := by
  have his := inv_stamped hpre.inv now
  cases h with
  | wait _ => exact good_ok _ his rfl
  | claim _ _ =>
    have hns : ∀ a, step ≠ .scanAwait a := by rcases hstep with rfl | rfl <;> simp
    exact good_ok _ ((((inv_markTx his now 3).setRing _ (claimToken_ok _ his.ring).1).setGap (.doPoll c.s.p.address)
      (by intro a ha; cases ha; exact his.addr) (by intro a; simp [markTx, stamped, hst])
      (by intro a; simp [markTx, stamped, hst, hns a])).setSt hpre.on _ (by simp)
      (by rcases hstep with rfl | rfl <;> simp) (by simp)) rfl
  | busy _ hb => rw [hpre.tx] at hb; cases hb

theorem ScanStep.good {c : Ctx} {now : Int} {r : Res} (h : ScanStep c now r) (hpre : Pre c)
    (hst : c.s.st = .claimToken .scan) : Good c.apps.length r := by
  have his := inv_stamped hpre.inv now
  have setGap : ∀ g, (∀ a, g = .doPoll a → a < c.s.p.hsa) → Inv { (stamped c.s now) with gap := g } c.apps :=
    fun g hg => his.setGap g hg (by intro a; rw [stamped_st, hst]; simp) (by intro a; rw [stamped_st, hst]; simp)
  have next : ∀ {cur}, c.s.gap = .doPoll cur → ∃ g, nextGap c.s cur = some g ∧
      ∀ a, g = .doPoll a → a < c.s.p.hsa ∧ a ≠ c.s.p.address :=
    fun hg => nextGap_ok hpre.inv _ (hpre.inv.gap _ hg)
  cases h with
  | wait _ => exact good_ok _ his rfl
  | done _ _ => exact good_ok _ (his.setPlain hpre.on _ rfl) rfl
  | overflow _ hg hn => obtain ⟨g, hgs, -⟩ := next hg; rw [hn] at hgs; cases hgs
  | sweepEnds _ _ _ => exact good_ok _ (setGap _ nofun) rfl
  | self _ hg hn => obtain ⟨g, hgs, hgp⟩ := next hg; rw [hn] at hgs; cases hgs; exact absurd rfl (hgp _ rfl).2
  | poll _ hg hn hne _ =>
    obtain ⟨g, hgs, hgp⟩ := next hg
    rw [hn] at hgs; cases hgs
    exact good_ok _ ((inv_markTx (setGap _ fun a ha => (hgp a ha).1) now 6).setSt hpre.on _ (by simp)
      (by intro a' e; cases e; exact ⟨rfl, hne⟩) (by simp)) rfl
  | busy _ _ _ _ hb => rw [hpre.tx] at hb; cases hb

/-- With fuel left for the one self-call (the scan step after `NoResponse`). -/
theorem ScanAwaitStep.good {c : Ctx} {now : Int} {fuel addr : Nat} {r : Res} (h : ScanAwaitStep c now (fuel + 1) addr r)
    (hpre : Pre c) (hst : c.s.st = .claimToken (.scanAwait addr)) : Good c.apps.length r :=
  AwaitStep.good h hpre (hpre.inv.await2 addr hst) rfl fun _ hpre1 hst1 =>
    (doClaimToken_scan_step now fuel hst1).good hpre1 hst1

theorem ClaimTokenStep.good {c : Ctx} {now : Int} {fuel : Nat} {step : ClaimStep} {r : Res}
    (h : ClaimTokenStep c now (fuel + 1) step r) (hpre : Pre c) (hst : c.s.st = .claimToken step) :
    Good c.apps.length r := by
  cases h with
  | tok hstep hs => exact hs.good hpre hstep hst
  | scan hs => exact hs.good hpre hst
  | await hs => exact hs.good hpre hst

theorem doClaimToken_good (c : Ctx) (now : Int) (hpre : Pre c) (step : ClaimStep)
    (hst : c.s.st = .claimToken step) : Good c.apps.length (doClaimToken c now 2) :=
  (doClaimToken_step now 1 hst).good hpre hst

theorem claimLost_good {c : Ctx} {now : Int} {r : Res} (hpre : Pre c)
    (hr : doClaimToken { c with s := { (stamped c.s now) with st := .claimToken .firstToken } } now 2 = r) :
    Good c.apps.length r :=
  hr ▸ doClaimToken_good _ now ⟨(inv_stamped hpre.inv now).setPlain hpre.on _ rfl, hpre.on, hpre.tx⟩ .firstToken rfl

/-- The handlers differ, where the invariant looks, in what they do with a batch of telegrams (`htel`) and in the state
after a reply, of which only `hp` matters. -/
theorem IdlingStep.good {c : Ctx} {now : Int} {report : Nat → ResponseState} {st : FState}
    {tel : Ctx → Telegram → Bool → Res} {sr : Option Nat} {r : Res} (h : IdlingStep c now report st tel sr r)
    (hpre : Pre c) (hp : st.plain = true)
    (htel : ∀ rx' calls ret, receiveAll c.rx = .done rx' calls ret →
      Good c.apps.length (foldTelegrams tel { c with rx := rx', s := stamped c.s now } calls)) :
    Good c.apps.length r := by
  have his := inv_stamped hpre.inv now
  cases h with
  | lost _ hr => exact claimLost_good hpre hr
  | wait _ _ => exact good_ok _ his rfl
  | reply _ _ _ => exact good_ok _ ((inv_markTx his now 6).setPlain hpre.on _ hp) rfl
  | busy _ _ hb => rw [hpre.tx] at hb; cases hb
  | rxPanic _ h => exact absurd h (receiveAll_never_hangs c.rx).2
  | rxHang _ h => exact absurd h (receiveAll_never_hangs c.rx).1
  | recv _ hrx hf => exact hf ▸ htel _ _ _ hrx

theorem IdleStep.good {c : Ctx} {now : Int} {sr np : Option Nat} {coll : Nat} {r : Res}
    (h : IdleStep c now np coll sr r) (hpre : Pre c) (hst : c.s.st = .activeIdle sr np coll) : Good c.apps.length r := by
  refine IdlingStep.good h hpre rfl fun rx' calls _ hrx => ?_
  obtain ⟨c2, h2, hs2⟩ := foldIdle_good now calls { c with rx := rx', s := stamped c.s now } (inv_stamped hpre.inv now)
    hpre.on (.inl ⟨_, _, _, hst⟩) (receiveAll_flags _ _ _ _ hrx)
  rw [h2]
  exact good_ok _ hs2.inv (congrArg List.length hs2.apps)

theorem doActiveIdle_good (c : Ctx) (now : Int) (hpre : Pre c) (sr np : Option Nat) (coll : Nat)
    (hst : c.s.st = .activeIdle sr np coll) : Good c.apps.length (doActiveIdle c now) :=
  (doActiveIdle_step now hst).good hpre hst

/-- A new station, which is also the result of `set_offline`. -/
theorem inv_new (p : Params) (apps : Apps) (h1 : p.address < p.hsa) (h2 : p.hsa ≤ 126) (hs : ScriptsOk apps) :
    Inv (Station.new p) apps := by
  refine ⟨h1, h2, new_ok p.address (by omega), fun _ => rfl, ?_, ?_, ?_, ?_, ?_, hs, by simp [Station.new]⟩
  · intro cur hc; simp [Station.new] at hc; show cur < p.hsa; omega
  · intro a ha; simp [Station.new] at ha
  · intro a ha; simp [Station.new] at ha
  · intro hl; simpa [Station.new] using hl
  · intro a d ha; simp [Station.new] at ha

theorem inv_setOnline {s : Station} {apps : Apps} (h : Inv s apps) : Inv s.setOnline apps :=
  ⟨h.addr, h.hsa, h.ring, fun ho => by simp [Station.setOnline] at ho, h.gap, h.await1, h.await2, h.app, h.appWait,
    h.scripts, h.noPassive⟩

/-- State of a listening station inside the telegram fold: still listening (online), or switched
itself offline after the second address collision (`set_offline`: the station is as new). -/
def ListenOrOffline (s : Station) : Prop :=
  (s.online = true ∧ ∃ a b, s.st = .listenToken a b) ∨ (s.online = false ∧ s.st = .offline)

theorem ListenTelStep.step_ok {c : Ctx} {sr : Option Nat} {coll : Nat} {isLast : Bool} {t : Telegram} {r : Res}
    (h : ListenTelStep c sr coll isLast t r) (hinv : Inv c.s c.apps) (hon : c.s.online = true)
    (hst : c.s.st = .listenToken sr coll) :
    ∃ c', r = .ok c' ∧ Inv c'.s c'.apps ∧ ListenOrOffline c'.s ∧ c'.apps = c.apps ∧ c'.tx = c.tx := by
  cases h with
  | collision _ _ => exact ⟨_, rfl, hinv.setPlain hon _ rfl, .inl ⟨hon, _, _, rfl⟩, rfl, rfl⟩
  | reset _ _ =>
    exact ⟨_, rfl, inv_new _ _ hinv.addr hinv.hsa hinv.scripts, .inr ⟨rfl, rfl⟩, rfl, rfl⟩
  | heard _ => exact ⟨_, rfl, hinv.setRing _ (witness_ok _ _ _ hinv.ring).1, .inl ⟨hon, _, _, hst⟩, rfl, rfl⟩
  | request _ _ => exact ⟨_, rfl, hinv.setPlain hon _ rfl, .inl ⟨hon, _, _, rfl⟩, rfl, rfl⟩
  | ignore _ _ => exact ⟨c, rfl, hinv, .inl ⟨hon, _, _, hst⟩, rfl, rfl⟩
  | sc => exact ⟨c, rfl, hinv, .inl ⟨hon, _, _, hst⟩, rfl, rfl⟩

theorem listenTelegram_good (now : Int) (c : Ctx) (t : Telegram) (isLast : Bool)
    (hinv : Inv c.s c.apps) (hst : ListenOrOffline c.s) :
    ∃ c', listenTelegram now c t isLast = .ok c' ∧ Inv c'.s c'.apps ∧ ListenOrOffline c'.s ∧ c'.apps = c.apps ∧ c'.tx = c.tx := by
  rcases hst with ⟨hon, sr, coll, hst⟩ | ⟨hoff, hst⟩
  · exact (listenTelegram_step now t isLast hon hst).step_ok (inv_markRx hinv now) hon hst
  · exact ⟨_, listenTelegramCore_off (upd c fun s => markRx s now) t isLast hoff, inv_markRx hinv now, .inr ⟨hoff, hst⟩, rfl, rfl⟩

theorem foldListen_good (now : Int) : ∀ (calls : List (Telegram × Bool)) (c : Ctx),
    Inv c.s c.apps → ListenOrOffline c.s →
    ∃ c', foldTelegrams (listenTelegram now) c calls = .ok c' ∧ Inv c'.s c'.apps ∧ c'.apps = c.apps := by
  intro calls c hinv hst
  obtain ⟨c', h, hi, -, ha⟩ := foldTelegrams_inv (f := listenTelegram now)
    (fun _ x => Inv x.s x.apps ∧ ListenOrOffline x.s ∧ x.apps = c.apps)
    (fun x t l _ ⟨hi, hl, ha⟩ => by
      obtain ⟨x1, h1, hi1, hl1, ha1, -⟩ := listenTelegram_good now x t l hi hl
      exact ⟨x1, h1, hi1, hl1, ha1.trans ha⟩)
    calls c ⟨hinv, hst, rfl⟩
  exact ⟨c', h, hi, ha⟩

theorem ListenStep.good {c : Ctx} {now : Int} {sr : Option Nat} {coll : Nat} {r : Res}
    (h : ListenStep c now coll sr r) (hpre : Pre c) (hst : c.s.st = .listenToken sr coll) : Good c.apps.length r := by
  refine IdlingStep.good h hpre (by split <;> rfl) fun rx' calls _ _ => ?_
  obtain ⟨c2, h2, hi2, ha2⟩ := foldListen_good now calls { c with rx := rx', s := stamped c.s now }
    (inv_stamped hpre.inv now) (.inl ⟨hpre.on, _, _, hst⟩)
  rw [h2]
  exact good_ok _ hi2 (congrArg List.length ha2)

theorem doListenToken_good (c : Ctx) (now : Int) (hpre : Pre c) (sr : Option Nat) (coll : Nat)
    (hst : c.s.st = .listenToken sr coll) : Good c.apps.length (doListenToken c now) :=
  (doListenToken_step now hst).good hpre hst

theorem scriptsOk_set (apps : Apps) (i : Nat) (script : List AppAnswer) (h : ScriptsOk apps)
    (hs : apps[i]? = some script) : ScriptsOk (apps.set i script.tail) := by
  intro sc hsc ans hans hh pdu he
  rcases List.mem_or_eq_of_mem_set hsc with hm | rfl
  · exact h sc hm ans hans hh pdu he
  · exact h script (List.mem_of_getElem? hs) ans (List.mem_of_mem_tail hans) hh pdu he

theorem scriptsOk_decline : ScriptsOk [[.decline]] := by
  intro sc hsc ans ha h pdu he
  simp only [List.mem_singleton] at hsc; subst hsc
  simp only [List.mem_singleton] at ha; subst ha
  cases he

theorem Inv.setApps {s : Station} {apps apps' : Apps} (h : Inv s apps) (hl : apps'.length = apps.length)
    (hs : ScriptsOk apps') : Inv s apps' :=
  ⟨h.addr, h.hsa, h.ring, h.off, h.gap, h.await1, h.await2, by rw [hl]; exact h.app, by rw [hl]; exact h.appWait, hs, h.noPassive⟩

/-- `app_transmit_telegram` under the invariant: the application whose turn it is exists, its telegram is
encodable (`ScriptsOk`), nothing was transmitted before; a reply is awaited from an existing application. -/
theorem AppStep.step_ok {c : Ctx} {now : Int} {hp : Bool} {d : UseData} {fcd : Bool} {q : Res × Bool}
    (h : AppStep c now hp q) (hpre : Pre c) (hst : c.s.st = .useToken d fcd) (happ : c.s.nextApp < c.apps.length) :
    ∃ c' b, q = (.ok c', b) ∧ Inv c'.s c'.apps ∧ c'.s.online = true ∧ c'.apps.length = c.apps.length ∧
      (b = false → c'.tx = none ∧ c'.s.st = .useToken d fcd ∧ c'.s.nextApp = c.s.nextApp) := by
  have used : ∀ {script}, c.apps[c.s.nextApp]? = some script →
      Inv c.s (c.apps.set c.s.nextApp script.tail) ∧ (c.apps.set c.s.nextApp script.tail).length = c.apps.length :=
    fun hscr => ⟨hpre.inv.setApps (by simp) (scriptsOk_set c.apps c.s.nextApp _ hpre.inv.scripts hscr), by simp⟩
  have encodable : ∀ {script hd pdu}, c.apps[c.s.nextApp]? = some script → script.headD .decline = .send hd pdu →
      hd.lengthByte pdu.length ≤ 249 := by
    intro script hd pdu hscr ha
    have hmem : AppAnswer.send hd pdu ∈ script := by
      cases script with
      | nil => cases ha
      | cons x xs => cases ha; exact List.mem_cons_self
    exact hpre.inv.scripts script (List.mem_of_getElem? hscr) _ hmem hd pdu rfl
  cases h with
  | noApp hs => exact absurd (List.getElem?_eq_none_iff.mp hs) (by omega)
  | decline hscr _ => exact ⟨_, false, rfl, (used hscr).1, hpre.on, (used hscr).2, fun _ => ⟨hpre.tx, hst, rfl⟩⟩
  | badFrame hscr ha hser => rw [serialize_ok _ _ (encodable hscr ha)] at hser; cases hser
  | notHolding _ _ _ _ hn => exact absurd hst (hn d fcd)
  | @send script hd pdu bytes st' hscr _ _ hss _ =>
    obtain rfl := hss.eq hst
    obtain ⟨hinv', hlen⟩ := used hscr
    have hi2 : Inv { c.s with st := sendState hd d fcd } (c.apps.set c.s.nextApp script.tail) := by
      unfold sendState
      cases expectsReplyOf hd with
      | none => exact hinv'.setPlain hpre.on _ rfl
      | some a => exact hinv'.setSt hpre.on _ (by simp) (by simp) (fun _ _ _ => hlen ▸ happ)
    exact ⟨_, true, rfl, inv_markTx hi2 now _, hpre.on, hlen, fun hb => by cases hb⟩
  | busy _ _ _ _ hb => rw [hpre.tx] at hb; cases hb

theorem appsTransmit_good (now : Int) (hp : Bool) : ∀ (k : Nat) (c : Ctx) (d : UseData) (fcd : Bool),
    Pre c → c.s.st = .useToken d fcd → k ≤ c.apps.length →
    ∃ c' b, appsTransmit now hp k c = (.ok c', b) ∧ Inv c'.s c'.apps ∧ c'.s.online = true ∧
      c'.apps.length = c.apps.length ∧ (b = false → c'.tx = none ∧ ∃ d', c'.s.st = .useToken d' fcd) := by
  intro k
  induction k with
  | zero =>
    intro c d fcd hpre hst _
    exact ⟨c, false, rfl, hpre.inv, hpre.on, rfl, fun _ => ⟨hpre.tx, d, hst⟩⟩
  | succ k ih =>
    intro c d fcd hpre hst hk
    have happ : c.s.nextApp < c.apps.length := hpre.inv.app (by omega)
    obtain ⟨c1, b, h1, hi1, ho1, hl1, hb1⟩ := (appTransmit_step c now hp).step_ok hpre hst happ
    simp only [appsTransmit]
    rw [h1]
    cases b with
    | true => exact ⟨c1, true, rfl, hi1, ho1, hl1, fun h => by cases h⟩
    | false =>
      -- `schedule_next_application`: the turn moves on, cyclically
      obtain ⟨htx1, hst1, hn1⟩ := hb1 rfl
      simp only [hst1, upd]
      have hmod : (c1.s.nextApp + 1) % c1.apps.length < c1.apps.length := Nat.mod_lt _ (by omega)
      have hi2 : Inv { c1.s with st := .useToken { d with firstApp := some (d.firstApp.getD c1.s.nextApp) } fcd,
                                 nextApp := (c1.s.nextApp + 1) % c1.apps.length } c1.apps :=
        ⟨hi1.addr, hi1.hsa, hi1.ring, fun h => by simp [ho1] at h, hi1.gap, by simp, by simp,
          fun _ => hmod, by simp, hi1.scripts, by simp⟩
      split
      · exact ⟨_, false, rfl, hi2, ho1, hl1, fun _ => ⟨htx1, _, rfl⟩⟩
      · obtain ⟨c2, b2, h2, hi3, ho3, hl3, hb3⟩ := ih
          { c1 with s := { c1.s with st := .useToken { d with firstApp := some (d.firstApp.getD c1.s.nextApp) } fcd,
                                      nextApp := (c1.s.nextApp + 1) % c1.apps.length } }
          { d with firstApp := some (d.firstApp.getD c1.s.nextApp) } fcd ⟨hi2, ho1, htx1⟩ rfl (by rw [hl1]; omega)
        exact ⟨c2, b2, h2, hi3, ho3, by rw [hl3]; exact hl1, hb3⟩

theorem passNow_good (c : Ctx) (now : Int) (hpre : Pre c) (d : UseData) (fcd : Bool)
    (hst : c.s.st = .useToken d fcd) : Good c.apps.length (passNow c now) := by
  rw [passNow_eq now hst]
  exact doPassToken_good _ now ⟨hpre.inv.setPlain hpre.on _ rfl, hpre.on, hpre.tx⟩ true .first rfl

theorem UseGoStep.good {c : Ctx} {now : Int} {d : UseData} {hp : Bool} {r : Res} (h : UseGoStep c now d hp r)
    (hpre : Pre c) : Good c.apps.length r := by
  -- the loop's value from the induction over the loop: it is the constructor's, with the same context after the loop
  obtain ⟨c1, b, h1, hi, ho, hl, hb⟩ := appsTransmit_good now hp c.apps.length
    { c with s := { c.s with st := .useToken d true } } d true ⟨hpre.inv.setPlain hpre.on _ rfl, hpre.on, hpre.tx⟩ rfl
    (Nat.le_refl _)
  cases h with
  | cycle _ hv => cases h1.symm.trans hv; exact good_ok _ hi hl
  | pass _ hr hv =>
    cases h1.symm.trans hv
    obtain ⟨htx', d', hst'⟩ := hb rfl
    exact hr ▸ hl ▸ passNow_good c1 now ⟨hi, ho, htx'⟩ d' true hst'
  | panic hv => cases h1.symm.trans hv

theorem coreEq_holdUpdate (s : Station) (d : UseData) : CoreEq (holdUpdate s d) s := by
  unfold holdUpdate; split <;> simp [CoreEq]

theorem UseStep.good {c : Ctx} {now : Int} {d : UseData} {fcd : Bool} {r : Res} (h : UseStep c now d fcd r)
    (hpre : Pre c) (hst : c.s.st = .useToken d fcd) : Good c.apps.length r := by
  have hpreH : Pre (held c now d) := ⟨hpre.inv.congr rfl rfl rfl rfl rfl rfl, hpre.on, hpre.tx⟩
  cases h with
  | wait _ => exact good_ok _ hpreH.inv rfl
  | go _ _ hr => exact (hr ▸ useTokenGo_step _ now d _).good hpreH
  | pass _ _ _ hr => exact hr ▸ passNow_good _ now hpreH d fcd hst

theorem doUseToken_good (c : Ctx) (now : Int) (hpre : Pre c) (d : UseData) (fcd : Bool)
    (hst : c.s.st = .useToken d fcd) : Good c.apps.length (doUseToken c now) :=
  (doUseToken_step now hst).good hpre hst

theorem AwaitDataStep.good {c : Ctx} {now : Int} {a : Nat} {d : UseData} {r : Res} (h : AwaitDataStep c now a d r)
    (hpre : Pre c) (hst : c.s.st = .awaitData a d) : Good c.apps.length r := by
  have his := inv_stamped hpre.inv now
  obtain ⟨rx0, calls0, ret0, hrx0⟩ := receiveTelegram_total c.rx
  cases h with
  | noApp hi => exact absurd (hpre.inv.appWait a d hst) (by omega)
  | rxPanic _ h => rw [hrx0] at h; cases h
  | rxHang _ h => rw [hrx0] at h; cases h
  | waits _ _ _ => exact good_ok _ his rfl
  | timeout _ _ _ hr => exact hr ▸ doUseToken_good _ now ⟨his.setPlain hpre.on _ rfl, hpre.on, hpre.tx⟩ d true rfl
  | reply _ _ _ => exact good_ok _ ((inv_markRx hpre.inv now).setPlain hpre.on _ rfl) rfl
  | backOff _ _ _ => exact good_ok _ ((inv_markRx hpre.inv now).setPlain hpre.on _ rfl) rfl

theorem doAwaitDataResponse_good (c : Ctx) (now : Int) (hpre : Pre c) (addr : Nat) (d : UseData)
    (hst : c.s.st = .awaitData addr d) : Good c.apps.length (doAwaitDataResponse c now) :=
  (doAwaitDataResponse_step now hst).good hpre hst

theorem dispatch_good (c : Ctx) (now : Int) (hpre : Pre c) (hno : c.s.st ≠ .offline) :
    Good c.apps.length (dispatch c now) := by
  unfold dispatch
  cases hst : c.s.st with
  | offline => exact absurd hst hno
  | passiveIdle => exact absurd hst hpre.inv.noPassive
  | listenToken a b => exact doListenToken_good _ now hpre a b hst
  | activeIdle a b d => exact doActiveIdle_good _ now hpre a b d hst
  | useToken a b => exact doUseToken_good _ now hpre a b hst
  | claimToken a => exact doClaimToken_good _ now hpre a hst
  | awaitData a b => exact doAwaitDataResponse_good _ now hpre a b hst
  | passToken a b => exact doPassToken_good _ now hpre a b hst
  | checkTokenPass a => exact doCheckTokenPass_good _ now hpre a hst
  | awaitStatus a => exact doAwaitStatusResponse_good _ now hpre a hst

/-- **One poll**: under the invariant `poll_inner` returns regularly (no `debug_assert`, `unreachable!`,
`unwrap`, index or overflow panic is reached) and re-establishes the invariant. -/
theorem pollInner_good (c : Ctx) (now : Int) (phyTx : Bool) (hinv : Inv c.s c.apps) (htx : c.tx = none) :
    Good c.apps.length (pollInner c now phyTx) := by
  have started : ∀ c : Ctx, Inv c.s c.apps → c.tx = none → c.s.online = true → c.s.st ≠ .offline →
      Good c.apps.length (pollInner c now phyTx) := by
    intro c hinv htx hon hno
    rw [pollInner_started now phyTx hon hno hinv.noPassive]
    split
    · exact good_ok _ (inv_markBusActivity hinv now) rfl
    · refine dispatch_good _ now ⟨inv_checkBusActivity hinv now _, ?_, htx⟩ ?_
      · rw [checkBusActivity_eq]; exact hon
      · rw [checkBusActivity_eq]; exact hno
  cases hon : c.s.online with
  | false => rw [pollInner_offline now phyTx hon (hinv.off hon)]; exact good_ok _ hinv rfl
  | true =>
    by_cases hst : c.s.st = .offline
    · rw [pollInner_wakes now phyTx hon hst]
      exact started _ (hinv.setPlain hon _ rfl) htx hon (fun h => FState.noConfusion h)
    · exact started c hinv htx hon hst

end PV
