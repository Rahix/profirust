/-
After every transmission the station's bus-activity stamp is the predicted end of that
transmission (`mark_tx`), whatever handler transmitted (C01).
-/
import ProfiVerif.Lemmas.StationWho

namespace PV

theorem pollInner_marks (c : Ctx) (now : Int) (phyTx : Bool) (c' : Ctx) (b : Bytes)
    (h : pollInner c now phyTx = .ok c') (h0 : c.tx = none) (hb : c'.tx = some b) : MarkK now c' b :=
  (pollInner_sent c now phyTx c' b h h0 hb).2.2.1.mark

end PV
