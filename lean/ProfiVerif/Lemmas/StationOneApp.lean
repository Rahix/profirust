/-
A station with ONE application whose script for the poll is the one answer `[a]` (the setting of the compositions
`Lemmas/StackTotal.lean` and `Lemmas/StackApps.lean`): the application callbacks of a poll have one of five shapes
(`PollShape`) — the application is asked at most once, with `high_prio_only = Station.askHp`, the answer used is `a`,
and only `handle_timeout` can precede the question in the same poll — and such a poll is regular and keeps the
station invariant (`poll_single_ok`).
-/
import ProfiVerif.Model.Stack
import ProfiVerif.Lemmas.StationTrace

namespace PV
open TokenRing StationGap

/-- The application loop over the single script `[a]` (one iteration): the application is asked exactly once and
the answer the station uses is `a`. -/
theorem AppLoop.single {now : Int} {hp : Bool} {c : Ctx} {d : UseData} {fcd : Bool} {m : Nat} {b : Bool} {c1 : Ctx}
    {a : AppAnswer} (h : AppLoop now hp 1 c d fcd m b c1) (ha : c.apps = [[a]]) :
    ∃ i, c1.calls = c.calls ++ [.transmit i hp a] := by
  obtain ⟨new, e1, e2⟩ := h.asked
  -- one callback: a decline after which the loop is over, or the telegram
  have one : ∃ i x, c1.calls = c.calls ++ [.transmit i hp x] := by
    cases b with
    | false =>
      obtain ⟨q1, -, -, q4⟩ := h.quiet rfl
      have hm : m = 1 := by
        have := h.le
        rcases q4 with q | ⟨q, -⟩ <;> omega
      subst hm
      exact ⟨_, _, q1⟩
    | true =>
      have hm : m = 0 := by have := h.sent_lt rfl; omega
      subst hm
      obtain ⟨hd, pdu, bytes, q1, -⟩ := h.sent rfl
      exact ⟨_, _, by simpa [declines, cyc] using q1⟩
  obtain ⟨i, x, hc⟩ := one
  rw [hc] at e1
  have hn := List.append_cancel_left e1
  subst hn
  -- the answer is the head of the script
  rw [ha] at e2
  obtain ⟨j, hp', script, hscr, hx⟩ := e2.head
  cases hx
  cases i with
  | zero => cases hscr; exact ⟨0, hc⟩
  | succ n => cases hscr

theorem holdEnd_checkBusActivity (s : Station) (now : Int) (n : Nat) (d : UseData) :
    holdEnd (checkBusActivity s now n) d = holdEnd s d := by
  rw [checkBusActivity_eq]
  exact hold_end_congr _ s d rfl rfl rfl rfl

theorem doUseToken_one (c c' : Ctx) (now : Int) (d : UseData) (fcd : Bool) (a : AppAnswer) (ha : c.apps = [[a]])
    (hst : c.s.st = .useToken d fcd) (h : doUseToken c now = .ok c') :
    c'.calls = c.calls ∨ ∃ i, c'.calls = c.calls ++ [.transmit i (!decide (now < holdEnd c.s d)) a] := by
  have hl : (held c now d).apps.length = 1 := by
    show c.apps.length = 1
    rw [ha]; rfl
  have hs := doUseToken_step now hst
  rw [h] at hs
  cases hs with
  | wait _ => exact .inl rfl
  | go _ _ hgo =>
    have hg := useTokenGo_step (held c now d) now d (!decide (now < holdEnd c.s d))
    rw [hgo] at hg
    cases hg with
    | cycle hm =>
      rw [hl] at hm
      obtain ⟨i, hi⟩ := hm.single (a := a) ha
      exact .inr ⟨i, hi⟩
    | pass hm hp =>
      rw [hl] at hm
      obtain ⟨i, hi⟩ := hm.single (a := a) ha
      exact .inr ⟨i, ((passNow_eff _ c' now [] hp).1.calls).trans hi⟩
  | pass _ _ _ hp => exact .inl (passNow_eff _ c' now [] hp).1.calls

theorem doAwait_one (c c' : Ctx) (now : Int) (x : Nat) (d : UseData) (a : AppAnswer) (ha : c.apps = [[a]])
    (hst : c.s.st = .awaitData x d) (h : doAwaitDataResponse c now = .ok c') :
    c'.calls = c.calls ∨
    (∃ t, validReplyB c.s.p.address x t = true ∧ c'.calls = c.calls ++ [.reply c.s.nextApp x t]) ∨
    c'.calls = c.calls ++ [.timeout c.s.nextApp x] ∨
    ∃ i, c'.calls = c.calls ++ [.timeout c.s.nextApp x, .transmit i (!decide (now < holdEnd c.s d)) a] := by
  have hs := doAwaitDataResponse_step now hst
  rw [h] at hs
  cases hs with
  | waits => exact .inl rfl
  | timeout _ _ _ hu =>
    -- the token visit goes on in the same poll, with the hold time of the state the poll started in
    have he : holdEnd { (stamped c.s now) with st := FState.useToken d true } d = holdEnd c.s d :=
      hold_end_congr _ c.s d rfl rfl rfl rfl
    rcases doUseToken_one _ c' now d true a (by exact ha) rfl hu with hc | ⟨i, hc⟩
    · exact .inr (.inr (.inl hc))
    · rw [he] at hc
      exact .inr (.inr (.inr ⟨i, by simpa using hc⟩))
  | reply _ _ hv => exact .inr (.inl ⟨_, hv, rfl⟩)
  | backOff => exact .inl rfl

/-- The application callbacks of one poll of a station with a single application, whose script is `[a]`, by the state
the poll starts in: none; the question alone (token visit); while a reply from `x` is awaited the admitted reply
alone, the time-out alone, or the time-out followed by the question.  The application is asked at most once, gets
`high_prio_only = askHp`, and the answer the station uses is `a`. -/
inductive PollShape (s : Station) (a : AppAnswer) (now : Int) : List AppCall → Prop
  | quiet : PollShape s a now []
  | ask {d : UseData} {fcd : Bool} (i : Nat) : s.st = .useToken d fcd → PollShape s a now [.transmit i (s.askHp now) a]
  | reply {x : Nat} {d : UseData} (t : Telegram) : s.st = .awaitData x d → validReplyB s.p.address x t = true →
      PollShape s a now [.reply s.nextApp x t]
  | timeout {x : Nat} {d : UseData} : s.st = .awaitData x d → PollShape s a now [.timeout s.nextApp x]
  | timeoutAsk {x : Nat} {d : UseData} (j : Nat) : s.st = .awaitData x d →
      PollShape s a now [.timeout s.nextApp x, .transmit j (s.askHp now) a]

theorem poll_shaped (s : Station) (a : AppAnswer) (now : Int) (phy : Bool) (rx : Bytes) (c' : Ctx)
    (h : s.poll [[a]] now phy rx = .ok c') : PollShape s a now c'.calls := by
  -- only a poll that starts inside a message cycle makes callbacks (`poll_calls`); it runs the handler of that state
  rcases poll_calls s [[a]] now phy rx c' h with ⟨hc, -⟩ | ⟨hon, ⟨d, fcd, hst⟩, -, -⟩ | ⟨hon, x, d, hst, -⟩
  · rw [hc]; exact .quiet
  · rw [Station.poll_started s _ now phy rx hon (by rw [hst]; exact fun e => FState.noConfusion e)
      (by rw [hst]; exact fun e => FState.noConfusion e)] at h
    rcases ite_inv h with ⟨-, h⟩ | ⟨-, h⟩
    · cases h; exact .quiet
    · have hst' : (checkBusActivity s now rx.length).st = .useToken d fcd := by rw [checkBusActivity_eq]; exact hst
      have hask : s.askHp now = !decide (now < holdEnd (checkBusActivity s now rx.length) d) := by
        rw [holdEnd_checkBusActivity]; unfold Station.askHp; rw [hst]; rfl
      rw [dispatch_useToken now hst'] at h
      rcases doUseToken_one _ c' now d fcd a rfl hst' h with hc | ⟨i, hc⟩
      · rw [hc]; exact .quiet
      · rw [← hask] at hc
        rw [hc]; exact .ask i hst
  · rw [Station.poll_started s _ now phy rx hon (by rw [hst]; exact fun e => FState.noConfusion e)
      (by rw [hst]; exact fun e => FState.noConfusion e)] at h
    rcases ite_inv h with ⟨-, h⟩ | ⟨-, h⟩
    · cases h; exact .quiet
    · have hst' : (checkBusActivity s now rx.length).st = .awaitData x d := by rw [checkBusActivity_eq]; exact hst
      have hask : s.askHp now = !decide (now < holdEnd (checkBusActivity s now rx.length) d) := by
        rw [holdEnd_checkBusActivity]; unfold Station.askHp; rw [hst]; rfl
      rw [dispatch_awaitData now hst'] at h
      -- `check_for_bus_activity` keeps the turn and the parameters
      rcases doAwait_one _ c' now x d a rfl hst' h with hc | ⟨t, hv, hc⟩ | hc | ⟨i, hc⟩
      · rw [hc]; exact .quiet
      · rw [checkBusActivity_eq] at hv hc
        rw [hc]; exact .reply t hst hv
      · rw [checkBusActivity_eq] at hc
        rw [hc]; exact .timeout hst
      · rw [← hask, checkBusActivity_eq] at hc
        rw [hc]; exact .timeoutAsk i hst

theorem poll_shape (s : Station) (a : AppAnswer) (now : Int) (phy : Bool) (rx : Bytes) (c' : Ctx)
    (h : s.poll [[a]] now phy rx = .ok c') :
    c'.calls = [] ∨ (∃ i, c'.calls = [.transmit i (s.askHp now) a]) ∨ (∃ i x t, c'.calls = [.reply i x t]) ∨
    (∃ i x, c'.calls = [.timeout i x]) ∨ (∃ i x j, c'.calls = [.timeout i x, .transmit j (s.askHp now) a]) := by
  generalize hcs : c'.calls = cs
  have hs := poll_shaped s a now phy rx c' h
  rw [hcs] at hs
  cases hs with
  | quiet => exact .inl rfl
  | ask i _ => exact .inr (.inl ⟨i, rfl⟩)
  | reply t _ _ => exact .inr (.inr (.inl ⟨_, _, t, rfl⟩))
  | timeout _ => exact .inr (.inr (.inr (.inl ⟨_, _, rfl⟩)))
  | timeoutAsk j _ => exact .inr (.inr (.inr (.inr ⟨_, _, j, rfl⟩)))

theorem scriptsOk_nil : ScriptsOk [[]] := by
  intro sc hsc ans ha; simp only [List.mem_singleton] at hsc; subst hsc; cases ha

theorem poll_single_ok {s : Station} (hS : Inv s [[]]) {a : AppAnswer} (ha : ScriptsOk [[a]]) (now : Int) (phy : Bool)
    (rx : Bytes) : ∃ c, s.poll [[a]] now phy rx = .ok c ∧ Inv c.s [[]] := by
  obtain ⟨c, hc, hic, hlc⟩ := pollInner_good { s := s, apps := [[a]], rx := rx } now phy (hS.setApps rfl ha) rfl
  exact ⟨c, hc, hic.setApps (by rw [hlc]; rfl) scriptsOk_nil⟩

end PV
