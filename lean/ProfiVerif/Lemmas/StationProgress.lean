/-
Liveness step behind C06: what one poll of an online station does on a *silent* bus (nothing in the receive buffer,
PHY idle, bus-activity stamp `l`; a missing stamp counts as the poll time: `SilAt`).  Either a telegram is handed to
the PHY, or the context stays silent with the same stamp — and when the poll time is later than `l` by more than every
timer (`Late`), the only handlers that may stay silent are those listed in `Deferred` (`silent_step`).  This is read
off the step relations, one line per control path (`*.prog`): on a silent context the stamp decides the guards and
the empty buffer decides what was received.  `pollsToTx` bounds the late polls until a transmission
(`late_polls_transmit`; `pre_polls` and `fresh_polls` put earlier polls and the first poll of an unstamped station in
front).  Last come the handler equations on a silent context that `Props/C06.lean` and the cold start follow poll by
poll, `late_noTx_of_bound` (a late poll of a station whose bound is 2 or 3 does not transmit: the bound is exact), and two
facts that only C06 uses (`removeStation_inactive`, `doUseToken_calls`).
-/
import ProfiVerif.Lemmas.StationMark
import ProfiVerif.Lemmas.StationTrace

namespace PV

/-- The longest timer a station waits on: token-lost time-out, slot time, synchronisation pause
(`tokenLostTimeout` can be below 33 bit times for degenerate parameters, hence the maximum). -/
def Params.silence (p : Params) : Nat := max p.tokenLostTimeout (max p.slotTime (p.bits 33))

def Late (p : Params) (l now : Int) : Prop := l + (p.silence : Nat) < now

theorem Late.sync {p : Params} {l now : Int} (h : Late p l now) : ¬ (now ≤ l + (p.bits 33 : Nat)) := by
  unfold Late Params.silence at h; omega

theorem Late.slot {p : Params} {l now : Int} (h : Late p l now) : now > l + (p.slotTime : Nat) := by
  unfold Late Params.silence at h; omega

theorem Late.lost {p : Params} {l now : Int} (h : Late p l now) : (now - l).natAbs ≥ p.tokenLostTimeout := by
  unfold Late Params.silence at h; omega

theorem Late.after {p : Params} {l now : Int} (h : Late p l now) : l < now := by
  unfold Late at h; omega

theorem Late.mono {p : Params} {l now now2 : Int} (h : Late p l now) (h2 : now ≤ now2) : Late p l now2 := by
  unfold Late at *; omega

/-- A silent context with stamp `l`.  FDL state, GAP state and ring view do not matter to it: the same four facts serve
every result that changes only these. -/
structure Sil (c : Ctx) (l : Int) : Prop where
  on : c.s.online = true
  tx : c.tx = none
  rx : c.rx = []
  last : c.s.lastBusActivity = some l

theorem waitSync_some (s : Station) (now l : Int) (h : s.lastBusActivity = some l) :
    waitSyncPause s now = (s, decide (now ≤ l + (s.p.bits 33 : Nat))) := by
  unfold waitSyncPause; rw [getOrInsert_last s now l h]

theorem checkSlot_some (s : Station) (now l : Int) (h : s.lastBusActivity = some l) :
    checkSlotExpired s now = (s, decide (now > l + (s.p.slotTime : Nat))) := by
  unfold checkSlotExpired; rw [getOrInsert_last s now l h]

/-- Silent context as the poll at `now` reads it: the stamp may still be missing, and then counts as `now`
(`get_or_insert(now)`); `l` is the stamp the poll works with. -/
structure SilAt (c : Ctx) (l now : Int) : Prop where
  on : c.s.online = true
  tx : c.tx = none
  rx : c.rx = []
  last : c.s.lastBusActivity.getD now = l

theorem Sil.silAt {c : Ctx} {l : Int} (hs : Sil c l) (now : Int) : SilAt c l now :=
  ⟨hs.on, hs.tx, hs.rx, by rw [hs.last]; rfl⟩

theorem SilAt.sil {c : Ctx} {l now : Int} (hs : SilAt c l now) : Sil { c with s := StationGap.stamped c.s now } l :=
  ⟨hs.on, hs.tx, hs.rx, congrArg some hs.last⟩

theorem SilAt.receiveAll {c : Ctx} {l now : Int} (hs : SilAt c l now) : receiveAll c.rx = .done [] [] false := by
  rw [hs.rx, receiveAll_nil]

theorem SilAt.receiveTelegram {c : Ctx} {l now : Int} (hs : SilAt c l now) :
    receiveTelegram c.rx = .done [] [] false := by
  rw [hs.rx, receiveTelegram_nil]

theorem SilAt.late_sync {c : Ctx} {l now : Int} (hs : SilAt c l now) (hl : Late c.s.p l now) :
    StationGap.SyncOver c.s now := by
  rw [StationGap.syncOver_iff, hs.last]
  have := hl.sync
  omega

theorem SilAt.late_slot {c : Ctx} {l now : Int} (hs : SilAt c l now) (hl : Late c.s.p l now) :
    StationGap.SlotExpired c.s now := by
  rw [StationGap.slotExpired_iff, hs.last]
  exact hl.slot

theorem SilAt.late_lost {c : Ctx} {l now : Int} (hs : SilAt c l now) (hl : Late c.s.p l now) :
    StationGap.TokenLost c.s now := by
  unfold StationGap.TokenLost
  rw [hs.last]
  exact hl.lost

theorem toClaimToken_eq {s s' : Station} (h : toClaimToken s = some s') :
    s' = { s with st := .claimToken .firstToken } := setsSt_toClaimToken s s' h
theorem toListenToken_eq {s s' : Station} (h : toListenToken s = some s') :
    s' = { s with st := .listenToken none 0 } := setsSt_toListenToken s s' h

/-- Outcome shape of (a part of) a silent poll of a station with parameters `p`: parameters and connectivity
are kept; either a telegram was handed to the PHY, or the context is still silent with the same stamp and `D`
holds. -/
def Prog (p : Params) (l : Int) (D : Ctx → Prop) (r : Res) : Prop :=
  ∀ c', r = .ok c' → c'.s.p = p ∧ c'.s.online = true ∧ (c'.tx ≠ none ∨ (Sil c' l ∧ D c'))

theorem Prog.panic {p : Params} {l : Int} {D : Ctx → Prop} (s : String) : Prog p l D (.panic s) := by
  intro c' h; cases h

theorem Prog.mono {p : Params} {l : Int} {D D' : Ctx → Prop} {r : Res} (h : Prog p l D r) (hd : ∀ c', D c' → D' c') :
    Prog p l D' r := by
  intro c' hr
  obtain ⟨h1, h2, h3⟩ := h c' hr
  exact ⟨h1, h2, h3.imp id (fun ⟨a, b⟩ => ⟨a, hd c' b⟩)⟩

theorem Prog.sent {p : Params} {c1 : Ctx} {l : Int} {D : Ctx → Prop} {b : Bytes} (hp : c1.s.p = p)
    (ho : c1.s.online = true) (ht : c1.tx = some b) : Prog p l D (.ok c1) := by
  intro c' h
  cases h
  exact ⟨hp, ho, .inl (by rw [ht]; exact Option.some_ne_none b)⟩

theorem Prog.silent {p : Params} {c1 : Ctx} {l : Int} {D : Ctx → Prop} (hp : c1.s.p = p) (hs : Sil c1 l) (hd : D c1) :
    Prog p l D (.ok c1) := by
  intro c' h
  cases h
  exact ⟨hp, hs.on, .inr ⟨hs, hd⟩⟩

/-- The start states whose *late* silent poll may end without a transmission, together with the
state the poll ends in:
* `ClaimToken(Scan)` with the GAP sweep finished → `PassToken(no gap, first)`;
* `ClaimToken(Scan | ScanAwait)` whose sweep position is the last GAP address → `ClaimToken(Scan)` with
  the sweep finished (`Waiting 0`).
(`UseToken` and `AwaitDataResponse` pass the token in the same poll since the repair of finding K3.) -/
def Deferred (s s' : Station) : Prop :=
  (s.st = .claimToken .scan ∧ (∃ r, s.gap = .waiting r) ∧ s'.st = .passToken false .first)
  ∨ ((s.st = .claimToken .scan ∨ ∃ a, s.st = .claimToken (.scanAwait a)) ∧
      ∃ cur, s.gap = .doPoll cur ∧ nextGapPoll s.p.address s.ring.ns s.p.hsa cur = .waiting ∧
        s'.st = .claimToken .scan ∧ s'.gap = .waiting 0)

/-! On a silent context every control path of a handler ends in one of three ways: a panic, a telegram in the transmit
slot (`Prog.sent`), or the context silent as before (`Prog.silent`) — and the paths of the last kind have a guard
that a `Late` poll refutes, except the two scan steps listed in `Deferred`.  A continuation in the same poll
(`doPassToken .. = r`, `doClaimToken .. = r`, `doUseToken .. = r`) runs on a context that is silent again. -/

theorem PassTokenStep.prog {c : Ctx} {now l : Int} {att : Attempt} {g : Bool} {r : Res}
    (h : PassTokenStep c now att g r) (hs : SilAt c l now) : Prog c.s.p l (fun _ => ¬ Late c.s.p l now) r := by
  cases h with
  | wait hw => exact .silent rfl hs.sil fun hl => hw (hs.late_sync hl)
  | poll => exact .sent rfl hs.on rfl
  | passGap => exact .sent rfl hs.on rfl
  | pass => exact .sent rfl hs.on rfl
  | overflow | self | busy => exact .panic _

theorem CheckStep.prog {c : Ctx} {now l : Int} {att : Attempt} {r : Res} (h : CheckStep c now att r)
    (hs : SilAt c l now) : Prog c.s.p l (fun _ => ¬ Late c.s.p l now) r := by
  cases h with
  | retry _ _ hp => exact (hp ▸ doPassToken_step now rfl).prog ⟨hs.on, hs.tx, hs.rx, hs.last⟩
  | quiet hex hrx =>
    cases hs.receiveAll.symm.trans hrx
    exact .silent rfl ⟨hs.on, hs.tx, rfl, congrArg some hs.last⟩ fun hl => hex (hs.late_slot hl)
  | heard _ hrx => cases hs.receiveAll.symm.trans hrx
  | noRetry | rxPanic | rxHang => exact .panic _

/-- Nothing was received: the handler waits while the slot time runs (hence `D` has to follow from "not late"); once it
is over the handler goes on with `next`, on a context silent as before (`rx := []` and the stamp are what the query
leaves of a silent context), and the query has asserted `GapAsked`. -/
theorem AwaitStep.prog {c : Ctx} {now l : Int} {addr : Nat} {st : FState} {next : Ctx → Res} {D : Ctx → Prop} {r : Res}
    (h : AwaitStep c now addr st next r) (hs : SilAt c l now) (hD : ∀ c', ¬ Late c.s.p l now → D c')
    (hnext : GapAsked c addr →
      Prog c.s.p l D (next { c with rx := [], s := { (StationGap.stamped c.s now) with st := st } })) :
    Prog c.s.p l D r := by
  cases h with
  | waits hq =>
    cases hq with
    | waits _ hrx hex =>
      cases hs.receiveTelegram.symm.trans hrx
      exact .silent rfl ⟨hs.on, hs.tx, rfl, congrArg some hs.last⟩ (hD _ fun hl => hex (hs.late_slot hl))
  | timeout hq hv =>
    cases hq with
    | timeout ha hrx =>
      cases hs.receiveTelegram.symm.trans hrx
      exact hv ▸ hnext ha
  | responded hq => cases hq with | other _ hrx | admits _ hrx => cases hs.receiveTelegram.symm.trans hrx
  | unexpected hq => cases hq with | unexpected _ hrx => cases hs.receiveTelegram.symm.trans hrx
  | panic => exact .panic _

theorem StatusStep.prog {c : Ctx} {now l : Int} {addr : Nat} {r : Res} (h : StatusStep c now addr r)
    (hs : SilAt c l now) : Prog c.s.p l (fun _ => ¬ Late c.s.p l now) r :=
  AwaitStep.prog h hs (fun _ hn => hn) fun _ => (doPassToken_step now rfl).prog ⟨hs.on, hs.tx, rfl, hs.last⟩

theorem ClaimTokStep.prog {c : Ctx} {now l : Int} {step : ClaimStep} {r : Res} (h : ClaimTokStep c now step r)
    (hs : SilAt c l now) : Prog c.s.p l (fun _ => ¬ Late c.s.p l now) r := by
  cases h with
  | wait hw => exact .silent rfl hs.sil fun hl => hw (hs.late_sync hl)
  | claim => exact .sent rfl hs.on rfl
  | busy => exact .panic _

theorem ScanStep.prog {c : Ctx} {now l : Int} {r : Res} (h : ScanStep c now r) (hs : SilAt c l now)
    (hst : c.s.st = .claimToken .scan) : Prog c.s.p l (fun c' => Late c.s.p l now → Deferred c.s c'.s) r := by
  cases h with
  | wait hw => exact .silent rfl hs.sil fun hl => absurd (hs.late_sync hl) hw
  | done _ hg =>
    exact .silent rfl ⟨hs.on, hs.tx, hs.rx, congrArg some hs.last⟩ fun _ => .inl ⟨hst, ⟨_, hg⟩, rfl⟩
  | sweepEnds _ hg hn =>
    obtain ⟨hend, rfl⟩ := StationGap.nextGap_waiting_iff.mp hn
    exact .silent rfl ⟨hs.on, hs.tx, hs.rx, congrArg some hs.last⟩ fun _ => .inr ⟨.inl hst, _, hg, hend, hst, rfl⟩
  | poll => exact .sent rfl hs.on rfl
  | overflow | self | busy => exact .panic _

theorem ScanAwaitStep.prog {c : Ctx} {now l : Int} {addr : Nat} {r : Res} (h : ScanAwaitStep c now 1 addr r)
    (hs : SilAt c l now) (hst : c.s.st = .claimToken (.scanAwait addr)) :
    Prog c.s.p l (fun c' => Late c.s.p l now → Deferred c.s c'.s) r := by
  refine AwaitStep.prog h hs (fun _ hn hl => absurd hl hn) fun ha => ?_
  -- the scan step taken in the same poll starts from `ClaimToken(Scan)`; `Deferred` speaks of the start state
  have hsc := doClaimToken_scan_step
    (c := { c with rx := [], s := { (StationGap.stamped c.s now) with st := .claimToken .scan } }) now 0 rfl
  refine (hsc.prog ⟨hs.on, hs.tx, rfl, hs.last⟩ rfl).mono fun c' hd hl => ?_
  rcases hd hl with ⟨-, ⟨r, hr⟩, -⟩ | ⟨-, cur, hc, hn, hst', hg'⟩
  · cases ha.2.symm.trans hr
  · exact .inr ⟨.inr ⟨addr, hst⟩, cur, hc, hn, hst', hg'⟩

theorem ClaimTokenStep.prog {c : Ctx} {now l : Int} {step : ClaimStep} {r : Res} (h : ClaimTokenStep c now 1 step r)
    (hs : SilAt c l now) (hst : c.s.st = .claimToken step) :
    Prog c.s.p l (fun c' => Late c.s.p l now → Deferred c.s c'.s) r := by
  cases h with
  | tok _ h => exact (h.prog hs).mono fun _ hn hl => absurd hl hn
  | scan h => exact h.prog hs hst
  | await h => exact h.prog hs hst

/-- `do_listen_token` and `do_active_idle` on a silent context: the batch is empty, and the callback is not run. -/
theorem IdlingStep.prog {c : Ctx} {now l : Int} {report : Nat → ResponseState} {st : FState}
    {tel : Ctx → Telegram → Bool → Res} {sr : Option Nat} {r : Res} (h : IdlingStep c now report st tel sr r)
    (hs : SilAt c l now) : Prog c.s.p l (fun _ => ¬ Late c.s.p l now) r := by
  cases h with
  | lost _ hr => exact (hr ▸ doClaimToken_tok_step now 1 (.inl rfl) rfl).prog ⟨hs.on, hs.tx, hs.rx, hs.last⟩
  | wait hl => exact .silent rfl hs.sil fun hlate => hl (hs.late_lost hlate)
  | reply => exact .sent rfl hs.on rfl
  | recv hl hrx hr =>
    cases hs.receiveAll.symm.trans hrx
    cases hr
    exact .silent rfl ⟨hs.on, hs.tx, rfl, congrArg some hs.last⟩ fun hlate => hl (hs.late_lost hlate)
  | busy | rxPanic | rxHang => exact .panic _

theorem sil_setSt {c : Ctx} {l : Int} (hs : Sil c l) (st' : FState) : Sil (upd c fun s => { s with st := st' }) l :=
  ⟨hs.on, hs.tx, hs.rx, hs.last⟩

theorem passNow_prog {c : Ctx} {d : UseData} {fcd : Bool} (now : Int) {l : Int} (hst : c.s.st = .useToken d fcd)
    (hs : Sil c l) : Prog c.s.p l (fun _ => ¬ Late c.s.p l now) (passNow c now) := by
  rw [passNow_eq now hst]
  exact (doPassToken_step now rfl).prog ((sil_setSt hs _).silAt now)

theorem UseGoStep.prog {c : Ctx} {now l : Int} {d : UseData} {hp : Bool} {r : Res} (h : UseGoStep c now d hp r)
    (hs : Sil c l) : Prog c.s.p l (fun _ => ¬ Late c.s.p l now) r := by
  cases h with
  | cycle hm =>
    obtain ⟨hd, pdu, bytes, -, -, -, htx, e⟩ := hm.cycle rfl
    exact .sent (by rw [e]; rfl) (by rw [e]; exact hs.on) htx
  | @pass m c1 r hm hr =>
    obtain ⟨-, htx, e, -⟩ := hm.still rfl
    have hs1 : Sil c1 l := ⟨by rw [e]; exact hs.on, htx.trans hs.tx, hm.rx.trans hs.rx, by rw [e]; exact hs.last⟩
    have hp1 : c1.s.p = c.s.p := by rw [e]
    have h1 := passNow_prog now (by rw [e]) hs1
    rw [hr, hp1] at h1
    exact h1
  | panic => exact .panic _

theorem UseStep.prog {c : Ctx} {now l : Int} {d : UseData} {fcd : Bool} {r : Res} (h : UseStep c now d fcd r)
    (hs : SilAt c l now) (hst : c.s.st = .useToken d fcd) : Prog c.s.p l (fun _ => ¬ Late c.s.p l now) r := by
  have hh : Sil (held c now d) l := ⟨hs.on, hs.tx, hs.rx, congrArg some hs.last⟩
  cases h with
  | wait hw => exact .silent rfl hh fun hl => hw (hs.late_sync hl)
  | go _ _ hr => exact (hr ▸ useTokenGo_step (held c now d) now d _).prog hh
  | pass _ _ _ hr => exact hr ▸ passNow_prog now hst hh

theorem AwaitDataStep.prog {c : Ctx} {now l : Int} {a : Nat} {d : UseData} {r : Res} (h : AwaitDataStep c now a d r)
    (hs : SilAt c l now) : Prog c.s.p l (fun _ => ¬ Late c.s.p l now) r := by
  cases h with
  | waits _ hrx hex =>
    cases hs.receiveTelegram.symm.trans hrx
    exact .silent rfl ⟨hs.on, hs.tx, rfl, congrArg some hs.last⟩ fun hl => hex (hs.late_slot hl)
  | timeout _ hrx _ hr =>
    cases hs.receiveTelegram.symm.trans hrx
    exact (hr ▸ doUseToken_step now rfl).prog ⟨hs.on, hs.tx, rfl, hs.last⟩ rfl
  | reply _ hrx | backOff _ hrx => cases hs.receiveTelegram.symm.trans hrx
  | noApp | rxPanic | rxHang => exact .panic _

theorem dispatch_prog (c : Ctx) (now l : Int) (hs : SilAt c l now) :
    Prog c.s.p l (fun c' => Late c.s.p l now → Deferred c.s c'.s) (dispatch c now) := by
  have never : ∀ {r}, Prog c.s.p l (fun _ => ¬ Late c.s.p l now) r →
      Prog c.s.p l (fun c' => Late c.s.p l now → Deferred c.s c'.s) r := fun h => h.mono fun _ hn hl => absurd hl hn
  cases hst : c.s.st with
  | offline => rw [dispatch_offline now hst]; exact .panic _
  | passiveIdle => rw [dispatch_passiveIdle now hst]; exact .panic _
  | listenToken sr coll => rw [dispatch_listenToken now hst]; exact never ((doListenToken_step now hst).prog hs)
  | activeIdle sr np coll => rw [dispatch_activeIdle now hst]; exact never ((doActiveIdle_step now hst).prog hs)
  | claimToken step => rw [dispatch_claimToken now hst]; exact (doClaimToken_step now 1 hst).prog hs hst
  | useToken d fcd => rw [dispatch_useToken now hst]; exact never ((doUseToken_step now hst).prog hs hst)
  | awaitData a d => rw [dispatch_awaitData now hst]; exact never ((doAwaitDataResponse_step now hst).prog hs)
  | passToken g att => rw [dispatch_passToken now hst]; exact never ((doPassToken_step now hst).prog hs)
  | checkTokenPass att => rw [dispatch_checkTokenPass now hst]; exact never ((doCheckTokenPass_step now hst).prog hs)
  | awaitStatus a => rw [dispatch_awaitStatus now hst]; exact never ((doAwaitStatusResponse_step now hst).prog hs)

theorem checkBus_nil (s : Station) (now : Int) : checkBusActivity s now 0 = s :=
  checkBusActivity_id s now 0 (Nat.zero_le _)

theorem markBus_same (s : Station) (now l : Int) (h : s.lastBusActivity = some l) (hle : now ≤ l) :
    markBusActivity s now = s := by
  unfold markBusActivity
  rw [h]
  simp only [Option.getD_some]
  rw [Int.max_eq_left hle, ← h]

theorem pollInner_quiet (c : Ctx) (now : Int) (hon : c.s.online = true) (hrx : c.rx = []) (hinv : Inv c.s c.apps)
    (hno : c.s.st ≠ .offline) :
    pollInner c now false =
      if ongoing c now false then .ok (upd c fun s => markBusActivity s now) else dispatch c now := by
  have hcb : checkBusActivity c.s now c.rx.length = c.s := by rw [hrx]; exact checkBus_nil c.s now
  rw [pollInner_started now false hon hno hinv.noPassive, hcb]
  rfl

theorem pollInner_prog (c : Ctx) (now l : Int) (hs : SilAt c l now) (hinv : Inv c.s c.apps) (hno : c.s.st ≠ .offline) :
    Prog c.s.p l (fun c' => Late c.s.p l now → Deferred c.s c'.s) (pollInner c now false) := by
  rw [pollInner_quiet c now hs.on hs.rx hinv hno]
  by_cases hong : ongoing c now false = true
  · -- the own transmission is predicted to run until the stamp: the poll only notes that
    obtain ⟨l', hl', hle⟩ := ((ongoing_eq_true_iff c now false).1 hong).resolve_left (fun h => by cases h)
    obtain rfl : l' = l := by have := hs.last; rw [hl'] at this; exact this
    have hsame : (upd c fun s => markBusActivity s now) = c := by
      simp only [upd]
      rw [markBus_same _ _ _ hl' hle]
    rw [if_pos hong, hsame]
    exact .silent rfl ⟨hs.on, hs.tx, hs.rx, hl'⟩ fun hl => absurd hl.after (by omega)
  · rw [if_neg hong]
    exact dispatch_prog c now l hs

theorem pollInner_prog_offline (c : Ctx) (now l : Int) (hs : SilAt c l now) (hinv : Inv c.s c.apps)
    (hoff : c.s.st = .offline) : Prog c.s.p l (fun _ => ¬ Late c.s.p l now) (pollInner c now false) := by
  have hinv1 : Inv { c.s with st := .listenToken none 0 } c.apps := hinv.setSt hs.on _ (by simp) (by simp) (by simp)
  have hs1 : SilAt { c with s := { c.s with st := .listenToken none 0 } } l now := ⟨hs.on, hs.tx, hs.rx, hs.last⟩
  have h1 := pollInner_prog _ now l hs1 hinv1 (by simp)
  rw [pollInner_wakes now false hs.on hoff]
  intro c' h
  obtain ⟨a, b, d⟩ := h1 c' h
  refine ⟨a, b, d.imp id (fun ⟨x, y⟩ => ⟨x, fun hl => ?_⟩)⟩
  rcases y hl with ⟨hu, -⟩ | ⟨hu | hu, -⟩
  · cases hu
  · cases hu
  · obtain ⟨_, hu⟩ := hu; cases hu

theorem silent_step_at (c : Ctx) (now l : Int) (hinv : Inv c.s c.apps) (hs : SilAt c l now) :
    ∃ c', pollInner c now false = .ok c' ∧ Inv c'.s c'.apps ∧ c'.apps.length = c.apps.length ∧
      c'.s.online = true ∧ c'.s.p = c.s.p ∧
      (c'.tx ≠ none ∨ (Sil c' l ∧ (Late c.s.p l now → Deferred c.s c'.s))) := by
  obtain ⟨c', hc', hinv', hlen⟩ := pollInner_good c now false hinv hs.tx
  refine ⟨c', hc', hinv', hlen, ?_⟩
  by_cases hoff : c.s.st = .offline
  · obtain ⟨h1, h2, h3⟩ := pollInner_prog_offline c now l hs hinv hoff c' hc'
    exact ⟨h2, h1, h3.imp id (fun ⟨a, b⟩ => ⟨a, fun hl => absurd hl b⟩)⟩
  · obtain ⟨h1, h2, h3⟩ := pollInner_prog c now l hs hinv hoff c' hc'
    exact ⟨h2, h1, h3⟩

/-- **One silent poll** (any poll time): under the invariant the poll returns regularly, keeps the
invariant, parameters and connectivity, and either hands a telegram to the PHY or leaves the context
silent with the same stamp; in the latter case, if the poll was `Late`, start and end state are
related by `Deferred`. -/
theorem silent_step (c : Ctx) (now l : Int) (hinv : Inv c.s c.apps) (hs : Sil c l) :
    ∃ c', pollInner c now false = .ok c' ∧ Inv c'.s c'.apps ∧ c'.apps.length = c.apps.length ∧
      c'.s.online = true ∧ c'.s.p = c.s.p ∧
      (c'.tx ≠ none ∨ (Sil c' l ∧ (Late c.s.p l now → Deferred c.s c'.s))) :=
  silent_step_at c now l hinv (hs.silAt now)

/-- A silent poll of a station that has not yet registered any bus activity (e.g. the first poll after
`set_online`): it behaves as if the stamp were `now`; unless it transmits, the stamp is `now` afterwards. -/
theorem silent_step_none (c : Ctx) (now : Int) (hinv : Inv c.s c.apps) (hon : c.s.online = true) (htx : c.tx = none)
    (hrx : c.rx = []) (hl : c.s.lastBusActivity = none) :
    ∃ c', pollInner c now false = .ok c' ∧ Inv c'.s c'.apps ∧ c'.apps.length = c.apps.length ∧
      c'.s.online = true ∧ c'.s.p = c.s.p ∧ (c'.tx ≠ none ∨ Sil c' now) := by
  obtain ⟨c', h1, h2, h3, h4, h5, h6⟩ := silent_step_at c now now hinv ⟨hon, htx, hrx, by rw [hl]; rfl⟩
  exact ⟨c', h1, h2, h3, h4, h5, h6.imp id And.left⟩

/-- Upper bound on the number of `Late` silent polls a station needs until it transmits. -/
def pollsToTx (s : Station) : Nat :=
  match s.st with
  | .claimToken .scan | .claimToken (.scanAwait _) =>
    match s.gap with
    | .waiting _ => 2
    | .doPoll cur => if nextGapPoll s.p.address s.ring.ns s.p.hsa cur = .waiting then 3 else 1
  | _ => 1

theorem pollsToTx_le (s : Station) : 1 ≤ pollsToTx s ∧ pollsToTx s ≤ 3 := by
  unfold pollsToTx
  repeat' split
  all_goals omega

theorem deferred_lt {s s' : Station} (h : Deferred s s') : pollsToTx s' < pollsToTx s := by
  rcases h with ⟨hs, ⟨r, hr⟩, hs'⟩ | ⟨hs, cur, hc, hn, hs', hg'⟩
  · simp [pollsToTx, hs, hr, hs']
  · rcases hs with hs | ⟨a, hs⟩
    · simp [pollsToTx, hs, hc, hn, hs', hg']
    · simp [pollsToTx, hs, hc, hn, hs', hg']

/-- Some poll of the silent-bus schedule `ts` (nothing arrives between the polls, PHY idle) returns
regularly with a telegram handed to the PHY, all earlier polls having returned regularly. -/
def TransmitsWithin (s : Station) (apps : Apps) (rx : Bytes) : List Int → Prop
  | [] => False
  | t :: ts => ∃ c, s.poll apps t false rx = .ok c ∧ (c.tx ≠ none ∨ TransmitsWithin c.s c.apps c.rx ts)

theorem transmitsWithin_append (ts ts' : List Int) : ∀ (s : Station) (apps : Apps) (rx : Bytes),
    TransmitsWithin s apps rx ts → TransmitsWithin s apps rx (ts ++ ts') := by
  induction ts with
  | nil => intro s apps rx h; cases h
  | cons t ts ih =>
    intro s apps rx h
    obtain ⟨c, hc, h⟩ := h
    exact ⟨c, hc, h.imp id (ih _ _ _)⟩

theorem late_polls_transmit (p : Params) (l : Int) : ∀ (n : Nat) (late : List Int) (s : Station) (apps : Apps),
    Inv s apps → s.online = true → s.lastBusActivity = some l → s.p = p →
    (∀ t ∈ late, Late p l t) → pollsToTx s ≤ n → n ≤ late.length → TransmitsWithin s apps [] late := by
  intro n
  induction n with
  | zero => intro late s apps _ _ _ _ _ hr _; have := (pollsToTx_le s).1; omega
  | succ n ih =>
    intro late s apps hinv hon hl hp hlate hr hn
    cases late with
    | nil => simp at hn
    | cons t ts =>
      obtain ⟨c', hc', hinv', -, hon', hp', h⟩ := silent_step { s := s, apps := apps, rx := [] } t l hinv ⟨hon, rfl, rfl, hl⟩
      refine ⟨c', hc', ?_⟩
      rcases h with h | ⟨hs', hd⟩
      · exact Or.inl h
      · right
        have hlt := deferred_lt (hd (by rw [hp]; exact hlate t (by simp)))
        rw [hs'.rx]
        exact ih ts c'.s c'.apps hinv' hon' hs'.last (hp'.trans hp) (fun t' ht' => hlate t' (by simp [ht']))
          (by simp only at hlt; omega) (by simp at hn; omega)

theorem pre_polls (p : Params) (l : Int) (rest : List Int) : ∀ (pre : List Int) (s : Station) (apps : Apps),
    Inv s apps → s.online = true → s.lastBusActivity = some l → s.p = p →
    (∀ (s' : Station) (apps' : Apps), Inv s' apps' → s'.online = true → s'.lastBusActivity = some l → s'.p = p →
      TransmitsWithin s' apps' [] rest) →
    TransmitsWithin s apps [] (pre ++ rest) := by
  intro pre
  induction pre with
  | nil => intro s apps hinv hon hl hp hrest; exact hrest s apps hinv hon hl hp
  | cons t ts ih =>
    intro s apps hinv hon hl hp hrest
    obtain ⟨c', hc', hinv', -, hon', hp', h⟩ := silent_step { s := s, apps := apps, rx := [] } t l hinv ⟨hon, rfl, rfl, hl⟩
    refine ⟨c', hc', ?_⟩
    rcases h with h | ⟨hs', -⟩
    · exact Or.inl h
    · right
      rw [hs'.rx]
      exact ih c'.s c'.apps hinv' hon' hs'.last (hp'.trans hp) hrest

theorem pollInner_dispatch (c : Ctx) (now l : Int) (hs : Sil c l) (hinv : Inv c.s c.apps) (hno : c.s.st ≠ .offline)
    (hlt : l < now) : pollInner c now false = dispatch c now := by
  rw [pollInner_quiet c now hs.on hs.rx hinv hno, if_neg (by simp [ongoing, hs.last]; omega)]

theorem awaitGap_silent_eq (c : Ctx) (now l : Int) (addr : Nat) (hs : Sil c l) (hne : addr ≠ c.s.p.address)
    (hg : c.s.gap = .doPoll addr) :
    awaitGapPollResponse c now addr =
      (.ok c, if now > l + (c.s.p.slotTime : Nat) then GapPollResponse.noResponse else .waitingForBus) := by
  rw [StationGap.awaitGap_eq c now addr hne hg, hs.rx, receiveTelegram_nil]
  simp only
  rw [checkSlot_some _ _ _ hs.last, StationGap.stamped_of_last hs.last]
  simp only [decide_eq_true_eq]
  have hrx := hs.rx
  cases c; simp only at hrx; subst hrx; rfl

theorem idle_claims (c : Ctx) (now l : Int) (hs : Sil c l) (hidle : IdleLike c.s.st)
    (hlost : (now - l).natAbs ≥ c.s.p.tokenLostTimeout) :
    dispatch c now = doClaimToken { c with s := { c.s with st := .claimToken .firstToken } } now 2 := by
  have hl : StationGap.TokenLost c.s now := (tokenLost_some hs.last).2 hlost
  rw [← StationGap.stamped_of_last hs.last now]
  rcases hidle with ⟨a, b, d, hst⟩ | ⟨a, b, hst⟩
  · rw [dispatch_activeIdle now hst]
    exact (doActiveIdle_step now hst).unique (.lost hl rfl)
  · rw [dispatch_listenToken now hst]
    exact (doListenToken_step now hst).unique (.lost hl rfl)

theorem awaitData_timeout (c : Ctx) (now l : Int) (addr : Nat) (d : UseData) (hs : Sil c l)
    (hst : c.s.st = .awaitData addr d) (happ : c.s.nextApp < c.apps.length)
    (hsl : now > l + (c.s.p.slotTime : Nat)) :
    doAwaitDataResponse c now =
      doUseToken { c with calls := c.calls ++ [.timeout c.s.nextApp addr], s := { c.s with st := .useToken d true } } now := by
  have := (doAwaitDataResponse_step now hst).unique
    (.timeout happ (hs.silAt now).receiveTelegram ((slotExpired_some hs.last).2 hsl) rfl)
  rw [this, StationGap.stamped_of_last hs.last, hs.rx]

theorem removeStation_inactive (r r' : TokenRing) (a : Nat) (h : r.removeStation a = some r') : r'.isActive a = false := by
  unfold TokenRing.removeStation at h
  by_cases ha : a ≥ 128
  · rw [if_pos ha] at h; exact absurd h (by simp)
  · rw [if_neg ha] at h
    have h' := Option.some.inj h
    rw [← h', TokenRing.updateNextPrev_active]
    unfold TokenRing.isActive
    rw [dif_pos (by omega)]
    simp only [Vector.getElem_ofFn, if_true]

/-- Every entry is a `transmit_telegram` call.  (`doUseToken_calls`: so is what one `do_use_token` adds to the log.) -/
def OnlyTransmitCalls (extra : List AppCall) : Prop := ∀ x ∈ extra, ∃ i hp a, x = AppCall.transmit i hp a

/-- `OnlyTransmitCalls` is the `AskRun` of `Lemmas/StationTrace.lean`. -/
theorem doUseToken_calls (c : Ctx) (now : Int) (c' : Ctx) (h : doUseToken c now = .ok c') :
    ∃ extra, c'.calls = c.calls ++ extra ∧ OnlyTransmitCalls extra := by
  obtain ⟨d, f, hst⟩ := doUseToken_ok_st h
  obtain ⟨new, hc, ha, -⟩ := doUseToken_eff c c' now d f hst h
  exact ⟨new, hc, ha⟩

theorem claim_scan_done (c : Ctx) (now l : Int) (fuel : Nat) (hl : c.s.lastBusActivity = some l)
    (hsy : l + (c.s.p.bits 33 : Nat) < now)
    (hst : c.s.st = .claimToken .scan) (r : Nat) (hg : c.s.gap = .waiting r) :
    doClaimToken c now (fuel + 1) = .ok { c with s := { c.s with st := .passToken false .first } } := by
  have := (doClaimToken_scan_step now fuel hst).unique (.done ((syncOver_some hl).2 hsy) hg)
  rwa [StationGap.stamped_of_last hl] at this

theorem claim_scan_last (c : Ctx) (now l : Int) (fuel : Nat) (hl : c.s.lastBusActivity = some l)
    (hsy : l + (c.s.p.bits 33 : Nat) < now)
    (hst : c.s.st = .claimToken .scan) (cur : Nat) (hg : c.s.gap = .doPoll cur)
    (hn : nextGapPoll c.s.p.address c.s.ring.ns c.s.p.hsa cur = .waiting) :
    doClaimToken c now (fuel + 1) = .ok { c with s := { c.s with gap := .waiting 0 } } := by
  have := (doClaimToken_scan_step now fuel hst).unique
    (.sweepEnds ((syncOver_some hl).2 hsy) hg (StationGap.nextGap_waiting_iff.mpr ⟨hn, rfl⟩))
  rwa [StationGap.stamped_of_last hl] at this

theorem claim_await_last (c : Ctx) (now l : Int) (hs : Sil c l) (hsy : l + (c.s.p.bits 33 : Nat) < now)
    (hsl : l + (c.s.p.slotTime : Nat) < now)
    (a : Nat) (hst : c.s.st = .claimToken (.scanAwait a)) (hg : c.s.gap = .doPoll a) (hne : a ≠ c.s.p.address)
    (hn : nextGapPoll c.s.p.address c.s.ring.ns c.s.p.hsa a = .waiting) :
    doClaimToken c now 2 = .ok { c with s := { c.s with st := .claimToken .scan, gap := .waiting 0 } } := by
  have hag : awaitGapPollResponse c now a = (.ok c, .noResponse) := by
    rw [awaitGap_silent_eq c now l a hs hne hg, if_pos (by omega)]
  rw [(doClaimToken_await_step now 1 hst).unique (.timeout (hag ▸ awaitGap_step c now a) rfl)]
  exact claim_scan_last _ now l 0 hs.last hsy rfl a hg hn

theorem late_noTx_of_bound (c : Ctx) (now l : Int) (hs : Sil c l) (hinv : Inv c.s c.apps) (hlate : Late c.s.p l now)
    (hb : 2 ≤ pollsToTx c.s) (c' : Ctx) (h : pollInner c now false = .ok c') : c'.tx = none := by
  have hsy : l + (c.s.p.bits 33 : Nat) < now := by have := hlate.sync; omega
  have hsl : l + (c.s.p.slotTime : Nat) < now := by have := hlate.slot; omega
  have hno : c.s.st ≠ .offline := by
    intro h0; simp [pollsToTx, h0] at hb
  rw [pollInner_dispatch c now l hs hinv hno hlate.after] at h
  -- under the invariant the bound is 2 or 3 exactly in the start states of `Deferred`: there the equation of the scan
  -- step (`claim_*`) gives the context after the poll, and its transmit slot is that of `c`
  unfold pollsToTx at hb
  cases hst : c.s.st with
  | claimToken step =>
    rw [dispatch_claimToken now hst] at h
    rw [hst] at hb
    cases step with
    | firstToken => simp at hb
    | secondToken => simp at hb
    | scan =>
      simp only at hb
      cases hg : c.s.gap with
      | waiting r =>
        rw [claim_scan_done c now l 1 hs.last hsy hst r hg] at h
        cases h; exact hs.tx
      | doPoll cur =>
        rw [hg] at hb
        simp only at hb
        split at hb
        · rename_i hn
          rw [claim_scan_last c now l 1 hs.last hsy hst cur hg hn] at h
          cases h; exact hs.tx
        · omega
    | scanAwait a =>
      obtain ⟨hg, hne⟩ := hinv.await2 a hst
      rw [hg] at hb
      simp only at hb
      split at hb
      · rename_i hn
        rw [claim_await_last c now l hs hsy hsl a hst hg hne hn] at h
        cases h; exact hs.tx
      · omega
  | offline | passiveIdle | listenToken _ _ | activeIdle _ _ _ | useToken _ _ | awaitData _ _ | passToken _ _
  | checkTokenPass _ | awaitStatus _ => rw [hst] at hb; simp at hb

theorem fresh_polls (s : Station) (apps : Apps) (t0 : Int) (rest : List Int) (hinv : Inv s apps) (hon : s.online = true)
    (hl : s.lastBusActivity = none)
    (hrest : ∀ (s' : Station) (apps' : Apps), Inv s' apps' → s'.online = true → s'.lastBusActivity = some t0 → s'.p = s.p →
      TransmitsWithin s' apps' [] rest) :
    TransmitsWithin s apps [] (t0 :: rest) := by
  obtain ⟨c', hc', hinv', -, hon', hp', h⟩ := silent_step_none { s := s, apps := apps, rx := [] } t0 hinv hon rfl rfl hl
  refine ⟨c', hc', h.imp id (fun hs' => ?_)⟩
  rw [hs'.rx]
  exact hrest c'.s c'.apps hinv' hon' hs'.last hp'

end PV
