/-
Per handler of `Model/Station.lean` an inductive relation on results, one constructor per control path (paths that end
in the same panic share one), with the guard of the path in the named predicates (`SyncOver`, `SlotExpired`,
`c.tx = none`, …) and the result as an explicit term over the start context.  `*_step`: the handler's result is among
them, given the FDL state (and `online = true` for the callback of `do_listen_token`: `ListenTelStep` has no constructor
for its offline path, which is `listenTelegramCore_off`).  `*.unique`: the relation holds of one result only, so that an
equation `handler c now = v` is `(handler_step now hst).unique (.ctor guards)`.  Mostly the guards exclude one another;
three relations go through `*.eq`: `AwaitGapStep.eq` and `UseGoStep.eq` say that a result the relation holds of is the
handler's value (`handler .. = q`); `AwaitStep.eq`, which has no handler to name, gives the result as a function of the
query's value (`r = match awaitGapPollResponse .. with ..`).  A handler that continues with another one in the same
poll has the VALUE of that call as a premise (`doPassToken {..} now = r`): its cases are had from the other's `*_step`.
Handlers with the same control paths are instances of one relation that has what differs as parameters (`AwaitStep`
here, `IdlingStep` in `Lemmas/StationStepIdle.lean`; `*_step` is proved per instance); a consumer sees the instance's
own terms after `cases`.  An inner query whose result is inspected (`await_gap_poll_response`) is a relation premise.
The application loop has no relation: `AppLoop` sums up its regular outcomes (`appsTransmit_spec`); it does not by
itself determine the context after the loop, so `UseGoStep`, the relation of the code around the loop, has the loop's
VALUE as a premise beside it.  So each handler relation here and in `Lemmas/StationStepIdle.lean` is the graph of its
handler (`*_step` total, `*.unique` functional).  Three relations are parts of others and have no `*_step`: `RetryStep`
(the retry branch, a premise of `CheckStep.retry`), `SendSt` (the FDL state after a telegram went out, a premise in
`AppStep`; `SendSt.eq`: it is `sendState` when the state before was `UseToken`) and `Asked` (the log of calls against
the applications' scripts, in `AppLoop`).
-/
import ProfiVerif.Lemmas.StationGap

namespace PV
open StationGap

theorem bind_ok_inv {r : Res} {f : Ctx → Res} {c' : Ctx} (h : r.bind f = .ok c') : ∃ c1, r = .ok c1 ∧ f c1 = .ok c' := by
  cases r with
  | ok c1 => exact ⟨c1, rfl, h⟩
  | panic site => cases h

theorem ite_inv {α : Type} {P : Prop} [Decidable P] {x y z : α} (h : (if P then x else y) = z) :
    (P ∧ x = z) ∨ (¬P ∧ y = z) := by
  by_cases hp : P
  · rw [if_pos hp] at h; exact .inl ⟨hp, h⟩
  · rw [if_neg hp] at h; exact .inr ⟨hp, h⟩

/-- `transmit_gap_poll_if_pending`; the second component is the address polled, if any. -/
inductive GapPollStep (c : Ctx) (now : Int) : Res × Option Nat → Prop
  | idle {r : Nat} : c.s.gap = .waiting r → GapPollStep c now (.ok c, none)
  | self : c.s.gap = .doPoll c.s.p.address →
      GapPollStep c now (.panic "debug_assert_ne!(current_address, self.p.address)", none)
  | poll {a : Nat} : c.s.gap = .doPoll a → a ≠ c.s.p.address → c.tx = none →
      GapPollStep c now
        (.ok { c with tx := some (statusRequestBytes a c.s.p.address), s := markTx c.s now 6 }, some a)
  | busy {a : Nat} {b : Bytes} : c.s.gap = .doPoll a → a ≠ c.s.p.address → c.tx = some b →
      GapPollStep c now (.panic "second transmission in one poll", some a)

theorem transmitGapPoll_step (c : Ctx) (now : Int) : GapPollStep c now (transmitGapPoll c now) := by
  cases hg : c.s.gap with
  | waiting r => rw [transmitGapPoll_waiting c now r hg]; exact .idle hg
  | doPoll a =>
    by_cases hne : a = c.s.p.address
    · subst hne
      rw [transmitGapPoll_self c now hg]; exact .self hg
    · cases htx : c.tx with
      | none => rw [transmitGapPoll_poll c now a hg hne htx]; exact .poll hg hne htx
      | some b =>
        have : transmitGapPoll c now = (.panic "second transmission in one poll", some a) := by
          unfold transmitGapPoll
          rw [hg]
          simp only [hne, if_false, statusRequest_serialize, transmit, htx]
        rw [this]; exact .busy hg hne htx

theorem GapPollStep.unique {c : Ctx} {now : Int} {q q' : Res × Option Nat} (h : GapPollStep c now q)
    (h' : GapPollStep c now q') : q = q' := by
  -- Off the diagonal the guards of two different constructors contradict each other and `simp_all` finds the pair: two
  -- values of `c.s.gap` or `c.tx`; further down also `SyncOver` / `SlotExpired` and their negations, two values of
  -- `gapAdvance` / `receiveTelegram` / `validReplyB`.
  cases h <;> cases h' <;> first | rfl | simp_all

/-- The context after `passTokenOn`: the station supervises the pass, or — its own successor — keeps the token for a
new visit. -/
def passed (c : Ctx) (now : Int) (att : Attempt) : Ctx :=
  { c with
    tx := some (tokenBytes c.s.ring.ns c.s.p.address),
    s := { (markTx c.s now 3) with
      ring := c.s.ring.witness c.s.p.address c.s.ring.ns,
      st := if (c.s.ring.witness c.s.p.address c.s.ring.ns).ns = c.s.p.address
            then FState.useToken ⟨now, none⟩ false else FState.checkTokenPass att } }

theorem passed_st (c : Ctx) (now : Int) (att : Attempt) :
    (passed c now att).s.st = .useToken ⟨now, none⟩ false ∨ (passed c now att).s.st = .checkTokenPass att := by
  unfold passed
  dsimp only
  split
  · exact .inl rfl
  · exact .inr rfl

/-- The tail of `do_pass_token` from the token transmission on (`passTokenOn`). -/
inductive PassOnStep (c : Ctx) (now : Int) (att : Attempt) : Res → Prop
  | pass : c.tx = none → PassOnStep c now att (.ok (passed c now att))
  | busy {b : Bytes} : c.tx = some b → PassOnStep c now att (.panic "second transmission in one poll")

theorem passTokenOn_step {c : Ctx} {g : Bool} {a0 : Attempt} (now : Int) (att : Attempt)
    (hst : c.s.st = .passToken g a0) : PassOnStep c now att (passTokenOn c now att) := by
  cases htx : c.tx with
  | none => rw [passTokenOn_eq c now att g a0 hst htx]; exact .pass htx
  | some b =>
    have : passTokenOn c now att = .panic "second transmission in one poll" := by
      simp only [passTokenOn, transmit, htx, Res.bind]
    rw [this]; exact .busy htx

theorem PassOnStep.unique {c : Ctx} {now : Int} {att : Attempt} {r r' : Res} (h : PassOnStep c now att r)
    (h' : PassOnStep c now att r') : r = r' := by
  cases h <;> cases h' <;> first | rfl | simp_all

/-- `do_pass_token` in `PassToken(do_gap, att)`: the index is `do_gap`. -/
inductive PassTokenStep (c : Ctx) (now : Int) (att : Attempt) : Bool → Res → Prop
  | wait {g : Bool} : ¬ SyncOver c.s now → PassTokenStep c now att g (.ok { c with s := stamped c.s now })
  | overflow : SyncOver c.s now → gapAdvance (stamped c.s now) = none →
      PassTokenStep c now att true (.panic "next_gap_poll overflow")
  | self : SyncOver c.s now → gapAdvance (stamped c.s now) = some (.doPoll c.s.p.address) →
      PassTokenStep c now att true (.panic "debug_assert_ne!(current_address, self.p.address)")
  | poll {a : Nat} : SyncOver c.s now → gapAdvance (stamped c.s now) = some (.doPoll a) → a ≠ c.s.p.address →
      c.tx = none →
      PassTokenStep c now att true
        (.ok { c with
          tx := some (statusRequestBytes a c.s.p.address),
          s := { (markTx { (stamped c.s now) with gap := .doPoll a } now 6) with st := .awaitStatus a } })
  | passGap {r : Nat} : SyncOver c.s now → gapAdvance (stamped c.s now) = some (.waiting r) → c.tx = none →
      PassTokenStep c now att true (.ok (passed { c with s := { (stamped c.s now) with gap := .waiting r } } now att))
  | pass : SyncOver c.s now → c.tx = none →
      PassTokenStep c now att false (.ok (passed { c with s := stamped c.s now } now att))
  -- with `do_gap` the GAP state is advanced before anything is transmitted: the last premise keeps `busy` apart from
  -- `overflow` and `self`, whose panics come first (`unique`)
  | busy {g : Bool} {b : Bytes} : SyncOver c.s now → c.tx = some b →
      (g = true → ∃ gs, gapAdvance (stamped c.s now) = some gs ∧ gs ≠ .doPoll c.s.p.address) →
      PassTokenStep c now att g (.panic "second transmission in one poll")

theorem doPassToken_step {c : Ctx} {g : Bool} {att : Attempt} (now : Int) (hst : c.s.st = .passToken g att) :
    PassTokenStep c now att g (doPassToken c now) := by
  by_cases hw : SyncOver c.s now
  · have hw' : (waitSyncPause c.s now).2 = false := hw
    have pass : ∀ (gs : GapState) {g' : Bool} (r : Res),
        (g' = true → ∃ gs, gapAdvance (stamped c.s now) = some gs ∧ gs ≠ .doPoll c.s.p.address) →
        (c.tx = none → PassTokenStep c now att g' (.ok (passed { c with s := { (stamped c.s now) with gap := gs } } now att))) →
        passTokenOn { c with s := { (stamped c.s now) with gap := gs } } now att = r → PassTokenStep c now att g' r := by
      intro gs g' r hgs hk hr
      have h := passTokenOn_step (c := { c with s := { (stamped c.s now) with gap := gs } }) now att hst
      rw [hr] at h
      cases h with
      | pass htx => exact hk htx
      | busy htx => exact .busy hw htx hgs
    unfold doPassToken
    rw [hst]
    simp only [hw', sync_stamped, Bool.false_eq_true, if_false]
    cases g with
    | false => exact pass c.s.gap _ nofun (fun htx => .pass hw htx) rfl
    | true =>
      simp only [if_true]
      cases hga : gapAdvance (stamped c.s now) with
      | none => exact .overflow hw hga
      | some gs =>
        simp only [upd]
        generalize htg : transmitGapPoll { c with s := { (stamped c.s now) with gap := gs } } now = q
        have hq := transmitGapPoll_step { c with s := { (stamped c.s now) with gap := gs } } now
        rw [htg] at hq
        cases hq with
        | @idle r hgs =>
          obtain rfl : gs = .waiting r := hgs
          exact pass _ _ (fun _ => ⟨_, hga, nofun⟩) (fun htx => .passGap hw hga htx) rfl
        | self hgs => obtain rfl : gs = .doPoll c.s.p.address := hgs; exact .self hw hga
        | @poll a hgs hne htx =>
          obtain rfl : gs = .doPoll a := hgs
          simp only [tr, toAwaitStatus, markTx, stamped_st, hst]
          exact .poll hw hga hne htx
        | @busy a _ hgs hne htx =>
          obtain rfl : gs = .doPoll a := hgs
          exact .busy hw htx fun _ => ⟨_, hga, fun e => hne (GapState.doPoll.inj e)⟩
  · have hw' : (waitSyncPause c.s now).2 = true := by simpa [SyncOver] using hw
    unfold doPassToken
    rw [hst]
    simp only [hw', sync_stamped, if_true]
    exact .wait hw

theorem PassTokenStep.unique {c : Ctx} {now : Int} {att : Attempt} {g : Bool} {r r' : Res}
    (h : PassTokenStep c now att g r) (h' : PassTokenStep c now att g r') : r = r' := by
  cases h <;> cases h' <;> first | rfl | simp_all

theorem doPassToken_ok_st {c c' : Ctx} {now : Int} (h : doPassToken c now = .ok c') :
    ∃ g att, c.s.st = .passToken g att := by
  unfold doPassToken at h
  split at h
  · exact ⟨_, _, by assumption⟩
  · cases h

theorem PassTokenStep.calls {c c' : Ctx} {now : Int} {att : Attempt} {g : Bool} (h : PassTokenStep c now att g (.ok c')) :
    c'.calls = c.calls := by
  cases h <;> rfl

theorem doPassToken_calls (c : Ctx) (now : Int) (c' : Ctx) (h : doPassToken c now = .ok c') : c'.calls = c.calls := by
  obtain ⟨g, att, hst⟩ := doPassToken_ok_st h
  exact PassTokenStep.calls (h ▸ doPassToken_step now hst)

/-- The retry branch of pass supervision: which attempt comes next and what the ring view is before the
token is transmitted again (`remove_station(NS)` exactly on the third expiry). -/
def RetryStep (r : TokenRing) (att att' : Attempt) (r0 : TokenRing) : Prop :=
  (att = .first ∧ att' = .second ∧ r0 = r) ∨ (att = .second ∧ att' = .third ∧ r0 = r) ∨
  (att = .third ∧ att' = .first ∧ r.removeStation r.ns = some r0)

/-- `do_check_token_pass` in `CheckTokenPass(att)`. -/
inductive CheckStep (c : Ctx) (now : Int) (att : Attempt) : Res → Prop
  | retry {att' : Attempt} {r0 : TokenRing} {r : Res} : SlotExpired c.s now → RetryStep c.s.ring att att' r0 →
      doPassToken { c with s := { (stamped c.s now) with ring := r0, st := .passToken false att' } } now = r →
      CheckStep c now att r
  | noRetry : SlotExpired c.s now → att = .third → c.s.ring.removeStation c.s.ring.ns = none →
      CheckStep c now att (.panic "remove_station index")
  | rxPanic : ¬ SlotExpired c.s now → receiveAll c.rx = .panic → CheckStep c now att (.panic "receive_all_telegrams")
  | rxHang : ¬ SlotExpired c.s now → receiveAll c.rx = .hang → CheckStep c now att (.panic "receive_all_telegrams hang")
  | quiet {rx' : Bytes} {ret : Bool} : ¬ SlotExpired c.s now → receiveAll c.rx = .done rx' [] ret →
      CheckStep c now att (.ok { c with rx := rx', s := stamped c.s now })
  | heard {rx' : Bytes} {x : Telegram × Bool} {rest : List (Telegram × Bool)} {ret : Bool} {r : Res} :
      ¬ SlotExpired c.s now → receiveAll c.rx = .done rx' (x :: rest) ret →
      foldTelegrams (fun c t isLast => handleTelegram (upd c fun s => markRx s now) now t isLast)
        { c with rx := rx', s := { (stamped c.s now) with st := .activeIdle none none 0 } } (x :: rest) = r →
      CheckStep c now att r

theorem doCheckTokenPass_step {c : Ctx} {att : Attempt} (now : Int) (hst : c.s.st = .checkTokenPass att) :
    CheckStep c now att (doCheckTokenPass c now) := by
  by_cases hex : SlotExpired c.s now
  · have hex' : (checkSlotExpired c.s now).2 = true := hex
    have go : ∀ (att' : Attempt) (r0 : TokenRing), RetryStep c.s.ring att att' r0 →
        CheckStep c now att
          (doPassToken { c with s := { (stamped c.s now) with ring := r0, st := .passToken false att' } } now) :=
      fun att' r0 hr => .retry hex hr rfl
    unfold doCheckTokenPass
    rw [hst]
    simp only [hex', slot_stamped, if_true]
    cases att with
    | first => simp only [tr, toPassToken, stamped_st, hst, Res.bind]; exact go .second c.s.ring (.inl ⟨rfl, rfl, rfl⟩)
    | second => simp only [tr, toPassToken, stamped_st, hst, Res.bind]; exact go .third c.s.ring (.inr (.inl ⟨rfl, rfl, rfl⟩))
    | third =>
      simp only [stamped_ring]
      cases hrm : c.s.ring.removeStation c.s.ring.ns with
      | none => exact .noRetry hex rfl hrm
      | some r0 =>
        simp only [tr, toPassToken, upd, stamped_st, hst, Res.bind]
        exact go .first r0 (.inr (.inr ⟨rfl, rfl, hrm⟩))
  · have hex' : (checkSlotExpired c.s now).2 = false := by simpa [SlotExpired] using hex
    unfold doCheckTokenPass
    rw [hst]
    simp only [hex', slot_stamped, Bool.false_eq_true, if_false]
    cases hrx : receiveAll c.rx with
    | panic => exact .rxPanic hex hrx
    | hang => exact .rxHang hex hrx
    | done rx' calls ret =>
      cases calls with
      | nil => exact .quiet hex hrx
      | cons x rest =>
        obtain ⟨t, l⟩ := x
        have hst' : (markRx (stamped c.s now) now).st = .checkTokenPass att := by
          simpa [markRx, markBusActivity] using hst
        simp only [tr, toActiveIdle, hst', Res.bind]
        exact .heard hex hrx rfl

theorem RetryStep.unique {r : TokenRing} {att a1 a2 : Attempt} {r1 r2 : TokenRing} (h1 : RetryStep r att a1 r1)
    (h2 : RetryStep r att a2 r2) : a1 = a2 ∧ r1 = r2 := by
  rcases h1 with ⟨rfl, rfl, rfl⟩ | ⟨rfl, rfl, rfl⟩ | ⟨rfl, rfl, e1⟩ <;>
    rcases h2 with ⟨h, rfl, rfl⟩ | ⟨h, rfl, rfl⟩ | ⟨h, rfl, e2⟩ <;> cases h
  · exact ⟨rfl, rfl⟩
  · exact ⟨rfl, rfl⟩
  · exact ⟨rfl, Option.some.inj (e1.symm.trans e2)⟩

theorem CheckStep.unique {c : Ctx} {now : Int} {att : Attempt} {r r' : Res}
    (h : CheckStep c now att r) (h' : CheckStep c now att r') : r = r' := by
  cases h with
  | retry _ hr hv =>
    cases h' with
    | retry _ hr' hv' => obtain ⟨rfl, rfl⟩ := hr.unique hr'; exact hv.symm.trans hv'
    | noRetry _ h3 hrm =>
      rcases hr with ⟨h, -⟩ | ⟨h, -⟩ | ⟨-, -, h⟩
      · rw [h3] at h; cases h
      · rw [h3] at h; cases h
      · rw [hrm] at h; cases h
    | rxPanic hn | rxHang hn | quiet hn | heard hn => exact absurd ‹SlotExpired c.s now› hn
  | noRetry _ h3 hrm =>
    cases h' with
    | retry _ hr _ =>
      rcases hr with ⟨h, -⟩ | ⟨h, -⟩ | ⟨-, -, h⟩
      · rw [h3] at h; cases h
      · rw [h3] at h; cases h
      · rw [hrm] at h; cases h
    | noRetry => rfl
    | rxPanic hn | rxHang hn | quiet hn | heard hn => exact absurd ‹SlotExpired c.s now› hn
  | rxPanic hn hrx => cases h' <;> first | rfl | exact absurd ‹SlotExpired c.s now› hn | simp_all
  | rxHang hn hrx => cases h' <;> first | rfl | exact absurd ‹SlotExpired c.s now› hn | simp_all
  | quiet hn hrx => cases h' <;> first | rfl | exact absurd ‹SlotExpired c.s now› hn | simp_all
  | heard hn hrx hv => cases h' <;> first | rfl | exact absurd ‹SlotExpired c.s now› hn | simp_all

theorem doCheckTokenPass_expired {c : Ctx} {att att' : Attempt} {r0 : TokenRing} (now : Int)
    (hst : c.s.st = .checkTokenPass att) (hex : SlotExpired c.s now) (hrs : RetryStep c.s.ring att att' r0) :
    doCheckTokenPass c now =
      doPassToken { c with s := { (stamped c.s now) with ring := r0, st := .passToken false att' } } now :=
  (doCheckTokenPass_step now hst).unique (.retry hex hrs rfl)

/-- The two assertions at the head of `await_gap_poll_response` hold. -/
def GapAsked (c : Ctx) (addr : Nat) : Prop := addr ≠ c.s.p.address ∧ c.s.gap = .doPoll addr

/-- `await_gap_poll_response` for the polled address `addr`. -/
inductive AwaitGapStep (c : Ctx) (now : Int) (addr : Nat) : Res × GapPollResponse → Prop
  | assertSelf : addr = c.s.p.address →
      AwaitGapStep c now addr (.panic "debug_assert_ne!(poll_address, self.p.address)", .waitingForBus)
  | assertGap : addr ≠ c.s.p.address → c.s.gap ≠ .doPoll addr →
      AwaitGapStep c now addr (.panic "debug_assert!(gap_state == DoPoll{poll_address})", .waitingForBus)
  | rxPanic : GapAsked c addr → receiveTelegram c.rx = .panic →
      AwaitGapStep c now addr (.panic "receive_telegram", .waitingForBus)
  | rxHang : GapAsked c addr → receiveTelegram c.rx = .hang →
      AwaitGapStep c now addr (.panic "receive_telegram hang", .waitingForBus)
  | waits {rx' : Bytes} {ret : Bool} : GapAsked c addr → receiveTelegram c.rx = .done rx' [] ret → ¬ SlotExpired c.s now →
      AwaitGapStep c now addr (.ok { c with rx := rx', s := stamped c.s now }, .waitingForBus)
  | timeout {rx' : Bytes} {ret : Bool} : GapAsked c addr → receiveTelegram c.rx = .done rx' [] ret → SlotExpired c.s now →
      AwaitGapStep c now addr (.ok { c with rx := rx', s := stamped c.s now }, .noResponse)
  | unexpected {rx' : Bytes} {t : Telegram} {l ret : Bool} {rest : List (Telegram × Bool)} : GapAsked c addr →
      receiveTelegram c.rx = .done rx' ((t, l) :: rest) ret → replyOf c.s.p.address addr t = none →
      AwaitGapStep c now addr (.ok { c with rx := rx', s := markRx c.s now }, .unexpected)
  | other {rx' : Bytes} {t : Telegram} {l ret : Bool} {rest : List (Telegram × Bool)} {state : ResponseState}
      {status : ResponseStatus} : GapAsked c addr → receiveTelegram c.rx = .done rx' ((t, l) :: rest) ret →
      replyOf c.s.p.address addr t = some (state, status) → ¬ Admits state status →
      AwaitGapStep c now addr (.ok { c with rx := rx', s := markRx c.s now }, .responded)
  | admits {rx' : Bytes} {t : Telegram} {l ret : Bool} {rest : List (Telegram × Bool)} {state : ResponseState}
      {status : ResponseStatus} {r : TokenRing} : GapAsked c addr → receiveTelegram c.rx = .done rx' ((t, l) :: rest) ret →
      replyOf c.s.p.address addr t = some (state, status) → Admits state status →
      c.s.ring.setNextStation addr = some r →
      AwaitGapStep c now addr (.ok { c with rx := rx', s := { (markRx c.s now) with ring := r } }, .responded)
  | admitFails {rx' : Bytes} {t : Telegram} {l ret : Bool} {rest : List (Telegram × Bool)} {state : ResponseState}
      {status : ResponseStatus} : GapAsked c addr → receiveTelegram c.rx = .done rx' ((t, l) :: rest) ret →
      replyOf c.s.p.address addr t = some (state, status) → Admits state status →
      c.s.ring.setNextStation addr = none →
      AwaitGapStep c now addr (.panic "set_next_station index", .waitingForBus)

theorem awaitGap_step (c : Ctx) (now : Int) (addr : Nat) : AwaitGapStep c now addr (awaitGapPollResponse c now addr) := by
  by_cases hne : addr = c.s.p.address
  · have : awaitGapPollResponse c now addr = (.panic "debug_assert_ne!(poll_address, self.p.address)", .waitingForBus) := by
      unfold awaitGapPollResponse; simp [hne]
    rw [this]; exact .assertSelf hne
  by_cases hg : c.s.gap = .doPoll addr
  · have ha : GapAsked c addr := ⟨hne, hg⟩
    rw [awaitGap_eq c now addr hne hg]
    cases hrx : receiveTelegram c.rx with
    | panic => exact .rxPanic ha hrx
    | hang => exact .rxHang ha hrx
    | done rx' calls ret =>
      cases calls with
      | nil =>
        by_cases hex : SlotExpired c.s now
        · have : (checkSlotExpired c.s now).2 = true := hex
          simp only [this, if_true]; exact .timeout ha hrx hex
        · have : (checkSlotExpired c.s now).2 = false := by simpa [SlotExpired] using hex
          simp only [this, Bool.false_eq_true, if_false]; exact .waits ha hrx hex
      | cons x rest =>
        obtain ⟨t, l⟩ := x
        dsimp only
        cases hr : replyOf c.s.p.address addr t with
        | none => exact .unexpected ha hrx hr
        | some ss =>
          obtain ⟨state, status⟩ := ss
          dsimp only
          by_cases had : Admits state status
          · simp only [if_pos had]
            cases hs : c.s.ring.setNextStation addr with
            | none => dsimp only; exact .admitFails ha hrx hr had hs
            | some r => dsimp only; exact .admits ha hrx hr had hs
          · simp only [if_neg had]; exact .other ha hrx hr had
  · have : awaitGapPollResponse c now addr =
        (.panic "debug_assert!(gap_state == DoPoll{poll_address})", .waitingForBus) := by
      unfold awaitGapPollResponse; simp [hne, hg]
    rw [this]; exact .assertGap hne hg

theorem AwaitGapStep.eq {c : Ctx} {now : Int} {addr : Nat} {q : Res × GapPollResponse}
    (h : AwaitGapStep c now addr q) : awaitGapPollResponse c now addr = q := by
  cases h with
  | assertSelf he => unfold awaitGapPollResponse; simp [he]
  | assertGap hne hg => unfold awaitGapPollResponse; simp [hne, hg]
  | rxPanic ha hrx => rw [awaitGap_eq c now addr ha.1 ha.2, hrx]
  | rxHang ha hrx => rw [awaitGap_eq c now addr ha.1 ha.2, hrx]
  | waits ha hrx hex =>
    rw [awaitGap_silent c now addr _ _ ha.1 ha.2 hrx, if_neg (by simpa [SlotExpired] using hex)]
  | timeout ha hrx hex =>
    rw [awaitGap_silent c now addr _ _ ha.1 ha.2 hrx, if_pos (show (checkSlotExpired c.s now).2 = true from hex)]
  | unexpected ha hrx hr => exact awaitGap_unexpected c now addr _ _ _ _ _ ha.1 ha.2 hrx hr
  | other ha hrx hr hna => exact awaitGap_other c now addr _ _ _ _ _ _ _ ha.1 ha.2 hrx hr hna
  | admits ha hrx hr had hs => rw [awaitGap_admit c now addr _ _ _ _ _ _ _ ha.1 ha.2 hrx hr had, hs]
  | admitFails ha hrx hr had hs => rw [awaitGap_admit c now addr _ _ _ _ _ _ _ ha.1 ha.2 hrx hr had, hs]

theorem AwaitGapStep.unique {c : Ctx} {now : Int} {addr : Nat} {q q' : Res × GapPollResponse}
    (h : AwaitGapStep c now addr q) (h' : AwaitGapStep c now addr q') : q = q' :=
  h.eq.symm.trans h'.eq

/-- What a handler does with the answer to its GAP request to `addr` (`do_await_status_response`, `do_claim_token` in
`ScanAwaitResponse`): it goes on waiting; a reply of the polled station leads to the state `st`; on `NoResponse` the
state `st` is entered and `next` runs in the same poll, its VALUE a premise; any other telegram sends the station to
`ActiveIdle`; a panic of the query is the handler's. -/
inductive AwaitStep (c : Ctx) (now : Int) (addr : Nat) (st : FState) (next : Ctx → Res) : Res → Prop
  | waits {c1 : Ctx} : AwaitGapStep c now addr (.ok c1, .waitingForBus) → AwaitStep c now addr st next (.ok c1)
  | responded {c1 : Ctx} : AwaitGapStep c now addr (.ok c1, .responded) →
      AwaitStep c now addr st next (.ok { c1 with s := { c1.s with st := st } })
  | timeout {c1 : Ctx} {r : Res} : AwaitGapStep c now addr (.ok c1, .noResponse) →
      next { c1 with s := { c1.s with st := st } } = r → AwaitStep c now addr st next r
  | unexpected {c1 : Ctx} : AwaitGapStep c now addr (.ok c1, .unexpected) →
      AwaitStep c now addr st next (.ok { c1 with s := { c1.s with st := .activeIdle none none 0 } })
  | panic {m : String} {g : GapPollResponse} : AwaitGapStep c now addr (.panic m, g) →
      AwaitStep c now addr st next (.panic m)

/-- The handler's result as a function of the query's. -/
theorem AwaitStep.eq {c : Ctx} {now : Int} {addr : Nat} {st : FState} {next : Ctx → Res} {r : Res}
    (h : AwaitStep c now addr st next r) :
    r = match awaitGapPollResponse c now addr with
      | (.panic m, _) => .panic m
      | (.ok c1, .waitingForBus) => .ok c1
      | (.ok c1, .responded) => .ok { c1 with s := { c1.s with st := st } }
      | (.ok c1, .noResponse) => next { c1 with s := { c1.s with st := st } }
      | (.ok c1, .unexpected) => .ok { c1 with s := { c1.s with st := .activeIdle none none 0 } } := by
  cases h with
  | waits hq => rw [hq.eq]
  | responded hq => rw [hq.eq]
  | timeout hq hv => rw [hq.eq]; exact hv.symm
  | unexpected hq => rw [hq.eq]
  | panic hq => rw [hq.eq]

theorem AwaitStep.unique {c : Ctx} {now : Int} {addr : Nat} {st : FState} {next : Ctx → Res} {r r' : Res}
    (h : AwaitStep c now addr st next r) (h' : AwaitStep c now addr st next r') : r = r' :=
  h.eq.trans h'.eq.symm

/-- `do_await_status_response` in `AwaitStatusResponse(addr)`: after `NoResponse` the token is passed on in the same poll
(`doPassToken_step now rfl` gives the cases of that call). -/
abbrev StatusStep (c : Ctx) (now : Int) (addr : Nat) : Res → Prop :=
  AwaitStep c now addr (.passToken false .first) (doPassToken · now)

theorem AwaitGapStep.st {c c1 : Ctx} {now : Int} {addr : Nat} {g : GapPollResponse}
    (h : AwaitGapStep c now addr (.ok c1, g)) : c1.s.st = c.s.st := by
  cases h <;> first | rfl | simp [markRx, markBusActivity]

theorem doAwaitStatusResponse_step {c : Ctx} {addr : Nat} (now : Int) (hst : c.s.st = .awaitStatus addr) :
    StatusStep c now addr (doAwaitStatusResponse c now) := by
  have hq := awaitGap_step c now addr
  unfold doAwaitStatusResponse
  rw [hst]
  simp only
  generalize awaitGapPollResponse c now addr = q at hq
  obtain ⟨r, g⟩ := q
  cases r with
  | panic m => exact .panic hq
  | ok c1 =>
    have hst1 : c1.s.st = .awaitStatus addr := hq.st.trans hst
    cases g with
    | waitingForBus => exact .waits hq
    | responded => simp only [tr, toPassToken, hst1]; exact .responded hq
    | noResponse => simp only [tr, toPassToken, hst1, Res.bind]; exact .timeout hq rfl
    | unexpected => simp only [tr, toActiveIdle, hst1]; exact .unexpected hq

/-- The context after the application whose turn it is (its script is `script`) was asked and answered `ans`. -/
def answered (c : Ctx) (hp : Bool) (script : List AppAnswer) (ans : AppAnswer) : Ctx :=
  { c with apps := c.apps.set c.s.nextApp script.tail, calls := c.calls ++ [.transmit c.s.nextApp hp ans] }

@[simp] theorem answered_s (c : Ctx) (hp : Bool) (script : List AppAnswer) (ans : AppAnswer) :
    (answered c hp script ans).s = c.s := rfl

/-- The FDL state after a telegram with header `hd` went out in `UseToken(d, fcd)`: the reply is awaited if one is due. -/
def sendState (hd : Header) (d : UseData) (fcd : Bool) : FState :=
  match expectsReplyOf hd with
  | some a => .awaitData a.toNat d
  | none => .useToken d fcd

/-- The FDL state after a telegram with header `hd` went out from state `st`: as before, unless a reply is due — then the
station is in `UseToken` and awaits it.  (Anywhere else `app_transmit_telegram` panics: `AppStep.notHolding`.) -/
inductive SendSt (st : FState) (hd : Header) : FState → Prop
  | plain : expectsReplyOf hd = none → SendSt st hd st
  | await {a : UInt8} {d : UseData} {fcd : Bool} : expectsReplyOf hd = some a → st = .useToken d fcd →
      SendSt st hd (.awaitData a.toNat d)

theorem SendSt.eq {st st' : FState} {hd : Header} {d : UseData} {fcd : Bool} (h : SendSt st hd st')
    (hst : st = .useToken d fcd) : st' = sendState hd d fcd := by
  unfold sendState
  cases h with
  | plain he => rw [he]; exact hst
  | await he hu => rw [he]; rw [hst] at hu; cases hu; rfl

theorem SendSt.unique {st st' st'' : FState} {hd : Header} (h : SendSt st hd st') (h' : SendSt st hd st'') : st' = st'' := by
  cases h with
  | plain he =>
    cases h' with
    | plain => rfl
    | await he' _ => rw [he] at he'; cases he'
  | await he hu =>
    cases h' with
    | plain he' => rw [he] at he'; cases he'
    | await he' hu' => rw [he] at he'; cases he'; rw [hu] at hu'; cases hu'; rfl

/-- `app_transmit_telegram`, in any FDL state: the state matters only where a reply is due (`SendSt`). -/
inductive AppStep (c : Ctx) (now : Int) (hp : Bool) : Res × Bool → Prop
  | noApp : c.apps[c.s.nextApp]? = none →
      AppStep c now hp (.panic "apps[self.next_application] out of bounds", false)
  | decline {script : List AppAnswer} : c.apps[c.s.nextApp]? = some script → script.headD .decline = .decline →
      AppStep c now hp (.ok (answered c hp script .decline), false)
  | badFrame {script : List AppAnswer} {hd : Header} {pdu : Bytes} : c.apps[c.s.nextApp]? = some script →
      script.headD .decline = .send hd pdu → hd.serialize pdu = .panic →
      AppStep c now hp (.panic "application: serialize assert", false)
  | notHolding {script : List AppAnswer} {hd : Header} {pdu bytes : Bytes} {a : UInt8} : c.apps[c.s.nextApp]? = some script →
      script.headD .decline = .send hd pdu → hd.serialize pdu = .ok bytes → expectsReplyOf hd = some a →
      (∀ d fcd, c.s.st ≠ .useToken d fcd) → AppStep c now hp (.panic "get_use_token_data unreachable", false)
  | send {script : List AppAnswer} {hd : Header} {pdu bytes : Bytes} {st' : FState} : c.apps[c.s.nextApp]? = some script →
      script.headD .decline = .send hd pdu → hd.serialize pdu = .ok bytes → SendSt c.s.st hd st' → c.tx = none →
      AppStep c now hp
        (.ok { (answered c hp script (.send hd pdu)) with
          tx := some bytes, s := markTx { c.s with st := st' } now bytes.length }, true)
  | busy {script : List AppAnswer} {hd : Header} {pdu bytes b : Bytes} {st' : FState} : c.apps[c.s.nextApp]? = some script →
      script.headD .decline = .send hd pdu → hd.serialize pdu = .ok bytes → SendSt c.s.st hd st' → c.tx = some b →
      AppStep c now hp (.panic "second transmission in one poll", true)

theorem appTransmit_step (c : Ctx) (now : Int) (hp : Bool) : AppStep c now hp (appTransmit c now hp) := by
  unfold appTransmit
  dsimp only
  cases hs : c.apps[c.s.nextApp]? with
  | none => exact .noApp hs
  | some script =>
    dsimp only
    cases ha : script.headD .decline with
    | decline => exact .decline hs ha
    | send hd pdu =>
      dsimp only
      cases hser : hd.serialize pdu with
      | panic => exact .badFrame hs ha hser
      | ok bytes =>
        dsimp only
        have out : ∀ {st' : FState}, SendSt c.s.st hd st' →
            AppStep c now hp
              (transmit { (answered c hp script (.send hd pdu)) with s := { c.s with st := st' } } now bytes, true) := by
          intro st' hss
          cases htx : c.tx with
          | none => simp only [transmit, answered, htx]; exact .send hs ha hser hss htx
          | some b => simp only [transmit, answered, htx]; exact .busy hs ha hser hss htx
        cases hexp : expectsReplyOf hd with
        | none => exact out (.plain hexp)
        | some a =>
          dsimp only
          cases hst : c.s.st with
          | useToken d fcd =>
            simp only [toAwaitData, hst]
            exact out (.await hexp hst)
          | _ => exact .notHolding hs ha hser hexp (by rw [hst]; exact fun _ _ => nofun)

theorem AppStep.unique {c : Ctx} {now : Int} {hp : Bool} {q q' : Res × Bool}
    (h : AppStep c now hp q) (h' : AppStep c now hp q') : q = q' := by
  have same : ∀ {s1 s2 : List AppAnswer} {h1 h2 : Header} {p1 p2 : Bytes}, c.apps[c.s.nextApp]? = some s1 →
      c.apps[c.s.nextApp]? = some s2 → s1.headD .decline = .send h1 p1 → s2.headD .decline = .send h2 p2 →
      s1 = s2 ∧ h1 = h2 ∧ p1 = p2 := by
    intro s1 s2 h1 h2 p1 p2 e1 e2 a1 a2
    rw [e1] at e2; cases e2; rw [a1] at a2; cases a2; exact ⟨rfl, rfl, rfl⟩
  have clash : ∀ {hd : Header} {a : UInt8} {st' : FState}, expectsReplyOf hd = some a →
      (∀ d fcd, c.s.st ≠ .useToken d fcd) → SendSt c.s.st hd st' → False := by
    intro hd a st' he hn hss
    cases hss with
    | plain he' => rw [he] at he'; cases he'
    | await _ hu => exact hn _ _ hu
  cases h with
  | noApp e1 => cases h' <;> first | rfl | simp_all
  | decline e1 a1 => cases h' <;> first | rfl | simp_all
  | badFrame e1 a1 r1 => cases h' <;> first | rfl | simp_all
  | notHolding e1 a1 r1 he hn =>
    cases h' with
    | notHolding => rfl
    | send e2 a2 _ ss _ => obtain ⟨rfl, rfl, rfl⟩ := same e1 e2 a1 a2; exact (clash he hn ss).elim
    | busy e2 a2 _ ss _ => obtain ⟨rfl, rfl, rfl⟩ := same e1 e2 a1 a2; exact (clash he hn ss).elim
    | noApp e2 => simp_all
    | decline e2 a2 => simp_all
    | badFrame e2 a2 r2 => simp_all
  | send e1 a1 r1 ss1 t1 =>
    cases h' with
    | send e2 a2 r2 ss2 _ =>
      obtain ⟨rfl, rfl, rfl⟩ := same e1 e2 a1 a2
      rw [r1] at r2; cases r2; cases ss1.unique ss2; rfl
    | busy _ _ _ _ t2 => rw [t1] at t2; cases t2
    | notHolding e2 a2 _ he hn => obtain ⟨rfl, rfl, rfl⟩ := same e1 e2 a1 a2; exact (clash he hn ss1).elim
    | noApp e2 => simp_all
    | decline e2 a2 => simp_all
    | badFrame e2 a2 r2 => simp_all
  | busy e1 a1 r1 ss1 t1 =>
    cases h' with
    | busy => rfl
    | send _ _ _ _ t2 => rw [t1] at t2; cases t2
    | notHolding e2 a2 _ he hn => obtain ⟨rfl, rfl, rfl⟩ := same e1 e2 a1 a2; exact (clash he hn ss1).elim
    | noApp e2 => simp_all
    | decline e2 a2 => simp_all
    | badFrame e2 a2 r2 => simp_all

/-- The `m` cyclic successors of `f` (starting with `f` itself) among `n` applications. -/
def cyc (n f : Nat) : Nat → List Nat
  | 0 => []
  | m + 1 => cyc n f m ++ [(f + m) % n]

theorem cyc_succ_left (n f : Nat) : ∀ m, cyc n f (m + 1) = f % n :: cyc n ((f + 1) % n) m := by
  intro m
  induction m with
  | zero => rfl
  | succ m ih =>
    have e : f + 1 + m = f + (m + 1) := by omega
    rw [cyc, ih, cyc, Nat.mod_add_mod, e]
    rfl

theorem cyc_length (n f : Nat) : ∀ m, (cyc n f m).length = m := by
  intro m; induction m with
  | zero => rfl
  | succ m ih => simp [cyc, ih]

def declines (hp : Bool) (l : List Nat) : List AppCall := l.map fun i => .transmit i hp .decline

/-- `UseTokenData` after `m` declines from turn `j`: the first decline fixes `first_app`. -/
def visitAfter (d : UseData) (j m : Nat) : UseData :=
  if m = 0 then d else { d with firstApp := some (d.firstApp.getD j) }

/-- Every `transmit_telegram` of the log was answered by the head of the script of the application asked, which
is then used up: `Asked apps log apps'` leads from the scripts before to the scripts after. -/
inductive Asked : Apps → List AppCall → Apps → Prop
  | nil (apps : Apps) : Asked apps [] apps
  | cons {apps apps' : Apps} {i : Nat} {hp : Bool} {script : List AppAnswer} {rest : List AppCall} :
      apps[i]? = some script → Asked (apps.set i script.tail) rest apps' →
      Asked apps (.transmit i hp (script.headD .decline) :: rest) apps'

theorem Asked.head {apps apps' : Apps} {x : AppCall} {rest : List AppCall} (h : Asked apps (x :: rest) apps') :
    ∃ i hp script, apps[i]? = some script ∧ x = .transmit i hp (script.headD .decline) := by
  cases h with
  | cons hscr _ => exact ⟨_, _, _, hscr, rfl⟩

/-- Summary of `apps_transmit_telegram` entered with `k` iterations left in `UseToken(d, fcd)`: `m` applications —
the one whose turn it is and its cyclic successors — declined; then (`b`) the next one sent a telegram, or the
loop ended because the turn came back to `first_app` or the iterations ran out.  Of the station only the FDL
state, the turn and (by a transmission) the activity stamp change.  `nostop` and the last conjunct of `still` record
the loop's exit test (`next_application == first_app`); the fairness argument (`turn_core` in `Lemmas/AppVisit.lean`)
rests on them. -/
structure AppLoop (now : Int) (hp : Bool) (k : Nat) (c : Ctx) (d : UseData) (fcd : Bool) (m : Nat) (b : Bool) (c1 : Ctx) :
    Prop where
  le : m ≤ k
  sent_lt : b = true → m < k
  lt : 0 < m ∨ b = true → c.s.nextApp < c.apps.length
  next : c1.s.nextApp = if m = 0 then c.s.nextApp else (c.s.nextApp + m) % c.apps.length
  len : c1.apps.length = c.apps.length
  rx : c1.rx = c.rx
  asked : ∃ new, c1.calls = c.calls ++ new ∧ Asked c.apps new c1.apps
  nostop : ∀ t, 0 < t → (t < m ∨ (t = m ∧ b = true)) →
    (c.s.nextApp + t) % c.apps.length ≠ d.firstApp.getD c.s.nextApp
  still : b = false → c1.calls = c.calls ++ declines hp (cyc c.apps.length c.s.nextApp m) ∧ c1.tx = c.tx ∧
    c1.s = { c.s with st := .useToken (visitAfter d c.s.nextApp m) fcd, nextApp := c1.s.nextApp } ∧
    (m = k ∨ (0 < m ∧ (c.s.nextApp + m) % c.apps.length = d.firstApp.getD c.s.nextApp))
  cycle : b = true → ∃ hd pdu bytes,
    c1.calls = c.calls ++ declines hp (cyc c.apps.length c.s.nextApp m) ++ [.transmit c1.s.nextApp hp (.send hd pdu)] ∧
    hd.serialize pdu = .ok bytes ∧ c.tx = none ∧ c1.tx = some bytes ∧
    c1.s = markTx { c.s with st := sendState hd (visitAfter d c.s.nextApp m) fcd, nextApp := c1.s.nextApp } now bytes.length

theorem appsTransmit_spec (now : Int) (hp : Bool) : ∀ (k : Nat) (c c1 : Ctx) (b : Bool) (d : UseData) (fcd : Bool),
    c.s.st = .useToken d fcd → appsTransmit now hp k c = (.ok c1, b) → ∃ m, AppLoop now hp k c d fcd m b c1 := by
  intro k
  induction k with
  | zero =>
    intro c c1 b d fcd hst h
    simp only [appsTransmit, Prod.mk.injEq, Res.ok.injEq] at h
    obtain ⟨rfl, rfl⟩ := h
    refine ⟨0, Nat.le_refl _, (by intro hb; cases hb), by simp, rfl, rfl, rfl, ⟨[], by simp, .nil _⟩,
      by intro t h0 h1; rcases h1 with h1 | ⟨h1, -⟩ <;> omega,
      fun _ => ⟨by simp [declines, cyc], rfl, ?_, .inl rfl⟩, by intro hb; cases hb⟩
    show c.s = { c.s with st := .useToken d fcd, nextApp := c.s.nextApp }
    rw [← hst]
  | succ k ih =>
    intro c c1 b d fcd hst h
    have hstep := appTransmit_step c now hp
    simp only [appsTransmit] at h
    generalize appTransmit c now hp = q at hstep h
    cases hstep with
    | noApp _ => cases h
    | badFrame _ _ _ => cases h
    | notHolding _ _ _ _ _ => cases h
    | busy _ _ _ _ _ => cases h
    | @send script hd pdu bytes st' hscr ha hser hss htx =>
      obtain rfl := hss.eq hst
      simp only [Prod.mk.injEq, Res.ok.injEq] at h
      obtain ⟨rfl, rfl⟩ := h
      have hlt : c.s.nextApp < c.apps.length := (List.getElem?_eq_some_iff.mp hscr).1
      refine ⟨0, Nat.zero_le _, fun _ => Nat.succ_pos _, fun _ => hlt, rfl, by simp [answered], rfl,
        ⟨_, rfl, by rw [← ha]; exact .cons hscr (.nil _)⟩, ?_, (by intro hb; cases hb),
        fun _ => ⟨hd, pdu, bytes, by simp [answered, declines, cyc, markTx], hser, htx, rfl, rfl⟩⟩
      intro t h0 h1
      rcases h1 with h1 | ⟨h1, -⟩ <;> omega
    | @decline script hscr ha =>
      have hlt : c.s.nextApp < c.apps.length := (List.getElem?_eq_some_iff.mp hscr).1
      have hl2 : (answered c hp script .decline).apps.length = c.apps.length := by simp [answered]
      have hask1 : Asked c.apps [.transmit c.s.nextApp hp .decline] (answered c hp script .decline).apps := by
        rw [← ha]; exact .cons hscr (.nil _)
      simp only [answered_s, hst, upd] at h
      rw [hl2] at h
      rcases ite_inv h with ⟨hstop, h⟩ | ⟨hgo, h⟩
      · simp only [Prod.mk.injEq, Res.ok.injEq] at h
        obtain ⟨rfl, rfl⟩ := h
        refine ⟨1, by omega, (by intro hb; cases hb), fun _ => hlt, by simp, hl2, rfl, ⟨_, rfl, hask1⟩, ?_,
          fun _ => ⟨?_, rfl, rfl, .inr ⟨by omega, hstop⟩⟩, by intro hb; cases hb⟩
        · intro t h0 h1
          rcases h1 with h1 | ⟨-, h1⟩
          · omega
          · cases h1
        · simp [answered, declines, cyc, Nat.mod_eq_of_lt hlt]
      · obtain ⟨m, hm⟩ := ih _ c1 b _ fcd rfl h
        have hidx : ∀ t, ((c.s.nextApp + 1) % c.apps.length + t) % c.apps.length = (c.s.nextApp + (t + 1)) % c.apps.length := by
          intro t
          rw [Nat.mod_add_mod, show c.s.nextApp + 1 + t = c.s.nextApp + (t + 1) by omega]
        have hva : ∀ j', visitAfter { d with firstApp := some (d.firstApp.getD c.s.nextApp) } j' m =
            visitAfter d c.s.nextApp (m + 1) := by
          intro j'; cases m <;> simp [visitAfter]
        have hcalls : (c.calls ++ [AppCall.transmit c.s.nextApp hp .decline]) ++
            declines hp (cyc c.apps.length ((c.s.nextApp + 1) % c.apps.length) m) =
            c.calls ++ declines hp (cyc c.apps.length c.s.nextApp (m + 1)) := by
          rw [cyc_succ_left, Nat.mod_eq_of_lt hlt]
          simp [declines]
        have hnx : c1.s.nextApp = (c.s.nextApp + (m + 1)) % c.apps.length := by
          have := hm.next
          simp only [hl2] at this
          rw [this]
          cases m with
          | zero => rfl
          | succ m => simp only [Nat.succ_ne_zero, if_false, hidx]
        have hasked : ∃ new, c1.calls = c.calls ++ new ∧ Asked c.apps new c1.apps := by
          obtain ⟨new, e1, e2⟩ := hm.asked
          refine ⟨AppCall.transmit c.s.nextApp hp .decline :: new, ?_, ?_⟩
          · rw [e1]; simp [answered]
          · rw [← ha]; exact .cons hscr e2
        refine ⟨m + 1, Nat.succ_le_succ hm.le, fun hb => Nat.succ_lt_succ (hm.sent_lt hb), fun _ => hlt, by simpa using hnx,
          hm.len.trans hl2, hm.rx, hasked, ?_, ?_, ?_⟩
        · intro t h0 h1
          cases t with
          | zero => omega
          | succ t =>
            cases t with
            | zero => simpa [answered] using hgo
            | succ t =>
              have := hm.nostop (t + 1) (by omega) (by rcases h1 with h1 | ⟨h1, hb⟩; exact .inl (by omega); exact .inr ⟨by omega, hb⟩)
              simpa [hl2, hidx, answered] using this
        · intro hb
          obtain ⟨e1, e2, e3, e4⟩ := hm.still hb
          simp only [hl2, hva, hidx] at e1 e3 e4
          refine ⟨by rw [e1]; exact hcalls, e2, e3, ?_⟩
          rcases e4 with e4 | ⟨e4, e5⟩
          · exact .inl (by omega)
          · exact .inr ⟨by omega, by simpa [answered] using e5⟩
        · intro hb
          obtain ⟨hd, pdu, bytes, e1, e2, e3, e4, e5⟩ := hm.cycle hb
          simp only [hl2, hva] at e1 e5
          exact ⟨hd, pdu, bytes, by rw [e1]; exact congrArg (· ++ _) hcalls, e2, e3, e4, e5⟩

theorem AppLoop.next_mod {now : Int} {hp : Bool} {k : Nat} {c : Ctx} {d : UseData} {fcd : Bool} {m : Nat} {b : Bool}
    {c1 : Ctx} (h : AppLoop now hp k c d fcd m b c1) (hlt : c.s.nextApp < c.apps.length) :
    c1.s.nextApp = (c.s.nextApp + m) % c.apps.length := by
  rw [h.next]
  cases m with
  | zero => exact (Nat.mod_eq_of_lt hlt).symm
  | succ m => rfl

theorem AppLoop.frame {now : Int} {hp : Bool} {k : Nat} {c : Ctx} {d : UseData} {fcd : Bool} {m : Nat} {b : Bool}
    {c1 : Ctx} (h : AppLoop now hp k c d fcd m b c1) :
    ∃ st1 lba, c1.s = { c.s with st := st1, nextApp := c1.s.nextApp, lastBusActivity := lba } := by
  cases b with
  | false => exact ⟨_, c.s.lastBusActivity, (h.still rfl).2.2.1⟩
  | true =>
    obtain ⟨hd, pdu, bytes, -, -, -, -, e⟩ := h.cycle rfl
    exact ⟨_, _, e⟩

theorem AppLoop.quiet {now : Int} {hp : Bool} {k : Nat} {c : Ctx} {d : UseData} {fcd : Bool} {m : Nat} {b : Bool}
    {c1 : Ctx} (h : AppLoop now hp k c d fcd m b c1) (hb : b = false) :
    c1.calls = c.calls ++ declines hp (cyc c.apps.length c.s.nextApp m) ∧ c1.tx = c.tx ∧
    c1.s.st = .useToken (visitAfter d c.s.nextApp m) fcd ∧
    (m = k ∨ (0 < m ∧ (c.s.nextApp + m) % c.apps.length = d.firstApp.getD c.s.nextApp)) := by
  obtain ⟨e1, e2, e3, e4⟩ := h.still hb
  exact ⟨e1, e2, by rw [e3], e4⟩

theorem AppLoop.sent {now : Int} {hp : Bool} {k : Nat} {c : Ctx} {d : UseData} {fcd : Bool} {m : Nat} {b : Bool}
    {c1 : Ctx} (h : AppLoop now hp k c d fcd m b c1) (hb : b = true) : ∃ hd pdu bytes,
    c1.calls = c.calls ++ declines hp (cyc c.apps.length c.s.nextApp m) ++ [.transmit c1.s.nextApp hp (.send hd pdu)] ∧
    c1.tx = some bytes ∧
    ((expectsReplyOf hd = none ∧ c1.s.st = .useToken (visitAfter d c.s.nextApp m) fcd) ∨
     ∃ a8, expectsReplyOf hd = some a8 ∧ c1.s.st = .awaitData a8.toNat (visitAfter d c.s.nextApp m)) := by
  obtain ⟨hd, pdu, bytes, e1, -, -, e4, e5⟩ := h.cycle hb
  refine ⟨hd, pdu, bytes, e1, e4, ?_⟩
  rw [e5]
  cases hexp : expectsReplyOf hd with
  | none => exact .inl ⟨rfl, by simp [markTx, sendState, hexp]⟩
  | some a8 => exact .inr ⟨a8, rfl, by simp [markTx, sendState, hexp]⟩

/-- `end_token_hold_time` as `do_use_token` sees it in a poll that starts in state `s` of a visit with data `d`. -/
def holdEnd (s : Station) (d : UseData) : Int := (holdUpdate s d).endTokenHoldTime

/-- The hold-time bookkeeping touches two fields: when the token receipt is not new, `last_token_time` already
is `d.tokenTime`. -/
theorem holdUpdate_eq (s : Station) (d : UseData) :
    holdUpdate s d = { s with endTokenHoldTime := holdEnd s d, lastTokenTime := d.tokenTime } := by
  unfold holdEnd holdUpdate
  split
  · rfl
  · rename_i h
    have : s.lastTokenTime = d.tokenTime := Decidable.not_not.mp h
    cases s; simp_all

theorem hold_end_congr (s1 s : Station) (d : UseData) (h1 : s1.lastTokenTime = s.lastTokenTime) (h2 : s1.p = s.p)
    (h3 : s1.gap = s.gap) (h4 : s1.endTokenHoldTime = s.endTokenHoldTime) :
    (holdUpdate s1 d).endTokenHoldTime = (holdUpdate s d).endTokenHoldTime := by
  unfold holdUpdate
  rw [h1]
  by_cases h : s.lastTokenTime ≠ d.tokenTime
  · rw [if_pos h, if_pos h]; simp only [h2, h3]
  · rw [if_neg h, if_neg h]; exact h4

/-- The context `do_use_token` works on: the stamp filled in, the hold-time bookkeeping done. -/
def held (c : Ctx) (now : Int) (d : UseData) : Ctx :=
  { c with s := { (stamped c.s now) with endTokenHoldTime := holdEnd c.s d, lastTokenTime := d.tokenTime } }

theorem held_eq (c : Ctx) (now : Int) (d : UseData) :
    ({ c with s := stamped (holdUpdate c.s d) now } : Ctx) = held c now d := by
  rw [holdUpdate_eq]; rfl

theorem syncOver_holdUpdate (s : Station) (d : UseData) (now : Int) : SyncOver (holdUpdate s d) now ↔ SyncOver s now := by
  rw [holdUpdate_eq, syncOver_iff, syncOver_iff]

/-- `do_use_token` once a message cycle may be attempted: the application loop, then — nobody sent — the end of the token
hold in the same poll (`passNow`).  The walks read the loop's regular result `c1` through `AppLoop`; the last premise,
the loop's value, fixes `c1`: a walk that has the value from an induction of its own identifies its context with `c1`. -/
inductive UseGoStep (c : Ctx) (now : Int) (d : UseData) (hp : Bool) : Res → Prop
  | cycle {m : Nat} {c1 : Ctx} :
      AppLoop now hp c.apps.length { c with s := { c.s with st := .useToken d true } } d true m true c1 →
      appsTransmit now hp c.apps.length { c with s := { c.s with st := .useToken d true } } = (.ok c1, true) →
      UseGoStep c now d hp (.ok c1)
  | pass {m : Nat} {c1 : Ctx} {r : Res} :
      AppLoop now hp c.apps.length { c with s := { c.s with st := .useToken d true } } d true m false c1 →
      passNow c1 now = r →
      appsTransmit now hp c.apps.length { c with s := { c.s with st := .useToken d true } } = (.ok c1, false) →
      UseGoStep c now d hp r
  | panic {site : String} {b : Bool} :
      appsTransmit now hp c.apps.length { c with s := { c.s with st := .useToken d true } } = (.panic site, b) →
      UseGoStep c now d hp (.panic site)

theorem useTokenGo_step (c : Ctx) (now : Int) (d : UseData) (hp : Bool) : UseGoStep c now d hp (useTokenGo c now d hp) := by
  unfold useTokenGo
  simp only [upd]
  generalize hq : appsTransmit now hp c.apps.length { c with s := { c.s with st := .useToken d true } } = q
  obtain ⟨r, b⟩ := q
  cases r with
  | panic site => exact .panic hq
  | ok c1 =>
    obtain ⟨m, hm⟩ := appsTransmit_spec now hp _ _ c1 b d true rfl hq
    cases b with
    | true => exact .cycle hm hq
    | false => exact .pass hm rfl hq

theorem UseGoStep.eq {c : Ctx} {now : Int} {d : UseData} {hp : Bool} {r : Res} (h : UseGoStep c now d hp r) :
    useTokenGo c now d hp = r := by
  unfold useTokenGo
  simp only [upd]
  cases h with
  | cycle _ hv => rw [hv]
  | pass _ hr hv => rw [hv]; exact hr
  | panic hv => rw [hv]

theorem UseGoStep.unique {c : Ctx} {now : Int} {d : UseData} {hp : Bool} {r r' : Res}
    (h : UseGoStep c now d hp r) (h' : UseGoStep c now d hp r') : r = r' :=
  h.eq.symm.trans h'.eq

/-- `.go`: a message cycle is attempted before the hold time is over, or as the first cycle of the visit (then for
high-priority telegrams only). -/
inductive UseStep (c : Ctx) (now : Int) (d : UseData) (fcd : Bool) : Res → Prop
  | wait : ¬ SyncOver c.s now → UseStep c now d fcd (.ok (held c now d))
  | go {r : Res} : SyncOver c.s now → now < holdEnd c.s d ∨ fcd = false →
      useTokenGo (held c now d) now d (!decide (now < holdEnd c.s d)) = r → UseStep c now d fcd r
  | pass {r : Res} : SyncOver c.s now → ¬ now < holdEnd c.s d → fcd = true → passNow (held c now d) now = r →
      UseStep c now d fcd r

theorem doUseToken_step {c : Ctx} {d : UseData} {fcd : Bool} (now : Int) (hst : c.s.st = .useToken d fcd) :
    UseStep c now d fcd (doUseToken c now) := by
  have hend : (stamped (holdUpdate c.s d) now).endTokenHoldTime = holdEnd c.s d := rfl
  unfold doUseToken
  rw [hst]
  simp only [sync_stamped, held_eq, hend]
  by_cases hw : SyncOver c.s now
  · have hw' : (waitSyncPause (holdUpdate c.s d) now).2 = false := (syncOver_holdUpdate c.s d now).mpr hw
    simp only [hw', Bool.false_eq_true, if_false]
    by_cases hlt : now < holdEnd c.s d
    · rw [if_pos hlt]
      exact .go hw (.inl hlt) (by rw [decide_eq_true hlt]; rfl)
    · rw [if_neg hlt]
      cases fcd with
      | false => exact .go hw (.inr rfl) (by rw [decide_eq_false hlt]; rfl)
      | true => exact .pass hw hlt rfl rfl
  · have hw' : (waitSyncPause (holdUpdate c.s d) now).2 = true := by
      simpa [SyncOver] using fun h => hw ((syncOver_holdUpdate c.s d now).mp h)
    simp only [hw', if_true]
    exact .wait hw

theorem UseStep.unique {c : Ctx} {now : Int} {d : UseData} {fcd : Bool} {r r' : Res}
    (h : UseStep c now d fcd r) (h' : UseStep c now d fcd r') : r = r' := by
  cases h with
  | wait hw => cases h' <;> first | rfl | contradiction
  | go hw hg hv =>
    cases h' with
    | wait => contradiction
    | go _ _ hv' => exact hv.symm.trans hv'
    | pass _ hn hf =>
      rcases hg with hg | hg
      · exact absurd hg hn
      · rw [hf] at hg; cases hg
  | pass hw hn hf hv =>
    cases h' with
    | wait => contradiction
    | go _ hg _ =>
      rcases hg with hg | hg
      · exact absurd hg hn
      · rw [hf] at hg; cases hg
    | pass _ _ _ hv' => exact hv.symm.trans hv'

theorem doUseToken_ok_st {c c' : Ctx} {now : Int} (h : doUseToken c now = .ok c') : ∃ d fcd, c.s.st = .useToken d fcd := by
  unfold doUseToken at h
  split at h
  · exact ⟨_, _, by assumption⟩
  · cases h

theorem passNow_eq {c : Ctx} {d : UseData} {fcd : Bool} (now : Int) (hst : c.s.st = .useToken d fcd) :
    passNow c now = doPassToken { c with s := { c.s with st := .passToken true .first } } now := by
  simp only [passNow, tr, toPassToken, hst, Res.bind]

theorem passNow_ok {c c' : Ctx} {now : Int} (h : passNow c now = .ok c') :
    doPassToken { c with s := { c.s with st := .passToken true .first } } now = .ok c' := by
  unfold passNow at h
  obtain ⟨c1, ht, h⟩ := bind_ok_inv h
  rwa [tr_setsSt (setsSt_toPassToken true .first) ht] at h

/-- The reply admission filter of `do_await_data_response`. -/
def validReplyB (ts addr : Nat) : Telegram → Bool
  | .token .. => false
  | .sc => true
  | .data h _ => decide (h.sa.toNat = addr) && decide (h.da.toNat = ts) &&
      (match h.fc with | .response .. => true | _ => false)

/-- `do_await_data_response` in `AwaitDataResponse(a, d)`. -/
inductive AwaitDataStep (c : Ctx) (now : Int) (a : Nat) (d : UseData) : Res → Prop
  | noApp : c.apps.length ≤ c.s.nextApp → AwaitDataStep c now a d (.panic "apps[self.next_application] out of bounds")
  | rxPanic : c.s.nextApp < c.apps.length → receiveTelegram c.rx = .panic → AwaitDataStep c now a d (.panic "receive_telegram")
  | rxHang : c.s.nextApp < c.apps.length → receiveTelegram c.rx = .hang →
      AwaitDataStep c now a d (.panic "receive_telegram hang")
  | waits {rx' : Bytes} {ret : Bool} : c.s.nextApp < c.apps.length → receiveTelegram c.rx = .done rx' [] ret →
      ¬ SlotExpired c.s now → AwaitDataStep c now a d (.ok { c with rx := rx', s := stamped c.s now })
  | timeout {rx' : Bytes} {ret : Bool} {r : Res} : c.s.nextApp < c.apps.length →
      receiveTelegram c.rx = .done rx' [] ret → SlotExpired c.s now →
      doUseToken { c with rx := rx', s := { (stamped c.s now) with st := .useToken d true },
                          calls := c.calls ++ [.timeout c.s.nextApp a] } now = r →
      AwaitDataStep c now a d r
  | reply {rx' : Bytes} {t : Telegram} {l ret : Bool} {rest : List (Telegram × Bool)} : c.s.nextApp < c.apps.length →
      receiveTelegram c.rx = .done rx' ((t, l) :: rest) ret → validReplyB c.s.p.address a t = true →
      AwaitDataStep c now a d
        (.ok { c with rx := rx', s := { (markRx c.s now) with st := .useToken d true },
                      calls := c.calls ++ [.reply c.s.nextApp a t] })
  | backOff {rx' : Bytes} {t : Telegram} {l ret : Bool} {rest : List (Telegram × Bool)} : c.s.nextApp < c.apps.length →
      receiveTelegram c.rx = .done rx' ((t, l) :: rest) ret → validReplyB c.s.p.address a t = false →
      AwaitDataStep c now a d (.ok { c with rx := rx', s := { (markRx c.s now) with st := .activeIdle none none 0 } })

theorem doAwaitDataResponse_step {c : Ctx} {a : Nat} {d : UseData} (now : Int) (hst : c.s.st = .awaitData a d) :
    AwaitDataStep c now a d (doAwaitDataResponse c now) := by
  unfold doAwaitDataResponse
  -- the value of `receiveTelegram c.rx` first, the outer match on the FDL state after it
  cases hrx : receiveTelegram c.rx with
  | panic =>
    simp only [hst]
    by_cases hi : c.apps.length ≤ c.s.nextApp
    · rw [if_pos hi]; exact .noApp hi
    · rw [if_neg hi]; exact .rxPanic (by omega) hrx
  | hang =>
    simp only [hst]
    by_cases hi : c.apps.length ≤ c.s.nextApp
    · rw [if_pos hi]; exact .noApp hi
    · rw [if_neg hi]; exact .rxHang (by omega) hrx
  | done rx' calls ret =>
    simp only [hst]
    by_cases hi : c.apps.length ≤ c.s.nextApp
    · rw [if_pos hi]; exact .noApp hi
    rw [if_neg hi]
    have hlt : c.s.nextApp < c.apps.length := by omega
    cases calls with
    | nil =>
      simp only [slot_stamped]
      by_cases hex : SlotExpired c.s now
      · have hex' : (checkSlotExpired c.s now).2 = true := hex
        simp only [hex', if_true, tr, toUseToken, stamped_st, hst, Res.bind, upd]
        exact .timeout hlt hrx hex rfl
      · have hex' : (checkSlotExpired c.s now).2 = false := by simpa [SlotExpired] using hex
        simp only [hex', Bool.false_eq_true, if_false]
        exact .waits hlt hrx hex
    | cons x rest =>
      obtain ⟨t, l⟩ := x
      have hst' : (markRx c.s now).st = .awaitData a d := by simpa [markRx, markBusActivity] using hst
      dsimp only
      simp only [tr, toUseToken, toActiveIdle, hst', Res.bind, upd]
      show AwaitDataStep c now a d (if validReplyB c.s.p.address a t = true then _ else _)
      cases hval : validReplyB c.s.p.address a t with
      | true => rw [if_pos rfl]; exact .reply hlt hrx hval
      | false => rw [if_neg (by simp)]; exact .backOff hlt hrx hval

theorem AwaitDataStep.unique {c : Ctx} {now : Int} {a : Nat} {d : UseData} {r r' : Res}
    (h : AwaitDataStep c now a d r) (h' : AwaitDataStep c now a d r') : r = r' := by
  -- `noApp` against any other constructor: the two bounds on `c.s.nextApp` (`omega`).  The others differ in the value of
  -- `receiveTelegram c.rx`, in `SlotExpired` or in `validReplyB`; on the diagonal that value, and with it the result, is
  -- the same.
  cases h <;> cases h' <;> first | rfl | omega | simp_all

end PV
