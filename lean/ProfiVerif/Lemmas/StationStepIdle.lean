/-
The idle side of `Lemmas/StationStep.lean`, in the same form: what a station without the token does with one received
telegram (`handle_telegram` in `ActiveIdle`, the callback of `do_listen_token`), the claim after the token-lost
time-out (`do_claim_token`), the two idle handlers (`do_listen_token`, `do_active_idle`: `IdlingStep`), and the top of a
poll (`pollInner_eq`).  A batch of received telegrams stays a fold in the result (premise `foldTelegrams .. = r`): what
the fold does is read off the per-telegram relation by induction over the batch.
-/
import ProfiVerif.Lemmas.StationStep

namespace PV
open StationGap

/-! The relations state their guards on the lazily initialised stamp (`SyncOver`, `SlotExpired`, `TokenLost`,
`stamped`); for a station whose stamp is `some l` each is one rewrite (with `stamped_of_last` for the result). -/

theorem syncOver_some {s : Station} {now l : Int} (hl : s.lastBusActivity = some l) :
    SyncOver s now ↔ l + (s.p.bits 33 : Nat) < now := by
  rw [syncOver_iff, hl]; rfl

theorem slotExpired_some {s : Station} {now l : Int} (hl : s.lastBusActivity = some l) :
    SlotExpired s now ↔ l + (s.p.slotTime : Nat) < now := by
  rw [slotExpired_iff, hl]; rfl

theorem tokenLost_some {s : Station} {now l : Int} (hl : s.lastBusActivity = some l) :
    TokenLost s now ↔ (now - l).natAbs ≥ s.p.tokenLostTimeout := by
  unfold TokenLost; rw [hl]; rfl

/-- The telegram is an FDL status request to `ts`, and the last of its batch: the only ones an idle station
takes up. -/
def AsksStatus (ts : Nat) (h : Header) (isLast : Bool) : Prop :=
  (∃ fcb, h.fc = .request fcb .fdlStatus) ∧ h.da.toNat = ts ∧ isLast = true

/-- The token for this station (addressed to it and last of the batch) is accepted from the registered predecessor,
or from a stranger `np` that tried before. -/
inductive IdleTelStep (c : Ctx) (now : Int) (sr np : Option Nat) (coll : Nat) (isLast : Bool) : Telegram → Res → Prop
  | collision {da sa : UInt8} : sa.toNat = c.s.p.address → coll = 0 →
      IdleTelStep c now sr np coll isLast (.token da sa)
        (.ok { c with s := { c.s with st := .activeIdle sr np (coll + 1) } })
  | backOff {da sa : UInt8} : sa.toNat = c.s.p.address → coll ≠ 0 →
      IdleTelStep c now sr np coll isLast (.token da sa) (.ok { c with s := { c.s with st := .listenToken none 0 } })
  | heard {da sa : UInt8} : sa.toNat ≠ c.s.p.address → da.toNat ≠ c.s.p.address ∨ isLast = false →
      IdleTelStep c now sr np coll isLast (.token da sa)
        (.ok { c with s := { c.s with st := .activeIdle sr np 0, ring := c.s.ring.witness sa.toNat da.toNat } })
  | accept {da sa : UInt8} : sa.toNat ≠ c.s.p.address → da.toNat = c.s.p.address → isLast = true →
      sa.toNat = c.s.ring.ps →
      IdleTelStep c now sr np coll isLast (.token da sa) (.ok { c with s := { c.s with st := .useToken ⟨now, none⟩ false } })
  | acceptNew {da sa : UInt8} : sa.toNat ≠ c.s.p.address → da.toNat = c.s.p.address → isLast = true →
      sa.toNat ≠ c.s.ring.ps → np = some sa.toNat →
      IdleTelStep c now sr np coll isLast (.token da sa)
        (.ok { c with s := { c.s with st := .useToken ⟨now, none⟩ false, ring := c.s.ring.witness sa.toNat da.toNat } })
  | stranger {da sa : UInt8} : sa.toNat ≠ c.s.p.address → da.toNat = c.s.p.address → isLast = true →
      sa.toNat ≠ c.s.ring.ps → np ≠ some sa.toNat →
      IdleTelStep c now sr np coll isLast (.token da sa)
        (.ok { c with s := { c.s with st := .activeIdle sr (some sa.toNat) 0 } })
  | request {h : Header} {pdu : Bytes} : AsksStatus c.s.p.address h isLast →
      IdleTelStep c now sr np coll isLast (.data h pdu)
        (.ok { c with s := { c.s with st := .activeIdle (some h.sa.toNat) np coll } })
  | ignore {h : Header} {pdu : Bytes} : ¬ AsksStatus c.s.p.address h isLast →
      IdleTelStep c now sr np coll isLast (.data h pdu) (.ok c)
  | sc : IdleTelStep c now sr np coll isLast .sc (.ok c)

theorem handleTelegram_step {c : Ctx} {sr np : Option Nat} {coll : Nat} (now : Int) (t : Telegram) (isLast : Bool)
    (hst : c.s.st = .activeIdle sr np coll) :
    IdleTelStep c now sr np coll isLast t (handleTelegram c now t isLast) := by
  unfold handleTelegram
  rw [hst]
  cases t with
  | sc => exact .sc
  | data h pdu =>
    simp only
    split
    · rename_i fcb hfc
      split
      · rename_i hc; exact .request ⟨⟨fcb, hfc⟩, hc.1, hc.2⟩
      · rename_i hc; exact .ignore fun ha => hc ⟨ha.2.1, ha.2.2⟩
    · rename_i hfc; exact .ignore fun ha => ha.1.elim fun fcb h => hfc fcb h
  | token da sa =>
    dsimp only [upd]
    by_cases hsa : sa.toNat = c.s.p.address
    · rw [if_pos hsa]
      by_cases hc : coll = 0
      · rw [if_pos (by omega)]; exact .collision hsa hc
      · rw [if_neg (by omega)]
        simp only [tr, toListenToken]
        exact .backOff hsa hc
    · rw [if_neg hsa]
      by_cases hda : da.toNat ≠ c.s.p.address ∨ isLast = false
      · rw [if_pos (by simpa using hda)]; exact .heard hsa hda
      · rw [if_neg (by simpa using hda)]
        have hda1 : da.toNat = c.s.p.address := Decidable.not_not.mp fun h => hda (.inl h)
        have hl : isLast = true := by cases isLast <;> simp_all
        split
        · rename_i hps
          simp only [tr, toUseToken]
          exact .accept hsa hda1 hl hps
        · rename_i hps
          split
          · rename_i hnp
            simp only [tr, toUseToken]
            exact .acceptNew hsa hda1 hl hps hnp
          · rename_i hnp; exact .stranger hsa hda1 hl hps hnp

theorem IdleTelStep.unique {c : Ctx} {now : Int} {sr np : Option Nat} {coll : Nat} {isLast : Bool} {t : Telegram} {r r' : Res}
    (h : IdleTelStep c now sr np coll isLast t r) (h' : IdleTelStep c now sr np coll isLast t r') : r = r' := by
  -- Off the diagonal two different constructors carry a guard and its negation and `simp_all` finds the pair: here on
  -- the addresses, `coll`, `isLast`, `np`, `AsksStatus`; further down `SyncOver` / `TokenLost` and their negations,
  -- `c.tx = none` and `some b`, two values of `c.s.gap` / `nextGap` / `receiveAll`.
  cases h <;> cases h' <;> first | rfl | simp_all

theorem handleTelegram_listening {c : Ctx} {sr : Option Nat} {coll : Nat} (now : Int) (t : Telegram) (isLast : Bool)
    (hst : c.s.st = .listenToken sr coll) : handleTelegram c now t isLast = .ok c := by
  unfold handleTelegram
  rw [hst]

theorem handleTelegram_ok_st {c c' : Ctx} {now : Int} {t : Telegram} {isLast : Bool}
    (h : handleTelegram c now t isLast = .ok c') :
    (∃ sr np coll, c.s.st = .activeIdle sr np coll) ∨ ∃ sr coll, c.s.st = .listenToken sr coll := by
  unfold handleTelegram at h
  split at h
  · exact .inr ⟨_, _, by assumption⟩
  · exact .inl ⟨_, _, _, by assumption⟩
  · cases h

/-- A telegram of any kind with the own address as source counts as a collision; the second one resets the station
(`set_offline`). -/
inductive ListenTelStep (c : Ctx) (sr : Option Nat) (coll : Nat) (isLast : Bool) : Telegram → Res → Prop
  | collision {t : Telegram} : t.sourceAddress.map UInt8.toNat = some c.s.p.address → coll = 0 →
      ListenTelStep c sr coll isLast t (.ok { c with s := { c.s with st := .listenToken sr (coll + 1) } })
  | reset {t : Telegram} : t.sourceAddress.map UInt8.toNat = some c.s.p.address → coll ≠ 0 →
      ListenTelStep c sr coll isLast t (.ok { c with s := c.s.setOffline })
  | heard {da sa : UInt8} : sa.toNat ≠ c.s.p.address →
      ListenTelStep c sr coll isLast (.token da sa)
        (.ok { c with s := { c.s with ring := c.s.ring.witness sa.toNat da.toNat } })
  | request {h : Header} {pdu : Bytes} : h.sa.toNat ≠ c.s.p.address → AsksStatus c.s.p.address h isLast →
      ListenTelStep c sr coll isLast (.data h pdu)
        (.ok { c with s := { c.s with st := .listenToken (some h.sa.toNat) coll } })
  | ignore {h : Header} {pdu : Bytes} : h.sa.toNat ≠ c.s.p.address → ¬ AsksStatus c.s.p.address h isLast →
      ListenTelStep c sr coll isLast (.data h pdu) (.ok c)
  | sc : ListenTelStep c sr coll isLast .sc (.ok c)

theorem listenTelegramCore_step {c : Ctx} {sr : Option Nat} {coll : Nat} (t : Telegram) (isLast : Bool)
    (hon : c.s.online = true) (hst : c.s.st = .listenToken sr coll) :
    ListenTelStep c sr coll isLast t (listenTelegramCore c t isLast) := by
  unfold listenTelegramCore
  rw [if_neg (by simp [hon]), hst]
  dsimp only [upd]
  by_cases hsrc : t.sourceAddress.map UInt8.toNat = some c.s.p.address
  · rw [if_pos hsrc]
    by_cases hc : coll = 0
    · rw [if_pos (by omega)]; exact .collision hsrc hc
    · rw [if_neg (by omega)]; exact .reset hsrc hc
  · rw [if_neg hsrc]
    cases t with
    | sc => exact .sc
    | token da sa => exact .heard fun h => hsrc (by simp [Telegram.sourceAddress, h])
    | data h pdu =>
      have hsa : h.sa.toNat ≠ c.s.p.address := fun e => hsrc (by simp [Telegram.sourceAddress, e])
      dsimp only
      split
      · rename_i fcb hfc
        split
        · rename_i hc; exact .request hsa ⟨⟨fcb, hfc⟩, hc.1, hc.2⟩
        · rename_i hc; exact .ignore hsa fun ha => hc ⟨ha.2.1, ha.2.2⟩
      · rename_i hfc; exact .ignore hsa fun ha => ha.1.elim fun fcb h => hfc fcb h

theorem ListenTelStep.foreign {c : Ctx} {t : Telegram} (h : t.sourceAddress.map UInt8.toNat = some c.s.p.address) :
    (∀ da sa, t = .token da sa → sa.toNat = c.s.p.address) ∧ (∀ hd pdu, t = .data hd pdu → hd.sa.toNat = c.s.p.address) ∧
    t ≠ .sc := by
  cases t <;> simp_all [Telegram.sourceAddress]

theorem ListenTelStep.unique {c : Ctx} {sr : Option Nat} {coll : Nat} {isLast : Bool} {t : Telegram} {r r' : Res}
    (h : ListenTelStep c sr coll isLast t r) (h' : ListenTelStep c sr coll isLast t r') : r = r' := by
  cases h with
  | collision hs h0 =>
    cases h' with
    | collision => rfl
    | reset _ h1 => exact absurd h0 h1
    | heard hn => exact absurd ((foreign hs).1 _ _ rfl) hn
    | request hn => exact absurd ((foreign hs).2.1 _ _ rfl) hn
    | ignore hn => exact absurd ((foreign hs).2.1 _ _ rfl) hn
    | sc => exact absurd rfl (foreign hs).2.2
  | reset hs h0 =>
    cases h' with
    | collision _ h1 => exact absurd h1 h0
    | reset => rfl
    | heard hn => exact absurd ((foreign hs).1 _ _ rfl) hn
    | request hn => exact absurd ((foreign hs).2.1 _ _ rfl) hn
    | ignore hn => exact absurd ((foreign hs).2.1 _ _ rfl) hn
    | sc => exact absurd rfl (foreign hs).2.2
  | heard hn =>
    cases h' with
    | collision hs | reset hs => exact absurd ((foreign hs).1 _ _ rfl) hn
    | heard => rfl
  | request hn ha =>
    cases h' with
    | collision hs | reset hs => exact absurd ((foreign hs).2.1 _ _ rfl) hn
    | request => rfl
    | ignore _ hna => exact absurd ha hna
  | ignore hn hna =>
    cases h' with
    | collision hs | reset hs => exact absurd ((foreign hs).2.1 _ _ rfl) hn
    | request _ ha => exact absurd ha hna
    | ignore => rfl
  | sc =>
    cases h' with
    | collision hs | reset hs => exact absurd rfl (foreign hs).2.2
    | sc => rfl

theorem listenTelegram_step {c : Ctx} {sr : Option Nat} {coll : Nat} (now : Int) (t : Telegram) (isLast : Bool)
    (hon : c.s.online = true) (hst : c.s.st = .listenToken sr coll) :
    ListenTelStep { c with s := markRx c.s now } sr coll isLast t (listenTelegram now c t isLast) :=
  listenTelegramCore_step (c := { c with s := markRx c.s now }) t isLast hon hst

theorem listenTelegramCore_ok_st {c c' : Ctx} {t : Telegram} {isLast : Bool}
    (h : listenTelegramCore c t isLast = .ok c') :
    c.s.online = false ∨ ∃ sr coll, c.s.st = .listenToken sr coll := by
  cases hon : c.s.online with
  | false => exact .inl rfl
  | true =>
    unfold listenTelegramCore at h
    rw [if_neg (by simp [hon])] at h
    split at h
    · exact .inr ⟨_, _, by assumption⟩
    · cases h

theorem handleTelegram_frame {c c' : Ctx} {now : Int} {t : Telegram} {l : Bool} (h : handleTelegram c now t l = .ok c') :
    ∃ st' r, c' = { c with s := { c.s with st := st', ring := r } } := by
  rcases handleTelegram_ok_st h with ⟨sr, np, coll, hst⟩ | ⟨sr, coll, hst⟩
  · cases h ▸ handleTelegram_step now t l hst <;> exact ⟨_, _, rfl⟩
  · rw [handleTelegram_listening now t l hst] at h; cases h; exact ⟨_, _, rfl⟩

theorem listenTelegramCore_off (c : Ctx) (t : Telegram) (isLast : Bool) (hoff : c.s.online = false) :
    listenTelegramCore c t isLast = .ok c := by
  unfold listenTelegramCore
  rw [if_pos (by simp [hoff])]

namespace StationGap

theorem listenTelegramCore_tx (c c' : Ctx) (t : Telegram) (l : Bool) (h : listenTelegramCore c t l = .ok c') :
    c'.tx = c.tx := by
  cases hon : c.s.online with
  | false => rw [listenTelegramCore_off c t l hon] at h; cases h; rfl
  | true =>
    rcases listenTelegramCore_ok_st h with hoff | ⟨sr, coll, hst⟩
    · rw [hon] at hoff; cases hoff
    · cases h ▸ listenTelegramCore_step t l hon hst <;> rfl

theorem handleTelegram_tx (c c' : Ctx) (now : Int) (t : Telegram) (l : Bool) (h : handleTelegram c now t l = .ok c') :
    c'.tx = c.tx := by
  obtain ⟨_, _, rfl⟩ := handleTelegram_frame h
  rfl

end StationGap

/-- The context after one of the two claiming token telegrams TS → TS: the LAS is declared valid, the GAP cursor is
set to the own address. -/
def claimed (c : Ctx) (now : Int) (step : ClaimStep) : Ctx :=
  { c with
    tx := some (tokenBytes c.s.p.address c.s.p.address),
    s := { (markTx (stamped c.s now) now 3) with
      ring := c.s.ring.claimToken,
      st := .claimToken (if step = .firstToken then .secondToken else .scan),
      gap := .doPoll c.s.p.address } }

/-- `ClaimToken(FirstToken | SecondToken)`. -/
inductive ClaimTokStep (c : Ctx) (now : Int) (step : ClaimStep) : Res → Prop
  | wait : ¬ SyncOver c.s now → ClaimTokStep c now step (.ok { c with s := stamped c.s now })
  | claim : SyncOver c.s now → c.tx = none → ClaimTokStep c now step (.ok (claimed c now step))
  | busy {b : Bytes} : SyncOver c.s now → c.tx = some b →
      ClaimTokStep c now step (.panic "second transmission in one poll")

theorem doClaimToken_tok_step {c : Ctx} {step : ClaimStep} (now : Int) (fuel : Nat)
    (hstep : step = .firstToken ∨ step = .secondToken) (hst : c.s.st = .claimToken step) :
    ClaimTokStep c now step (doClaimToken c now (fuel + 1)) := by
  by_cases hw : SyncOver c.s now
  · cases htx : c.tx with
    | none => rw [doClaimToken_claim c now fuel step hstep hst htx hw]; exact .claim hw htx
    | some b =>
      have hw' : (waitSyncPause c.s now).2 = false := hw
      have : doClaimToken c now (fuel + 1) = .panic "second transmission in one poll" := by
        unfold doClaimToken
        rw [hst]
        rcases hstep with rfl | rfl <;>
          simp only [hw', sync_stamped, transmit, htx, Res.bind, Bool.false_eq_true, if_false]
      rw [this]; exact .busy hw htx
  · rw [doClaimToken_claim_waits c now fuel step hstep hst hw]; exact .wait hw

theorem ClaimTokStep.unique {c : Ctx} {now : Int} {step : ClaimStep} {r r' : Res}
    (h : ClaimTokStep c now step r) (h' : ClaimTokStep c now step r') : r = r' := by
  cases h <;> cases h' <;> first | rfl | simp_all

/-- `ClaimToken(Scan)`. -/
inductive ScanStep (c : Ctx) (now : Int) : Res → Prop
  | wait : ¬ SyncOver c.s now → ScanStep c now (.ok { c with s := stamped c.s now })
  | done {r : Nat} : SyncOver c.s now → c.s.gap = .waiting r →
      ScanStep c now (.ok { c with s := { (stamped c.s now) with st := .passToken false .first } })
  | overflow {cur : Nat} : SyncOver c.s now → c.s.gap = .doPoll cur → nextGap c.s cur = none →
      ScanStep c now (.panic "next_gap_poll overflow")
  | sweepEnds {cur r : Nat} : SyncOver c.s now → c.s.gap = .doPoll cur → nextGap c.s cur = some (.waiting r) →
      ScanStep c now (.ok { c with s := { (stamped c.s now) with gap := .waiting r } })
  | self {cur : Nat} : SyncOver c.s now → c.s.gap = .doPoll cur → nextGap c.s cur = some (.doPoll c.s.p.address) →
      ScanStep c now (.panic "debug_assert_ne!(current_address, self.p.address)")
  | poll {cur a : Nat} : SyncOver c.s now → c.s.gap = .doPoll cur → nextGap c.s cur = some (.doPoll a) →
      a ≠ c.s.p.address → c.tx = none →
      ScanStep c now
        (.ok { c with
          tx := some (statusRequestBytes a c.s.p.address),
          s := { (markTx { (stamped c.s now) with gap := .doPoll a } now 6) with st := .claimToken (.scanAwait a) } })
  | busy {cur a : Nat} {b : Bytes} : SyncOver c.s now → c.s.gap = .doPoll cur → nextGap c.s cur = some (.doPoll a) →
      a ≠ c.s.p.address → c.tx = some b → ScanStep c now (.panic "second transmission in one poll")

theorem doClaimToken_scan_step {c : Ctx} (now : Int) (fuel : Nat) (hst : c.s.st = .claimToken .scan) :
    ScanStep c now (doClaimToken c now (fuel + 1)) := by
  by_cases hw : SyncOver c.s now
  · have hw' : (waitSyncPause c.s now).2 = false := hw
    unfold doClaimToken
    rw [hst]
    simp only [hw', sync_stamped, Bool.false_eq_true, if_false, stamped_gap]
    cases hg : c.s.gap with
    | waiting r => simp only [tr, toPassToken, stamped_st, hst]; exact .done hw hg
    | doPoll cur =>
      have hn : nextGap (stamped c.s now) cur = nextGap c.s cur := rfl
      simp only [hn]
      cases hng : nextGap c.s cur with
      | none => exact .overflow hw hg hng
      | some gs =>
        simp only [upd]
        generalize htg : transmitGapPoll { c with s := { (stamped c.s now) with gap := gs } } now = q
        have hq := transmitGapPoll_step { c with s := { (stamped c.s now) with gap := gs } } now
        rw [htg] at hq
        cases hq with
        | @idle r hgs => obtain rfl : gs = .waiting r := hgs; exact .sweepEnds hw hg hng
        | self hgs => obtain rfl : gs = .doPoll c.s.p.address := hgs; exact .self hw hg hng
        | @poll a hgs hne htx => obtain rfl : gs = .doPoll a := hgs; exact .poll hw hg hng hne htx
        | @busy a b hgs hne htx => obtain rfl : gs = .doPoll a := hgs; exact .busy hw hg hng hne htx
  · have hw' : (waitSyncPause c.s now).2 = true := by simpa [SyncOver] using hw
    unfold doClaimToken
    rw [hst]
    simp only [hw', sync_stamped, if_true]
    exact .wait hw

theorem ScanStep.unique {c : Ctx} {now : Int} {r r' : Res}
    (h : ScanStep c now r) (h' : ScanStep c now r') : r = r' := by
  cases h <;> cases h' <;> first | rfl | simp_all

/-- `ClaimToken(ScanAwaitResponse addr)` with `fuel` self-calls left: after `NoResponse` the next scan step is taken in the
same poll, the one self-call (`doClaimToken_scan_step now f rfl` gives its cases when `fuel = f + 1`). -/
abbrev ScanAwaitStep (c : Ctx) (now : Int) (fuel addr : Nat) : Res → Prop :=
  AwaitStep c now addr (.claimToken .scan) (doClaimToken · now fuel)

theorem doClaimToken_await_step {c : Ctx} {addr : Nat} (now : Int) (fuel : Nat)
    (hst : c.s.st = .claimToken (.scanAwait addr)) :
    ScanAwaitStep c now fuel addr (doClaimToken c now (fuel + 1)) := by
  have hq := awaitGap_step c now addr
  conv => arg 5; unfold doClaimToken
  rw [hst]
  simp only
  generalize awaitGapPollResponse c now addr = q at hq
  obtain ⟨r, g⟩ := q
  cases r with
  | panic m => exact .panic hq
  | ok c1 =>
    have hst1 : c1.s.st = .claimToken (.scanAwait addr) := hq.st.trans hst
    cases g with
    | waitingForBus => exact .waits hq
    | responded => exact .responded hq
    | noResponse => exact .timeout hq rfl
    | unexpected => simp only [tr, toActiveIdle, hst1]; exact .unexpected hq

/-- `do_claim_token` with fuel `fuel + 1` in `ClaimToken(step)`; the index is `step`. -/
inductive ClaimTokenStep (c : Ctx) (now : Int) (fuel : Nat) : ClaimStep → Res → Prop
  | tok {step : ClaimStep} {r : Res} : step = .firstToken ∨ step = .secondToken → ClaimTokStep c now step r →
      ClaimTokenStep c now fuel step r
  | scan {r : Res} : ScanStep c now r → ClaimTokenStep c now fuel .scan r
  | await {addr : Nat} {r : Res} : ScanAwaitStep c now fuel addr r → ClaimTokenStep c now fuel (.scanAwait addr) r

theorem doClaimToken_step {c : Ctx} {step : ClaimStep} (now : Int) (fuel : Nat) (hst : c.s.st = .claimToken step) :
    ClaimTokenStep c now fuel step (doClaimToken c now (fuel + 1)) := by
  cases step with
  | firstToken => exact .tok (.inl rfl) (doClaimToken_tok_step now fuel (.inl rfl) hst)
  | secondToken => exact .tok (.inr rfl) (doClaimToken_tok_step now fuel (.inr rfl) hst)
  | scan => exact .scan (doClaimToken_scan_step now fuel hst)
  | scanAwait addr => exact .await (doClaimToken_await_step now fuel hst)

theorem ClaimTokenStep.unique {c : Ctx} {now : Int} {fuel : Nat} {step : ClaimStep} {r r' : Res}
    (h : ClaimTokenStep c now fuel step r) (h' : ClaimTokenStep c now fuel step r') : r = r' := by
  cases h with
  | tok hs h1 =>
    cases h' with
    | tok _ h2 => exact h1.unique h2
    | scan _ | await _ => rcases hs with hs | hs <;> cases hs
  | scan h1 =>
    cases h' with
    | tok hs _ => rcases hs with hs | hs <;> cases hs
    | scan h2 => exact h1.unique h2
  | await h1 =>
    cases h' with
    | tok hs _ => rcases hs with hs | hs <;> cases hs
    | await h2 => exact h1.unique h2

/-- The status reply of the two idle handlers once the pause is over; `fin` only sets the FDL state. -/
theorem statusReply_eq (c : Ctx) (now : Int) (src : Nat) (state : ResponseState) (fin : Ctx → Res) :
    (encodeOrPanic c now (fdlStatusResponseHeader (UInt8.ofNat src) (UInt8.ofNat c.s.p.address) state .ok) []).bind fin =
      match c.tx with
      | none => fin { c with tx := some (statusResponseBytes src c.s.p.address state), s := markTx c.s now 6 }
      | some _ => .panic "second transmission in one poll" := by
  unfold encodeOrPanic
  rw [statusResponse_serialize]
  cases htx : c.tx with
  | none => simp only [transmit, htx, Res.bind, statusResponseBytes_length]
  | some b => simp only [transmit, htx, Res.bind]

/-- What a station without the token does in a poll (`do_listen_token`, `do_active_idle`); the index is the remembered
requester `sr`.  After the token-lost time-out the station claims the token in the same poll:
`doClaimToken_tok_step now 1 (.inl rfl) rfl` gives the cases of that call.  Otherwise a remembered requester is
answered, once the pause is over, with the status `report src`, and the FDL state is then `st`; without one, the
received telegrams are handed to `tel` one by one. -/
inductive IdlingStep (c : Ctx) (now : Int) (report : Nat → ResponseState) (st : FState)
    (tel : Ctx → Telegram → Bool → Res) : Option Nat → Res → Prop
  | lost {sr : Option Nat} {r : Res} : TokenLost c.s now →
      doClaimToken { c with s := { (stamped c.s now) with st := .claimToken .firstToken } } now 2 = r →
      IdlingStep c now report st tel sr r
  | wait {src : Nat} : ¬ TokenLost c.s now → ¬ SyncOver c.s now →
      IdlingStep c now report st tel (some src) (.ok { c with s := stamped c.s now })
  | reply {src : Nat} : ¬ TokenLost c.s now → SyncOver c.s now → c.tx = none →
      IdlingStep c now report st tel (some src)
        (.ok { c with
          tx := some (statusResponseBytes src c.s.p.address (report src)),
          s := { (markTx (stamped c.s now) now 6) with st := st } })
  | busy {src : Nat} {b : Bytes} : ¬ TokenLost c.s now → SyncOver c.s now → c.tx = some b →
      IdlingStep c now report st tel (some src) (.panic "second transmission in one poll")
  | rxPanic : ¬ TokenLost c.s now → receiveAll c.rx = .panic →
      IdlingStep c now report st tel none (.panic "receive_all_telegrams")
  | rxHang : ¬ TokenLost c.s now → receiveAll c.rx = .hang →
      IdlingStep c now report st tel none (.panic "receive_all_telegrams hang")
  | recv {rx' : Bytes} {calls : List (Telegram × Bool)} {ret : Bool} {r : Res} : ¬ TokenLost c.s now →
      receiveAll c.rx = .done rx' calls ret →
      foldTelegrams tel { c with rx := rx', s := stamped c.s now } calls = r →
      IdlingStep c now report st tel none r

theorem IdlingStep.unique {c : Ctx} {now : Int} {report : Nat → ResponseState} {st : FState}
    {tel : Ctx → Telegram → Bool → Res} {sr : Option Nat} {r r' : Res}
    (h : IdlingStep c now report st tel sr r) (h' : IdlingStep c now report st tel sr r') : r = r' := by
  -- The index `sr` separates `wait`, `reply`, `busy` from the three receive paths.  `lost` differs from all others in
  -- `TokenLost`, `wait` from `reply` and `busy` in `SyncOver`, these two in `c.tx`, the receive paths in the value of
  -- `receiveAll c.rx`; `lost`/`lost` and `recv`/`recv` have two values of one call.
  cases h <;> cases h' <;> first | rfl | simp_all

/-- `do_listen_token` in `ListenToken(sr, coll)`: the reply reports `listenReport c.s src` (ready for the ring or not);
after it a station whose LAS is valid counts itself in the ring (`ActiveIdle`), any other keeps listening. -/
abbrev ListenStep (c : Ctx) (now : Int) (coll : Nat) : Option Nat → Res → Prop :=
  IdlingStep c now (listenReport c.s)
    (if c.s.ring.readyForRing = true then FState.activeIdle none none 0 else FState.listenToken none coll)
    (listenTelegram now)

theorem doListenToken_step {c : Ctx} {sr : Option Nat} {coll : Nat} (now : Int) (hst : c.s.st = .listenToken sr coll) :
    ListenStep c now coll sr (doListenToken c now) := by
  by_cases hl : TokenLost c.s now
  · rw [doListenToken_lost hst (handleLostToken_lost c now hl)]
    simp only [toClaimToken, stamped_st, hst]
    exact .lost hl rfl
  · have hx := handleLostToken_none c now hl
    cases sr with
    | none =>
      rw [doListenToken_recv hst hx (coll1 := coll) hst]
      dsimp only
      cases hrx : receiveAll c.rx with
      | panic => exact .rxPanic hl hrx
      | hang => exact .rxHang hl hrx
      | done rx' calls ret => exact .recv hl hrx rfl
    | some src =>
      rw [doListenToken_reply hst hx (coll1 := coll) (src := src) hst]
      by_cases hw : SyncOver c.s now
      · have hw' : (waitSyncPause (stamped c.s now) now).2 = false := (syncOver_stamped c.s now).mpr hw
        simp only [hw', sync_stamped, stamped_stamped, Bool.false_eq_true, if_false, stamped_ring]
        rw [statusReply_eq]
        cases htx : c.tx with
        | some b => exact .busy hl hw htx
        | none =>
          have h : ListenStep c now coll (some src) _ := .reply hl hw htx
          by_cases hr : c.s.ring.readyForRing = true
          · rw [if_pos hr] at h ⊢
            simp only [tr, toActiveIdle, markTx, stamped_st, hst]
            exact h
          · rw [if_neg hr] at h ⊢
            exact h
      · have hw' : (waitSyncPause (stamped c.s now) now).2 = true := by
          have : ¬ SyncOver (stamped c.s now) now := fun h => hw ((syncOver_stamped c.s now).mp h)
          simpa [SyncOver] using this
        simp only [hw', sync_stamped, stamped_stamped, if_true]
        exact .wait hl hw

/-- `do_active_idle` in `ActiveIdle(sr, np, coll)`: the reply reports `MasterInRing` and keeps `np` and `coll`. -/
abbrev IdleStep (c : Ctx) (now : Int) (np : Option Nat) (coll : Nat) : Option Nat → Res → Prop :=
  IdlingStep c now (fun _ => .masterInRing) (.activeIdle none np coll)
    (fun c t isLast => handleTelegram (upd c fun s => markRx s now) now t isLast)

theorem doActiveIdle_step {c : Ctx} {sr np : Option Nat} {coll : Nat} (now : Int) (hst : c.s.st = .activeIdle sr np coll) :
    IdleStep c now np coll sr (doActiveIdle c now) := by
  by_cases hl : TokenLost c.s now
  · rw [doActiveIdle_lost hst (handleLostToken_lost c now hl)]
    simp only [toClaimToken, stamped_st, hst]
    exact .lost hl rfl
  · have hx := handleLostToken_none c now hl
    cases sr with
    | none =>
      rw [doActiveIdle_recv hst hx (np1 := np) (coll1 := coll) hst]
      dsimp only
      cases hrx : receiveAll c.rx with
      | panic => exact .rxPanic hl hrx
      | hang => exact .rxHang hl hrx
      | done rx' calls ret => exact .recv hl hrx rfl
    | some src =>
      rw [doActiveIdle_reply hst hx (np1 := np) (coll1 := coll) (src := src) hst]
      by_cases hw : SyncOver c.s now
      · have hw' : (waitSyncPause (stamped c.s now) now).2 = false := (syncOver_stamped c.s now).mpr hw
        simp only [hw', sync_stamped, stamped_stamped, Bool.false_eq_true, if_false]
        rw [statusReply_eq]
        cases htx : c.tx with
        | some b => exact .busy hl hw htx
        | none => exact .reply hl hw htx
      · have hw' : (waitSyncPause (stamped c.s now) now).2 = true := by
          have : ¬ SyncOver (stamped c.s now) now := fun h => hw ((syncOver_stamped c.s now).mp h)
          simpa [SyncOver] using this
        simp only [hw', sync_stamped, stamped_stamped, if_true]
        exact .wait hl hw

/-- The first poll after going online leaves `Offline` for `ListenToken`. -/
def Station.wake (s : Station) : Station :=
  match s.st with
  | .offline | .passiveIdle => { s with st := .listenToken none 0 }
  | _ => s

theorem wake_cases (s : Station) :
    s.wake = s ∨ (s.wake = { s with st := .listenToken none 0 } ∧ (s.st = .offline ∨ s.st = .passiveIdle)) := by
  unfold Station.wake
  split
  · rename_i h; exact .inr ⟨rfl, .inl h⟩
  · rename_i h; exact .inr ⟨rfl, .inr h⟩
  · exact .inl rfl

theorem wake_of_awake (s : Station) (h1 : s.st ≠ .offline) (h2 : s.st ≠ .passiveIdle) : s.wake = s := by
  rcases wake_cases s with hw | ⟨-, ho | ho⟩
  · exact hw
  · exact absurd ho h1
  · exact absurd ho h2

theorem wake_offline {s : Station} (h : s.st = .offline) : s.wake = { s with st := .listenToken none 0 } := by
  unfold Station.wake; rw [h]

theorem wake_last (s : Station) : s.wake.lastBusActivity = s.lastBusActivity := by
  rcases wake_cases s with h | ⟨h, -⟩ <;> rw [h]

/-- `transition_listen_token` asserts `ListenToken | Offline | ActiveIdle`: from `PassiveIdle` it panics. -/
theorem pollStart_eq (c : Ctx) :
    pollStart c = if c.s.st = .passiveIdle then .panic "transition_listen_token" else .ok { c with s := c.s.wake } := by
  unfold pollStart Station.wake
  cases hst : c.s.st <;> simp [tr, toListenToken, hst]

theorem ongoing_eq_true_iff (c : Ctx) (now : Int) (phyTx : Bool) :
    ongoing c now phyTx = true ↔ phyTx = true ∨ ∃ l, c.s.lastBusActivity = some l ∧ now ≤ l := by
  unfold ongoing
  cases c.s.lastBusActivity <;> simp

theorem ongoing_eq_false_iff (c : Ctx) (now : Int) (phyTx : Bool) :
    ongoing c now phyTx = false ↔ phyTx = false ∧ ∀ l, c.s.lastBusActivity = some l → l < now := by
  unfold ongoing
  cases c.s.lastBusActivity <;> simp

theorem dispatch_offline {c : Ctx} (now : Int) (hst : c.s.st = .offline) : dispatch c now = .panic "unreachable!()" := by
  unfold dispatch; rw [hst]

theorem dispatch_passiveIdle {c : Ctx} (now : Int) (hst : c.s.st = .passiveIdle) : dispatch c now = .panic "todo!()" := by
  unfold dispatch; rw [hst]

theorem dispatch_listenToken {c : Ctx} {sr : Option Nat} {coll : Nat} (now : Int) (hst : c.s.st = .listenToken sr coll) :
    dispatch c now = doListenToken c now := by
  unfold dispatch; rw [hst]

theorem dispatch_activeIdle {c : Ctx} {sr np : Option Nat} {coll : Nat} (now : Int) (hst : c.s.st = .activeIdle sr np coll) :
    dispatch c now = doActiveIdle c now := by
  unfold dispatch; rw [hst]

theorem dispatch_claimToken {c : Ctx} {step : ClaimStep} (now : Int) (hst : c.s.st = .claimToken step) :
    dispatch c now = doClaimToken c now 2 := by
  unfold dispatch; rw [hst]

theorem dispatch_useToken {c : Ctx} {d : UseData} {fcd : Bool} (now : Int) (hst : c.s.st = .useToken d fcd) :
    dispatch c now = doUseToken c now := by
  unfold dispatch; rw [hst]

theorem dispatch_awaitData {c : Ctx} {addr : Nat} {d : UseData} (now : Int) (hst : c.s.st = .awaitData addr d) :
    dispatch c now = doAwaitDataResponse c now := by
  unfold dispatch; rw [hst]

theorem dispatch_passToken {c : Ctx} {g : Bool} {att : Attempt} (now : Int) (hst : c.s.st = .passToken g att) :
    dispatch c now = doPassToken c now := by
  unfold dispatch; rw [hst]

theorem dispatch_checkTokenPass {c : Ctx} {att : Attempt} (now : Int) (hst : c.s.st = .checkTokenPass att) :
    dispatch c now = doCheckTokenPass c now := by
  unfold dispatch; rw [hst]

theorem dispatch_awaitStatus {c : Ctx} {addr : Nat} (now : Int) (hst : c.s.st = .awaitStatus addr) :
    dispatch c now = doAwaitStatusResponse c now := by
  unfold dispatch; rw [hst]

theorem pollInner_eq (c : Ctx) (now : Int) (phyTx : Bool) :
    pollInner c now phyTx =
      if c.s.online = false then
        (if c.s.st = .offline then .ok c else .panic "debug_assert!(state == Offline) while connectivity is Offline")
      else if c.s.st = .passiveIdle then .panic "transition_listen_token"
      else if ongoing c now phyTx = true then .ok { c with s := markBusActivity c.s.wake now }
      else dispatch { c with s := checkBusActivity c.s.wake now c.rx.length } now := by
  unfold pollInner
  cases hon : c.s.online with
  | false => cases hst : c.s.st <;> simp
  | true =>
    simp only [Bool.not_true, Bool.false_eq_true, if_false, pollStart_eq]
    by_cases hp : c.s.st = .passiveIdle
    · simp [hp, Res.bind]
    · simp only [hp, if_false, Res.bind]
      have : ongoing { c with s := c.s.wake } now phyTx = ongoing c now phyTx := by
        unfold ongoing; rw [wake_last]
      rw [this]
      rfl

theorem pollInner_offline {c : Ctx} (now : Int) (phyTx : Bool) (hoff : c.s.online = false) (hst : c.s.st = .offline) :
    pollInner c now phyTx = .ok c := by
  rw [pollInner_eq, if_pos hoff, if_pos hst]

theorem pollInner_started {c : Ctx} (now : Int) (phyTx : Bool) (hon : c.s.online = true) (h1 : c.s.st ≠ .offline)
    (h2 : c.s.st ≠ .passiveIdle) :
    pollInner c now phyTx =
      if ongoing c now phyTx then .ok { c with s := markBusActivity c.s now }
      else dispatch { c with s := checkBusActivity c.s now c.rx.length } now := by
  rw [pollInner_eq, if_neg (by simp [hon]), if_neg h2, wake_of_awake _ h1 h2]

theorem pollInner_wakes {c : Ctx} (now : Int) (phyTx : Bool) (hon : c.s.online = true) (hst : c.s.st = .offline) :
    pollInner c now phyTx = pollInner { c with s := { c.s with st := .listenToken none 0 } } now phyTx := by
  rw [pollInner_started (c := { c with s := { c.s with st := .listenToken none 0 } }) now phyTx hon nofun nofun,
    pollInner_eq, if_neg (by simp [hon]), if_neg (by rw [hst]; exact nofun), wake_offline hst]
  rfl

theorem Station.poll_started (s : Station) (apps : Apps) (now : Int) (phyTx : Bool) (rx : Bytes) (hon : s.online = true)
    (h1 : s.st ≠ .offline) (h2 : s.st ≠ .passiveIdle) :
    s.poll apps now phyTx rx =
      if ongoing { s := s, apps := apps, rx := rx } now phyTx then .ok { s := markBusActivity s now, apps := apps, rx := rx }
      else dispatch { s := checkBusActivity s now rx.length, apps := apps, rx := rx } now :=
  pollInner_started (c := { s := s, apps := apps, rx := rx }) now phyTx hon h1 h2

namespace StationGap

theorem poll_cases (s : Station) (apps : Apps) (now : Int) (phyTx : Bool) (rx : Bytes) (c' : Ctx)
    (h1 : s.st ≠ .offline) (h2 : s.st ≠ .passiveIdle) (h : s.poll apps now phyTx rx = .ok c') :
    c' = { s := markBusActivity s now, apps := apps, rx := rx } ∨
    dispatch { s := checkBusActivity s now rx.length, apps := apps, rx := rx } now = .ok c' := by
  unfold Station.poll at h
  rw [pollInner_eq] at h
  dsimp only at h
  by_cases hon : s.online = false
  · rw [if_pos hon, if_neg h1] at h; cases h
  · rw [if_neg hon, if_neg h2, wake_of_awake s h1 h2] at h
    split at h
    · cases h; exact .inl rfl
    · exact .inr h

end StationGap

end PV
