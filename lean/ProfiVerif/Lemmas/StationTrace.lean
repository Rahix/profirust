/-
What ONE handler / ONE poll of `Model/Station.lean` can do to the application call log, the FDL state, the
ring view and the application turn, for every start state and every input, given the regular outcome `.ok c'`
(that the outcome IS regular under the station invariant is `pollInner_good`).  One lemma per handler, read off its
step relation (`_eff`), collected by start state in `DispatchPost` /
`poll_cases`; per-poll corollaries `poll_calls`, `poll_frame`, `poll_ring`.  At the end (namespace `C05`):
call sequences with their callback log (`stepLog`, `runLog`, the induction `runLog_lift`).
-/
import ProfiVerif.Props.C05
import ProfiVerif.Lemmas.StationStepIdle
import ProfiVerif.Lemmas.StationTx

namespace PV
open TokenRing


theorem gol_st (s : Station) (now : Int) : (getOrInsertLast s now).1.st = s.st := by rw [StationGap.getOrInsert_eq]; rfl
theorem gol_ring (s : Station) (now : Int) : (getOrInsertLast s now).1.ring = s.ring := by rw [StationGap.getOrInsert_eq]; rfl
theorem gol_p (s : Station) (now : Int) : (getOrInsertLast s now).1.p = s.p := by rw [StationGap.getOrInsert_eq]; rfl
theorem gol_online (s : Station) (now : Int) : (getOrInsertLast s now).1.online = s.online := by rw [StationGap.getOrInsert_eq]; rfl
theorem gol_gap (s : Station) (now : Int) : (getOrInsertLast s now).1.gap = s.gap := by rw [StationGap.getOrInsert_eq]; rfl
theorem gol_nextApp (s : Station) (now : Int) : (getOrInsertLast s now).1.nextApp = s.nextApp := by rw [StationGap.getOrInsert_eq]; rfl

theorem waitSync_fst (s : Station) (now : Int) : (waitSyncPause s now).1 = (getOrInsertLast s now).1 := rfl
theorem checkSlot_fst (s : Station) (now : Int) : (checkSlotExpired s now).1 = (getOrInsertLast s now).1 := rfl

@[local simp] theorem markRx_st (s : Station) (now : Int) : (markRx s now).st = s.st := by simp [markRx, markBusActivity]
@[local simp] theorem markRx_ring (s : Station) (now : Int) : (markRx s now).ring = s.ring := by simp [markRx, markBusActivity]
@[local simp] theorem markRx_p (s : Station) (now : Int) : (markRx s now).p = s.p := by simp [markRx, markBusActivity]
@[local simp] theorem markRx_online (s : Station) (now : Int) : (markRx s now).online = s.online := by simp [markRx, markBusActivity]
@[local simp] theorem markRx_nextApp (s : Station) (now : Int) : (markRx s now).nextApp = s.nextApp := by simp [markRx, markBusActivity]


@[local simp] theorem markBA_st (s : Station) (now : Int) : (markBusActivity s now).st = s.st := by simp [markBusActivity]
@[local simp] theorem markBA_ring (s : Station) (now : Int) : (markBusActivity s now).ring = s.ring := by simp [markBusActivity]
@[local simp] theorem markBA_p (s : Station) (now : Int) : (markBusActivity s now).p = s.p := by simp [markBusActivity]
@[local simp] theorem markBA_online (s : Station) (now : Int) : (markBusActivity s now).online = s.online := by simp [markBusActivity]
@[local simp] theorem markBA_nextApp (s : Station) (now : Int) : (markBusActivity s now).nextApp = s.nextApp := by simp [markBusActivity]

theorem coreEq_checkBA (s : Station) (now : Int) (n : Nat) : CoreEq (checkBusActivity s now n) s := by
  rw [checkBusActivity_eq]; exact ⟨rfl, rfl, rfl, rfl, rfl, rfl⟩
@[local simp] theorem checkBA_st (s : Station) (now : Int) (n : Nat) : (checkBusActivity s now n).st = s.st := (coreEq_checkBA s now n).2.2.2.2.1
@[local simp] theorem checkBA_ring (s : Station) (now : Int) (n : Nat) : (checkBusActivity s now n).ring = s.ring := (coreEq_checkBA s now n).2.1
@[local simp] theorem checkBA_p (s : Station) (now : Int) (n : Nat) : (checkBusActivity s now n).p = s.p := (coreEq_checkBA s now n).1
@[local simp] theorem checkBA_online (s : Station) (now : Int) (n : Nat) : (checkBusActivity s now n).online = s.online := (coreEq_checkBA s now n).2.2.1
@[local simp] theorem checkBA_nextApp (s : Station) (now : Int) (n : Nat) : (checkBusActivity s now n).nextApp = s.nextApp := (coreEq_checkBA s now n).2.2.2.2.2

theorem hold_st (s : Station) (d : UseData) : (holdUpdate s d).st = s.st := (coreEq_holdUpdate s d).2.2.2.2.1
theorem hold_nextApp (s : Station) (d : UseData) : (holdUpdate s d).nextApp = s.nextApp := (coreEq_holdUpdate s d).2.2.2.2.2


theorem transmit_inv {c c1 : Ctx} {now : Int} {b : Bytes} (h : transmit c now b = .ok c1) :
    c1 = { c with tx := some b, s := markTx c.s now b.length } :=
  (transmit_cases _ _ _ _ h).2

theorem tr_inv {c c1 : Ctx} {f : Station → Option Station} {site : String} (h : tr c f site = .ok c1) :
    ∃ s', f c.s = some s' ∧ c1 = { c with s := s' } :=
  tr_cases c f site c1 h

theorem toActiveIdle_inv {s s' : Station} (h : toActiveIdle s = some s') : s' = { s with st := .activeIdle none none 0 } :=
  setsSt_toActiveIdle s s' h
theorem toUseToken_inv {s s' : Station} {d : UseData} (h : toUseToken s d = some s') : s' = { s with st := .useToken d false } :=
  setsSt_toUseToken d s s' h
theorem toClaimToken_inv {s s' : Station} (h : toClaimToken s = some s') : s' = { s with st := .claimToken .firstToken } :=
  setsSt_toClaimToken s s' h
theorem toAwaitData_inv {s s' : Station} {a : Nat} {d : UseData} (h : toAwaitData s a d = some s') : s' = { s with st := .awaitData a d } :=
  setsSt_toAwaitData a d s s' h
theorem toPassToken_inv {s s' : Station} {g : Bool} {att : Attempt} (h : toPassToken s g att = some s') : s' = { s with st := .passToken g att } :=
  setsSt_toPassToken g att s s' h
theorem toCheckTokenPass_inv {s s' : Station} {att : Attempt} (h : toCheckTokenPass s att = some s') : s' = { s with st := .checkTokenPass att } :=
  setsSt_toCheckTokenPass att s s' h
theorem toAwaitStatus_inv {s s' : Station} {a : Nat} (h : toAwaitStatus s a = some s') : s' = { s with st := .awaitStatus a } :=
  setsSt_toAwaitStatus a s s' h

/-- The frame of every handler that makes no application callback. -/
structure Quiet (c c' : Ctx) : Prop where
  calls : c'.calls = c.calls
  apps : c'.apps = c.apps
  p : c'.s.p = c.s.p

theorem Quiet.rfl' (c : Ctx) : Quiet c c := ⟨rfl, rfl, rfl⟩
theorem Quiet.trans {a b c : Ctx} (h1 : Quiet a b) (h2 : Quiet b c) : Quiet a c :=
  ⟨h2.calls.trans h1.calls, h2.apps.trans h1.apps, h2.p.trans h1.p⟩

/-- The application turn `next_application` is kept. -/
def Keep (c c' : Ctx) : Prop := c'.s.nextApp = c.s.nextApp

theorem Keep.trans {a b c : Ctx} (h1 : Keep a b) (h2 : Keep b c) : Keep a c := Eq.trans h2 h1

/-- The turn is kept, or the station was reset (`*self = Self::new(..)`) and the turn is back at application 0. -/
def KeepOrReset (c c' : Ctx) : Prop := Keep c c' ∨ c'.s.nextApp = 0

theorem KeepOrReset.trans {a b c : Ctx} (h1 : KeepOrReset a b) (h2 : KeepOrReset b c) : KeepOrReset a c := by
  rcases h2 with h2 | h2
  · rcases h1 with h1 | h1
    · exact .inl (h1.trans h2)
    · exact .inr (Eq.trans h2 h1)
  · exact .inr h2

/-- Ring-view changes caused by telegrams of a received batch: a chain of `witness_token_pass` calls,
each for a token telegram of the batch. -/
inductive HeardEvo (batch : List (Telegram × Bool)) : TokenRing → TokenRing → Prop
  | refl (r : TokenRing) : HeardEvo batch r r
  | step {r r' : TokenRing} (da sa : UInt8) (l : Bool) : HeardEvo batch r r' → (Telegram.token da sa, l) ∈ batch →
      HeardEvo batch r (r'.witness sa.toNat da.toNat)

theorem HeardEvo.trans {batch : List (Telegram × Bool)} {a b c : TokenRing} (h1 : HeardEvo batch a b) (h2 : HeardEvo batch b c) :
    HeardEvo batch a c := by
  induction h2 with
  | refl => exact h1
  | step da sa l _ hm ih => exact .step da sa l ih hm

theorem HeardEvo.mono {b1 b2 : List (Telegram × Bool)} (hsub : ∀ x ∈ b1, x ∈ b2) {a b : TokenRing} (h : HeardEvo b1 a b) :
    HeardEvo b2 a b := by
  induction h with
  | refl => exact .refl _
  | step da sa l _ hm ih => exact .step da sa l ih (hsub _ hm)

theorem handleTelegram_eff (c c' : Ctx) (now : Int) (t : Telegram) (l : Bool) (sr np : Option Nat) (coll : Nat)
    (hst : c.s.st = .activeIdle sr np coll) (h : handleTelegram c now t l = .ok c') :
    Quiet c c' ∧ c'.s.online = c.s.online ∧
    (c'.s.ring = c.s.ring ∨ ∃ da sa, t = .token da sa ∧ c'.s.ring = c.s.ring.witness sa.toNat da.toNat) ∧
    ((∃ sr' np' coll', c'.s.st = .activeIdle sr' np' coll' ∧ (l = false → np' = np)) ∨
     c'.s.st = .listenToken none 0 ∨
     (∃ da sa, t = .token da sa ∧ l = true ∧ da.toNat = c.s.p.address ∧ sa.toNat ≠ c.s.p.address ∧
        (sa.toNat = c'.s.ring.ps ∨ np = some sa.toNat) ∧ c'.s.st = .useToken ⟨now, none⟩ false)) ∧
    Keep c c' := by
  have hs := handleTelegram_step now t l hst
  rw [h] at hs
  cases hs with
  | collision _ _ => exact ⟨⟨rfl, rfl, rfl⟩, rfl, .inl rfl, .inl ⟨_, _, _, rfl, fun _ => rfl⟩, rfl⟩
  | backOff _ _ => exact ⟨⟨rfl, rfl, rfl⟩, rfl, .inl rfl, .inr (.inl rfl), rfl⟩
  | heard _ _ => exact ⟨⟨rfl, rfl, rfl⟩, rfl, .inr ⟨_, _, rfl, rfl⟩, .inl ⟨_, _, _, rfl, fun _ => rfl⟩, rfl⟩
  | accept hsa hda hl hps =>
    exact ⟨⟨rfl, rfl, rfl⟩, rfl, .inl rfl, .inr (.inr ⟨_, _, rfl, hl, hda, hsa, .inl hps, rfl⟩), rfl⟩
  | acceptNew hsa hda hl _ hnp =>
    exact ⟨⟨rfl, rfl, rfl⟩, rfl, .inr ⟨_, _, rfl, rfl⟩, .inr (.inr ⟨_, _, rfl, hl, hda, hsa, .inr hnp, rfl⟩), rfl⟩
  | stranger _ _ hl _ _ =>
    exact ⟨⟨rfl, rfl, rfl⟩, rfl, .inl rfl, .inl ⟨_, _, _, rfl, fun hf => by rw [hl] at hf; cases hf⟩, rfl⟩
  | request _ => exact ⟨⟨rfl, rfl, rfl⟩, rfl, .inl rfl, .inl ⟨_, _, _, rfl, fun _ => rfl⟩, rfl⟩
  | ignore _ => exact ⟨Quiet.rfl' _, rfl, .inl rfl, .inl ⟨_, _, _, hst, fun _ => rfl⟩, rfl⟩
  | sc => exact ⟨Quiet.rfl' _, rfl, .inl rfl, .inl ⟨_, _, _, hst, fun _ => rfl⟩, rfl⟩

/-- The whole batch handled in `ActiveIdle` (each telegram preceded by `mark_rx`): the pending stranger
`np` cannot change before the last telegram, and a token is accepted only as the last telegram. -/
theorem foldIdle_eff (now : Int) (np : Option Nat) : ∀ (calls : List (Telegram × Bool)) (c c' : Ctx),
    ((∃ sr coll, c.s.st = .activeIdle sr np coll) ∨ ∃ a b, c.s.st = .listenToken a b) →
    (∀ x ∈ calls.dropLast, x.2 = false) →
    foldTelegrams (fun c t isLast => handleTelegram (upd c fun s => markRx s now) now t isLast) c calls = .ok c' →
    Quiet c c' ∧ c'.s.online = c.s.online ∧ HeardEvo calls c.s.ring c'.s.ring ∧
    ((∃ sr' np' coll', c'.s.st = .activeIdle sr' np' coll') ∨ (∃ a b, c'.s.st = .listenToken a b) ∨
     (∃ pre da sa, calls = pre ++ [(.token da sa, true)] ∧ da.toNat = c.s.p.address ∧ sa.toNat ≠ c.s.p.address ∧
        (sa.toNat = c'.s.ring.ps ∨ np = some sa.toNat) ∧ c'.s.st = .useToken ⟨now, none⟩ false)) := by
  intro calls
  induction calls with
  | nil =>
    intro c c' hst _ h
    cases h
    refine ⟨.rfl' _, rfl, .refl _, ?_⟩
    rcases hst with ⟨sr, coll, h⟩ | ⟨a, b, h⟩
    · exact .inl ⟨_, _, _, h⟩
    · exact .inr (.inl ⟨_, _, h⟩)
  | cons x rest ih =>
    intro c c' hst hfl h
    obtain ⟨t, l⟩ := x
    simp only [foldTelegrams] at h
    cases h1 : handleTelegram (upd c fun s => markRx s now) now t l with
    | panic site => rw [h1] at h; cases h
    | ok c1 =>
      rw [h1] at h
      simp only [Res.bind] at h
      rcases hst with ⟨sr, coll, hs⟩ | ⟨a, b, hs⟩
      · obtain ⟨hq, hon, hring, hpost, -⟩ := handleTelegram_eff _ c1 now t l sr np coll (by simpa [upd] using hs) h1
        have hq' : Quiet c c1 := ⟨by simpa [upd] using hq.calls, by simpa [upd] using hq.apps, by simpa [upd] using hq.p⟩
        have hon' : c1.s.online = c.s.online := by simpa [upd] using hon
        have hev1 : HeardEvo ((t, l) :: rest) c.s.ring c1.s.ring := by
          rcases hring with hr | ⟨da, sa, ht, hr⟩
          · have : c1.s.ring = c.s.ring := by simpa [upd] using hr
            rw [this]; exact .refl _
          · have : c1.s.ring = c.s.ring.witness sa.toNat da.toNat := by simpa [upd] using hr
            rw [this]; exact .step da sa l (.refl _) (by rw [ht]; simp)
        have cont : ((∃ sr coll, c1.s.st = .activeIdle sr np coll) ∨ ∃ a b, c1.s.st = .listenToken a b) →
            Quiet c c' ∧ c'.s.online = c.s.online ∧ HeardEvo ((t, l) :: rest) c.s.ring c'.s.ring ∧
            ((∃ sr' np' coll', c'.s.st = .activeIdle sr' np' coll') ∨ (∃ a b, c'.s.st = .listenToken a b) ∨
             (∃ pre da sa, (t, l) :: rest = pre ++ [(.token da sa, true)] ∧ da.toNat = c.s.p.address ∧ sa.toNat ≠ c.s.p.address ∧
                (sa.toNat = c'.s.ring.ps ∨ np = some sa.toNat) ∧ c'.s.st = .useToken ⟨now, none⟩ false)) := by
          intro hst1
          obtain ⟨hq2, hon2, hev2, hpost2⟩ := ih c1 c' hst1 (dropLast_cons_flags hfl) h
          refine ⟨hq'.trans hq2, hon2.trans hon', hev1.trans (hev2.mono (by intro y hy; simp [hy])), ?_⟩
          rcases hpost2 with h' | h' | ⟨pre, da, sa, hc, hda, hsa, hsrc, hu⟩
          · exact .inl h'
          · exact .inr (.inl h')
          · exact .inr (.inr ⟨(t, l) :: pre, da, sa, by rw [hc]; rfl, by rw [← hq'.p]; exact hda, by rw [← hq'.p]; exact hsa, hsrc, hu⟩)
        rcases hpost with ⟨sr', np', coll', hs1, hnp⟩ | hs1 | ⟨da, sa, ht, hl, hda, hsa, hsrc, hu⟩
        · cases rest with
          | nil =>
            cases h
            exact ⟨hq', hon', hev1, .inl ⟨_, _, _, hs1⟩⟩
          | cons z zs =>
            have hlf : l = false := dropLast_head_flag hfl
            rw [hnp hlf] at hs1
            exact cont (.inl ⟨_, _, hs1⟩)
        · exact cont (.inr ⟨_, _, hs1⟩)
        · cases rest with
          | nil =>
            cases h
            refine ⟨hq', hon', hev1, .inr (.inr ⟨[], da, sa, by rw [ht, hl]; rfl, by simpa [upd] using hda, by simpa [upd] using hsa, hsrc, hu⟩)⟩
          | cons z zs =>
            have hlf : l = false := dropLast_head_flag hfl
            rw [hlf] at hl; cases hl
      · have hs' : (upd c fun s => markRx s now).s.st = .listenToken a b := by simpa [upd] using hs
        rw [handleTelegram_listening now t l hs'] at h1
        cases h1
        obtain ⟨hq2, hon2, hev2, hpost2⟩ := ih _ c' (.inr ⟨a, b, hs'⟩) (dropLast_cons_flags hfl) h
        refine ⟨⟨by simpa [upd] using hq2.calls, by simpa [upd] using hq2.apps, by simpa [upd] using hq2.p⟩,
          by simpa [upd] using hon2, by simpa [upd] using hev2.mono (by intro y hy; simp [hy]), ?_⟩
        rcases hpost2 with h' | h' | ⟨pre, da, sa, hc, hda, hsa, hsrc, hu⟩
        · exact .inl h'
        · exact .inr (.inl h')
        · exact .inr (.inr ⟨(t, l) :: pre, da, sa, by rw [hc]; rfl, by simpa [upd] using hda, by simpa [upd] using hsa, hsrc, hu⟩)


theorem handleTelegram_keep (c c' : Ctx) (now : Int) (t : Telegram) (l : Bool) (h : handleTelegram c now t l = .ok c') :
    Keep c c' := by
  rcases handleTelegram_ok_st h with ⟨sr, np, coll, hst⟩ | ⟨sr, coll, hst⟩
  · exact (handleTelegram_eff c c' now t l sr np coll hst h).2.2.2.2
  · rw [handleTelegram_listening now t l hst] at h
    cases h
    rfl

theorem foldIdle_keep (now : Int) (calls : List (Telegram × Bool)) (c c' : Ctx)
    (h : foldTelegrams (fun c t isLast => handleTelegram (upd c fun s => markRx s now) now t isLast) c calls = .ok c') :
    Keep c c' :=
  foldTelegrams_post (fun c1 => Keep c c1)
    (fun c1 t l c2 hk h1 =>
      hk.trans (Keep.trans (b := upd c1 fun s => markRx s now) (markRx_nextApp c1.s now) (handleTelegram_keep _ c2 now t l h1)))
    calls c c' rfl h

/-- Ring-view changes other than `remove_station`: witnessed passes (heard or own), a successor entered
after a positive GAP reply, the LAS declared valid by a claim, and the reset of `set_offline`. -/
inductive RingEvo (ts : Nat) : TokenRing → TokenRing → Prop
  | refl (r : TokenRing) : RingEvo ts r r
  | witness {r r' : TokenRing} (sa da : Nat) : RingEvo ts r r' → RingEvo ts r (r'.witness sa da)
  | setNext {r r' r'' : TokenRing} (a : Nat) : RingEvo ts r r' → r'.setNextStation a = some r'' → RingEvo ts r r''
  | claim {r r' : TokenRing} : RingEvo ts r r' → RingEvo ts r r'.claimToken
  | reset (r : TokenRing) : RingEvo ts r (TokenRing.new ts)

theorem RingEvo.trans {ts : Nat} {a b c : TokenRing} (h1 : RingEvo ts a b) (h2 : RingEvo ts b c) : RingEvo ts a c := by
  induction h2 with
  | refl => exact h1
  | witness sa da _ ih => exact .witness sa da ih
  | setNext x _ hs ih => exact .setNext x ih hs
  | claim _ ih => exact .claim ih
  | reset => exact .reset _

theorem HeardEvo.ringEvo {ts : Nat} {batch : List (Telegram × Bool)} {a b : TokenRing} (h : HeardEvo batch a b) : RingEvo ts a b := by
  induction h with
  | refl => exact .refl _
  | step da sa l _ _ ih => exact .witness _ _ ih

theorem RingEvo.of_eq {ts : Nat} {a b : TokenRing} (h : b = a) : RingEvo ts a b := by rw [h]; exact .refl _

theorem awaitGap_eff (c c1 : Ctx) (now : Int) (addr : Nat) (resp : GapPollResponse)
    (h : awaitGapPollResponse c now addr = (.ok c1, resp)) :
    Quiet c c1 ∧ c1.s.st = c.s.st ∧ c1.s.online = c.s.online ∧ c1.s.nextApp = c.s.nextApp ∧ c1.s.gap = c.s.gap ∧ c1.tx = c.tx ∧
    (c1.s.ring = c.s.ring ∨ c.s.ring.setNextStation addr = some c1.s.ring) := by
  have hs := awaitGap_step c now addr
  rw [h] at hs
  cases hs with
  | waits _ _ _ => exact ⟨⟨rfl, rfl, rfl⟩, rfl, rfl, rfl, rfl, rfl, .inl rfl⟩
  | timeout _ _ _ => exact ⟨⟨rfl, rfl, rfl⟩, rfl, rfl, rfl, rfl, rfl, .inl rfl⟩
  | unexpected _ _ _ => exact ⟨⟨rfl, rfl, rfl⟩, rfl, rfl, rfl, rfl, rfl, .inl rfl⟩
  | other _ _ _ _ => exact ⟨⟨rfl, rfl, rfl⟩, rfl, rfl, rfl, rfl, rfl, .inl rfl⟩
  | admits _ _ _ _ hr => exact ⟨⟨rfl, rfl, rfl⟩, rfl, rfl, rfl, rfl, rfl, .inr hr⟩

theorem AwaitGapStep.evo {c c1 : Ctx} {now : Int} {a : Nat} {g : GapPollResponse} (h : AwaitGapStep c now a (.ok c1, g)) :
    Quiet c c1 ∧ c1.s.st = c.s.st ∧ c1.s.online = c.s.online ∧ RingEvo c.s.p.address c.s.ring c1.s.ring ∧ Keep c c1 := by
  obtain ⟨hq, hs1, ho1, hn1, -, -, hr1⟩ := awaitGap_eff _ _ _ _ _ h.eq
  refine ⟨hq, hs1, ho1, ?_, hn1⟩
  rcases hr1 with hr | hr
  · exact .of_eq hr
  · exact .setNext a (.refl _) hr

theorem transmitGapPoll_eff (c c1 : Ctx) (now : Int) (o : Option Nat) (h : transmitGapPoll c now = (.ok c1, o)) :
    (c1 = c ∧ o = none) ∨ (∃ b a, c1 = { c with tx := some b, s := markTx c.s now b.length } ∧ o = some a) := by
  have hs := transmitGapPoll_step c now
  rw [h] at hs
  cases hs with
  | idle _ => exact .inl ⟨rfl, rfl⟩
  | poll _ _ _ => exact .inr ⟨_, _, by rw [StationGap.statusRequestBytes_length], rfl⟩

def ClaimPost (c c' : Ctx) : Prop :=
  Quiet c c' ∧ c'.s.online = c.s.online ∧ RingEvo c.s.p.address c.s.ring c'.s.ring ∧
  ((∃ st', c'.s.st = .claimToken st') ∨ c'.s.st = .passToken false .first ∨ c'.s.st = .activeIdle none none 0)

theorem doClaimToken_eff : ∀ (fuel : Nat) (c c' : Ctx) (now : Int) (step : ClaimStep), c.s.st = .claimToken step →
    doClaimToken c now fuel = .ok c' →
    ClaimPost c c' ∧ (step = .firstToken → (c'.s.st = .claimToken .firstToken ∨ c'.s.st = .claimToken .secondToken)) ∧
    Keep c c' := by
  intro fuel
  induction fuel with
  | zero => intro c c' now step _ h; simp [doClaimToken] at h
  | succ fuel ih =>
    intro c c' now step hst h
    have waits : ClaimPost c { c with s := StationGap.stamped c.s now } :=
      ⟨⟨rfl, rfl, rfl⟩, rfl, .refl _, .inl ⟨step, hst⟩⟩
    have hs := doClaimToken_step now fuel hst
    rw [h] at hs
    cases hs with
    | tok _ ht =>
      cases ht with
      | wait _ => exact ⟨waits, fun hf => .inl (hf ▸ hst), rfl⟩
      | claim _ _ =>
        exact ⟨⟨⟨rfl, rfl, rfl⟩, rfl, .claim (.refl _), .inl ⟨_, rfl⟩⟩, fun hf => .inr (by subst hf; rfl), rfl⟩
    | scan hsc =>
      refine (fun H : ClaimPost c c' ∧ Keep c c' => ⟨H.1, (fun hf => by cases hf), H.2⟩) ?_
      cases hsc with
      | wait _ => exact ⟨waits, rfl⟩
      | done _ _ => exact ⟨⟨⟨rfl, rfl, rfl⟩, rfl, .refl _, .inr (.inl rfl)⟩, rfl⟩
      | sweepEnds _ _ _ => exact ⟨⟨⟨rfl, rfl, rfl⟩, rfl, .refl _, .inl ⟨.scan, hst⟩⟩, rfl⟩
      | poll _ _ _ _ _ => exact ⟨⟨⟨rfl, rfl, rfl⟩, rfl, .refl _, .inl ⟨_, rfl⟩⟩, rfl⟩
    | @await a _ ha =>
      refine (fun H : ClaimPost c c' ∧ Keep c c' => ⟨H.1, (fun hf => by cases hf), H.2⟩) ?_
      cases ha with
      | waits hv =>
        obtain ⟨hq, hs1, ho1, hev, hk⟩ := hv.evo
        exact ⟨⟨hq, ho1, hev, .inl ⟨_, hs1.trans hst⟩⟩, hk⟩
      | responded hv =>
        obtain ⟨hq, -, ho1, hev, hk⟩ := hv.evo
        exact ⟨⟨⟨hq.calls, hq.apps, hq.p⟩, ho1, hev, .inl ⟨.scan, rfl⟩⟩, hk⟩
      | unexpected hv =>
        obtain ⟨hq, -, ho1, hev, hk⟩ := hv.evo
        exact ⟨⟨⟨hq.calls, hq.apps, hq.p⟩, ho1, hev, .inr (.inr rfl)⟩, hk⟩
      | @timeout c1 _ hv hr =>
        -- the slot time is over: the next scan step runs in the same poll
        obtain ⟨hq, -, ho1, hev, hk⟩ := hv.evo
        obtain ⟨⟨hq2, ho2, hr2, hs2⟩, -, hk2⟩ := ih _ c' now .scan rfl hr
        have hr2' : RingEvo c.s.p.address c1.s.ring c'.s.ring := by
          rwa [show ({ c1 with s := { c1.s with st := .claimToken .scan } } : Ctx).s.p = c.s.p from hq.p] at hr2
        exact ⟨⟨⟨hq2.calls.trans hq.calls, hq2.apps.trans hq.apps, hq2.p.trans hq.p⟩, ho2.trans ho1, hev.trans hr2', hs2⟩,
          Eq.trans hk2 hk⟩


theorem claimFirst_eff {c c' : Ctx} {now : Int}
    (h : doClaimToken { c with s := { (StationGap.stamped c.s now) with st := .claimToken .firstToken } } now 2 = .ok c') :
    ClaimPost c c' ∧ (c'.s.st = .claimToken .firstToken ∨ c'.s.st = .claimToken .secondToken) ∧ Keep c c' := by
  obtain ⟨⟨hq, hon, hr, hs⟩, hf, hk⟩ := doClaimToken_eff 2 _ c' now .firstToken rfl h
  exact ⟨⟨⟨hq.calls, hq.apps, hq.p⟩, hon, hr, hs⟩, hf rfl, hk⟩

theorem encodeOrPanic_inv {c c1 : Ctx} {now : Int} {hd : Header} {pdu : Bytes} (h : encodeOrPanic c now hd pdu = .ok c1) :
    ∃ b, c1 = { c with tx := some b, s := markTx c.s now b.length } :=
  let ⟨b, _, _, hc⟩ := encodeOrPanic_cases c now hd pdu c1 h
  ⟨b, hc⟩

theorem setOffline_fields (s : Station) : s.setOffline.p = s.p ∧ s.setOffline.online = false ∧ s.setOffline.st = .offline ∧
    s.setOffline.ring = TokenRing.new s.p.address := by
  simp only [Station.setOffline, Station.new, and_self]

theorem setOffline_next (s : Station) : s.setOffline.nextApp = 0 := rfl

theorem listenTelegramCore_eff (c c' : Ctx) (t : Telegram) (l : Bool) (hst : ListenOrOffline c.s)
    (h : listenTelegramCore c t l = .ok c') :
    Quiet c c' ∧ ListenOrOffline c'.s ∧ RingEvo c.s.p.address c.s.ring c'.s.ring ∧ c'.tx = c.tx ∧ KeepOrReset c c' := by
  rcases hst with ⟨hon, a, b, hs⟩ | ⟨hoff, hs⟩
  · have hstep := listenTelegramCore_step t l hon hs
    rw [h] at hstep
    cases hstep with
    | collision _ _ => exact ⟨⟨rfl, rfl, rfl⟩, .inl ⟨hon, _, _, rfl⟩, .refl _, rfl, .inl rfl⟩
    | reset _ _ =>
      obtain ⟨hf1, hf2, hf3, hf4⟩ := setOffline_fields c.s
      refine ⟨⟨rfl, rfl, hf1⟩, .inr ⟨hf2, hf3⟩, ?_, rfl, .inr (setOffline_next c.s)⟩
      show RingEvo c.s.p.address c.s.ring c.s.setOffline.ring
      rw [hf4]; exact .reset _
    | heard _ => exact ⟨⟨rfl, rfl, rfl⟩, .inl ⟨hon, _, _, hs⟩, .witness _ _ (.refl _), rfl, .inl rfl⟩
    | request _ _ => exact ⟨⟨rfl, rfl, rfl⟩, .inl ⟨hon, _, _, rfl⟩, .refl _, rfl, .inl rfl⟩
    | ignore _ _ => exact ⟨Quiet.rfl' _, .inl ⟨hon, _, _, hs⟩, .refl _, rfl, .inl rfl⟩
    | sc => exact ⟨Quiet.rfl' _, .inl ⟨hon, _, _, hs⟩, .refl _, rfl, .inl rfl⟩
  · rw [listenTelegramCore_off c t l hoff] at h
    cases h
    exact ⟨Quiet.rfl' _, .inr ⟨hoff, hs⟩, .refl _, rfl, .inl rfl⟩


theorem foldListen_eff (now : Int) (calls : List (Telegram × Bool)) (c c' : Ctx) (hst : ListenOrOffline c.s)
    (h : foldTelegrams (listenTelegram now) c calls = .ok c') :
    Quiet c c' ∧ ListenOrOffline c'.s ∧ RingEvo c.s.p.address c.s.ring c'.s.ring ∧ c'.tx = c.tx ∧ KeepOrReset c c' :=
  foldTelegrams_post
    (fun c1 => Quiet c c1 ∧ ListenOrOffline c1.s ∧ RingEvo c.s.p.address c.s.ring c1.s.ring ∧ c1.tx = c.tx ∧ KeepOrReset c c1)
    (fun c1 t l c2 ⟨hq, hl, hr, ht, hk⟩ h1 => by
      obtain ⟨hq1, hl1, hr1, ht1, hk1⟩ := listenTelegramCore_eff (upd c1 fun s => markRx s now) c2 t l
        (by simpa [upd, ListenOrOffline] using hl) h1
      have hq1' : Quiet c1 c2 := ⟨hq1.calls, hq1.apps, by simpa [upd] using hq1.p⟩
      have e1 : RingEvo c.s.p.address c1.s.ring c2.s.ring := by simpa [upd, hq.p] using hr1
      exact ⟨hq.trans hq1', hl1, hr.trans e1, ht1.trans ht,
        hk.trans (KeepOrReset.trans (b := upd c1 fun s => markRx s now) (.inl (markRx_nextApp c1.s now)) hk1)⟩)
    calls c c' ⟨.rfl' _, hst, .refl _, rfl, .inl rfl⟩ h

theorem doListenToken_eff (c c' : Ctx) (now : Int) (sr : Option Nat) (coll : Nat) (hon : c.s.online = true)
    (hst : c.s.st = .listenToken sr coll) (h : doListenToken c now = .ok c') :
    Quiet c c' ∧ RingEvo c.s.p.address c.s.ring c'.s.ring ∧
    ((c'.s.online = true ∧ ∃ a b, c'.s.st = .listenToken a b) ∨ (c'.s.online = false ∧ c'.s.st = .offline) ∨
     (c'.s.online = true ∧ c'.s.st = .activeIdle none none 0 ∧ (∃ src, sr = some src) ∧ c'.tx.isSome = true) ∨
     (c'.s.online = true ∧ (c'.s.st = .claimToken .firstToken ∨ c'.s.st = .claimToken .secondToken))) ∧
    KeepOrReset c c' := by
  have hs := doListenToken_step now hst
  rw [h] at hs
  cases hs with
  | lost _ hc =>
    obtain ⟨⟨hq, ho, hr, -⟩, hs, hk⟩ := claimFirst_eff hc
    exact ⟨hq, hr, .inr (.inr (.inr ⟨ho.trans hon, hs⟩)), .inl hk⟩
  | wait _ _ => exact ⟨⟨rfl, rfl, rfl⟩, .refl _, .inl ⟨hon, _, _, hst⟩, .inl rfl⟩
  | reply _ _ _ =>
    refine ⟨⟨rfl, rfl, rfl⟩, .refl _, ?_, .inl rfl⟩
    by_cases hr : c.s.ring.readyForRing = true
    · exact .inr (.inr (.inl ⟨hon, if_pos hr, ⟨_, rfl⟩, rfl⟩))
    · exact .inl ⟨hon, _, _, if_neg hr⟩
  | @recv rx' calls _ _ _ _ hf =>
    have hlo : ListenOrOffline ({ c with rx := rx', s := StationGap.stamped c.s now } : Ctx).s := .inl ⟨hon, _, _, hst⟩
    obtain ⟨hq, hl, hr, -, hk⟩ := foldListen_eff now calls _ c' hlo hf
    refine ⟨⟨hq.calls, hq.apps, hq.p⟩, hr, ?_, hk⟩
    rcases hl with hl | hl
    · exact .inl hl
    · exact .inr (.inl hl)


/-- What a poll in `ActiveIdle` can end in; a token is accepted only as the last telegram of the batch,
from the registered predecessor or from the pending stranger `np`. -/
theorem doActiveIdle_eff (c c' : Ctx) (now : Int) (sr np : Option Nat) (coll : Nat)
    (hst : c.s.st = .activeIdle sr np coll) (h : doActiveIdle c now = .ok c') :
    Quiet c c' ∧ c'.s.online = c.s.online ∧ RingEvo c.s.p.address c.s.ring c'.s.ring ∧
    ((∃ sr' np' coll', c'.s.st = .activeIdle sr' np' coll') ∨ (∃ a b, c'.s.st = .listenToken a b) ∨
     (c'.s.st = .claimToken .firstToken ∨ c'.s.st = .claimToken .secondToken) ∨
     (sr = none ∧ ∃ rx' pre da sa ret, receiveAll c.rx = .done rx' (pre ++ [(.token da sa, true)]) ret ∧
        da.toNat = c.s.p.address ∧ sa.toNat ≠ c.s.p.address ∧
        (sa.toNat = c'.s.ring.ps ∨ np = some sa.toNat) ∧ c'.s.st = .useToken ⟨now, none⟩ false)) ∧
    Keep c c' := by
  have hs := doActiveIdle_step now hst
  rw [h] at hs
  cases hs with
  | lost _ hc =>
    obtain ⟨⟨hq, ho, hr, -⟩, hs, hk⟩ := claimFirst_eff hc
    exact ⟨hq, ho, hr, .inr (.inr (.inl hs)), hk⟩
  | wait _ _ => exact ⟨⟨rfl, rfl, rfl⟩, rfl, .refl _, .inl ⟨_, _, _, hst⟩, rfl⟩
  | reply _ _ _ => exact ⟨⟨rfl, rfl, rfl⟩, rfl, .refl _, .inl ⟨_, _, _, rfl⟩, rfl⟩
  | @recv rx' calls ret _ _ hrx hf =>
    obtain ⟨hq, ho, hev, hpost⟩ := foldIdle_eff now np calls { c with rx := rx', s := StationGap.stamped c.s now } c'
      (.inl ⟨none, coll, hst⟩) (receiveAll_flags _ _ _ _ hrx) hf
    have hk := foldIdle_keep now calls _ c' hf
    refine ⟨⟨hq.calls, hq.apps, hq.p⟩, ho, hev.ringEvo, ?_, hk⟩
    rcases hpost with h' | h' | ⟨pre, da, sa, hc, hda, hsa, hsrc, hu⟩
    · exact .inl h'
    · exact .inr (.inl h')
    · exact .inr (.inr (.inr ⟨rfl, rx', pre, da, sa, ret, by rw [← hc]; exact hrx, hda, hsa, hsrc, hu⟩))


/-- Outcomes of `do_pass_token`: still waiting for the synchronisation pause, a GAP poll was sent
instead (only with `do_gap`), or the token went to NS and the own pass was recorded in the ring view. -/
def PassPost (c c' : Ctx) (g : Bool) (att : Attempt) (now : Int) : Prop :=
  Quiet c c' ∧ c'.s.online = c.s.online ∧
  ((c'.s.st = .passToken g att ∧ c'.s.ring = c.s.ring ∧ c'.tx = c.tx) ∨
   (g = true ∧ (∃ a, c'.s.st = .awaitStatus a) ∧ c'.s.ring = c.s.ring) ∨
   (c'.s.ring = c.s.ring.witness c.s.p.address c.s.ring.ns ∧
      (c'.s.st = .useToken ⟨now, none⟩ false ∨ c'.s.st = .checkTokenPass att) ∧
      c'.tx = some (sendToken (UInt8.ofNat c.s.ring.ns) (UInt8.ofNat c.s.p.address))))

theorem doPassToken_eff (c c' : Ctx) (now : Int) (g : Bool) (att : Attempt)
    (hst : c.s.st = .passToken g att) (h : doPassToken c now = .ok c') : PassPost c c' g att now ∧ Keep c c' := by
  have hs := doPassToken_step now hst
  rw [h] at hs
  cases hs with
  | wait _ => exact ⟨⟨⟨rfl, rfl, rfl⟩, rfl, .inl ⟨hst, rfl, rfl⟩⟩, rfl⟩
  | poll _ _ _ _ => exact ⟨⟨⟨rfl, rfl, rfl⟩, rfl, .inr (.inl ⟨rfl, ⟨_, rfl⟩, rfl⟩)⟩, rfl⟩
  | passGap _ _ _ => exact ⟨⟨⟨rfl, rfl, rfl⟩, rfl, .inr (.inr ⟨rfl, passed_st _ now att, rfl⟩)⟩, rfl⟩
  | pass _ _ => exact ⟨⟨⟨rfl, rfl, rfl⟩, rfl, .inr (.inr ⟨rfl, passed_st _ now att, rfl⟩)⟩, rfl⟩

theorem doPassToken_next (c c' : Ctx) (now : Int) (g : Bool) (att : Attempt)
    (hst : c.s.st = .passToken g att) (h : doPassToken c now = .ok c') : c'.s.nextApp = c.s.nextApp :=
  (doPassToken_eff c c' now g att hst h).2

theorem PassPost.ringEvo {c c' : Ctx} {g : Bool} {att : Attempt} {now : Int} (h : PassPost c c' g att now) :
    RingEvo c.s.p.address c.s.ring c'.s.ring := by
  rcases h.2.2 with h | h | h
  · exact .of_eq h.2.1
  · exact .of_eq h.2.2
  · rw [h.1]; exact .witness _ _ (.refl _)


def CheckPost (c c' : Ctx) (now : Int) (att : Attempt) : Prop :=
  Quiet c c' ∧ c'.s.online = c.s.online ∧
  (((checkSlotExpired c.s now).2 = true ∧ ∃ r0 att', RetryStep c.s.ring att att' r0 ∧
      ((c'.s.st = .passToken false att' ∧ c'.s.ring = r0 ∧ c'.tx = c.tx) ∨
       (c'.s.ring = r0.witness c.s.p.address r0.ns ∧
          (c'.s.st = .useToken ⟨now, none⟩ false ∨ c'.s.st = .checkTokenPass att') ∧
          c'.tx = some (sendToken (UInt8.ofNat r0.ns) (UInt8.ofNat c.s.p.address))))) ∨
   ((checkSlotExpired c.s now).2 = false ∧ ∃ rx' calls ret, receiveAll c.rx = .done rx' calls ret ∧
      ((calls = [] ∧ c'.s.st = .checkTokenPass att ∧ c'.s.ring = c.s.ring ∧ c'.tx = c.tx) ∨
       (calls ≠ [] ∧ HeardEvo calls c.s.ring c'.s.ring ∧ c'.tx = c.tx ∧
         ((∃ sr' np' coll', c'.s.st = .activeIdle sr' np' coll') ∨ (∃ a b, c'.s.st = .listenToken a b) ∨
          (∃ pre da sa, calls = pre ++ [(.token da sa, true)] ∧ da.toNat = c.s.p.address ∧ sa.toNat ≠ c.s.p.address ∧
             sa.toNat = c'.s.ring.ps ∧ c'.s.st = .useToken ⟨now, none⟩ false))))))

theorem doCheckTokenPass_keep (c c' : Ctx) (now : Int) (att : Attempt)
    (hst : c.s.st = .checkTokenPass att) (h : doCheckTokenPass c now = .ok c') : CheckPost c c' now att ∧ Keep c c' := by
  have hs := doCheckTokenPass_step now hst
  rw [h] at hs
  cases hs with
  | retry hex hr hp =>
    obtain ⟨⟨hq, ho, hpost⟩, hk⟩ := doPassToken_eff _ c' now false _ rfl hp
    refine ⟨⟨⟨hq.calls, hq.apps, hq.p⟩, ho, .inl ⟨hex, _, _, hr, ?_⟩⟩, hk⟩
    rcases hpost with h1 | ⟨h1, -⟩ | h1
    · exact .inl h1
    · cases h1
    · exact .inr h1
  | quiet hex hrx =>
    exact ⟨⟨⟨rfl, rfl, rfl⟩, rfl, .inr ⟨by simpa [StationGap.SlotExpired] using hex, _, [], _, hrx, .inl ⟨rfl, hst, rfl, rfl⟩⟩⟩, rfl⟩
  | heard hex hrx hf =>
    -- supervision ends: the batch is handled as by an idle station without pending stranger
    obtain ⟨hq, ho, hev, hpost⟩ := foldIdle_eff now none _ _ c' (.inl ⟨none, 0, rfl⟩) (receiveAll_flags _ _ _ _ hrx) hf
    have ht := fold_noTx _ (idleTelegram_noTx now) _ _ c' hf
    have hk := foldIdle_keep now _ _ c' hf
    refine ⟨⟨⟨hq.calls, hq.apps, hq.p⟩, ho, .inr ⟨by simpa [StationGap.SlotExpired] using hex, _, _, _, hrx,
      .inr ⟨by simp, hev, ht, ?_⟩⟩⟩, hk⟩
    rcases hpost with h' | h' | ⟨pre, da, sa, hc, hda, hsa, hsrc | hsrc, hu⟩
    · exact .inl h'
    · exact .inr (.inl h')
    · exact .inr (.inr ⟨pre, da, sa, hc, hda, hsa, hsrc, hu⟩)
    · cases hsrc

theorem doAwaitStatusResponse_eff (c c' : Ctx) (now : Int) (a : Nat) (hst : c.s.st = .awaitStatus a)
    (h : doAwaitStatusResponse c now = .ok c') :
    Quiet c c' ∧ c'.s.online = c.s.online ∧ RingEvo c.s.p.address c.s.ring c'.s.ring ∧
    (c'.s.st = .awaitStatus a ∨ c'.s.st = .passToken false .first ∨ c'.s.st = .useToken ⟨now, none⟩ false ∨
     c'.s.st = .checkTokenPass .first ∨ c'.s.st = .activeIdle none none 0) ∧ Keep c c' := by
  have hs := doAwaitStatusResponse_step now hst
  rw [h] at hs
  cases hs with
  | waits hq =>
    obtain ⟨hq1, -, ho, hev, hk⟩ := hq.evo
    exact ⟨hq1, ho, hev, .inl (hq.st.trans hst), hk⟩
  | responded hq =>
    obtain ⟨hq1, -, ho, hev, hk⟩ := hq.evo
    exact ⟨⟨hq1.calls, hq1.apps, hq1.p⟩, ho, hev, .inr (.inl rfl), hk⟩
  | unexpected hq =>
    obtain ⟨hq1, -, ho, hev, hk⟩ := hq.evo
    exact ⟨⟨hq1.calls, hq1.apps, hq1.p⟩, ho, hev, .inr (.inr (.inr (.inr rfl))), hk⟩
  | @timeout c1 _ hq hp =>
    -- the slot time is over: `PassToken` without GAP maintenance, handled in the same poll
    obtain ⟨hq1, -, ho, hev, hk⟩ := hq.evo
    obtain ⟨⟨hq2, ho2, hpost⟩, hk2⟩ := doPassToken_eff _ c' now false .first rfl hp
    have hev2 : RingEvo c.s.p.address c1.s.ring c'.s.ring := by
      have := PassPost.ringEvo ⟨hq2, ho2, hpost⟩
      rwa [show ({ c1 with s := { c1.s with st := .passToken false .first } } : Ctx).s.p = c.s.p from hq1.p] at this
    refine ⟨⟨hq2.calls.trans hq1.calls, hq2.apps.trans hq1.apps, hq2.p.trans hq1.p⟩, ho2.trans ho, hev.trans hev2, ?_,
      Eq.trans hk2 hk⟩
    rcases hpost with ⟨h1, -⟩ | ⟨h1, -⟩ | ⟨-, h2 | h2, -⟩
    · exact .inr (.inl h1)
    · cases h1
    · exact .inr (.inr (.inl h2))
    · exact .inr (.inr (.inr (.inl h2)))

theorem doCheckTokenPass_eff (c c' : Ctx) (now : Int) (att : Attempt)
    (hst : c.s.st = .checkTokenPass att) (h : doCheckTokenPass c now = .ok c') : CheckPost c c' now att :=
  (doCheckTokenPass_keep c c' now att hst h).1


def AskRun (new : List AppCall) : Prop := ∀ r ∈ new, ∃ i hp ans, r = AppCall.transmit i hp ans

theorem askRun_nil : AskRun [] := fun r hr => by cases hr

/-- If the station awaits a data reply, the call log ends with the request being awaited: a telegram
expecting a reply from exactly the awaited address, sent by the application whose turn it is. -/
def AwaitLink (log : List AppCall) (s : Station) : Prop :=
  ∀ a d, s.st = .awaitData a d → ∃ pre hp hd pdu a8,
    log = pre ++ [.transmit s.nextApp hp (.send hd pdu)] ∧ expectsReplyOf hd = some a8 ∧ a8.toNat = a

theorem appTransmit_spec (c c1 : Ctx) (now : Int) (hp b : Bool) (d : UseData) (fcd : Bool)
    (hst : c.s.st = .useToken d fcd) (h : appTransmit c now hp = (.ok c1, b)) :
    c.s.nextApp < c.apps.length ∧ c1.apps.length = c.apps.length ∧ c1.rx = c.rx ∧
    (∃ script, c.apps[c.s.nextApp]? = some script ∧ c1.apps = c.apps.set c.s.nextApp script.tail ∧
      c1.calls = c.calls ++ [.transmit c.s.nextApp hp (script.headD .decline)]) ∧
    ((b = false ∧ c1.calls = c.calls ++ [.transmit c.s.nextApp hp .decline] ∧ c1.s = c.s ∧ c1.tx = c.tx) ∨
     (b = true ∧ ∃ hd pdu bytes st1, c1.calls = c.calls ++ [.transmit c.s.nextApp hp (.send hd pdu)] ∧
        c1.tx = some bytes ∧ c1.s = markTx { c.s with st := st1 } now bytes.length ∧
        ((expectsReplyOf hd = none ∧ st1 = .useToken d fcd) ∨
         ∃ a8, expectsReplyOf hd = some a8 ∧ st1 = .awaitData a8.toNat d))) := by
  have hs := appTransmit_step c now hp
  rw [h] at hs
  cases hs with
  | @decline script hscr ha =>
    have hlt : c.s.nextApp < c.apps.length := (List.getElem?_eq_some_iff.mp hscr).1
    exact ⟨hlt, by simp [answered], rfl, ⟨script, hscr, rfl, by rw [ha]; rfl⟩, .inl ⟨rfl, rfl, rfl, rfl⟩⟩
  | @send script hd pdu bytes st' hscr ha hser hss htx =>
    obtain rfl := hss.eq hst
    have hlt : c.s.nextApp < c.apps.length := (List.getElem?_eq_some_iff.mp hscr).1
    refine ⟨hlt, by simp [answered], rfl, ⟨script, hscr, rfl, by rw [ha]; rfl⟩,
      .inr ⟨rfl, hd, pdu, bytes, sendState hd d fcd, rfl, rfl, rfl, ?_⟩⟩
    unfold sendState
    cases hexp : expectsReplyOf hd with
    | none => exact .inl ⟨rfl, rfl⟩
    | some a8 => exact .inr ⟨a8, rfl, rfl⟩

theorem appTransmit_eff (c c1 : Ctx) (now : Int) (hp b : Bool) (d : UseData) (fcd : Bool)
    (hst : c.s.st = .useToken d fcd) (h : appTransmit c now hp = (.ok c1, b)) :
    ∃ ans, c1.calls = c.calls ++ [.transmit c.s.nextApp hp ans] ∧ c1.s.ring = c.s.ring ∧ c1.s.p = c.s.p ∧
      c1.s.online = c.s.online ∧ c1.s.nextApp = c.s.nextApp ∧ c1.apps.length = c.apps.length ∧
      (b = false → ans = .decline ∧ c1.s.st = .useToken d fcd) ∧
      (b = true → ∃ hd pdu, ans = .send hd pdu ∧
         ((expectsReplyOf hd = none ∧ c1.s.st = .useToken d fcd) ∨
          (∃ a8, expectsReplyOf hd = some a8 ∧ c1.s.st = .awaitData a8.toNat d))) := by
  obtain ⟨-, hl, -, -, ⟨rfl, hc, hs, -⟩ | ⟨rfl, hd, pdu, bytes, st1, hc, -, hs, hst1⟩⟩ :=
    appTransmit_spec c c1 now hp b d fcd hst h
  · rw [hs]
    exact ⟨.decline, hc, rfl, rfl, rfl, rfl, hl, fun _ => ⟨rfl, hst⟩, fun hb => by cases hb⟩
  · refine ⟨.send hd pdu, hc, by rw [hs]; rfl, by rw [hs]; rfl, by rw [hs]; rfl, by rw [hs]; rfl, hl, (by intro hb; cases hb),
      fun _ => ⟨hd, pdu, rfl, ?_⟩⟩
    rcases hst1 with ⟨he, rfl⟩ | ⟨a8, he, rfl⟩
    · exact .inl ⟨he, by rw [hs]; rfl⟩
    · exact .inr ⟨a8, he, by rw [hs]; rfl⟩

theorem askRun_declines (hp : Bool) (l : List Nat) : AskRun (declines hp l) := by
  intro r hr
  obtain ⟨i, -, rfl⟩ := List.mem_map.mp hr
  exact ⟨i, hp, .decline, rfl⟩

theorem AppLoop.eff {now : Int} {hp : Bool} {k : Nat} {c : Ctx} {d : UseData} {fcd : Bool} {m : Nat} {b : Bool} {c1 : Ctx}
    (hm : AppLoop now hp k c d fcd m b c1) :
    ∃ new, c1.calls = c.calls ++ new ∧ AskRun new ∧ c1.s.ring = c.s.ring ∧ c1.s.p = c.s.p ∧
      c1.s.online = c.s.online ∧ c1.apps.length = c.apps.length ∧
      ((∃ d', c1.s.st = .useToken d' fcd) ∨ ((∃ a d', c1.s.st = .awaitData a d') ∧ AwaitLink new c1.s)) := by
  cases b with
  | false =>
    obtain ⟨e1, -, e3, -⟩ := hm.still rfl
    exact ⟨_, e1, askRun_declines hp _, by rw [e3], by rw [e3], by rw [e3], hm.len, .inl ⟨_, by rw [e3]⟩⟩
  | true =>
    obtain ⟨hd, pdu, bytes, e1, -, -, -, e5⟩ := hm.cycle rfl
    refine ⟨_, by rw [e1, List.append_assoc], ?_, by rw [e5]; rfl, by rw [e5]; rfl, by rw [e5]; rfl, hm.len, ?_⟩
    · intro r hr
      rcases List.mem_append.mp hr with hr | hr
      · exact askRun_declines hp _ r hr
      · exact ⟨_, _, _, List.mem_singleton.mp hr⟩
    · have hst1 : c1.s.st = sendState hd (visitAfter d c.s.nextApp m) fcd := by rw [e5]; rfl
      unfold sendState at hst1
      cases he : expectsReplyOf hd with
      | none => rw [he] at hst1; exact .inl ⟨_, hst1⟩
      | some a8 =>
        rw [he] at hst1
        refine .inr ⟨⟨_, _, hst1⟩, fun a d' hs3 => ?_⟩
        rw [hst1] at hs3
        cases hs3
        exact ⟨_, hp, hd, pdu, a8, rfl, he, rfl⟩

/-- How a token visit step ends: still using the token or awaiting a data reply (ring view untouched;
when awaiting, the new callbacks end with the awaited request) — or, with nothing (more) to send,
`PassToken` is entered; where the pass is evaluated in the same poll this continues like
`do_pass_token` (GAP poll sent, or token transmitted and the own pass witnessed). -/
def UseTail (c c' : Ctx) (now : Int) (new : List AppCall) : Prop :=
  (c'.s.ring = c.s.ring ∧ ((∃ d' f', c'.s.st = .useToken d' f') ∨
      ((∃ a d', c'.s.st = .awaitData a d') ∧ AwaitLink new c'.s))) ∨
  (c'.s.st = .passToken true .first ∧ c'.s.ring = c.s.ring) ∨
  ((∃ a, c'.s.st = .awaitStatus a) ∧ c'.s.ring = c.s.ring) ∨
  (c'.s.ring = c.s.ring.witness c.s.p.address c.s.ring.ns ∧
     (c'.s.st = .useToken ⟨now, none⟩ false ∨ c'.s.st = .checkTokenPass .first))

theorem UseTail.link {c c' : Ctx} {now : Int} {new : List AppCall} (h : UseTail c c' now new) : AwaitLink new c'.s := by
  intro a d hs
  rcases h with ⟨-, ⟨_, _, h'⟩ | ⟨-, hl⟩⟩ | ⟨h', -⟩ | ⟨⟨_, h'⟩, -⟩ | ⟨-, h' | h'⟩
  · rw [h'] at hs; cases hs
  · exact hl a d hs
  · rw [h'] at hs; cases hs
  · rw [h'] at hs; cases hs
  · rw [h'] at hs; cases hs
  · rw [h'] at hs; cases hs

theorem UseTail.ringEvo {c c' : Ctx} {now : Int} {new : List AppCall} (h : UseTail c c' now new) :
    RingEvo c.s.p.address c.s.ring c'.s.ring := by
  rcases h with ⟨h', -⟩ | ⟨-, h'⟩ | ⟨-, h'⟩ | ⟨h', -⟩
  · exact .of_eq h'
  · exact .of_eq h'
  · exact .of_eq h'
  · rw [h']; exact .witness _ _ (.refl _)

theorem UseTail.congr {c0 c c' : Ctx} {now : Int} {new : List AppCall} (e1 : c0.s.ring = c.s.ring) (e2 : c0.s.p = c.s.p)
    (h : UseTail c0 c' now new) : UseTail c c' now new := by
  unfold UseTail at h ⊢
  rw [e1, e2] at h
  exact h

theorem passNow_eff (c c' : Ctx) (now : Int) (new : List AppCall) (h : passNow c now = .ok c') :
    Quiet c c' ∧ c'.s.online = c.s.online ∧ UseTail c c' now new := by
  obtain ⟨⟨hq, ho, hpost⟩, -⟩ := doPassToken_eff _ c' now true .first rfl (passNow_ok h)
  refine ⟨⟨hq.calls, hq.apps, hq.p⟩, ho, ?_⟩
  rcases hpost with ⟨h1, h2, -⟩ | ⟨-, h1, h2⟩ | ⟨h1, h2, -⟩
  · exact .inr (.inl ⟨h1, h2⟩)
  · exact .inr (.inr (.inl ⟨h1, h2⟩))
  · exact .inr (.inr (.inr ⟨h1, h2⟩))

def UsePost (c c' : Ctx) (now : Int) : Prop :=
  ∃ new, c'.calls = c.calls ++ new ∧ AskRun new ∧ c'.s.p = c.s.p ∧
    c'.s.online = c.s.online ∧ c'.apps.length = c.apps.length ∧ UseTail c c' now new

theorem AppLoop.usePost {now : Int} {hp : Bool} {c c' c2 : Ctx} {d : UseData} {m : Nat} {b : Bool}
    (hm : AppLoop now hp c.apps.length { c with s := { c.s with st := .useToken d true } } d true m b c2)
    (hc : (b = true ∧ c' = c2) ∨ (b = false ∧ passNow c2 now = .ok c')) : UsePost c c' now := by
  obtain ⟨new, hcl, har, hr, hpp, ho, hl, hcase⟩ := hm.eff
  rcases hc with ⟨-, rfl⟩ | ⟨-, hp⟩
  · refine ⟨new, hcl, har, hpp, ho, hl, .inl ⟨hr, ?_⟩⟩
    rcases hcase with ⟨d', h'⟩ | h'
    · exact .inl ⟨d', true, h'⟩
    · exact .inr h'
  · obtain ⟨hq, ho2, htail⟩ := passNow_eff c2 c' now new hp
    exact ⟨new, hq.calls.trans hcl, har, hq.p.trans hpp, ho2.trans ho, by rw [hq.apps]; exact hl, htail.congr hr hpp⟩

theorem doUseToken_eff (c c' : Ctx) (now : Int) (d : UseData) (fcd : Bool) (hst : c.s.st = .useToken d fcd)
    (h : doUseToken c now = .ok c') : UsePost c c' now := by
  -- `held c now d` differs from `c` in the stamp and the hold-time bookkeeping only, which `UsePost` does not read: the
  -- two statements unfold to the same proposition
  have lift : UsePost (held c now d) c' now → UsePost c c' now := fun hp => hp
  cases h ▸ doUseToken_step now hst with
  | wait _ => exact ⟨[], (List.append_nil _).symm, askRun_nil, rfl, rfl, rfl, .inl ⟨rfl, .inl ⟨d, fcd, hst⟩⟩⟩
  | go _ _ hgo =>
    cases hgo ▸ useTokenGo_step (held c now d) now d (!decide (now < holdEnd c.s d)) with
    | cycle hm => exact lift (hm.usePost (.inl ⟨rfl, rfl⟩))
    | pass hm hp => exact lift (hm.usePost (.inr ⟨rfl, hp⟩))
  | pass _ _ _ hp =>
    obtain ⟨hq, ho2, htail⟩ := passNow_eff _ c' now [] hp
    exact ⟨[], by rw [hq.calls]; exact (List.append_nil _).symm, askRun_nil, hq.p, ho2, by rw [hq.apps]; rfl, htail⟩

/-- Outcomes of a poll in `AwaitDataResponse`: keep waiting; deliver the (admitted) reply to the
requesting application; drop an inadmissible telegram and back off to `ActiveIdle`; or deliver the
time-out and continue the token visit at once. -/
def AwaitPost (c c' : Ctx) (now : Int) (a : Nat) (d : UseData) : Prop :=
  c'.s.p = c.s.p ∧ c'.s.online = c.s.online ∧ c'.apps.length = c.apps.length ∧
  ((c'.calls = c.calls ∧ c'.s.st = .awaitData a d ∧ c'.s.nextApp = c.s.nextApp ∧ c'.s.ring = c.s.ring) ∨
   (∃ t, validReplyB c.s.p.address a t = true ∧ c'.calls = c.calls ++ [.reply c.s.nextApp a t] ∧
      c'.s.st = .useToken d true ∧ c'.s.ring = c.s.ring) ∨
   (c'.calls = c.calls ∧ c'.s.st = .activeIdle none none 0 ∧ c'.s.ring = c.s.ring) ∨
   (∃ new, c'.calls = c.calls ++ .timeout c.s.nextApp a :: new ∧ AskRun new ∧ UseTail c c' now new))

theorem doAwaitDataResponse_eff (c c' : Ctx) (now : Int) (a : Nat) (d : UseData) (hst : c.s.st = .awaitData a d)
    (h : doAwaitDataResponse c now = .ok c') : AwaitPost c c' now a d := by
  cases h ▸ doAwaitDataResponse_step now hst with
  | waits => exact ⟨rfl, rfl, rfl, .inl ⟨rfl, hst, rfl, rfl⟩⟩
  | timeout _ _ _ hu =>
    obtain ⟨new, hc, har, hpp, ho, hl, htail⟩ := doUseToken_eff _ c' now d true rfl hu
    exact ⟨hpp, ho, hl, .inr (.inr (.inr ⟨new, by simpa using hc, har, htail.congr rfl rfl⟩))⟩
  | reply _ _ hv => exact ⟨rfl, rfl, rfl, .inr (.inl ⟨_, hv, rfl, rfl, rfl⟩)⟩
  | backOff => exact ⟨rfl, rfl, rfl, .inr (.inr (.inl ⟨rfl, rfl, rfl⟩))⟩


def ListenPost (c c' : Ctx) (sr : Option Nat) : Prop :=
  Quiet c c' ∧ RingEvo c.s.p.address c.s.ring c'.s.ring ∧
  ((c'.s.online = true ∧ ∃ a b, c'.s.st = .listenToken a b) ∨ (c'.s.online = false ∧ c'.s.st = .offline) ∨
   (c'.s.online = true ∧ c'.s.st = .activeIdle none none 0 ∧ (∃ src, sr = some src) ∧ c'.tx.isSome = true) ∨
   (c'.s.online = true ∧ (c'.s.st = .claimToken .firstToken ∨ c'.s.st = .claimToken .secondToken)))

def IdlePost (c c' : Ctx) (now : Int) (sr np : Option Nat) : Prop :=
  Quiet c c' ∧ c'.s.online = c.s.online ∧ RingEvo c.s.p.address c.s.ring c'.s.ring ∧
  ((∃ sr' np' coll', c'.s.st = .activeIdle sr' np' coll') ∨ (∃ a b, c'.s.st = .listenToken a b) ∨
   (c'.s.st = .claimToken .firstToken ∨ c'.s.st = .claimToken .secondToken) ∨
   (sr = none ∧ ∃ rx' pre da sa ret, receiveAll c.rx = .done rx' (pre ++ [(.token da sa, true)]) ret ∧
      da.toNat = c.s.p.address ∧ sa.toNat ≠ c.s.p.address ∧
      (sa.toNat = c'.s.ring.ps ∨ np = some sa.toNat) ∧ c'.s.st = .useToken ⟨now, none⟩ false))

def StatusPost (c c' : Ctx) (now : Int) (a : Nat) : Prop :=
  Quiet c c' ∧ c'.s.online = c.s.online ∧ RingEvo c.s.p.address c.s.ring c'.s.ring ∧
  (c'.s.st = .awaitStatus a ∨ c'.s.st = .passToken false .first ∨ c'.s.st = .useToken ⟨now, none⟩ false ∨
   c'.s.st = .checkTokenPass .first ∨ c'.s.st = .activeIdle none none 0)

structure DispatchPost (c c' : Ctx) (now : Int) : Prop where
  listen : ∀ sr coll, c.s.st = .listenToken sr coll → ListenPost c c' sr
  idle : ∀ sr np coll, c.s.st = .activeIdle sr np coll → IdlePost c c' now sr np
  use : ∀ d fcd, c.s.st = .useToken d fcd → UsePost c c' now
  claim : ∀ step, c.s.st = .claimToken step → ClaimPost c c'
  await : ∀ a d, c.s.st = .awaitData a d → AwaitPost c c' now a d
  pass : ∀ g att, c.s.st = .passToken g att → PassPost c c' g att now
  check : ∀ att, c.s.st = .checkTokenPass att → CheckPost c c' now att
  status : ∀ a, c.s.st = .awaitStatus a → StatusPost c c' now a
  awake : c.s.st ≠ .offline ∧ c.s.st ≠ .passiveIdle

/-- Outside a message cycle the application turn is kept (or reset with the station by the duplicate-address
detection of `ListenToken`). -/
theorem dispatch_post_keep (c c' : Ctx) (now : Int) (hon : c.s.online = true) (h : dispatch c now = .ok c') :
    DispatchPost c c' now ∧
    ((∀ d fcd, c.s.st ≠ .useToken d fcd) → (∀ a d, c.s.st ≠ .awaitData a d) → KeepOrReset c c') := by
  unfold dispatch at h
  cases hst : c.s.st with
  | offline => rw [hst] at h; cases h
  | passiveIdle => rw [hst] at h; cases h
  | listenToken sr coll =>
    rw [hst] at h
    obtain ⟨h1, h2, h3, hk⟩ := doListenToken_eff c c' now sr coll hon hst h
    have this : ListenPost c c' sr := ⟨h1, h2, h3⟩
    refine ⟨?_, fun _ _ => hk⟩
    constructor <;> (try (intros; rename_i he; rw [hst] at he; cases he)) <;> (try exact this)
    simp [hst]
  | activeIdle sr np coll =>
    rw [hst] at h
    obtain ⟨h1, h2, h3, h4, hk⟩ := doActiveIdle_eff c c' now sr np coll hst h
    have this : IdlePost c c' now sr np := ⟨h1, h2, h3, h4⟩
    refine ⟨?_, fun _ _ => .inl hk⟩
    constructor <;> (try (intros; rename_i he; rw [hst] at he; cases he)) <;> (try exact this)
    simp [hst]
  | useToken d fcd =>
    rw [hst] at h
    have := doUseToken_eff c c' now d fcd hst h
    refine ⟨?_, fun hu _ => absurd rfl (hu d fcd)⟩
    constructor <;> (try (intros; rename_i he; rw [hst] at he; cases he)) <;> (try exact this)
    simp [hst]
  | claimToken step =>
    rw [hst] at h
    obtain ⟨this, -, hk⟩ := doClaimToken_eff 2 c c' now step hst h
    refine ⟨?_, fun _ _ => .inl hk⟩
    constructor <;> (try (intros; rename_i he; rw [hst] at he; cases he)) <;> (try exact this)
    simp [hst]
  | awaitData a d =>
    rw [hst] at h
    have := doAwaitDataResponse_eff c c' now a d hst h
    refine ⟨?_, fun _ ha => absurd rfl (ha a d)⟩
    constructor <;> (try (intros; rename_i he; rw [hst] at he; cases he)) <;> (try exact this)
    simp [hst]
  | passToken g att =>
    rw [hst] at h
    obtain ⟨this, hk⟩ := doPassToken_eff c c' now g att hst h
    refine ⟨?_, fun _ _ => .inl hk⟩
    constructor <;> (try (intros; rename_i he; rw [hst] at he; cases he)) <;> (try exact this)
    simp [hst]
  | checkTokenPass att =>
    rw [hst] at h
    obtain ⟨this, hk⟩ := doCheckTokenPass_keep c c' now att hst h
    refine ⟨?_, fun _ _ => .inl hk⟩
    constructor <;> (try (intros; rename_i he; rw [hst] at he; cases he)) <;> (try exact this)
    simp [hst]
  | awaitStatus a =>
    rw [hst] at h
    obtain ⟨h1, h2, h3, h4, hk⟩ := doAwaitStatusResponse_eff c c' now a hst h
    have this : StatusPost c c' now a := ⟨h1, h2, h3, h4⟩
    refine ⟨?_, fun _ _ => .inl hk⟩
    constructor <;> (try (intros; rename_i he; rw [hst] at he; cases he)) <;> (try exact this)
    simp [hst]

theorem dispatch_post (c c' : Ctx) (now : Int) (hon : c.s.online = true) (h : dispatch c now = .ok c') :
    DispatchPost c c' now :=
  (dispatch_post_keep c c' now hon h).1

@[local simp] theorem wake_p (s : Station) : s.wake.p = s.p := by rcases wake_cases s with h | ⟨h, -⟩ <;> rw [h]
@[local simp] theorem wake_ring (s : Station) : s.wake.ring = s.ring := by rcases wake_cases s with h | ⟨h, -⟩ <;> rw [h]
@[local simp] theorem wake_online (s : Station) : s.wake.online = s.online := by rcases wake_cases s with h | ⟨h, -⟩ <;> rw [h]
@[local simp] theorem wake_nextApp (s : Station) : s.wake.nextApp = s.nextApp := by rcases wake_cases s with h | ⟨h, -⟩ <;> rw [h]

theorem pollStart_inv (c c1 : Ctx) (h : pollStart c = .ok c1) : c1 = { c with s := c.s.wake } := by
  rw [pollStart_eq] at h
  split at h
  · cases h
  · cases h; rfl

theorem poll_split (s : Station) (apps : Apps) (now : Int) (phy : Bool) (rx : Bytes) (c' : Ctx)
    (h : s.poll apps now phy rx = .ok c') :
    (s.online = false ∧ s.st = .offline ∧ c' = { s := s, apps := apps, rx := rx }) ∨
    (s.online = true ∧ c' = { s := markBusActivity s.wake now, apps := apps, rx := rx }) ∨
    (s.online = true ∧ (checkBusActivity s.wake now rx.length).online = true ∧
      dispatch { s := checkBusActivity s.wake now rx.length, apps := apps, rx := rx } now = .ok c') := by
  unfold Station.poll at h
  rw [pollInner_eq] at h
  dsimp only at h
  cases hon : s.online with
  | false =>
    rw [hon, if_pos rfl] at h
    split at h
    · cases h; exact .inl ⟨rfl, ‹_›, rfl⟩
    · cases h
  | true =>
    rw [hon, if_neg (by simp)] at h
    split at h
    · cases h
    · split at h
      · cases h; exact .inr (.inl ⟨rfl, rfl⟩)
      · refine .inr (.inr ⟨rfl, ?_, h⟩)
        rw [checkBusActivity_eq]
        exact (wake_online s).trans hon

theorem poll_cases (s : Station) (apps : Apps) (now : Int) (phy : Bool) (rx : Bytes) (c' : Ctx)
    (h : s.poll apps now phy rx = .ok c') :
    (s.online = false ∧ s.st = .offline ∧ c' = { s := s, apps := apps, rx := rx }) ∨
    (s.online = true ∧ c' = { s := markBusActivity s.wake now, apps := apps, rx := rx }) ∨
    (s.online = true ∧
      DispatchPost { s := checkBusActivity s.wake now rx.length, apps := apps, rx := rx } c' now) := by
  rcases poll_split s apps now phy rx c' h with h1 | h1 | ⟨hon, hon1, hd⟩
  · exact .inl h1
  · exact .inr (.inl h1)
  · exact .inr (.inr ⟨hon, dispatch_post _ c' now hon1 hd⟩)


/-- The application callbacks of one poll, by start state: none at all unless the poll starts in
`UseToken` (only `transmit_telegram` calls) or in `AwaitDataResponse` (the admitted reply alone, or the
time-out followed by `transmit_telegram` calls of the continued token visit).  Whenever the poll ends
in `AwaitDataResponse`, either nothing was called and it was already waiting for the same request, or
the last callback is the request now awaited. -/
theorem poll_calls (s : Station) (apps : Apps) (now : Int) (phy : Bool) (rx : Bytes) (c' : Ctx)
    (h : s.poll apps now phy rx = .ok c') :
    (c'.calls = [] ∧ (∀ a d, c'.s.st = .awaitData a d → s.st = .awaitData a d ∧ c'.s.nextApp = s.nextApp)) ∨
    (s.online = true ∧ (∃ d fcd, s.st = .useToken d fcd) ∧ AskRun c'.calls ∧ AwaitLink c'.calls c'.s) ∨
    (s.online = true ∧ ∃ a d, s.st = .awaitData a d ∧
       ((∃ t, validReplyB s.p.address a t = true ∧ c'.calls = [.reply s.nextApp a t] ∧ c'.s.st = .useToken d true) ∨
        (∃ new, c'.calls = .timeout s.nextApp a :: new ∧ AskRun new ∧ AwaitLink new c'.s))) := by
  rcases poll_cases s apps now phy rx c' h with ⟨hoff, hst, rfl⟩ | ⟨hon, rfl⟩ | ⟨hon, hd⟩
  · exact .inl ⟨rfl, fun a d h => ⟨h, rfl⟩⟩
  · refine .inl ⟨rfl, fun a d h => ?_⟩
    rcases wake_cases s with hw | ⟨hw, -⟩
    · rw [hw] at h ⊢; exact ⟨by simpa using h, by simp⟩
    · rw [hw] at h; simp at h
  · -- quiet handlers: no callbacks, and they never end in AwaitDataResponse
    have quiet : ∀ {c0 : Ctx} {P : Nat → UseData → Prop}, c0.calls = [] → Quiet c0 c' → (∀ a d, c'.s.st ≠ .awaitData a d) →
        (c'.calls = [] ∧ (∀ a d, c'.s.st = .awaitData a d → P a d)) := by
      intro c0 P h0 hq hne
      exact ⟨by rw [hq.calls, h0], fun a d h => absurd h (hne a d)⟩
    rcases wake_cases s with hw | ⟨hw, -⟩
    · rw [hw] at hd
      cases hst : s.st with
      | offline => exact absurd (by simpa using hst) hd.awake.1
      | passiveIdle => exact absurd (by simpa using hst) hd.awake.2
      | listenToken sr coll =>
        obtain ⟨hq, -, hs⟩ := hd.listen sr coll (by simpa using hst)
        refine .inl (quiet rfl hq ?_)
        intro a d h
        rcases hs with ⟨-, _, _, h'⟩ | ⟨-, h'⟩ | ⟨-, h', -⟩ | ⟨-, h' | h'⟩ <;> rw [h'] at h <;> cases h
      | activeIdle sr np coll =>
        obtain ⟨hq, -, -, hs⟩ := hd.idle sr np coll (by simpa using hst)
        refine .inl (quiet rfl hq ?_)
        intro a d h
        rcases hs with ⟨_, _, _, h'⟩ | ⟨_, _, h'⟩ | (h' | h') | ⟨-, _, _, _, _, _, -, -, -, -, h'⟩ <;> rw [h'] at h <;> cases h
      | claimToken step =>
        obtain ⟨hq, -, -, hs⟩ := hd.claim step (by simpa using hst)
        refine .inl (quiet rfl hq ?_)
        intro a d h
        rcases hs with ⟨_, h'⟩ | h' | h' <;> rw [h'] at h <;> cases h
      | passToken g att =>
        obtain ⟨hq, -, hs⟩ := hd.pass g att (by simpa using hst)
        refine .inl (quiet rfl hq ?_)
        intro a d h
        rcases hs with ⟨h', -⟩ | ⟨-, ⟨_, h'⟩, -⟩ | ⟨-, h' | h', -⟩ <;> rw [h'] at h <;> cases h
      | checkTokenPass att =>
        obtain ⟨hq, -, hs⟩ := hd.check att (by simpa using hst)
        refine .inl (quiet rfl hq ?_)
        intro a d h
        rcases hs with ⟨-, _, _, -, ⟨h', -⟩ | ⟨-, h' | h', -⟩⟩ |
          ⟨-, _, _, _, -, ⟨-, h', -⟩ | ⟨-, -, -, ⟨_, _, _, h'⟩ | ⟨_, _, h'⟩ | ⟨_, _, _, -, -, -, -, h'⟩⟩⟩ <;> rw [h'] at h <;> cases h
      | awaitStatus a0 =>
        obtain ⟨hq, -, -, hs⟩ := hd.status a0 (by simpa using hst)
        refine .inl (quiet rfl hq ?_)
        intro a d h
        rcases hs with h' | h' | h' | h' | h' <;> rw [h'] at h <;> cases h
      | useToken d fcd =>
        obtain ⟨new, hc, har, -, -, -, htail⟩ := hd.use d fcd (by simpa using hst)
        have hc' : c'.calls = new := by simpa using hc
        refine .inr (.inl ⟨hon, ⟨d, fcd, rfl⟩, by rw [hc']; exact har, ?_⟩)
        rw [hc']
        exact htail.link
      | awaitData a d =>
        obtain ⟨-, -, -, hcase⟩ := hd.await a d (by simpa using hst)
        rcases hcase with ⟨hc, hs, hn, -⟩ | ⟨t, hv, hc, hs, -⟩ | ⟨hc, hs, -⟩ | ⟨new, hc, har, htail⟩
        · refine .inl ⟨by simpa using hc, fun a' d' h => ?_⟩
          rw [hs] at h; cases h
          exact ⟨rfl, by simpa using hn⟩
        · exact .inr (.inr ⟨hon, a, d, rfl, .inl ⟨t, by simpa using hv, by simpa using hc, hs⟩⟩)
        · refine .inl ⟨by simpa using hc, fun a' d' h => ?_⟩
          rw [hs] at h; cases h
        · exact .inr (.inr ⟨hon, a, d, rfl, .inr ⟨new, by simpa using hc, har, htail.link⟩⟩)
    · rw [hw] at hd
      obtain ⟨hq, -, hs⟩ := hd.listen none 0 (by simp)
      refine .inl (quiet rfl hq ?_)
      intro a d h
      rcases hs with ⟨-, _, _, h'⟩ | ⟨-, h'⟩ | ⟨-, h', -⟩ | ⟨-, h' | h'⟩ <;> rw [h'] at h <;> cases h


theorem poll_frame (s : Station) (apps : Apps) (now : Int) (phy : Bool) (rx : Bytes) (c' : Ctx)
    (h : s.poll apps now phy rx = .ok c') : c'.s.p = s.p ∧ c'.apps.length = apps.length := by
  rcases poll_cases s apps now phy rx c' h with ⟨hoff, hst, rfl⟩ | ⟨hon, rfl⟩ | ⟨hon, hd⟩
  · exact ⟨rfl, rfl⟩
  · exact ⟨by simp, rfl⟩
  · have quiet : ∀ {c0 : Ctx}, c0.s.p = s.p → c0.apps = apps → Quiet c0 c' → c'.s.p = s.p ∧ c'.apps.length = apps.length := by
      intro c0 e1 e2 hq
      exact ⟨hq.p.trans e1, by rw [hq.apps, e2]⟩
    rcases wake_cases s with hw | ⟨hw, -⟩
    · rw [hw] at hd
      cases hst : s.st with
      | offline => exact absurd (by simpa using hst) hd.awake.1
      | passiveIdle => exact absurd (by simpa using hst) hd.awake.2
      | listenToken sr coll => exact quiet (by simp) rfl (hd.listen sr coll (by simpa using hst)).1
      | activeIdle sr np coll => exact quiet (by simp) rfl (hd.idle sr np coll (by simpa using hst)).1
      | claimToken step => exact quiet (by simp) rfl (hd.claim step (by simpa using hst)).1
      | passToken g att => exact quiet (by simp) rfl (hd.pass g att (by simpa using hst)).1
      | checkTokenPass att => exact quiet (by simp) rfl (hd.check att (by simpa using hst)).1
      | awaitStatus a0 => exact quiet (by simp) rfl (hd.status a0 (by simpa using hst)).1
      | useToken d fcd =>
        obtain ⟨new, -, -, hp, -, hl, -⟩ := hd.use d fcd (by simpa using hst)
        exact ⟨by simpa using hp, by simpa using hl⟩
      | awaitData a d =>
        obtain ⟨hp, -, hl, -⟩ := hd.await a d (by simpa using hst)
        exact ⟨by simpa using hp, by simpa using hl⟩
    · rw [hw] at hd
      exact quiet (by simp) rfl (hd.listen none 0 (by simp)).1

/-- The slot time has expired at this poll: evaluated, as `do_check_token_pass` does, after
`check_for_bus_activity` has registered newly pending bytes. -/
def SlotExpired (s : Station) (now : Int) (rx : Bytes) : Prop :=
  (checkSlotExpired (checkBusActivity s now rx.length) now).2 = true

/-- An expired slot means silence: no new byte has become pending since the last poll, and the last
registered bus activity lies more than a slot time back. -/
theorem slotExpired_silent (s : Station) (now : Int) (rx : Bytes) (h : SlotExpired s now rx) :
    rx.length ≤ s.pendingBytes ∧ ∃ l, s.lastBusActivity = some l ∧ l + (s.p.slotTime : Nat) < now := by
  unfold SlotExpired checkSlotExpired at h
  by_cases hp : rx.length > s.pendingBytes
  · exfalso
    simp only [checkBusActivity, hp, if_true, markBusActivity, getOrInsertLast, decide_eq_true_eq] at h
    have : now ≤ max (s.lastBusActivity.getD now) now := Int.le_max_right _ _
    omega
  · refine ⟨by omega, ?_⟩
    simp only [checkBusActivity, hp, if_false] at h
    cases hl : s.lastBusActivity with
    | none => simp only [getOrInsertLast, hl, decide_eq_true_eq] at h; omega
    | some l =>
      simp only [getOrInsertLast, hl, decide_eq_true_eq] at h
      exact ⟨l, rfl, by omega⟩

/-- The ring view across one poll: it evolves without any `remove_station` (witnessed passes, GAP
successor, claim, reset) — except in a poll that starts in `CheckTokenPass` on the THIRD attempt with
the slot time expired, where exactly NS is removed (and then the pass to the new NS is witnessed). -/
theorem poll_ring (s : Station) (apps : Apps) (now : Int) (phy : Bool) (rx : Bytes) (c' : Ctx)
    (h : s.poll apps now phy rx = .ok c') :
    RingEvo s.p.address s.ring c'.s.ring ∨
    (s.online = true ∧ s.st = .checkTokenPass .third ∧ SlotExpired s now rx ∧
      ∃ r0, s.ring.removeStation s.ring.ns = some r0 ∧
        (c'.s.ring = r0 ∨ c'.s.ring = r0.witness s.p.address r0.ns)) := by
  rcases poll_cases s apps now phy rx c' h with ⟨hoff, hst, rfl⟩ | ⟨hon, rfl⟩ | ⟨hon, hd⟩
  · exact .inl (.refl _)
  · exact .inl (.of_eq (by simp))
  · rcases wake_cases s with hw | ⟨hw, -⟩
    · rw [hw] at hd
      cases hst : s.st with
      | offline => exact absurd (by simpa using hst) hd.awake.1
      | passiveIdle => exact absurd (by simpa using hst) hd.awake.2
      | listenToken sr coll => exact .inl (by simpa using (hd.listen sr coll (by simpa using hst)).2.1)
      | activeIdle sr np coll => exact .inl (by simpa using (hd.idle sr np coll (by simpa using hst)).2.2.1)
      | claimToken step => exact .inl (by simpa using (hd.claim step (by simpa using hst)).2.2.1)
      | passToken g att => exact .inl (by simpa using (hd.pass g att (by simpa using hst)).ringEvo)
      | awaitStatus a0 => exact .inl (by simpa using (hd.status a0 (by simpa using hst)).2.2.1)
      | useToken d fcd =>
        obtain ⟨new, -, -, -, -, -, htail⟩ := hd.use d fcd (by simpa using hst)
        exact .inl (by simpa using htail.ringEvo)
      | awaitData a d =>
        obtain ⟨-, -, -, hcase⟩ := hd.await a d (by simpa using hst)
        rcases hcase with ⟨-, -, -, hr⟩ | ⟨t, -, -, -, hr⟩ | ⟨-, -, hr⟩ | ⟨new, -, -, htail⟩
        · exact .inl (.of_eq (by simpa using hr))
        · exact .inl (.of_eq (by simpa using hr))
        · exact .inl (.of_eq (by simpa using hr))
        · exact .inl (by simpa using htail.ringEvo)
      | checkTokenPass att =>
        obtain ⟨-, -, hcase⟩ := hd.check att (by simpa using hst)
        rcases hcase with ⟨hex, r0, att', hrs, hpost⟩ | ⟨-, rx', calls, ret, -, hpost⟩
        · rcases hrs with ⟨-, -, hr0⟩ | ⟨-, -, hr0⟩ | ⟨hatt, -, hr0⟩
          · left
            simp only [checkBA_ring, checkBA_p] at hr0 hpost
            rcases hpost with ⟨-, hr, -⟩ | ⟨hr, -⟩
            · exact .of_eq (by rw [hr, hr0])
            · rw [hr, hr0]; exact .witness _ _ (.refl _)
          · left
            simp only [checkBA_ring, checkBA_p] at hr0 hpost
            rcases hpost with ⟨-, hr, -⟩ | ⟨hr, -⟩
            · exact .of_eq (by rw [hr, hr0])
            · rw [hr, hr0]; exact .witness _ _ (.refl _)
          · right
            simp only [checkBA_ring, checkBA_p] at hr0 hpost
            refine ⟨hon, by rw [hatt], hex, r0, hr0, ?_⟩
            rcases hpost with ⟨-, hr, -⟩ | ⟨hr, -⟩
            · exact .inl hr
            · exact .inr hr
        · left
          rcases hpost with ⟨-, -, hr, -⟩ | ⟨-, hev, -⟩
          · exact .of_eq (by simpa using hr)
          · simpa using hev.ringEvo
    · rw [hw] at hd
      exact .inl (by simpa using (hd.listen none 0 (by simp)).2.1)

namespace C05

/-- One API call together with the application callbacks it made.  (`World` is `C05.World` of `Props/C05.lean`; what is
added to it here and in `Lemmas/PassCount.lean` is declared in its namespace, so that `w.stepLog` resolves.) -/
def World.stepLog (w : World) : ApiCall → Option (World × List AppCall)
  | .poll now phyTx arrived =>
    match w.s.poll w.apps now phyTx (w.rx ++ arrived) with
    | .ok c => some ({ s := c.s, apps := c.apps, rx := c.rx }, c.calls)
    | .panic _ => none
  | .setOnline => some ({ w with s := w.s.setOnline }, [])
  | .setOffline => some ({ w with s := w.s.setOffline }, [])

/-- Run a call sequence and concatenate the callbacks of all calls (the application call log). -/
def World.runLog (w : World) : List ApiCall → Option (World × List AppCall)
  | [] => some (w, [])
  | a :: rest =>
    match w.stepLog a with
    | some (w', l1) =>
      match w'.runLog rest with
      | some (w'', l2) => some (w'', l1 ++ l2)
      | none => none
    | none => none

theorem stepLog_of_step {w w' : World} {a : ApiCall} (h : w.step a = some w') : ∃ l, w.stepLog a = some (w', l) := by
  cases a with
  | poll now phy arrived =>
    simp only [World.step] at h
    simp only [World.stepLog]
    split at h
    · rename_i c hc
      cases h
      exact ⟨c.calls, by rw [hc]⟩
    · cases h
  | setOnline => cases h; exact ⟨[], rfl⟩
  | setOffline => cases h; exact ⟨[], rfl⟩

theorem step_of_stepLog {w w' : World} {a : ApiCall} {l : List AppCall} (h : w.stepLog a = some (w', l)) : w.step a = some w' := by
  cases a with
  | poll now phy arrived =>
    simp only [World.stepLog] at h
    simp only [World.step]
    split at h
    · rename_i c hc
      cases h
      rw [hc]
    · cases h
  | setOnline => cases h; rfl
  | setOffline => cases h; rfl

theorem stepLog_poll {w w' : World} {now : Int} {phy : Bool} {arr : Bytes} {l : List AppCall}
    (h : w.stepLog (.poll now phy arr) = some (w', l)) :
    ∃ c, w.s.poll w.apps now phy (w.rx ++ arr) = .ok c ∧ w' = { s := c.s, apps := c.apps, rx := c.rx } ∧ l = c.calls := by
  simp only [World.stepLog] at h
  split at h
  · rename_i c hc
    cases h
    exact ⟨c, hc, rfl, rfl⟩
  · cases h

/-- Induction over a logged run: `I` relates the world reached to the log written so far, `G` is a guard
on the world and the calls still to come (`VisitRun`, `HoldRun`, or nothing); one lemma about a single
call lifts to every call sequence. -/
theorem runLog_lift (I : World → List AppCall → Prop) (G : World → List ApiCall → Prop)
    (step : ∀ w a rest w1 l log, G w (a :: rest) → I w log → w.stepLog a = some (w1, l) → I w1 (log ++ l) ∧ G w1 rest) :
    ∀ (calls : List ApiCall) (w w' : World) (log l : List AppCall), G w calls → I w log →
      w.runLog calls = some (w', l) → I w' (log ++ l) := by
  intro calls
  induction calls with
  | nil => intro w w' log l _ hi h; cases h; simpa using hi
  | cons a rest ih =>
    intro w w' log l hg hi h
    simp only [World.runLog] at h
    split at h
    · rename_i w1 l1 hs1
      split at h
      · rename_i w2 l2 hr2
        cases h
        obtain ⟨hi1, hg1⟩ := step w a rest w1 l1 log hg hi hs1
        simpa using ih w1 w' (log ++ l1) l2 hg1 hi1 hr2
      · cases h
    · cases h

theorem runLog_total : ∀ (calls : List ApiCall) (w : World), Inv w.s w.apps →
    ∃ w' log, w.runLog calls = some (w', log) ∧ Inv w'.s w'.apps := by
  intro calls
  induction calls with
  | nil => intro w hw; exact ⟨w, [], rfl, hw⟩
  | cons a rest ih =>
    intro w hw
    obtain ⟨w1, h1, hi1, -⟩ := inv_step w a hw
    obtain ⟨l1, hl1⟩ := stepLog_of_step h1
    obtain ⟨w2, l2, h2, hi2⟩ := ih w1 hi1
    exact ⟨w2, l1 ++ l2, by simp only [World.runLog, hl1, h2], hi2⟩

theorem reach_step (p : Params) (apps : Apps) (h1 : p.address < p.hsa) (h2 : p.hsa ≤ 126) (hs : ScriptsOk apps)
    (pre : List ApiCall) (a : ApiCall) :
    ∃ w w' l, World.run { s := Station.new p, apps := apps, rx := [] } pre = some w ∧ Inv w.s w.apps ∧
      w.stepLog a = some (w', l) := by
  obtain ⟨w, hw, hi⟩ := poll_never_panics p apps h1 h2 hs pre
  obtain ⟨w', hw', -, -⟩ := inv_step w a hi
  obtain ⟨l, hl⟩ := stepLog_of_step hw'
  exact ⟨w, w', l, hw, hi, hl⟩

end C05

end PV
