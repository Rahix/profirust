/-
Transmission discipline of the station model (C01), the vocabulary: steps of a poll that do not
transmit (`NoTx`), steps that moreover keep parameters and a known bus-activity stamp (`Keeps`), and what
holds of the one transmission a poll makes (`Sent`): it was preceded, in the same poll, by a successful
`wait_synchronization_pause` on the stamp the station held at the start, and it leaves the predicted end
of the transmission as the new stamp.
-/
import ProfiVerif.Lemmas.StationStepIdle

namespace PV
open StationGap

structure Keeps (c c1 : Ctx) : Prop where
  p : c1.s.p = c.s.p
  tx : c1.tx = c.tx
  last : ∀ l, c.s.lastBusActivity = some l → c1.s.lastBusActivity = some l

theorem Keeps.refl (c : Ctx) : Keeps c c := ⟨rfl, rfl, fun _ h => h⟩

theorem Keeps.trans {a b c : Ctx} (h1 : Keeps a b) (h2 : Keeps b c) : Keeps a c :=
  ⟨h2.p.trans h1.p, h2.tx.trans h1.tx, fun l h => h2.last l (h1.last l h)⟩

def NoTx (c : Ctx) (r : Res) : Prop := ∀ c', r = .ok c' → c'.tx = c.tx

theorem keeps_setSt (c : Ctx) (st' : FState) : Keeps c (upd c fun s => { s with st := st' }) :=
  ⟨rfl, upd_tx _ _, fun _ h => h⟩

/-- Filling in the lazily initialised stamp does not disturb a known one. -/
theorem keeps_stamped (c : Ctx) (now : Int) : Keeps c { c with s := stamped c.s now } :=
  ⟨rfl, rfl, fun l h => by rw [stamped_of_last h]; exact h⟩

theorem waitSync_keeps (s : Station) (now : Int) (l : Int) (h : s.lastBusActivity = some l) :
    (waitSyncPause s now).1.lastBusActivity = some l := by
  rw [sync_stamped, stamped_of_last h]; exact h

def StOnly (f : Station → Option Station) : Prop :=
  ∀ s s', f s = some s' → s'.p = s.p ∧ s'.lastBusActivity = s.lastBusActivity

theorem SetsSt.stOnly {f : Station → Option Station} {st' : FState} (hf : SetsSt f st') : StOnly f := by
  intro s s' h; rw [hf s s' h]; exact ⟨rfl, rfl⟩

theorem stOnly_toOffline : StOnly toOffline := setsSt_toOffline.stOnly

/-- The heart of C01: when `wait_synchronization_pause` lets the caller proceed, more than 33 bit
times have passed since the known stamp. -/
theorem sync_elapsed (s : Station) (now : Int) (hw : SyncOver s now) (l : Int)
    (hl : s.lastBusActivity = some l) : l + (s.p.bits 33 : Nat) < now := by
  have := (syncOver_iff s now).mp hw
  rw [hl] at this
  exact this

theorem fold_noTx (f : Ctx → Telegram → Bool → Res) (hf : ∀ c t l, NoTx c (f c t l))
    (calls : List (Telegram × Bool)) (c : Ctx) : NoTx c (foldTelegrams f c calls) :=
  fun c' h => foldTelegrams_post (fun x => x.tx = c.tx) (fun c0 t l c1 h0 h1 => (hf c0 t l c1 h1).trans h0) calls c c' rfl h

theorem listenTelegram_noTx (now : Int) (c : Ctx) (t : Telegram) (isLast : Bool) :
    NoTx c (listenTelegram now c t isLast) :=
  fun c' h => listenTelegramCore_tx (upd c fun s => markRx s now) c' t isLast h

/-- `handle_telegram` after `mark_rx`, as `do_active_idle` and `do_check_token_pass` fold it. -/
theorem idleTelegram_noTx (now : Int) (c : Ctx) (t : Telegram) (l : Bool) :
    NoTx c (handleTelegram (upd c fun s => markRx s now) now t l) := by
  intro c' h
  rw [handleTelegram_tx _ c' now t l h, upd_tx]

/-- The stamp equals the predicted end of the transmission of `b` started at `now`. -/
def MarkK (now : Int) (c' : Ctx) (b : Bytes) : Prop :=
  c'.s.lastBusActivity = some (now + (c'.s.p.bits (11 * b.length) : Nat))

theorem MarkK.of_length {now : Int} {c' : Ctx} {b : Bytes} {n : Nat} (hn : b.length = n)
    (h : c'.s.lastBusActivity = some (now + (c'.s.p.bits (11 * n) : Nat))) : MarkK now c' b := by
  unfold MarkK; rw [hn]; exact h

/-- `c'` is the result of a handler started in `c` that handed `b` to the PHY. -/
structure Sent (now : Int) (c c' : Ctx) (b : Bytes) : Prop where
  elapsed : ∀ l, c.s.lastBusActivity = some l → l + (c.s.p.bits 33 : Nat) < now
  mark : MarkK now c' b

/-- The pause check that precedes the transmission may have been made on a quiet continuation. -/
theorem Sent.of_keeps {now : Int} {c c1 c' : Ctx} {b : Bytes} (hk : Keeps c c1) (h : Sent now c1 c' b) : Sent now c c' b :=
  ⟨fun l hl => by have := h.elapsed l (hk.last l hl); rw [hk.p] at this; exact this, h.mark⟩

theorem not_sent {c c' : Ctx} {b : Bytes} (ht : c'.tx = c.tx) (h0 : c.tx = none) (hb : c'.tx = some b) : False := by
  rw [ht, h0] at hb; cases hb

end PV
