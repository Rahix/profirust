/-
One token visit (C13 `visit_bounded`; C12 uses the case lemmas): `lateCycles` counts the message cycles
started at or after the hold-time deadline, and the `first_cycle_done` flag is an invariant of one token
visit (`UseToken` / `AwaitDataResponse` polls between a token receipt and the token pass).  Each poll of
a visit does nothing on the bus, starts a message cycle, or ends the token hold (`HoldEnds`).
-/
import ProfiVerif.Lemmas.StationStepIdle

namespace PV
namespace StationVisit
open StationGap

/-- The `first_cycle_done` flag of the running visit; outside `UseToken` no further message cycle can
be started without passing through `UseToken … true` first, so it counts as set. -/
def flag : FState → Bool
  | .useToken _ fcd => fcd
  | _ => true

/-- The station holds the token for application traffic. -/
def inVisit : FState → Bool
  | .useToken .. | .awaitData .. => true
  | _ => false

/-- The hold-time deadline `do_use_token` compares `now` with in a poll that starts in state `s`:
`end_token_hold_time` after the bookkeeping for a new token receipt (`holdUpdate`). -/
def deadline (s : Station) : Int :=
  match s.st with
  | .useToken d _ => (holdUpdate s d).endTokenHoldTime
  | .awaitData _ d => (holdUpdate s d).endTokenHoldTime
  | _ => s.endTokenHoldTime

/-- An application answered `transmit_telegram` with a telegram: a message cycle starts. -/
def isSend : AppCall → Bool
  | .transmit _ _ (.send ..) => true
  | _ => false

def hasSend (l : List AppCall) : Bool := l.any isSend

theorem hasSend_append (l m : List AppCall) : hasSend (l ++ m) = (hasSend l || hasSend m) := by
  simp [hasSend]

theorem hasSend_snoc (l : List AppCall) (x : AppCall) (hx : isSend x = false) (h : hasSend l = false) :
    hasSend (l ++ [x]) = false := by
  rw [hasSend_append, h]
  simp [hasSend, hx]

theorem hasSend_declines (hp : Bool) (l : List Nat) : hasSend (declines hp l) = false := by
  simp [hasSend, declines, isSend]

/-- `do_pass_token` leads back into `UseToken` with a fresh flag only by handing the token to the
station itself — and then the token telegram was transmitted. -/
theorem doPassToken_fresh (c c' : Ctx) (now : Int) (h : doPassToken c now = .ok c')
    (hf : flag c'.s.st = false) : c'.tx ≠ none := by
  obtain ⟨g, att, hst⟩ := doPassToken_ok_st h
  have hs := doPassToken_step now hst
  rw [h] at hs
  cases hs with
  | wait => simp [hst, flag] at hf
  | poll => simp [flag] at hf
  | passGap => exact fun hc => nomatch hc
  | pass => exact fun hc => nomatch hc

theorem passNow_visit (c c' : Ctx) (now : Int) (h : passNow c now = .ok c') :
    c'.calls = c.calls ∧ (flag c'.s.st = false → c'.tx ≠ none) :=
  ⟨doPassToken_calls { c with s := { c.s with st := .passToken true .first } } now c' (passNow_ok h),
    doPassToken_fresh _ c' now (passNow_ok h)⟩

/-- The token hold ends in this poll: `passNow` runs, with nothing transmitted so far and no
application having sent (`p`: the station's parameters). -/
def HoldEnds (p : Params) (now : Int) (c' : Ctx) : Prop :=
  ∃ c1 : Ctx, c1.tx = none ∧ c1.s.p = p ∧ hasSend c1.calls = false ∧ passNow c1 now = .ok c'

theorem HoldEnds.visit {p : Params} {now : Int} {c' : Ctx} (he : HoldEnds p now c') :
    hasSend c'.calls = false ∧ (flag c'.s.st = false → c'.tx ≠ none) := by
  obtain ⟨c1, h1, -, h3, h4⟩ := he
  have := passNow_visit c1 c' now h4
  exact ⟨by rw [this.1]; exact h3, this.2⟩

theorem useTokenGo_cases (c c' : Ctx) (now : Int) (d : UseData) (hp : Bool) (htx : c.tx = none)
    (hns : hasSend c.calls = false) (h : useTokenGo c now d hp = .ok c') :
    (hasSend c'.calls = true ∧ inVisit c'.s.st = true ∧ flag c'.s.st = true) ∨ HoldEnds c.s.p now c' := by
  have hs := useTokenGo_step c now d hp
  rw [h] at hs
  cases hs with
  | cycle hl =>
    obtain ⟨hd, pdu, bytes, hc, -, -, -, he⟩ := hl.cycle rfl
    refine .inl ⟨by rw [hc, hasSend_append]; simp [hasSend, isSend], ?_, ?_⟩
    all_goals rw [he]; unfold sendState; cases expectsReplyOf hd <;> simp [markTx, inVisit, flag]
  | pass hl hp' =>
    obtain ⟨hc, ht, he, -⟩ := hl.still rfl
    exact .inr ⟨_, ht.trans htx, by rw [he], by rw [hc, hasSend_append, hasSend_declines]; simpa using hns, hp'⟩

theorem doUseToken_cases (c c' : Ctx) (now : Int) (d : UseData) (fcd : Bool)
    (hst : c.s.st = .useToken d fcd) (htx : c.tx = none) (hns : hasSend c.calls = false)
    (h : doUseToken c now = .ok c') :
    (c'.tx = none ∧ hasSend c'.calls = false ∧ flag c'.s.st = fcd) ∨
    (hasSend c'.calls = true ∧ inVisit c'.s.st = true ∧ flag c'.s.st = true ∧ ¬ (deadline c.s ≤ now ∧ fcd = true)) ∨
    HoldEnds c.s.p now c' := by
  have hdl : deadline c.s = holdEnd c.s d := by simp [deadline, hst, holdEnd]
  have hs := doUseToken_step now hst
  rw [h] at hs
  cases hs with
  | wait => exact .inl ⟨htx, hns, by simp [held, hst, flag]⟩
  | go _ hlate hgo =>
    rcases useTokenGo_cases (held c now d) c' now d _ htx hns hgo with h1 | h1
    · refine .inr (.inl ⟨h1.1, h1.2.1, h1.2.2, fun hh => ?_⟩)
      rw [hdl] at hh
      rcases hlate with hlt | hf
      · omega
      · rw [hf] at hh; cases hh.2
    · exact .inr (.inr h1)
  | pass _ _ _ hp' => exact .inr (.inr ⟨held c now d, htx, rfl, hns, hp'⟩)

theorem doAwaitData_cases (c c' : Ctx) (now : Int) (addr : Nat) (d : UseData)
    (hst : c.s.st = .awaitData addr d) (htx : c.tx = none) (hns : hasSend c.calls = false)
    (h : doAwaitDataResponse c now = .ok c') :
    (c'.tx = none ∧ hasSend c'.calls = false ∧ flag c'.s.st = true) ∨
    (hasSend c'.calls = true ∧ inVisit c'.s.st = true ∧ flag c'.s.st = true ∧ ¬ deadline c.s ≤ now) ∨
    HoldEnds c.s.p now c' := by
  have hs := doAwaitDataResponse_step now hst
  rw [h] at hs
  cases hs with
  | waits => exact .inl ⟨htx, hns, by simp [hst, flag]⟩
  | reply => exact .inl ⟨htx, hasSend_snoc _ _ rfl hns, by simp [flag]⟩
  | backOff => exact .inl ⟨htx, hns, by simp [flag]⟩
  | @timeout rx' ret _ _ _ _ hu =>
    -- time-out: back to `UseToken` (flag set) and on with `do_use_token` in the same poll, with the same deadline
    have hdl : deadline ({ (stamped c.s now) with st := .useToken d true } : Station) = deadline c.s := by
      simp only [deadline, hst]
      exact hold_end_congr _ c.s d rfl rfl rfl rfl
    rcases doUseToken_cases
        { c with rx := rx', s := { (stamped c.s now) with st := .useToken d true },
                 calls := c.calls ++ [.timeout c.s.nextApp addr] }
        c' now d true rfl htx (hasSend_snoc _ _ rfl hns) hu with h1 | ⟨h1, h2, h3, h4⟩ | he
    · exact .inl h1
    · exact .inr (.inl ⟨h1, h2, h3, fun hle => h4 ⟨by rw [hdl]; exact hle, rfl⟩⟩)
    · exact .inr (.inr he)

theorem deadline_congr (s s' : Station) (h0 : s'.st = s.st) (h1 : s'.lastTokenTime = s.lastTokenTime)
    (h2 : s'.endTokenHoldTime = s.endTokenHoldTime) (h3 : s'.p = s.p) (h4 : s'.gap = s.gap) :
    deadline s' = deadline s := by
  unfold deadline
  rw [h0]
  split
  · exact hold_end_congr s' s _ h1 h3 h4 h2
  · exact hold_end_congr s' s _ h1 h3 h4 h2
  · exact h2

/-- What a poll of a visit does: nothing on the bus and no message cycle (a set flag stays set); a
message cycle of an application, which sets the flag and is not a cycle at or after the deadline with
the flag already set; or the end of the token hold (`passNow`: GAP maintenance and/or the token pass,
in the same poll). -/
theorem poll_visit_cases (s : Station) (apps : Apps) (now : Int) (phyTx : Bool) (rx : Bytes) (c' : Ctx)
    (hin : inVisit s.st = true) (h : s.poll apps now phyTx rx = .ok c') :
    (c'.tx = none ∧ hasSend c'.calls = false ∧ (flag s.st = true → flag c'.s.st = true)) ∨
    (hasSend c'.calls = true ∧ inVisit c'.s.st = true ∧ flag c'.s.st = true ∧
      ¬ (deadline s ≤ now ∧ flag s.st = true)) ∨
    HoldEnds s.p now c' := by
  have h1 : s.st ≠ .offline := by intro hh; rw [hh] at hin; simp [inVisit] at hin
  have h2 : s.st ≠ .passiveIdle := by intro hh; rw [hh] at hin; simp [inVisit] at hin
  rcases poll_cases s apps now phyTx rx c' h1 h2 h with rfl | hd
  · exact Or.inl ⟨rfl, rfl, fun hf => by simpa [markBusActivity] using hf⟩
  · rw [checkBusActivity_eq] at hd
    generalize hs1 : ({ s with lastBusActivity := _, pendingBytes := _ } : Station) = s1 at hd
    have hdl : deadline s1 = deadline s := by rw [← hs1]; exact deadline_congr s _ rfl rfl rfl rfl rfl
    have hp1 : s1.p = s.p := by rw [← hs1]
    cases hst : s.st with
    | useToken d fcd =>
      have hst1 : s1.st = .useToken d fcd := by rw [← hs1]; exact hst
      rw [dispatch_useToken now hst1] at hd
      rcases doUseToken_cases { s := s1, apps := apps, rx := rx } c' now d fcd hst1 rfl rfl hd with
        ⟨h1, h2, h3⟩ | ⟨h1, h2, h3, h4⟩ | he
      · exact Or.inl ⟨h1, h2, fun hf => by rw [h3]; simpa [flag] using hf⟩
      · exact Or.inr (Or.inl ⟨h1, h2, h3, fun hh => h4 ⟨by rw [hdl]; exact hh.1, by simpa [flag] using hh.2⟩⟩)
      · exact Or.inr (Or.inr (by rw [← hp1]; exact he))
    | awaitData a d =>
      have hst1 : s1.st = .awaitData a d := by rw [← hs1]; exact hst
      rw [dispatch_awaitData now hst1] at hd
      rcases doAwaitData_cases { s := s1, apps := apps, rx := rx } c' now a d hst1 rfl rfl hd with
        ⟨h1, h2, h3⟩ | ⟨h1, h2, h3, h4⟩ | he
      · exact Or.inl ⟨h1, h2, fun _ => h3⟩
      · exact Or.inr (Or.inl ⟨h1, h2, h3, fun hh => h4 (by rw [hdl]; exact hh.1)⟩)
      · exact Or.inr (Or.inr (by rw [← hp1]; exact he))
    | _ => rw [hst] at hin; simp [inVisit] at hin

/-- **One poll of a visit** (`Station.poll` in `UseToken` / `AwaitDataResponse`): a poll that starts
a message cycle sets the `first_cycle_done` flag, keeps the station in the visit, and is not a poll
at or after the deadline with the flag already set; and once set, the flag is fresh again only after
a poll that handed the token on (to the station itself). -/
theorem poll_visit (s : Station) (apps : Apps) (now : Int) (phyTx : Bool) (rx : Bytes) (c' : Ctx)
    (hin : inVisit s.st = true) (h : s.poll apps now phyTx rx = .ok c') :
    (hasSend c'.calls = true →
      flag c'.s.st = true ∧ inVisit c'.s.st = true ∧ ¬ (deadline s ≤ now ∧ flag s.st = true)) ∧
    (flag s.st = true → flag c'.s.st = false → c'.tx ≠ none) := by
  rcases poll_visit_cases s apps now phyTx rx c' hin h with ⟨_, h2, h3⟩ | ⟨h1, h2, h3, h4⟩ | he
  · exact ⟨fun hs => (by rw [h2] at hs; cases hs), fun hf hff => (by rw [h3 hf] at hff; cases hff)⟩
  · exact ⟨fun _ => ⟨h3, h2, h4⟩, fun _ hff => (by rw [h3] at hff; cases hff)⟩
  · obtain ⟨hs0, hfr⟩ := he.visit
    exact ⟨fun hs => (by rw [hs0] at hs; cases hs), fun _ => hfr⟩

/-- Number of message cycles started at or after the hold-time deadline during the polls of ONE token
visit: `ins` lists the successive `poll` calls (time, PHY-still-transmitting flag, receive buffer).
A poll starts a message cycle iff an application's `transmit_telegram` returns a telegram in it
(`hasSend`).  Counting ends with the poll in which the visit ends: the station leaves `UseToken` /
`AwaitDataResponse`, or — alone in the ring — hands the token to itself (then it is in `UseToken`
again with a fresh flag, and the telegram of that poll was the token).  `none` = a poll panicked. -/
def lateCycles (s : Station) (apps : Apps) : List (Int × Bool × Bytes) → Option Nat
  | [] => some 0
  | (now, phyTx, rx) :: rest =>
    if inVisit s.st = false then some 0 else
    match s.poll apps now phyTx rx with
    | .panic _ => none
    | .ok c' =>
      let k := if deadline s ≤ now ∧ hasSend c'.calls = true then 1 else 0
      if inVisit c'.s.st = false ∨ (flag c'.s.st = false ∧ c'.tx ≠ none) then some k
      else (lateCycles c'.s c'.apps rest).map (· + k)

/-- At most one message cycle is started at or after the deadline of a visit, and none once the
`first_cycle_done` flag is set: a late cycle needs a fresh flag and sets it. -/
theorem lateCycles_flag : ∀ (ins : List (Int × Bool × Bytes)) (s : Station) (apps : Apps) (n : Nat),
    lateCycles s apps ins = some n → n + (flag s.st).toNat ≤ 1 := by
  intro ins
  induction ins with
  | nil =>
    intro s apps n h
    simp only [lateCycles, Option.some.injEq] at h
    subst h
    cases flag s.st <;> simp
  | cons x rest ih =>
    intro s apps n h
    obtain ⟨now, phyTx, rx⟩ := x
    simp only [lateCycles] at h
    split at h
    · simp only [Option.some.injEq] at h
      subst h
      cases flag s.st <;> simp
    · rename_i hin
      have hin' : inVisit s.st = true := by simpa using hin
      cases hp : s.poll apps now phyTx rx with
      | panic m => rw [hp] at h; cases h
      | ok c' =>
        rw [hp] at h
        simp only at h
        have hv := poll_visit s apps now phyTx rx c' hin' hp
        -- this poll counts only with the flag unset (`poll_visit`), and then sets it: the rest of the visit counts nothing
        have hk : (if deadline s ≤ now ∧ hasSend c'.calls = true then 1 else 0) + (flag s.st).toNat ≤ 1 := by
          split
          · rename_i hlate
            have := (hv.1 hlate.2).2.2
            cases hfs : flag s.st with
            | false => simp
            | true => exact absurd ⟨hlate.1, hfs⟩ this
          · cases flag s.st <;> simp
        split at h
        · simp only [Option.some.injEq] at h
          subst h
          exact hk
        · rename_i hcont
          simp only [Option.map_eq_some_iff] at h
          obtain ⟨m, hm, rfl⟩ := h
          have hrec := ih c'.s c'.apps m hm
          split
          · rename_i hlate
            have hfc := (hv.1 hlate.2).1
            have hfs : flag s.st = false := by
              cases hfs : flag s.st with
              | false => rfl
              | true => exact absurd ⟨hlate.1, hfs⟩ (hv.1 hlate.2).2.2
            rw [hfc] at hrec
            rw [hfs]
            simp at hrec ⊢
            omega
          · cases hfs : flag s.st with
            | false => simp; cases hfc : flag c'.s.st <;> simp [hfc] at hrec <;> omega
            | true =>
              have hfc : flag c'.s.st = true := by
                cases hfc : flag c'.s.st with
                | true => rfl
                | false => exact absurd (Or.inr ⟨hfc, hv.2 hfs hfc⟩) hcont
              rw [hfc] at hrec
              simp at hrec ⊢
              omega

end StationVisit
end PV
