/-
Who may transmit what, when, and with which stamp (C01).  For every handler, the telegram a poll hands to the PHY is
of the kind the FDL state allows (`Allowed`), was preceded by the synchronisation pause and leaves its predicted end
as stamp (`Sent`).  Each handler's fact is read off its step relation constructor by constructor (`*.sent`): a
constructor either leaves the transmit slot alone (`not_sent`) or shows the telegram, the pause guard and the
`mark_tx` stamp in its result term; where a handler goes on with another one in the same poll, the other's `*.sent`
is applied to the value premise; handlers that are instances of one relation share the walk: `AwaitStep.sent`, and
for `IdlingStep` the walk is `sent_eq`, which gives the telegram itself; `IdlingStep.sent` reads it in the kinds of
`Allowed`.
-/
import ProfiVerif.Lemmas.StationTx

namespace PV
open StationGap

/-- A token telegram with the own address as source. -/
def IsOwnToken (ts : Nat) (b : Bytes) : Prop := ∃ da : UInt8, b = sendToken da (UInt8.ofNat ts)
/-- An FDL status request (GAP poll) with the own address as source. -/
def IsGapPoll (ts : Nat) (b : Bytes) : Prop :=
  ∃ a : Nat, a ≠ ts ∧ (fdlStatusRequestHeader (UInt8.ofNat a) (UInt8.ofNat ts)).serialize [] = .ok b
/-- An FDL status response from the own address to `src`. -/
def IsStatusReply (ts src : Nat) (b : Bytes) : Prop :=
  ∃ st, (fdlStatusResponseHeader (UInt8.ofNat src) (UInt8.ofNat ts) st .ok).serialize [] = .ok b
/-- The telegram an application handed over in a `transmit_telegram` call recorded in `calls`. -/
def IsAppTelegram (calls : List AppCall) (b : Bytes) : Prop :=
  ∃ i hp h pdu, AppCall.transmit i hp (.send h pdu) ∈ calls ∧ h.serialize pdu = .ok b

theorem PassTokenStep.sent {c c' : Ctx} {now : Int} {att : Attempt} {g : Bool} {b : Bytes}
    (h : PassTokenStep c now att g (.ok c')) (h0 : c.tx = none) (hb : c'.tx = some b) :
    Sent now c c' b ∧ (IsOwnToken c.s.p.address b ∨ (g = true ∧ IsGapPoll c.s.p.address b)) := by
  cases h with
  | wait _ => exact (not_sent rfl h0 hb).elim
  | poll hw _ hne _ =>
    cases hb
    exact ⟨⟨sync_elapsed c.s now hw, .of_length (statusRequestBytes_length _ _) rfl⟩,
      .inr ⟨rfl, _, hne, statusRequest_serialize _ _⟩⟩
  | passGap hw _ _ => cases hb; exact ⟨⟨sync_elapsed c.s now hw, rfl⟩, .inl ⟨_, rfl⟩⟩
  | pass hw _ => cases hb; exact ⟨⟨sync_elapsed c.s now hw, rfl⟩, .inl ⟨_, rfl⟩⟩

/-- `do_pass_token` without GAP maintenance, run in the same poll after quiet steps (a retry, the end of
the wait for a GAP reply): only the own token can go out. -/
theorem passAgain_sent {c c1 c' : Ctx} {now : Int} {att : Attempt} {b : Bytes} (hp : doPassToken c1 now = .ok c')
    (hst : c1.s.st = .passToken false att) (hk : Keeps c c1) (h0 : c.tx = none) (hb : c'.tx = some b) :
    Sent now c c' b ∧ IsOwnToken c.s.p.address b := by
  obtain ⟨hs, ho⟩ := (hp ▸ doPassToken_step now hst).sent (hk.tx.trans h0) hb
  rw [hk.p] at ho
  exact ⟨hs.of_keeps hk, ho.resolve_right fun hg => Bool.noConfusion hg.1⟩

theorem passNow_sent {c c' : Ctx} {now : Int} {d : UseData} {fcd : Bool} {b : Bytes} (hst : c.s.st = .useToken d fcd)
    (h : passNow c now = .ok c') (h0 : c.tx = none) (hb : c'.tx = some b) :
    Sent now c c' b ∧ (IsOwnToken c.s.p.address b ∨ IsGapPoll c.s.p.address b) := by
  rw [passNow_eq now hst] at h
  obtain ⟨hs, hk⟩ := (h ▸ doPassToken_step now rfl).sent h0 hb
  exact ⟨⟨hs.elapsed, hs.mark⟩, hk.imp id And.right⟩

/-- The token a claiming station sends to itself (`StationGap.tokenBytes ts ts`). -/
def selfToken (ts : Nat) : Bytes := sendToken (UInt8.ofNat ts) (UInt8.ofNat ts)

/-- A known stamp is kept only when `await_gap_poll_response` waits on or reports `NoResponse` (nothing received): the
other outcomes follow `mark_rx`. -/
theorem AwaitGapStep.keeps {c c1 : Ctx} {now : Int} {addr : Nat} {g : GapPollResponse}
    (h : AwaitGapStep c now addr (.ok c1, g)) :
    c1.tx = c.tx ∧ c1.s.p = c.s.p ∧
    ((g = .noResponse ∨ g = .waitingForBus) → ∀ l, c.s.lastBusActivity = some l → c1.s.lastBusActivity = some l) := by
  cases h with
  | waits _ _ _ => exact ⟨rfl, rfl, fun _ => (keeps_stamped c now).last⟩
  | timeout _ _ _ => exact ⟨rfl, rfl, fun _ => (keeps_stamped c now).last⟩
  | unexpected _ _ _ => exact ⟨rfl, rfl, fun hg => hg.elim nofun nofun⟩
  | other _ _ _ _ => exact ⟨rfl, rfl, fun hg => hg.elim nofun nofun⟩
  | admits _ _ _ _ _ => exact ⟨rfl, rfl, fun hg => hg.elim nofun nofun⟩

/-- Only the handler that goes on after `NoResponse`, in the same poll, can have transmitted: it starts from the transmit
slot, the parameters and the known stamp the poll started with. -/
theorem AwaitStep.sent {c c' : Ctx} {now : Int} {addr : Nat} {st : FState} {next : Ctx → Res} {b : Bytes}
    (h : AwaitStep c now addr st next (.ok c')) (h0 : c.tx = none) (hb : c'.tx = some b) :
    ∃ c1, Keeps c c1 ∧ c1.s.st = st ∧ next c1 = .ok c' := by
  cases h with
  | waits hq => exact (not_sent hq.keeps.1 h0 hb).elim
  | responded hq => exact (not_sent hq.keeps.1 h0 hb).elim
  | unexpected hq => exact (not_sent hq.keeps.1 h0 hb).elim
  | timeout hq hv =>
    obtain ⟨htx, hp, hl⟩ := hq.keeps
    exact ⟨_, (Keeps.mk hp htx (hl (.inl rfl))).trans (keeps_setSt _ _), rfl, hv⟩

theorem ClaimTokStep.sent {c c' : Ctx} {now : Int} {step : ClaimStep} {b : Bytes} (h : ClaimTokStep c now step (.ok c'))
    (h0 : c.tx = none) (hb : c'.tx = some b) : Sent now c c' b ∧ b = selfToken c.s.p.address := by
  cases h with
  | wait _ => exact (not_sent rfl h0 hb).elim
  | claim hw _ => cases hb; exact ⟨⟨sync_elapsed c.s now hw, rfl⟩, rfl⟩

theorem ScanStep.sent {c c' : Ctx} {now : Int} {b : Bytes} (h : ScanStep c now (.ok c'))
    (h0 : c.tx = none) (hb : c'.tx = some b) : Sent now c c' b ∧ IsGapPoll c.s.p.address b := by
  cases h with
  | wait _ => exact (not_sent rfl h0 hb).elim
  | done _ _ => exact (not_sent rfl h0 hb).elim
  | sweepEnds _ _ _ => exact (not_sent rfl h0 hb).elim
  | poll hw _ _ hne _ =>
    cases hb
    exact ⟨⟨sync_elapsed c.s now hw, .of_length (statusRequestBytes_length _ _) rfl⟩,
      _, hne, statusRequest_serialize _ _⟩

theorem ScanAwaitStep.sent {c c' : Ctx} {now : Int} {fuel addr : Nat} {b : Bytes}
    (h : ScanAwaitStep c now fuel addr (.ok c')) (h0 : c.tx = none) (hb : c'.tx = some b) :
    Sent now c c' b ∧ IsGapPoll c.s.p.address b := by
  -- slot time over: the next scan step runs in the same poll, on the stamp it started with
  obtain ⟨c1, hk, hst, hr⟩ := AwaitStep.sent h h0 hb
  cases fuel with
  | zero => cases hr
  | succ f =>
    have hsc := doClaimToken_scan_step now f hst
    rw [hr] at hsc
    obtain ⟨hs, hg⟩ := hsc.sent (hk.tx.trans h0) hb
    rw [hk.p] at hg
    exact ⟨hs.of_keeps hk, hg⟩

theorem ClaimTokenStep.sent {c c' : Ctx} {now : Int} {fuel : Nat} {step : ClaimStep} {b : Bytes}
    (h : ClaimTokenStep c now fuel step (.ok c')) (h0 : c.tx = none) (hb : c'.tx = some b) :
    Sent now c c' b ∧ (b = selfToken c.s.p.address ∨ IsGapPoll c.s.p.address b) := by
  cases h with
  | tok _ hs => exact ⟨(hs.sent h0 hb).1, .inl (hs.sent h0 hb).2⟩
  | scan hs => exact ⟨(hs.sent h0 hb).1, .inr (hs.sent h0 hb).2⟩
  | await hs => exact ⟨(hs.sent h0 hb).1, .inr (hs.sent h0 hb).2⟩

/-- The silence the station has measured at `now` reaches its time-out (by definition
`StationGap.TokenLost`). -/
def SilenceExpired (s : Station) (now : Int) : Prop :=
  (now - s.lastBusActivity.getD now).natAbs ≥ s.p.tokenLostTimeout

theorem lostClaim_sent {c c' : Ctx} {now : Int} {b : Bytes}
    (hr : doClaimToken { c with s := { (stamped c.s now) with st := .claimToken .firstToken } } now 2 = .ok c')
    (h0 : c.tx = none) (hb : c'.tx = some b) : Sent now c c' b ∧ b = selfToken c.s.p.address := by
  obtain ⟨hs, hk⟩ := (hr ▸ doClaimToken_tok_step now 1 (.inl rfl) rfl).sent h0 hb
  exact ⟨hs.of_keeps ((keeps_stamped c now).trans (keeps_setSt _ _)), hk⟩

/-- The per-telegram callbacks do not transmit (`htel`): a telegram is the claiming token after the time-out or, after
the pause, the reply `report src` to the remembered requester. -/
theorem IdlingStep.sent_eq {c c' : Ctx} {now : Int} {report : Nat → ResponseState} {st : FState}
    {tel : Ctx → Telegram → Bool → Res} {sr : Option Nat} {b : Bytes} (h : IdlingStep c now report st tel sr (.ok c'))
    (htel : ∀ c t l, NoTx c (tel c t l)) (h0 : c.tx = none) (hb : c'.tx = some b) :
    Sent now c c' b ∧ ((TokenLost c.s now ∧ b = tokenBytes c.s.p.address c.s.p.address) ∨
      (¬ TokenLost c.s now ∧ SyncOver c.s now ∧
        ∃ src, sr = some src ∧ b = statusResponseBytes src c.s.p.address (report src))) := by
  cases h with
  | lost hl hr => exact ⟨(lostClaim_sent hr h0 hb).1, .inl ⟨hl, (lostClaim_sent hr h0 hb).2⟩⟩
  | wait _ _ => exact (not_sent rfl h0 hb).elim
  | @reply src hl hw _ =>
    cases hb
    exact ⟨⟨sync_elapsed c.s now hw, .of_length (statusResponseBytes_length _ _ _) rfl⟩, .inr ⟨hl, hw, src, rfl, rfl⟩⟩
  | recv _ _ hf => exact (not_sent (fold_noTx _ htel _ _ c' hf) h0 hb).elim

/-- `sent_eq` in the kinds of telegram `Allowed` speaks of, the form the other relations' `sent` have
(`SilenceExpired` is `TokenLost` and `selfToken ts` is `tokenBytes ts ts`, both by definition). -/
theorem IdlingStep.sent {c c' : Ctx} {now : Int} {report : Nat → ResponseState} {st : FState}
    {tel : Ctx → Telegram → Bool → Res} {sr : Option Nat} {b : Bytes} (h : IdlingStep c now report st tel sr (.ok c'))
    (htel : ∀ c t l, NoTx c (tel c t l)) (h0 : c.tx = none) (hb : c'.tx = some b) :
    Sent now c c' b ∧ ((SilenceExpired c.s now ∧ b = selfToken c.s.p.address) ∨
      (∃ src, sr = some src ∧ IsStatusReply c.s.p.address src b)) := by
  obtain ⟨hs, hk⟩ := h.sent_eq htel h0 hb
  refine ⟨hs, hk.imp id ?_⟩
  rintro ⟨-, -, src, rfl, rfl⟩
  exact ⟨src, rfl, _, statusResponse_serialize _ _ _⟩

theorem AppLoop.p {now : Int} {hp : Bool} {k : Nat} {c : Ctx} {d : UseData} {fcd : Bool} {m : Nat} {b : Bool}
    {c1 : Ctx} (h : AppLoop now hp k c d fcd m b c1) : c1.s.p = c.s.p := by
  obtain ⟨st1, lba, e⟩ := h.frame
  rw [e]

/-- What a token holder may send at the end of / during its token hold. -/
def HolderKind (ts : Nat) (calls : List AppCall) (b : Bytes) : Prop :=
  IsAppTelegram calls b ∨ IsOwnToken ts b ∨ IsGapPoll ts b

/-- The pause was checked by the surrounding `do_use_token`: hence `MarkK` and not `Sent`. -/
theorem UseGoStep.sent {c c' : Ctx} {now : Int} {d : UseData} {hp : Bool} {b : Bytes} (h : UseGoStep c now d hp (.ok c'))
    (h0 : c.tx = none) (hb : c'.tx = some b) : MarkK now c' b ∧ HolderKind c.s.p.address c'.calls b := by
  cases h with
  | cycle hm =>
    obtain ⟨hd, pdu, bytes, hcalls, hser, -, htx, hs⟩ := hm.cycle rfl
    obtain rfl : bytes = b := Option.some.inj (htx.symm.trans hb)
    refine ⟨by unfold MarkK; rw [hs]; rfl, .inl ⟨c'.s.nextApp, hp, hd, pdu, ?_, hser⟩⟩
    rw [hcalls]
    exact List.mem_append_right _ (List.mem_singleton_self _)
  | pass hm hr =>
    obtain ⟨-, htx, hst1, -⟩ := hm.quiet rfl
    obtain ⟨hs, hK⟩ := passNow_sent hst1 hr (htx.trans h0) hb
    rw [hm.p] at hK
    exact ⟨hs.mark, .inr hK⟩

theorem UseStep.sent {c c' : Ctx} {now : Int} {d : UseData} {fcd : Bool} {b : Bytes} (h : UseStep c now d fcd (.ok c'))
    (hst : c.s.st = .useToken d fcd) (h0 : c.tx = none) (hb : c'.tx = some b) :
    Sent now c c' b ∧ HolderKind c.s.p.address c'.calls b := by
  cases h with
  | wait _ => exact (not_sent rfl h0 hb).elim
  | go hw _ hr =>
    have hg := useTokenGo_step (held c now d) now d (!decide (now < holdEnd c.s d))
    rw [hr] at hg
    exact ⟨⟨sync_elapsed c.s now hw, (hg.sent h0 hb).1⟩, (hg.sent h0 hb).2⟩
  | pass hw _ _ hr =>
    obtain ⟨hs, hK⟩ := passNow_sent (c := held c now d) hst hr h0 hb
    exact ⟨⟨sync_elapsed c.s now hw, hs.mark⟩, .inr hK⟩

theorem AwaitDataStep.sent {c c' : Ctx} {now : Int} {a : Nat} {d : UseData} {b : Bytes}
    (h : AwaitDataStep c now a d (.ok c')) (h0 : c.tx = none) (hb : c'.tx = some b) :
    Sent now c c' b ∧ HolderKind c.s.p.address c'.calls b := by
  cases h with
  | waits _ _ _ => exact (not_sent rfl h0 hb).elim
  | reply _ _ _ => exact (not_sent rfl h0 hb).elim
  | backOff _ _ _ => exact (not_sent rfl h0 hb).elim
  | timeout _ _ _ hr =>
    -- back to `UseToken` after the time-out, and on with `do_use_token` in the same poll, on the stamp the
    -- poll started with
    obtain ⟨hs, hK⟩ := (hr ▸ doUseToken_step now rfl).sent rfl h0 hb
    exact ⟨⟨fun l hl => hs.elapsed l ((keeps_stamped c now).last l hl), hs.mark⟩, hK⟩

theorem StatusStep.sent {c c' : Ctx} {now : Int} {addr : Nat} {b : Bytes} (h : StatusStep c now addr (.ok c'))
    (h0 : c.tx = none) (hb : c'.tx = some b) : Sent now c c' b ∧ IsOwnToken c.s.p.address b := by
  -- slot time over: the token goes on in the same poll, on the stamp the poll started with
  obtain ⟨c1, hk, hst, hp⟩ := AwaitStep.sent h h0 hb
  exact passAgain_sent hp hst hk h0 hb

theorem CheckStep.sent {c c' : Ctx} {now : Int} {att : Attempt} {b : Bytes} (h : CheckStep c now att (.ok c'))
    (h0 : c.tx = none) (hb : c'.tx = some b) : Sent now c c' b ∧ IsOwnToken c.s.p.address b := by
  cases h with
  | retry _ _ hp => exact passAgain_sent hp rfl ⟨rfl, rfl, (keeps_stamped c now).last⟩ h0 hb
  | quiet _ _ => exact (not_sent rfl h0 hb).elim
  | heard _ _ hf =>
    -- the pass is supervised: whatever is heard is handled as in `ActiveIdle`, without transmitting
    exact (not_sent (fold_noTx _ (idleTelegram_noTx now) _ _ c' hf) h0 hb).elim

/-- What a poll may hand to the PHY, by the FDL state at the start of the poll.  (`Offline`: the poll first
moves to `ListenToken` without a registered request, so only the claim after the time-out can go out.) -/
def Allowed (s : Station) (now : Int) (calls' : List AppCall) (b : Bytes) : Prop :=
  let ts := s.p.address
  match s.st with
  | .offline | .passiveIdle => SilenceExpired s now ∧ b = selfToken ts
  | .listenToken sr _ =>
    (SilenceExpired s now ∧ b = selfToken ts) ∨ (∃ src, sr = some src ∧ IsStatusReply ts src b)
  | .activeIdle sr _ _ =>
    (SilenceExpired s now ∧ b = selfToken ts) ∨ (∃ src, sr = some src ∧ IsStatusReply ts src b)
  | .claimToken _ => b = selfToken ts ∨ IsGapPoll ts b
  | .useToken _ _ | .awaitData _ _ => HolderKind ts calls' b
  | .passToken g _ => IsOwnToken ts b ∨ (g = true ∧ IsGapPoll ts b)
  | .checkTokenPass _ | .awaitStatus _ => IsOwnToken ts b

theorem dispatch_sent {c c' : Ctx} {now : Int} {b : Bytes} (h : dispatch c now = .ok c') (h0 : c.tx = none)
    (hb : c'.tx = some b) : Sent now c c' b ∧ Allowed c.s now c'.calls b := by
  cases hst : c.s.st with
  | offline => rw [dispatch_offline now hst] at h; cases h
  | passiveIdle => rw [dispatch_passiveIdle now hst] at h; cases h
  | listenToken sr coll =>
    rw [dispatch_listenToken now hst] at h
    have := IdlingStep.sent (h ▸ doListenToken_step now hst) (listenTelegram_noTx now) h0 hb
    simpa only [Allowed, hst] using this
  | activeIdle sr np coll =>
    rw [dispatch_activeIdle now hst] at h
    have := IdlingStep.sent (h ▸ doActiveIdle_step now hst) (idleTelegram_noTx now) h0 hb
    simpa only [Allowed, hst] using this
  | claimToken step =>
    rw [dispatch_claimToken now hst] at h
    have := ClaimTokenStep.sent (h ▸ doClaimToken_step now 1 hst) h0 hb
    simpa only [Allowed, hst] using this
  | useToken d fcd =>
    rw [dispatch_useToken now hst] at h
    have := UseStep.sent (h ▸ doUseToken_step now hst) hst h0 hb
    simpa only [Allowed, hst] using this
  | awaitData a d =>
    rw [dispatch_awaitData now hst] at h
    have := AwaitDataStep.sent (h ▸ doAwaitDataResponse_step now hst) h0 hb
    simpa only [Allowed, hst] using this
  | passToken g att =>
    rw [dispatch_passToken now hst] at h
    have := PassTokenStep.sent (h ▸ doPassToken_step now hst) h0 hb
    simpa only [Allowed, hst] using this
  | checkTokenPass att =>
    rw [dispatch_checkTokenPass now hst] at h
    have := CheckStep.sent (h ▸ doCheckTokenPass_step now hst) h0 hb
    simpa only [Allowed, hst] using this
  | awaitStatus a =>
    rw [dispatch_awaitStatus now hst] at h
    have := StatusStep.sent (h ▸ doAwaitStatusResponse_step now hst) h0 hb
    simpa only [Allowed, hst] using this

/-- One whole poll that hands `b` to the PHY: the PHY was idle, no bus activity was newly registered
in this poll, and the transmission is one the handler of the FDL state at the start of the poll makes. -/
theorem pollInner_sent (c : Ctx) (now : Int) (phyTx : Bool) (c' : Ctx) (b : Bytes)
    (h : pollInner c now phyTx = .ok c') (h0 : c.tx = none) (hb : c'.tx = some b) :
    phyTx = false ∧ c.rx.length ≤ c.s.pendingBytes ∧ Sent now c c' b ∧ Allowed c.s now c'.calls b := by
  rw [pollInner_eq] at h
  by_cases hon : c.s.online = false
  · rw [if_pos hon] at h
    split at h
    · cases h; rw [h0] at hb; cases hb
    · cases h
  rw [if_neg hon] at h
  by_cases hpas : c.s.st = .passiveIdle
  · rw [if_pos hpas] at h; cases h
  rw [if_neg hpas] at h
  have hk : Keeps c { c with s := c.s.wake } := by
    rcases wake_cases c.s with e | ⟨e, -⟩ <;> rw [e]
    · exact Keeps.refl _
    · exact keeps_setSt c _
  split at h
  · cases h; rw [show ({ c with s := markBusActivity c.s.wake now } : Ctx).tx = c.tx from rfl, h0] at hb; cases hb
  · rename_i hong
    have hphy : phyTx = false := ((ongoing_eq_false_iff c now phyTx).1 (by simpa using hong)).1
    obtain ⟨hs, hal⟩ := dispatch_sent h h0 hb
    -- newly registered bus activity would have set the stamp to `now` or later
    have hle : c.rx.length ≤ c.s.pendingBytes := by
      refine Nat.le_of_not_lt fun hgt => ?_
      have hl : ({ c with s := checkBusActivity c.s.wake now c.rx.length } : Ctx).s.lastBusActivity =
          some (max (c.s.lastBusActivity.getD now) now) := by
        rw [checkBusActivity_eq]
        rcases wake_cases c.s with e | ⟨e, -⟩ <;> rw [e] <;> exact if_pos hgt
      have h2 := hs.elapsed _ hl
      have hb0 : (0 : Int) ≤ (({ c with s := checkBusActivity c.s.wake now c.rx.length } : Ctx).s.p.bits 33 : Nat) :=
        Int.natCast_nonneg _
      omega
    have hid : checkBusActivity c.s.wake now c.rx.length = c.s.wake :=
      checkBusActivity_id _ _ _ (by rcases wake_cases c.s with e | ⟨e, -⟩ <;> rw [e] <;> exact hle)
    rw [hid] at hs hal
    refine ⟨hphy, hle, hs.of_keeps hk, ?_⟩
    rcases wake_cases c.s with e | ⟨e, hoff | hoff⟩
    · rw [e] at hal; exact hal
    · -- going online: the handler ran in `ListenToken` without a registered request
      rw [e] at hal
      simp only [Allowed] at hal
      simp only [Allowed, hoff]
      rcases hal with h1 | ⟨src, h1, _⟩
      · exact h1
      · cases h1
    · exact absurd hoff hpas

theorem pollInner_tx (c : Ctx) (now : Int) (phyTx : Bool) (c' : Ctx) (h : pollInner c now phyTx = .ok c')
    (h0 : c.tx = none) (ht : c'.tx ≠ none) :
    phyTx = false ∧ c.rx.length ≤ c.s.pendingBytes ∧
      ∀ l, c.s.lastBusActivity = some l → l + (c.s.p.bits 33 : Nat) < now := by
  cases hb : c'.tx with
  | none => exact absurd hb ht
  | some b =>
    obtain ⟨h1, h2, hs, -⟩ := pollInner_sent c now phyTx c' b h h0 hb
    exact ⟨h1, h2, hs.elapsed⟩

theorem pollInner_who (c : Ctx) (now : Int) (phyTx : Bool) (c' : Ctx) (b : Bytes)
    (h : pollInner c now phyTx = .ok c') (h0 : c.tx = none) (hb : c'.tx = some b) :
    Allowed c.s now c'.calls b :=
  (pollInner_sent c now phyTx c' b h h0 hb).2.2.2

end PV
