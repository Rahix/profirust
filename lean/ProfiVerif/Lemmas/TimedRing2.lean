/-
Timed ring: two station models on the byte-accurate bus of `Model/Net.lean`, stable ring, no
application traffic.  Where the slot-time margin comes from (`Cfg.quarter_margin`), per-station and bus side
conditions (`StOk`, `BusOk`), the invariant `RInv`, and how one `Net.poll` that transmits nothing (`quiet_frame`) or
something (`rinv_send_x`) re-establishes everything of it but the phase facts.  Also here, for rings of any size and the
cold start: `Net.poll` as an equation for a live station (`Net.poll_eq`, the station record after it: `upSt`) and its
three outcomes (`Net.poll_cases`, with `Net.poll_len` / `Net.poll_seenN` read off them).
-/
import ProfiVerif.Lemmas.TimedRingBusN
import ProfiVerif.Lemmas.TimedRingStation
import ProfiVerif.Lemmas.RingPass

namespace PV
open StationGap TokenRing

namespace Cfg

theorem floor_44_88 (r : Nat) (hr : 0 < r) :
    33 * 1000000 / r + 11 * 1000000 / r ≤ 44 * 1000000 / r ∧ 2 * (44 * 1000000 / r) ≤ 88 * 1000000 / r := by
  constructor
  · rw [Nat.le_div_iff_mul_le hr, Nat.add_mul]
    have a := Nat.div_mul_le_self (33 * 1000000) r
    have b := Nat.div_mul_le_self (11 * 1000000) r
    omega
  · rw [Nat.le_div_iff_mul_le hr]
    have a := Nat.div_mul_le_self (44 * 1000000) r
    rw [Nat.mul_assoc]
    omega

/-- **The quarter-slot margin**, floors of `bits_to_time` accounted for: with poll gaps `PB ≤ Tslot/4`, rounding slack `E`
and a first character complete `C` after the start, where `E + C` exceeds 11 bit times by at most `k` µs, the margin
`E + 2·PB + 33 bit + C ≤ Tslot` holds whenever `88·10⁶ + 2k·rate ≤ slotBits·10⁶`: `33 bit + 11 bit ≤ ⌊44·10⁶/rate⌋`, twice that is
at most `⌊88·10⁶/rate⌋`, and `⌊(88·10⁶ + 2k·rate)/rate⌋ = ⌊88·10⁶/rate⌋ + 2k`. -/
theorem quarter_margin (r sb PB E C k : Nat) (hr : 0 < r) (hP : PB ≤ sb * 1000000 / r / 4)
    (hC : E + C ≤ 11 * 1000000 / r + k) (hs : 88 * 1000000 + 2 * k * r ≤ sb * 1000000) :
    E + 2 * PB + 33 * 1000000 / r + C ≤ sb * 1000000 / r := by
  obtain ⟨h1, h2⟩ := floor_44_88 r hr
  have h3 : 88 * 1000000 / r + 2 * k ≤ sb * 1000000 / r := by
    have := Nat.div_le_div_right (c := r) hs
    rw [Nat.add_mul_div_right _ _ hr] at this
    exact this
  omega

end Cfg

/-- The ring view of station `x` in a stable ring with member list `M`: valid LAS equal to `M`, NS / PS
derived from it (`AbstractRing.ViewOk` of `Lemmas/RingPass.lean`, with the ring and the membership). -/
structure RingView (M : List Nat) (x : Nat) (r : TokenRing) : Prop where
  ring : IsRing M
  mem : x ∈ M
  ts : r.ts = x
  valid : r.las = .valid
  las : TokenRing.LasIs r M
  nbr : TokenRing.Nbr r

theorem RingView.viewOk {M : List Nat} {x : Nat} {r : TokenRing} (v : RingView M x r) : AbstractRing.ViewOk M x r :=
  ⟨v.ts, v.valid, v.las, v.nbr⟩

theorem RingView.witness_member {M : List Nat} {x : Nat} {r : TokenRing} (v : RingView M x r) (h : Nat) (hh : h ∈ M) :
    RingView M x (r.witness h (cycSucc h M)) :=
  have w := AbstractRing.viewOk_witness M v.ring x h r hh v.viewOk
  ⟨v.ring, v.mem, w.ts, w.valid, w.las, w.nbr⟩

theorem RingView.witness {M : List Nat} {x : Nat} {r : TokenRing} (v : RingView M x r) :
    RingView M x (r.witness x (cycSucc x M)) :=
  v.witness_member x v.mem

theorem RingView.ns {M : List Nat} {x : Nat} {r : TokenRing} (v : RingView M x r) :
    r.ns = cycSucc x M ∧ r.ps = cycPred x M :=
  AbstractRing.viewOk_ns M v.ring x r v.viewOk

/-- Per-station side conditions of the stable two-station ring.  `view`: a valid ring view over a member list in
which the other station `o` is both successor and predecessor of `a`; `tto`: the token-lost time-out is longer than
the longest silence of normal operation. -/
structure StOk (cfg : Cfg) (st : NetStation) (a o : Nat) : Prop where
  online : st.online = true
  alive : st.dead = false
  apps : st.apps = []
  inv : Inv st.s []
  son : st.s.online = true
  rate : st.s.p.rate = cfg.rate
  slotBits : st.s.p.slotBits = cfg.slotBits
  addr : st.s.p.address = a
  view : ∃ M, RingView M a st.s.ring ∧ cycSucc a M = o ∧ cycPred a M = o
  tto : cfg.slot + 2 * cfg.P + cfg.ce 0 + 2 ≤ st.s.p.tokenLostTimeout
  ne : a ≠ o
  lta : a < 126
  lto : o < 126

theorem StOk.ns {cfg : Cfg} {st : NetStation} {a o : Nat} (h : StOk cfg st a o) : st.s.ring.ns = o := by
  obtain ⟨M, v, h1, -⟩ := h.view; rw [v.ns.1, h1]
theorem StOk.ps {cfg : Cfg} {st : NetStation} {a o : Nat} (h : StOk cfg st a o) : st.s.ring.ps = o := by
  obtain ⟨M, v, -, h2⟩ := h.view; rw [v.ns.2, h2]
theorem StOk.ns_witness {cfg : Cfg} {st : NetStation} {a o : Nat} (h : StOk cfg st a o) :
    (st.s.ring.witness a o).ns = o := by
  obtain ⟨M, v, h1, -⟩ := h.view
  have := v.witness
  rw [h1] at this
  rw [this.ns.1, h1]

theorem StOk.tto_pos {cfg : Cfg} {st : NetStation} {a o : Nat} (h : StOk cfg st a o) : 0 < st.s.p.tokenLostTimeout := by
  have := h.tto; omega

theorem StOk.bits {cfg : Cfg} {st : NetStation} {a o : Nat} (h : StOk cfg st a o) (k : Nat) :
    st.s.p.bits k = bitsToTime cfg.rate k := by unfold Params.bits; rw [h.rate]
theorem StOk.b33 {cfg : Cfg} {st : NetStation} {a o : Nat} (h : StOk cfg st a o) : st.s.p.bits 33 = cfg.b33 := h.bits 33
theorem StOk.slot {cfg : Cfg} {st : NetStation} {a o : Nat} (h : StOk cfg st a o) : st.s.p.slotTime = cfg.slot := by
  unfold Params.slotTime Cfg.slot; rw [h.bits, h.slotBits]

/-- The ring view a poll leaves: untouched, or the own pass to the other station witnessed. -/
theorem StOk.view_keep {cfg : Cfg} {st : NetStation} {a o : Nat} (h : StOk cfg st a o) {r : TokenRing}
    (hr : r = st.s.ring ∨ r = st.s.ring.witness a o) : ∃ M, RingView M a r ∧ cycSucc a M = o ∧ cycPred a M = o := by
  obtain ⟨M, v, e1, e2⟩ := h.view
  rcases hr with hr | hr
  · exact ⟨M, by rw [hr]; exact v, e1, e2⟩
  · refine ⟨M, ?_, e1, e2⟩
    rw [hr]
    have := v.witness
    rw [e1] at this
    exact this

theorem StOk.step {cfg : Cfg} {st : NetStation} {a o : Nat} (h : StOk cfg st a o) (now : Int) (phy : Bool) (rx : Bytes)
    (c : Ctx) (hp : st.s.poll [] now phy rx = .ok c) (h1 : c.s.p = st.s.p)
    (h2 : ∃ M, RingView M a c.s.ring ∧ cycSucc a M = o ∧ cycPred a M = o)
    (h3 : c.s.online = true) :
    StOk cfg { st with s := c.s, apps := c.apps, rx := c.rx } a o := by
  obtain ⟨hinv', hlen⟩ := poll_ok_inv h.inv hp
  have happs : c.apps = [] := List.eq_nil_of_length_eq_zero hlen
  rw [happs] at hinv'
  exact ⟨h.online, h.alive, happs, hinv', h3, by simp only [h1]; exact h.rate, by simp only [h1]; exact h.slotBits,
    by simp only [h1]; exact h.addr, h2, by simp only [h1]; exact h.tto, h.ne, h.lta, h.lto⟩

/-- Bus side conditions seen from both stations: fault-free, log = `old ++ [tr]` with everything in
`old` over before `tr` started and delivered to (or sent by) either station. -/
structure BusOk (cfg : Cfg) (b : Bus) (old : List Transmission) (tr : Transmission) : Prop where
  rate : b.rate = cfg.rate
  corrupt : b.corrupt = []
  drops : b.drops = []
  seen : b.seen.length = 2
  txs : b.txs = old ++ [tr]
  live : tr.dropped = false
  oldEnd : ∀ o ∈ old, b.txEnd o ≤ tr.start
  oldSeen : ∀ i, i < 2 → ∀ o ∈ old, o.sender = i ∨ b.txEnd o ≤ b.seen.getD i 0

theorem BusOk.deliver {cfg : Cfg} {b : Bus} {old : List Transmission} {tr : Transmission} (h : BusOk cfg b old tr)
    (i : Nat) (hi : i < 2) (now : Int) (hnow : b.seen.getD i 0 ≤ now) :
    BusOk cfg { b with seen := b.seen.set i now } old tr := by
  refine ⟨h.rate, h.corrupt, h.drops, by simp [h.seen], h.txs, h.live, h.oldEnd, ?_⟩
  intro j hj o ho
  have e : ∀ t, Bus.txEnd { b with seen := b.seen.set i now } t = b.txEnd t := fun t => rfl
  rw [e]
  rcases h.oldSeen j hj o ho with h1 | h1
  · exact .inl h1
  · right
    by_cases hij : i = j
    · subst hij
      show b.txEnd o ≤ (b.seen.set i now).getD i 0
      rw [seen_set_self b i now (by rw [h.seen]; exact hi)]
      omega
    · show b.txEnd o ≤ (b.seen.set i now).getD j 0
      rw [seen_set_other b i j now hij]; exact h1

theorem Net.poll_eq (n : Net) (i : Nat) (now : Int) (st : NetStation) (bus' : Bus) (inc : Bytes) (c : Ctx)
    (hst : n.stations[i]? = some st) (hal : st.dead = false) (hon : st.online = true)
    (hd : n.bus.deliver i now = (bus', inc))
    (hp : st.s.poll st.apps now (bus'.transmitting i now) (st.rx ++ inc) = .ok c) :
    n.poll i now = ({ bus := (match c.tx with | some b => bus'.send i now b | none => bus'),
                      stations := n.stations.set i { st with s := c.s, apps := c.apps, rx := c.rx } },
                    inc, some (.ok c)) := by
  unfold Net.poll
  rw [hd]
  simp only [hst, hal, hon, if_true, Bool.false_eq_true, if_false, hp]
  rfl

def oth (x : Nat) : Nat := 1 - x

theorem oth_lt (x : Nat) : oth x < 2 := by unfold oth; omega
theorem oth_ne (x : Nat) (h : x < 2) : x ≠ oth x := by unfold oth; omega
theorem oth_oth (x : Nat) (h : x < 2) : oth (oth x) = x := by unfold oth; omega
theorem two_cases (x i : Nat) (hx : x < 2) (hi : i < 2) : i = x ∨ i = oth x := by unfold oth; omega

inductive Phase
  | hold (p1 : Int)
  | gap (g : Nat)
  | pass

/-- Everything the invariant talks about: `x` is the index of the station that holds the token or
supervises its pass (`sx`, address `ax`), `sy` (address `ay`) the other one; the transmission log is
`old ++ [tr]`; `idle` says whether the other station is in `ActiveIdle` (else `CheckTokenPass`), `ly` is its
bus-activity stamp; `tl` is the time of the last event. -/
structure View where
  x : Nat
  sx : NetStation
  sy : NetStation
  ax : Nat
  ay : Nat
  old : List Transmission
  tr : Transmission
  ph : Phase
  idle : Bool
  ly : Int
  tl : Int

/-- The other station is receiving `tr` piece by piece: it has the characters complete at its last poll
`seenY` (fewer than all) in its buffer and accounted for, and the next character will be complete before
its deadline — slot time after its stamp while it supervises its own pass, token-lost time-out while idle.
Its stamp `ly` is older than the start of `tr` (nothing of `tr` registered yet) or is the time of one of its polls
(`≤ seenY`). -/
def YRecv (cfg : Cfg) (v : View) (seenY : Int) : Prop :=
  v.sy.rx = v.tr.bytes.take (cvis cfg v.tr seenY) ∧ v.sy.s.pendingBytes = cvis cfg v.tr seenY ∧
  cvis cfg v.tr seenY < v.tr.bytes.length ∧ v.sy.s.lastBusActivity = some v.ly ∧
  (v.ly < v.tr.start ∨ v.ly ≤ seenY) ∧
  (if v.idle = true then
    (∃ np coll, v.sy.s.st = .activeIdle none np coll) ∧
      v.tr.start + (cfg.ce (cvis cfg v.tr seenY) : Nat) < v.ly + (v.sy.s.p.tokenLostTimeout : Nat)
   else v.sy.s.st = .checkTokenPass .first ∧
      v.tr.start + (cfg.ce (cvis cfg v.tr seenY) : Nat) ≤ v.ly + (cfg.slot : Nat))

/-- Phase-specific part of the invariant (`seenX`, `seenY`: last poll times of the two stations).
* `hold p1`: `sx` accepted the token `tr` (sent by `sy`) at `p1` and has not transmitted yet; `sy` supervises.
* `gap g`: `sx` sent the GAP request `tr` to the unoccupied address `g` and waits; `sy` is receiving it
  (still supervising) or has heard it completely (idle).
* `pass`: `sx` sent the token `tr` to `sy` and supervises; `sy` is receiving it. -/
def PhaseOk (cfg : Cfg) (v : View) (seenX seenY : Int) : Prop :=
  match v.ph with
  | .hold p1 =>
    v.tr.sender = oth v.x ∧ v.tr.bytes = tokenBytes v.ax v.ay ∧ (∃ d f, v.sx.s.st = .useToken d f) ∧
    v.sx.s.lastBusActivity = some p1 ∧ v.sy.s.st = .checkTokenPass .first ∧
    v.sy.s.lastBusActivity = some (v.tr.start + (cfg.b33 : Nat)) ∧ v.sy.s.pendingBytes = 0 ∧ v.sy.rx = [] ∧
    v.idle = false ∧ v.ly = v.tr.start + (cfg.b33 : Nat) ∧
    v.tr.start + (cfg.ce 2 : Nat) ≤ p1 ∧ p1 ≤ seenX ∧ seenX ≤ p1 + (cfg.b33 : Nat) ∧
    p1 + (cfg.P : Nat) + (cfg.ce 0 : Nat) ≤ v.tr.start + (cfg.slot : Nat)
  | .gap g =>
    v.tr.sender = v.x ∧ v.tr.bytes = statusRequestBytes g v.ax ∧ g ≠ v.ay ∧ g < 126 ∧
    v.sx.s.st = .awaitStatus g ∧ v.sx.s.lastBusActivity = some (v.tr.start + (cfg.b66 : Nat)) ∧
    v.tr.start ≤ seenX ∧ seenX ≤ v.tr.start + (cfg.b66 : Nat) + (cfg.slot : Nat) ∧
    (if v.idle = true then
      (∃ np coll, v.sy.s.st = .activeIdle none np coll) ∧ v.sy.rx = [] ∧ v.sy.s.pendingBytes = 0 ∧
        v.sy.s.lastBusActivity = some v.ly ∧ v.tr.start + (cfg.ce 5 : Nat) ≤ v.ly ∧ v.ly ≤ seenY
     else YRecv cfg v seenY)
  | .pass =>
    v.tr.sender = v.x ∧ v.tr.bytes = tokenBytes v.ay v.ax ∧ v.sx.s.st = .checkTokenPass .first ∧
    v.sx.s.lastBusActivity = some (v.tr.start + (cfg.b33 : Nat)) ∧ v.tr.start ≤ seenX ∧ YRecv cfg v seenY

/-- The invariant of the two-station ring.  `tlx` / `tly` / `tlt`: `tl` is not earlier than either station's last poll or
the start of `tr`, so an event at `now ≥ tl` comes after all of them.  `pbx` / `rxx`: the station whose turn it is has
consumed everything; what the other one has in its buffer is said per phase (`YRecv`). -/
structure RInv (cfg : Cfg) (n : Net) (v : View) : Prop where
  x2 : v.x < 2
  len : n.stations.length = 2
  gx : n.stations[v.x]? = some v.sx
  gy : n.stations[oth v.x]? = some v.sy
  okx : StOk cfg v.sx v.ax v.ay
  oky : StOk cfg v.sy v.ay v.ax
  bus : BusOk cfg n.bus v.old v.tr
  tlx : n.bus.seen.getD v.x 0 ≤ v.tl
  tly : n.bus.seen.getD (oth v.x) 0 ≤ v.tl
  tlt : v.tr.start ≤ v.tl
  pbx : v.sx.s.pendingBytes = 0
  rxx : v.sx.rx = []
  ph : PhaseOk cfg v (n.bus.seen.getD v.x 0) (n.bus.seen.getD (oth v.x) 0)

section phases
variable {cfg : Cfg} {n : Net} {v : View}

theorem RInv.hold (h : RInv cfg n v) {p1 : Int} (hph : v.ph = .hold p1) :
    v.tr.sender = oth v.x ∧ v.tr.bytes = tokenBytes v.ax v.ay ∧ (∃ d f, v.sx.s.st = .useToken d f) ∧
    v.sx.s.lastBusActivity = some p1 ∧ v.sy.s.st = .checkTokenPass .first ∧
    v.sy.s.lastBusActivity = some (v.tr.start + (cfg.b33 : Nat)) ∧ v.sy.s.pendingBytes = 0 ∧ v.sy.rx = [] ∧
    v.idle = false ∧ v.ly = v.tr.start + (cfg.b33 : Nat) ∧
    v.tr.start + (cfg.ce 2 : Nat) ≤ p1 ∧ p1 ≤ n.bus.seen.getD v.x 0 ∧ n.bus.seen.getD v.x 0 ≤ p1 + (cfg.b33 : Nat) ∧
    p1 + (cfg.P : Nat) + (cfg.ce 0 : Nat) ≤ v.tr.start + (cfg.slot : Nat) := by
  have hP := h.ph
  unfold PhaseOk at hP
  rw [hph] at hP
  exact hP

theorem RInv.gap (h : RInv cfg n v) {g : Nat} (hph : v.ph = .gap g) :
    v.tr.sender = v.x ∧ v.tr.bytes = statusRequestBytes g v.ax ∧ g ≠ v.ay ∧ g < 126 ∧
    v.sx.s.st = .awaitStatus g ∧ v.sx.s.lastBusActivity = some (v.tr.start + (cfg.b66 : Nat)) ∧
    v.tr.start ≤ n.bus.seen.getD v.x 0 ∧ n.bus.seen.getD v.x 0 ≤ v.tr.start + (cfg.b66 : Nat) + (cfg.slot : Nat) ∧
    (if v.idle = true then
      (∃ np coll, v.sy.s.st = .activeIdle none np coll) ∧ v.sy.rx = [] ∧ v.sy.s.pendingBytes = 0 ∧
        v.sy.s.lastBusActivity = some v.ly ∧ v.tr.start + (cfg.ce 5 : Nat) ≤ v.ly ∧ v.ly ≤ n.bus.seen.getD (oth v.x) 0
     else YRecv cfg v (n.bus.seen.getD (oth v.x) 0)) := by
  have hP := h.ph
  unfold PhaseOk at hP
  rw [hph] at hP
  exact hP

theorem RInv.pass (h : RInv cfg n v) (hph : v.ph = .pass) :
    v.tr.sender = v.x ∧ v.tr.bytes = tokenBytes v.ay v.ax ∧ v.sx.s.st = .checkTokenPass .first ∧
    v.sx.s.lastBusActivity = some (v.tr.start + (cfg.b33 : Nat)) ∧ v.tr.start ≤ n.bus.seen.getD v.x 0 ∧
    YRecv cfg v (n.bus.seen.getD (oth v.x) 0) := by
  have hP := h.ph
  unfold PhaseOk at hP
  rw [hph] at hP
  exact hP

end phases

def upSt (st : NetStation) (c : Ctx) : NetStation := { st with s := c.s, apps := c.apps, rx := c.rx }
def View.setX (v : View) (c : Ctx) (now : Int) : View := { v with sx := upSt v.sx c, tl := now }
def View.setY (v : View) (c : Ctx) (idle' : Bool) (ly' : Int) (now : Int) : View :=
  { v with sy := upSt v.sy c, idle := idle', ly := ly', tl := now }

theorem quiet_frame {cfg : Cfg} {n : Net} {v : View} (h : RInv cfg n v) (i : Nat) (hi : i < 2) (st : NetStation)
    (a o : Nat) (hg : n.stations[i]? = some st) (hok : StOk cfg st a o) (now : Int) (htl : v.tl ≤ now)
    (hs : n.bus.seen.getD i 0 ≤ now) (inc : Bytes) (c : Ctx)
    (hd : n.bus.deliver i now = ({ n.bus with seen := n.bus.seen.set i now }, inc))
    (hp : st.s.poll [] now (n.bus.transmitting i now) (st.rx ++ inc) = .ok c)
    (htx : c.tx = none) (h1 : c.s.p = st.s.p)
    (h2 : ∃ M, RingView M a c.s.ring ∧ cycSucc a M = o ∧ cycPred a M = o) (h3 : c.s.online = true) :
    ∃ n', n.poll i now = (n', inc, some (.ok c)) ∧ n'.stations.length = 2 ∧ n'.stations[i]? = some (upSt st c) ∧
      (∀ j, j ≠ i → n'.stations[j]? = n.stations[j]?) ∧ StOk cfg (upSt st c) a o ∧ BusOk cfg n'.bus v.old v.tr ∧
      n'.bus.seen.getD i 0 = now ∧ (∀ j, j ≠ i → n'.bus.seen.getD j 0 = n.bus.seen.getD j 0) ∧ v.tr.start ≤ now := by
  have hp' : st.s.poll st.apps now (Bus.transmitting { n.bus with seen := n.bus.seen.set i now } i now)
      (st.rx ++ inc) = .ok c := by rw [hok.apps, transmitting_seen]; exact hp
  have hpoll := Net.poll_eq n i now st _ inc c hg hok.alive hok.online hd hp'
  rw [htx] at hpoll
  refine ⟨_, hpoll, by simp [h.len], ?_, ?_, hok.step now _ _ c (by rw [← hok.apps]; exact hp') h1 h2 h3,
    h.bus.deliver i hi now hs, ?_, ?_, Int.le_trans h.tlt htl⟩
  · exact List.getElem?_set_self (by rw [h.len]; exact hi)
  · intro j hj; exact List.getElem?_set_ne (Ne.symm hj)
  · exact seen_set_self _ _ _ (by rw [h.bus.seen]; exact hi)
  · intro j hj; exact seen_set_other _ _ _ _ (Ne.symm hj)

theorem rinv_quiet_x {cfg : Cfg} {n : Net} {v : View} (h : RInv cfg n v) (now : Int) (htl : v.tl ≤ now)
    (hs : n.bus.seen.getD v.x 0 ≤ now) (inc : Bytes) (c : Ctx)
    (hd : n.bus.deliver v.x now = ({ n.bus with seen := n.bus.seen.set v.x now }, inc))
    (hp : v.sx.s.poll [] now (n.bus.transmitting v.x now) (v.sx.rx ++ inc) = .ok c)
    (htx : c.tx = none) (h1 : c.s.p = v.sx.s.p)
    (h2 : ∃ M, RingView M v.ax c.s.ring ∧ cycSucc v.ax M = v.ay ∧ cycPred v.ax M = v.ay) (h3 : c.s.online = true)
    (h4 : c.s.pendingBytes = 0) (h5 : c.rx = [])
    (hph : PhaseOk cfg (v.setX c now) now (n.bus.seen.getD (oth v.x) 0)) :
    ∃ n', n.poll v.x now = (n', inc, some (.ok c)) ∧ RInv cfg n' (v.setX c now) := by
  obtain ⟨n', hpoll, hlen, hgi, hgo, hoki, hbus, hsi, hso, htr⟩ :=
    quiet_frame h v.x h.x2 v.sx v.ax v.ay h.gx h.okx now htl hs inc c hd hp htx h1 h2 h3
  have hne := oth_ne v.x h.x2
  unfold View.setX at hph ⊢
  refine ⟨n', hpoll, h.x2, hlen, hgi, (hgo _ hne.symm).trans h.gy, hoki, h.oky, hbus, ?_, ?_, htr, h4, h5, ?_⟩
  · exact Int.le_of_eq hsi
  · exact Int.le_trans (Int.le_of_eq (hso _ hne.symm)) (Int.le_trans h.tly htl)
  · simp only
    rw [hsi, hso _ hne.symm]
    exact hph

theorem rinv_quiet_y {cfg : Cfg} {n : Net} {v : View} (h : RInv cfg n v) (now : Int) (htl : v.tl ≤ now)
    (hs : n.bus.seen.getD (oth v.x) 0 ≤ now) (inc : Bytes) (c : Ctx) (idle' : Bool) (ly' : Int)
    (hd : n.bus.deliver (oth v.x) now = ({ n.bus with seen := n.bus.seen.set (oth v.x) now }, inc))
    (hp : v.sy.s.poll [] now (n.bus.transmitting (oth v.x) now) (v.sy.rx ++ inc) = .ok c)
    (htx : c.tx = none) (h1 : c.s.p = v.sy.s.p)
    (h2 : ∃ M, RingView M v.ay c.s.ring ∧ cycSucc v.ay M = v.ax ∧ cycPred v.ay M = v.ax) (h3 : c.s.online = true)
    (hph : PhaseOk cfg (v.setY c idle' ly' now) (n.bus.seen.getD v.x 0) now) :
    ∃ n', n.poll (oth v.x) now = (n', inc, some (.ok c)) ∧ RInv cfg n' (v.setY c idle' ly' now) := by
  obtain ⟨n', hpoll, hlen, hgi, hgo, hoki, hbus, hsi, hso, htr⟩ :=
    quiet_frame h (oth v.x) (oth_lt _) v.sy v.ay v.ax h.gy h.oky now htl hs inc c hd hp htx h1 h2 h3
  have hne := oth_ne v.x h.x2
  unfold View.setY at hph ⊢
  refine ⟨n', hpoll, h.x2, hlen, (hgo _ hne).trans h.gx, hgi, h.okx, hoki, hbus, ?_, ?_, htr, h.pbx, h.rxx, ?_⟩
  · exact Int.le_trans (Int.le_of_eq (hso _ hne)) (Int.le_trans h.tlx htl)
  · exact Int.le_of_eq hsi
  · simp only
    rw [hsi, hso _ hne]
    exact hph

def View.sendX (v : View) (c : Ctx) (old' : List Transmission) (b : Bytes) (ph' : Phase) (now : Int) : View :=
  { v with sx := upSt v.sx c, old := old', tr := { start := now, sender := v.x, bytes := b, dropped := false },
           ph := ph', tl := now }

theorem rinv_send_x {cfg : Cfg} {n : Net} {v : View} (h : RInv cfg n v) (hok : cfg.Ok) (now : Int) (htl : v.tl ≤ now)
    (c : Ctx) (b : Bytes) (ph' : Phase)
    (hd : n.bus.deliver v.x now = ({ n.bus with seen := n.bus.seen.set v.x now }, []))
    (hp : v.sx.s.poll [] now (n.bus.transmitting v.x now) [] = .ok c)
    (htx : c.tx = some b) (h1 : c.s.p = v.sx.s.p)
    (h2 : ∃ M, RingView M v.ax c.s.ring ∧ cycSucc v.ax M = v.ay ∧ cycPred v.ax M = v.ay) (h3 : c.s.online = true)
    (h4 : c.s.pendingBytes = 0) (h5 : c.rx = [])
    (hend : n.bus.txEnd v.tr ≤ now)
    (hys : v.tr.sender = oth v.x ∨ n.bus.txEnd v.tr ≤ n.bus.seen.getD (oth v.x) 0)
    (hph : ∀ old', PhaseOk cfg (v.sendX c old' b ph' now) now (n.bus.seen.getD (oth v.x) 0)) :
    ∃ n' old', n.poll v.x now = (n', [], some (.ok c)) ∧ RInv cfg n' (v.sendX c old' b ph' now) := by
  have hp' : v.sx.s.poll v.sx.apps now (Bus.transmitting { n.bus with seen := n.bus.seen.set v.x now } v.x now)
      (v.sx.rx ++ []) = .ok c := by rw [h.okx.apps, transmitting_seen, h.rxx]; exact hp
  have hrate : 0 < n.bus.rate := by rw [h.bus.rate]; exact hok.rate
  obtain ⟨e1, e3, e4, e5, e6⟩ := Bus.send_txs { n.bus with seen := n.bus.seen.set v.x now } v.x now b h.bus.drops hrate
  -- `old'`: what the bus has not forgotten of the log
  obtain ⟨old', e1, e2⟩ : ∃ old', (Bus.send { n.bus with seen := n.bus.seen.set v.x now } v.x now b).txs =
      old' ++ [({ start := now, sender := v.x, bytes := b, dropped := false } : Transmission)] ∧ ∀ o ∈ old', o ∈ n.bus.txs :=
    ⟨_, e1, fun o ho => (List.mem_filter.1 ho).1⟩
  refine ⟨_, old', Net.poll_eq n v.x now v.sx _ [] c h.gx h.okx.alive h.okx.online hd hp', ?_⟩
  rw [htx]
  have hphs := hph old'
  unfold View.sendX upSt at hphs ⊢
  have hxl : v.x < n.stations.length := by rw [h.len]; exact h.x2
  have hsl : v.x < n.bus.seen.length := by rw [h.bus.seen]; exact h.x2
  have hne := oth_ne v.x h.x2
  have hte : ∀ t, (Bus.send { n.bus with seen := n.bus.seen.set v.x now } v.x now b).txEnd t = n.bus.txEnd t :=
    fun t => Bus.txEnd_congr _ _ e3 t
  have hmem : ∀ o ∈ old', o ∈ v.old ∨ o = v.tr := by
    intro o ho
    have := e2 o ho
    simp only [h.bus.txs, List.mem_append, List.mem_singleton] at this
    exact this
  refine ⟨h.x2, by simp [h.len], ?_, ?_, ?_, h.oky, ?_, ?_, ?_, Int.le_refl _, h4, h5, ?_⟩
  · simp only [List.getElem?_set_self hxl]
  · simp only
    rw [List.getElem?_set_ne hne]
    exact h.gy
  · have := h.okx.step now _ _ c (by rw [← h.okx.apps]; exact hp') h1 h2 h3
    exact this
  · refine ⟨e3.trans h.bus.rate, e5.trans h.bus.corrupt, e6, by rw [e4]; simp [h.bus.seen], e1, rfl, ?_, ?_⟩
    · intro o ho
      rw [hte]
      rcases hmem o ho with h' | rfl
      · have := h.bus.oldEnd o h'
        have := h.tlt
        simp only; omega
      · exact hend
    · intro i hi o ho
      rw [hte, e4]
      rcases two_cases v.x i h.x2 hi with rfl | rfl
      · right
        simp only
        rw [seen_set_self _ _ _ hsl]
        rcases hmem o ho with h' | rfl
        · have := h.bus.oldEnd o h'
          have := h.tlt
          omega
        · exact hend
      · simp only
        rw [seen_set_other _ _ _ _ hne]
        rcases hmem o ho with h' | rfl
        · exact h.bus.oldSeen _ (oth_lt _) o h'
        · exact hys
  · simp only; rw [e4]; simp only; rw [seen_set_self _ _ _ hsl]; exact Int.le_refl _
  · simp only; rw [e4]; simp only; rw [seen_set_other _ _ _ _ hne]; exact Int.le_trans h.tly htl
  · simp only
    rw [e4]
    simp only
    rw [seen_set_self _ _ _ hsl, seen_set_other _ _ _ _ hne]
    exact hphs

def View.swap (v : View) (c : Ctx) (ly' : Int) (now : Int) : View :=
  { x := oth v.x, sx := upSt v.sy c, sy := v.sx, ax := v.ay, ay := v.ax, old := v.old, tr := v.tr,
    ph := .hold now, idle := false, ly := ly', tl := now }

theorem rinv_swap_y {cfg : Cfg} {n : Net} {v : View} (h : RInv cfg n v) (now : Int) (htl : v.tl ≤ now)
    (hs : n.bus.seen.getD (oth v.x) 0 ≤ now) (inc : Bytes) (c : Ctx) (ly' : Int)
    (hd : n.bus.deliver (oth v.x) now = ({ n.bus with seen := n.bus.seen.set (oth v.x) now }, inc))
    (hp : v.sy.s.poll [] now (n.bus.transmitting (oth v.x) now) (v.sy.rx ++ inc) = .ok c)
    (htx : c.tx = none) (h1 : c.s.p = v.sy.s.p)
    (h2 : ∃ M, RingView M v.ay c.s.ring ∧ cycSucc v.ay M = v.ax ∧ cycPred v.ay M = v.ax) (h3 : c.s.online = true)
    (h4 : c.s.pendingBytes = 0) (h5 : c.rx = [])
    (hph : PhaseOk cfg (v.swap c ly' now) now (n.bus.seen.getD v.x 0)) :
    ∃ n', n.poll (oth v.x) now = (n', inc, some (.ok c)) ∧ RInv cfg n' (v.swap c ly' now) := by
  obtain ⟨n', hpoll, hlen, hgi, hgo, hoki, hbus, hsi, hso, htr⟩ :=
    quiet_frame h (oth v.x) (oth_lt _) v.sy v.ay v.ax h.gy h.oky now htl hs inc c hd hp htx h1 h2 h3
  have hne := oth_ne v.x h.x2
  have hoo := oth_oth v.x h.x2
  unfold View.swap at hph ⊢
  refine ⟨n', hpoll, oth_lt _, hlen, hgi, ?_, hoki, h.okx, hbus, ?_, ?_, htr, h4, h5, ?_⟩
  · simp only
    rw [hoo]
    exact (hgo _ hne).trans h.gx
  · exact Int.le_of_eq hsi
  · simp only
    rw [hoo]
    exact Int.le_trans (Int.le_of_eq (hso _ hne)) (Int.le_trans h.tlx htl)
  · simp only
    rw [hoo, hsi, hso _ hne]
    exact hph

theorem BusOk.split {cfg : Cfg} {b : Bus} {old : List Transmission} {tr : Transmission} (h : BusOk cfg b old tr)
    (hr : 0 < cfg.rate) (i : Nat) (hi : i < 2) (now : Int) :
    b.deliver i now = ({ b with seen := b.seen.set i now }, b.seg i (b.seen.getD i 0) now tr) := by
  rw [Bus.deliver_split b (by rw [h.rate]; exact hr) h.corrupt i now old [tr] h.txs
    (fun o ho => (h.oldSeen i hi o ho).imp id fun h1 => .inr h1)
    (fun o ho t ht => by rw [List.mem_singleton.1 ht]; exact h.oldEnd o ho)
    (List.pairwise_singleton _ _) (fun t ht => by rw [List.mem_singleton.1 ht]; exact h.live)]
  simp

theorem BusOk.deliver_own {cfg : Cfg} {b : Bus} {old : List Transmission} {tr : Transmission} (h : BusOk cfg b old tr)
    (hr : 0 < cfg.rate) (i : Nat) (hi : i < 2) (now : Int) (hs : tr.sender = i) :
    b.deliver i now = ({ b with seen := b.seen.set i now }, []) := by
  rw [h.split hr i hi now]
  unfold Bus.seg
  rw [if_pos hs]

theorem BusOk.deliver_recv {cfg : Cfg} {b : Bus} {old : List Transmission} {tr : Transmission} (h : BusOk cfg b old tr)
    (hr : 0 < cfg.rate) (i : Nat) (hi : i < 2) (now : Int) (hs : tr.sender ≠ i) (hsn : b.seen.getD i 0 ≤ now) :
    ∃ inc, b.deliver i now = ({ b with seen := b.seen.set i now }, inc) ∧
      tr.bytes.take (cvis cfg tr (b.seen.getD i 0)) ++ inc = tr.bytes.take (cvis cfg tr now) :=
  ⟨_, h.split hr i hi now, seg_extend cfg b h.rate i tr hs _ now hsn⟩

theorem BusOk.deliver_done {cfg : Cfg} {b : Bus} {old : List Transmission} {tr : Transmission} (h : BusOk cfg b old tr)
    (hr : 0 < cfg.rate) (i : Nat) (hi : i < 2) (now : Int) (hsn : b.seen.getD i 0 ≤ now)
    (hn : 0 < tr.bytes.length) (hdone : tr.start + (cfg.ce (tr.bytes.length - 1) : Nat) ≤ b.seen.getD i 0) :
    b.deliver i now = ({ b with seen := b.seen.set i now }, []) := by
  rw [h.split hr i hi now, seg_nil_of_full cfg b h.rate i tr _ now hsn (cvis_full cfg tr _ hn hdone)]

theorem BusOk.txEnd_eq {cfg : Cfg} {b : Bus} {old : List Transmission} {tr : Transmission} (h : BusOk cfg b old tr)
    (t : Transmission) : b.txEnd t = t.start + (cfg.ce (t.bytes.length - 1) : Nat) :=
  Bus.txEnd_cfg b cfg h.rate t

/-- Everything in the log but `tr` is over when `tr` starts. -/
theorem RInv.phy {cfg : Cfg} {n : Net} {v : View} (h : RInv cfg n v) (i : Nat) (now : Int) (hnow : v.tr.start ≤ now)
    (htr : v.tr.sender = i → n.bus.txEnd v.tr ≤ now) : n.bus.transmitting i now = false := by
  refine Bus.transmitting_over n.bus i now fun t ht hti => ?_
  rw [h.bus.txs] at ht
  rcases List.mem_append.1 ht with ho | ho
  · exact Int.le_trans (h.bus.oldEnd t ho) hnow
  · rw [List.mem_singleton.1 ho] at hti ⊢
    exact htr hti

theorem RInv.phy_other {cfg : Cfg} {n : Net} {v : View} (h : RInv cfg n v) (i : Nat) (hs : v.tr.sender ≠ i) (now : Int)
    (htl : v.tl ≤ now) : n.bus.transmitting i now = false :=
  h.phy i now (Int.le_trans h.tlt htl) fun hi => absurd hi hs

theorem RInv.phy_done {cfg : Cfg} {n : Net} {v : View} (h : RInv cfg n v) (i : Nat) (now : Int)
    (hend : v.tr.start + ((cfg.ce (v.tr.bytes.length - 1) : Nat) : Int) ≤ now) : n.bus.transmitting i now = false :=
  h.phy i now (by omega) fun _ => by rw [h.bus.txEnd_eq]; exact hend

theorem bits_11_3 (p : Params) : p.bits (11 * 3) = p.bits 33 := rfl
theorem bits_11_6 (p : Params) : p.bits (11 * 6) = p.bits 66 := rfl

theorem Net.poll_cases (n : Net) (i : Nat) (now : Int) :
    ∃ bus inc, bus.seen = n.bus.seen.set i now ∧
      (n.poll i now = ({ n with bus := bus }, inc, none) ∨
       (∃ st m rx, n.stations[i]? = some st ∧
          n.poll i now = ({ bus := bus, stations := n.stations.set i { st with dead := true, rx := rx } }, inc, some (.panic m))) ∨
       (∃ st phy rx c, n.stations[i]? = some st ∧ st.s.poll st.apps now phy rx = .ok c ∧
          n.poll i now = ({ bus := bus, stations := n.stations.set i (upSt st c) }, inc, some (.ok c)))) := by
  unfold Net.poll
  rcases hd : n.bus.deliver i now with ⟨bus0, inc⟩
  have hs : bus0.seen = n.bus.seen.set i now := by
    have := deliver_seen n.bus i now
    rw [hd] at this
    exact this
  simp only
  cases hst : n.stations[i]? with
  | none => exact ⟨bus0, inc, hs, .inl rfl⟩
  | some st =>
    simp only
    split
    · exact ⟨bus0, inc, hs, .inl rfl⟩
    · split
      · rename_i m hr
        exact ⟨bus0, inc, hs, .inr (.inl ⟨st, m, (if st.online then st.rx ++ inc else st.rx), rfl, by rw [hr]⟩)⟩
      · rename_i c hr
        refine ⟨(match c.tx with | some b => bus0.send i now b | none => bus0), inc, ?_,
          .inr (.inr ⟨st, _, _, c, rfl, hr, by rw [hr]; rfl⟩)⟩
        cases c.tx with
        | none => exact hs
        | some b => exact (send_seen bus0 i now b).trans hs

theorem Net.poll_len (n : Net) (i : Nat) (now : Int) : (n.poll i now).1.stations.length = n.stations.length := by
  obtain ⟨bus, inc, -, h | ⟨st, m, rx, -, h⟩ | ⟨st, phy, rx, c, -, -, h⟩⟩ := Net.poll_cases n i now
  · rw [h]
  · rw [h]; exact List.length_set
  · rw [h]; exact List.length_set

theorem Net.poll_seenN (n : Net) (i : Nat) (now : Int) : (n.poll i now).1.bus.seen = n.bus.seen.set i now := by
  obtain ⟨bus, inc, hs, h | ⟨st, m, rx, -, h⟩ | ⟨st, phy, rx, c, -, -, h⟩⟩ := Net.poll_cases n i now
  · rw [h]; exact hs
  · rw [h]; exact hs
  · rw [h]; exact hs

theorem Net.poll_len_of {n : Net} {i : Nat} {now : Int} {n' : Net} {inc : Bytes} {r : Option Res}
    (hp : n.poll i now = (n', inc, r)) : n'.stations.length = n.stations.length := by
  have := Net.poll_len n i now
  rw [hp] at this
  exact this

theorem Net.poll_seen_of {n : Net} {i : Nat} {now : Int} {n' : Net} {inc : Bytes} {r : Option Res}
    (hp : n.poll i now = (n', inc, r)) : n'.bus.seen = n.bus.seen.set i now := by
  have := Net.poll_seenN n i now
  rw [hp] at this
  exact this

end PV
