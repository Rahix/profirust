/-
Two-station timed ring: ONE event — a poll of one of the two stations at a time allowed by the schedule —
re-establishes the invariant of `Lemmas/TimedRing2.lean`, returns regularly, and if it transmits then it is the
station whose turn it is, later than 33 bit times after the end of the previous transmission (one lemma per phase
and polled station, `ring2_step`); then whole scheduled runs (`ring2_run`, `ring2_inv_run`), the schedule as a
condition on poll times, the quarter-slot margin and the silence bound.
-/
import ProfiVerif.Lemmas.TimedRingApps
import ProfiVerif.Lemmas.BusHear

namespace PV
open StationGap

structure EvOk (cfg : Cfg) (n : Net) (v : View) (i : Nat) (now : Int) : Prop where
  i2 : i < 2
  tl : v.tl ≤ now
  own : n.bus.seen.getD i 0 < now
  gapX : now ≤ n.bus.seen.getD v.x 0 + (cfg.P : Nat)
  gapY : now ≤ n.bus.seen.getD (oth v.x) 0 + (cfg.P : Nat)

def View.adr (v : View) (i : Nat) : Nat := if i = v.x then v.ax else v.ay
/-- The station whose turn it is to transmit next. -/
def View.nextTx (v : View) : Nat := match v.ph with | .pass => oth v.x | _ => v.x

/-- What one event yields, the conclusion of every `step…` lemma below: a regular poll, `RInv` again, and of the new view
only what a run has to say about transmissions — addresses and whose turn it is (`nextTx`) — so that runs need not
expose the views in between. -/
def StepOut (cfg : Cfg) (n : Net) (v : View) (i : Nat) (now : Int) : Prop :=
  ∃ n' v' inc c, n.poll i now = (n', inc, some (.ok c)) ∧ RInv cfg n' v' ∧ v'.tl = now ∧
    (∀ j, j < 2 → v'.adr j = v.adr j) ∧
    ((c.tx = none ∧ v'.tr = v.tr ∧ v'.nextTx = v.nextTx) ∨
     (∃ b, c.tx = some b ∧ i = v.nextTx ∧ n.bus.txEnd v.tr + (cfg.b33 : Nat) < now ∧
        v'.tr = { start := now, sender := i, bytes := b, dropped := false } ∧
        ((∃ g, b = statusRequestBytes g (v.adr i) ∧ g ≠ v.adr (oth i) ∧ v'.nextTx = i) ∨
         (b = tokenBytes (v.adr (oth i)) (v.adr i) ∧ v'.nextTx = oth i))))


theorem tokenBytes_length (a b : Nat) : (tokenBytes a b).length = 3 := rfl

/-- The station whose turn it is is polled while it still has to wait (nothing is delivered to it, its PHY is idle
once its stamp has passed): nothing happens, the phase facts only have to be re-read for the new poll time. -/
theorem stepX_quiet {cfg : Cfg} {n : Net} {v : View} (h : RInv cfg n v) (now : Int) (e : EvOk cfg n v v.x now) (l : Int)
    (hl : v.sx.s.lastBusActivity = some l)
    (hsw : SilentWaits v.sx.s) (hw : now ≤ l + (silentWait v.sx.s : Nat))
    (hd : n.bus.deliver v.x now = ({ n.bus with seen := n.bus.seen.set v.x now }, []))
    (hphy : l < now → n.bus.transmitting v.x now = false)
    (hP : ∀ c : Ctx, c.s.st = v.sx.s.st → c.s.lastBusActivity = some l →
      PhaseOk cfg (v.setX c now) now (n.bus.seen.getD (oth v.x) 0)) :
    StepOut cfg n v v.x now := by
  obtain ⟨c, hc, -, -, hrest, -⟩ := silent_station_poll v.sx.s [] now l _ h.okx.inv h.okx.son hl hphy hsw
  obtain ⟨htx, -, -, hr, hce, hl', hpb, -⟩ := hrest hw
  obtain ⟨n', hn', hinv'⟩ := rinv_quiet_x h now e.tl (Int.le_of_lt e.own) [] c hd (by rw [h.rxx]; exact hc) htx hce.p
    (h.okx.view_keep (.inl hce.ring)) (hce.online.trans h.okx.son) (hpb.trans h.pbx) hr (hP c hce.st hl')
  exact ⟨n', _, [], _, hn', hinv', rfl, fun j _ => rfl, .inl ⟨htx, rfl, rfl⟩⟩

theorem stepX_hold_wait {cfg : Cfg} {n : Net} {v : View} (h : RInv cfg n v) (hok : cfg.Ok) (p1 : Int)
    (hph : v.ph = .hold p1) (now : Int) (e : EvOk cfg n v v.x now) (hw : now ≤ p1 + (cfg.b33 : Nat)) :
    StepOut cfg n v v.x now := by
  obtain ⟨hs1, hb, ⟨d, f, hst⟩, hlx, hsy, hyl, hypb, hyrx, hid, hly, htb, hp1, hsx, hA⟩ := h.hold hph
  have hne := oth_ne v.x h.x2
  have hown := e.own
  have hlen : v.tr.bytes.length = 3 := by rw [hb]; rfl
  have hd := h.bus.deliver_done hok.rate v.x h.x2 now (Int.le_of_lt e.own)
    (by rw [hlen]; decide) (by rw [hlen]; show _ + ((cfg.ce 2 : Nat) : Int) ≤ _; omega)
  refine stepX_quiet h now e p1 hlx (.inl ⟨d, f, hst⟩) (by rw [silentWait_useToken hst, h.okx.b33]; exact hw) hd
    (fun _ => h.phy_other v.x (by rw [hs1]; exact Ne.symm hne) now e.tl) (fun c hcs hcl => ?_)
  unfold PhaseOk View.setX upSt
  simp only [hph]
  exact ⟨hs1, hb, ⟨d, f, hcs.trans hst⟩, hcl, hsy, hyl, hypb, hyrx, hid, hly, htb, by omega, hw, hA⟩

theorem adr_x (v : View) : v.adr v.x = v.ax := by unfold View.adr; rw [if_pos rfl]
theorem adr_y (v : View) (h : v.x < 2) : v.adr (oth v.x) = v.ay := by
  unfold View.adr; rw [if_neg (Ne.symm (oth_ne v.x h))]

/-- Just after `x` has started a transmission at `now` the other station, last polled at `seenY ≤ now`, has nothing
of it: the receiver condition holds with an empty buffer, provided its deadline covers the first character. -/
theorem yrecv_fresh {cfg : Cfg} {v : View} (c : Ctx) (old' : List Transmission) (b : Bytes) (ph' : Phase) (now seenY : Int)
    (hc0 : 0 < cfg.ce 0) (hseen : seenY ≤ now) (hb : 0 < b.length) (hrx : v.sy.rx = [])
    (hpb : v.sy.s.pendingBytes = 0) (hl : v.sy.s.lastBusActivity = some v.ly) (hlc : v.ly < now ∨ v.ly ≤ seenY)
    (hmode : if v.idle = true then
        (∃ np coll, v.sy.s.st = .activeIdle none np coll) ∧
          now + (cfg.ce 0 : Nat) < v.ly + (v.sy.s.p.tokenLostTimeout : Nat)
      else v.sy.s.st = .checkTokenPass .first ∧ now + (cfg.ce 0 : Nat) ≤ v.ly + (cfg.slot : Nat)) :
    YRecv cfg (v.sendX c old' b ph' now) seenY := by
  have hvis0 : cvis cfg { start := now, sender := v.x, bytes := b, dropped := false } seenY = 0 :=
    cvis_zero _ _ _ (by simp only; omega)
  unfold YRecv View.sendX
  simp only [hvis0, List.take_zero]
  exact ⟨hrx, hpb, hb, hl, hlc, hmode⟩

/-- The station whose turn it is passes the token (more than 33 bit times after the end of the previous
transmission, which the other station has received completely or sent itself): phase `pass` begins. -/
theorem step_pass_token {cfg : Cfg} {n : Net} {v : View} (h : RInv cfg n v) (hok : cfg.Ok) (now : Int)
    (e : EvOk cfg n v v.x now) (hnext : v.nextTx = v.x) (c : Ctx)
    (hd : n.bus.deliver v.x now = ({ n.bus with seen := n.bus.seen.set v.x now }, []))
    (hp : v.sx.s.poll [] now (n.bus.transmitting v.x now) [] = .ok c)
    (o1 : c.rx = []) (o4 : c.s.p = v.sx.s.p) (o5 : c.s.online = v.sx.s.online)
    (o6 : c.s.pendingBytes = v.sx.s.pendingBytes) (htx : c.tx = some (tokenBytes v.ay v.ax))
    (hring : c.s.ring = v.sx.s.ring.witness v.ax v.ay)
    (hst' : c.s.st = (if (v.sx.s.ring.witness v.ax v.ay).ns = v.ax
      then FState.useToken ⟨now, none⟩ false else FState.checkTokenPass .first))
    (hlast : c.s.lastBusActivity = some (now + (v.sx.s.p.bits (11 * 3) : Nat)))
    (hsync : n.bus.txEnd v.tr + (cfg.b33 : Nat) < now)
    (hys : v.tr.sender = oth v.x ∨ n.bus.txEnd v.tr ≤ n.bus.seen.getD (oth v.x) 0)
    (hY : ∀ old', YRecv cfg (v.sendX c old' (tokenBytes v.ay v.ax) .pass now) (n.bus.seen.getD (oth v.x) 0)) :
    StepOut cfg n v v.x now := by
  have hst'' : c.s.st = .checkTokenPass .first := by
    rw [hst', h.okx.ns_witness, if_neg (Ne.symm h.okx.ne)]
  obtain ⟨n', old', hn', hinv'⟩ := rinv_send_x h hok now e.tl c _ .pass hd
    hp htx o4 (h.okx.view_keep (.inr hring)) (o5.trans h.okx.son) (o6.trans h.pbx) o1 (by omega) hys
    (by
      intro old'
      unfold PhaseOk View.sendX upSt
      simp only
      refine ⟨trivial, trivial, hst'', ?_, Int.le_refl _, hY old'⟩
      rw [hlast, bits_11_3, h.okx.bits]; rfl)
  refine ⟨n', _, [], c, hn', hinv', rfl, fun j _ => rfl, .inr ⟨_, htx, hnext.symm, hsync, rfl, .inr ⟨?_, ?_⟩⟩⟩
  · rw [adr_x, adr_y v h.x2]
  · unfold View.nextTx View.sendX; rfl

/-- Phase `hold`, the holder's first poll after its synchronisation pause: it transmits a GAP request to
an unoccupied address or the token to the other station. -/
theorem stepX_hold_go {cfg : Cfg} {n : Net} {v : View} (h : RInv cfg n v) (hok : cfg.Ok) (p1 : Int)
    (hph : v.ph = .hold p1) (now : Int) (e : EvOk cfg n v v.x now) (hgo : p1 + (cfg.b33 : Nat) < now) :
    StepOut cfg n v v.x now := by
  obtain ⟨hs1, hb, ⟨d, f, hst⟩, hlx, hsy, hyl, hypb, hyrx, hid, hly, htb, hp1, hsx, hA⟩ := h.hold hph
  have hne := oth_ne v.x h.x2
  have hown := e.own
  have hgx := e.gapX
  have htl := e.tl
  have htly := h.tly
  have hlen : v.tr.bytes.length = 3 := by rw [hb]; rfl
  have hd := h.bus.deliver_done hok.rate v.x h.x2 now (Int.le_of_lt e.own)
    (by rw [hlen]; decide) (by rw [hlen]; show _ + ((cfg.ce 2 : Nat) : Int) ≤ _; omega)
  have hphy := h.phy_other v.x (by rw [hs1]; exact Ne.symm hne) now e.tl
  obtain ⟨c, hp, hinvc, -, -, hemit⟩ := silent_station_poll v.sx.s [] now p1 false h.okx.inv h.okx.son hlx (fun _ => rfl)
    (.inl ⟨d, f, hst⟩)
  obtain ⟨r, att, hnp, ⟨o1, o4, o5, o6, -, o7⟩, -⟩ := hemit (by rw [silentWait_useToken hst, h.okx.b33]; exact hgo)
    (fun hn => absurd hst (hn d f))
  obtain ⟨rfl, rfl⟩ : r = v.sx.s.ring ∧ att = .first := by simpa only [NextPass, hst] using hnp
  replace o7 := o7.resolve_left fun hs => not_appSent_nil _ _ _ hs.1
  unfold TokenOut at o7
  have hend : n.bus.txEnd v.tr ≤ now := by
    rw [h.bus.txEnd_eq, hlen]; show _ + ((cfg.ce 2 : Nat) : Int) ≤ _; omega
  have hsync : n.bus.txEnd v.tr + (cfg.b33 : Nat) < now := by
    rw [h.bus.txEnd_eq, hlen]; show _ + ((cfg.ce 2 : Nat) : Int) + _ < _; omega
  have hc0 := cfg.ce_pos hok.rate 0
  have hY0 : ∀ old' b ph', 0 < b.length → YRecv cfg (v.sendX c old' b ph' now) (n.bus.seen.getD (oth v.x) 0) := by
    intro old' b ph' hb
    refine yrecv_fresh c old' b ph' now _ hc0 (by omega) hb hyrx hypb (by rw [hyl, hly]) (.inl (by omega)) ?_
    rw [hid]
    simp only [Bool.false_eq_true, if_false]
    exact ⟨hsy, by omega⟩
  rw [h.okx.addr, h.okx.ns] at o7
  rcases o7 with ⟨a, cur, hcur, hna, htx, hst', hring, hlast⟩ | ⟨htx, hring, hst', hlast⟩
  · -- GAP request
    obtain ⟨hnay, -⟩ := nextGapPoll_ne _ _ _ _ _ hcur
    have ha126 : a < 126 := by
      have h1 := (hinvc.await1 a hst').1
      have h2 := hinvc.gap a h1
      have h3 := hinvc.hsa
      omega
    obtain ⟨n', old', hn', hinv'⟩ := rinv_send_x h hok now e.tl c _ (.gap a) hd
      (by rw [hphy]; exact hp) htx o4 (h.okx.view_keep (.inl hring)) (o5.trans h.okx.son) (o6.trans h.pbx) o1 hend (.inl hs1)
      (by
        intro old'
        unfold PhaseOk View.sendX upSt
        simp only
        rw [if_neg (by rw [hid]; exact Bool.false_ne_true)]
        refine ⟨trivial, trivial, hnay, ha126, hst', ?_, Int.le_refl _, by omega,
          hY0 old' _ (.gap a) (by rw [statusRequestBytes_length]; decide)⟩
        rw [hlast, bits_11_6, h.okx.bits]; rfl)
    refine ⟨n', _, [], c, hn', hinv', rfl, fun j _ => rfl, .inr ⟨_, htx, ?_, hsync, rfl, .inl ⟨a, ?_, ?_, ?_⟩⟩⟩
    · unfold View.nextTx; rw [hph]
    · rw [adr_x]
    · rw [adr_y v h.x2]; exact hnay
    · unfold View.nextTx View.sendX; rfl
  · -- token
    exact step_pass_token h hok now e (by unfold View.nextTx; rw [hph]) c hd (by rw [hphy]; exact hp) o1 o4 o5 o6 htx hring
      hst' hlast hsync (.inl hs1) (fun old' => hY0 old' _ .pass (by rw [tokenBytes_length]; decide))

theorem stepX_gap_wait {cfg : Cfg} {n : Net} {v : View} (h : RInv cfg n v) (hok : cfg.Ok) (g : Nat)
    (hph : v.ph = .gap g) (now : Int) (e : EvOk cfg n v v.x now)
    (hw : now ≤ v.tr.start + (cfg.b66 : Nat) + (cfg.slot : Nat)) : StepOut cfg n v v.x now := by
  obtain ⟨hs1, hb, hgy, hg, hst, hlx, hq, hsx, hY⟩ := h.gap hph
  have hown := e.own
  have htl := e.tl
  have hd := h.bus.deliver_own hok.rate v.x h.x2 now hs1
  have hlen : v.tr.bytes.length = 6 := by rw [hb]; exact statusRequestBytes_length _ _
  have hc5 := cfg.ce5 hok.rate
  refine stepX_quiet h now e _ hlx (.inr (.inl ⟨g, hst⟩)) (by rw [silentWait_slot (by simp [hst]), h.okx.slot]; exact hw) hd
    (fun hlt => h.phy_done v.x now (by rw [hlen]; show _ + ((cfg.ce 5 : Nat) : Int) ≤ _; omega)) (fun c hcs hcl => ?_)
  unfold PhaseOk View.setX upSt
  simp only [hph]
  exact ⟨hs1, hb, hgy, hg, hcs.trans hst, hcl, by omega, hw, hY⟩

/-- Phase `pass`, the supervising sender is polled: a no-op (the successor has not even seen the complete
token yet, so the slot time cannot have expired). -/
theorem stepX_pass {cfg : Cfg} {n : Net} {v : View} (h : RInv cfg n v) (hok : cfg.Ok)
    (hph : v.ph = .pass) (now : Int) (e : EvOk cfg n v v.x now) : StepOut cfg n v v.x now := by
  obtain ⟨hs1, hb, hst, hlx, hq, hY⟩ := h.pass hph
  have hown := e.own
  have htl := e.tl
  have hgy := e.gapY
  have hd := h.bus.deliver_own hok.rate v.x h.x2 now hs1
  have hlen : v.tr.bytes.length = 3 := by rw [hb]; rfl
  have hc2 := cfg.ce2 hok.rate
  -- of the margin only `P < Tslot`: the successor had not the complete token at its last poll (`hseenY`), at most `P` ago,
  -- so `now < start + ce 2 + P ≤ (start + b33) + 1 + P`, within the slot time after the stamp
  have hmar := hok.margin
  have hseenY : n.bus.seen.getD (oth v.x) 0 < v.tr.start + ((cfg.ce 2 : Nat) : Int) := by
    have := cvis_lt_full cfg v.tr _ (by rw [hlen]; decide) hY.2.2.1
    rw [hlen] at this
    exact this
  refine stepX_quiet h now e _ hlx (.inr (.inr (.inr ⟨_, hst⟩))) (by rw [silentWait_slot (by simp [hst]), h.okx.slot]; omega) hd
    (fun hlt => h.phy_done v.x now (by rw [hlen]; show _ + ((cfg.ce 2 : Nat) : Int) ≤ _; omega)) (fun c hcs hcl => ?_)
  unfold PhaseOk View.setX upSt
  simp only [hph]
  exact ⟨hs1, hb, hcs.trans hst, hcl, by omega, hY⟩

/-- Phase `gap`, the requester's first poll after its slot time has expired: the other station has heard
the request completely by then; the token goes to it. -/
theorem stepX_gap_timeout {cfg : Cfg} {n : Net} {v : View} (h : RInv cfg n v) (hok : cfg.Ok) (g : Nat)
    (hph : v.ph = .gap g) (now : Int) (e : EvOk cfg n v v.x now)
    (hex : v.tr.start + (cfg.b66 : Nat) + (cfg.slot : Nat) < now) : StepOut cfg n v v.x now := by
  obtain ⟨hs1, hb, hgy, hg, hst, hlx, hq, hsx, hY⟩ := h.gap hph
  have hown := e.own
  have htl := e.tl
  have hgapy := e.gapY
  have hgapx := e.gapX
  have hmar := hok.margin
  have hd := h.bus.deliver_own hok.rate v.x h.x2 now hs1
  have hlen : v.tr.bytes.length = 6 := by rw [hb]; exact statusRequestBytes_length _ _
  have hc5 := cfg.ce5 hok.rate
  have hc2 := cfg.ce2 hok.rate
  have hc0 := cfg.ce_pos hok.rate 0
  have hphy := h.phy_done v.x now (by rw [hlen]; show _ + ((cfg.ce 5 : Nat) : Int) ≤ _; omega)
  -- the other station has heard the request completely
  have hidle : v.idle = true := by
    cases hi : v.idle with
    | true => rfl
    | false =>
      exfalso
      rw [hi] at hY
      simp only [Bool.false_eq_true, if_false] at hY
      have hlt := hY.2.2.1
      have hfull := cvis_full cfg v.tr (n.bus.seen.getD (oth v.x) 0) (by rw [hlen]; decide)
        (by rw [hlen]; show _ + ((cfg.ce 5 : Nat) : Int) ≤ _; omega)
      omega
  rw [hidle] at hY
  simp only [if_true] at hY
  obtain ⟨⟨np, coll, hyst⟩, hyrx, hypb, hyl, hly1, hly2⟩ := hY
  obtain ⟨c, hp, hinvc, -, -, hemit⟩ := silent_station_poll v.sx.s [] now _ false h.okx.inv h.okx.son hlx (fun _ => rfl)
    (.inr (.inl ⟨g, hst⟩))
  obtain ⟨r, att, hnp, ⟨o1, o4, o5, o6, -, -⟩, htok⟩ := hemit (by rw [silentWait_slot (by simp [hst]), h.okx.slot]; exact hex)
    (fun _ => by rw [h.okx.b33, h.okx.slot]; omega)
  obtain ⟨rfl, rfl⟩ : r = v.sx.s.ring ∧ att = .first := by simpa only [NextPass, hst] using hnp
  obtain ⟨-, htx, hring, hst', hlast⟩ := htok (by simp [hst]) (by simp [hst])
  rw [h.okx.addr, h.okx.ns] at htx hring hst'
  have hsync : n.bus.txEnd v.tr + (cfg.b33 : Nat) < now := by
    rw [h.bus.txEnd_eq, hlen]; show _ + ((cfg.ce 5 : Nat) : Int) + _ < _; omega
  have htto := h.oky.tto
  have htly := h.tly
  refine step_pass_token h hok now e (by unfold View.nextTx; rw [hph]) c hd (by rw [hphy]; exact hp) o1 o4 o5 o6 htx hring
    hst' hlast hsync (.inr (by rw [h.bus.txEnd_eq, hlen]; show _ + ((cfg.ce 5 : Nat) : Int) ≤ _; omega)) (fun old' => ?_)
  refine yrecv_fresh c old' _ .pass now _ hc0 (by omega) (by rw [tokenBytes_length]; decide) hyrx hypb hyl (.inr hly2) ?_
  rw [hidle]
  simp only [if_true]
  exact ⟨⟨np, coll, hyst⟩, by omega⟩

/-- Phase `hold`, the supervising other station is polled: a no-op (its slot time cannot have expired, the
holder's transmission is due earlier). -/
theorem stepY_hold {cfg : Cfg} {n : Net} {v : View} (h : RInv cfg n v) (hok : cfg.Ok) (p1 : Int)
    (hph : v.ph = .hold p1) (now : Int) (e : EvOk cfg n v (oth v.x) now) : StepOut cfg n v (oth v.x) now := by
  obtain ⟨hs1, hb, hxst, hlx, hsy, hyl, hypb, hyrx, hid, hly, htb, hp1, hsx, hA⟩ := h.hold hph
  have hown := e.own
  have htl := e.tl
  have hgapx := e.gapX
  have htlx := h.tlx
  have hd := h.bus.deliver_own hok.rate (oth v.x) (oth_lt _) now hs1
  have hlen : v.tr.bytes.length = 3 := by rw [hb]; rfl
  have hc2 := cfg.ce2 hok.rate
  have hphy := h.phy_done (oth v.x) now (by rw [hlen]; show _ + ((cfg.ce 2 : Nat) : Int) ≤ _; omega)
  have hpoll : ∃ c', v.sy.s.poll [] now false [] = .ok c' ∧ c'.tx = none ∧ c'.s = v.sy.s ∧
      c'.apps = [] ∧ c'.rx = [] := by
    by_cases hle : now ≤ v.tr.start + (cfg.b33 : Nat)
    · exact ⟨_, poll_ongoing v.sy.s [] now _ [] h.oky.son (by rw [hsy]; simp) (by rw [hsy]; simp) _ hyl hle,
        rfl, rfl, rfl, rfl⟩
    · have hp := listener_poll_nil v.sy.s [] now _ [] [] false false h.oky.son hsy hyl (by omega) h.oky.tto_pos
        (.inr (by show now ≤ _ + ((v.sy.s.p.slotTime : Nat) : Int); rw [h.oky.slot]; omega)) receiveAll_nil
      simp only [List.length_nil, checkBus_nil] at hp
      exact ⟨_, hp, rfl, rfl, rfl, rfl⟩
  obtain ⟨c', hc', htx', hs', ha', hr'⟩ := hpoll
  obtain ⟨n', hn', hinv'⟩ := rinv_quiet_y h now e.tl (Int.le_of_lt e.own) [] c' v.idle v.ly hd
    (by rw [hphy, hyrx]; exact hc') htx' (by rw [hs']) (h.oky.view_keep (.inl (by rw [hs']))) (by rw [hs']; exact h.oky.son)
    (by
      unfold PhaseOk View.setY upSt
      simp only [hph, hs', hr']
      exact ⟨hs1, hb, hxst, hlx, hsy, hyl, hypb, trivial, hid, hly, htb, hp1, hsx, hA⟩)
  exact ⟨n', _, [], _, hn', hinv', rfl, fun j _ => rfl, .inl ⟨htx', rfl, rfl⟩⟩

/-- Phase `gap`, the other station has heard the request already and is polled again: a no-op (its
token-lost time-out is far away). -/
theorem stepY_gap_idle {cfg : Cfg} {n : Net} {v : View} (h : RInv cfg n v) (hok : cfg.Ok) (g : Nat)
    (hph : v.ph = .gap g) (hidle : v.idle = true) (now : Int) (e : EvOk cfg n v (oth v.x) now) :
    StepOut cfg n v (oth v.x) now := by
  obtain ⟨hs1, hb, hgy, hg, hst, hlx, hq, hsx, hY⟩ := h.gap hph
  rw [hidle] at hY
  simp only [if_true] at hY
  obtain ⟨⟨np, coll, hyst⟩, hyrx, hypb, hyl, hly1, hly2⟩ := hY
  have hown := e.own
  have htl := e.tl
  have hgapx := e.gapX
  have hne := oth_ne v.x h.x2
  have hlen : v.tr.bytes.length = 6 := by rw [hb]; exact statusRequestBytes_length _ _
  have hc5 := cfg.ce5 hok.rate
  have htto := h.oky.tto
  have hd := h.bus.deliver_done hok.rate (oth v.x) (oth_lt _) now (Int.le_of_lt e.own)
    (by rw [hlen]; decide) (by rw [hlen]; show _ + ((cfg.ce 5 : Nat) : Int) ≤ _; omega)
  have hphy := h.phy_other (oth v.x) (by rw [hs1]; exact hne) now e.tl
  have hp := listener_poll_nil v.sy.s [] now v.ly [] [] false true h.oky.son ⟨np, coll, hyst⟩ hyl (by omega) h.oky.tto_pos
    (.inr (by show now < _ + ((v.sy.s.p.tokenLostTimeout : Nat) : Int); omega)) receiveAll_nil
  simp only [List.length_nil, checkBus_nil] at hp
  obtain ⟨n', hn', hinv'⟩ := rinv_quiet_y h now e.tl (Int.le_of_lt e.own) [] { s := v.sy.s, apps := [], rx := [] } true v.ly hd
    (by rw [hphy, hyrx]; exact hp) rfl rfl (h.oky.view_keep (.inl rfl)) h.oky.son
    (by
      unfold PhaseOk View.setY upSt
      simp only [hph, if_true]
      exact ⟨hs1, hb, hgy, hg, hst, hlx, hq, hsx, ⟨np, coll, hyst⟩, trivial, hypb, hyl, hly1, by omega⟩)
  exact ⟨n', _, [], _, hn', hinv', rfl, fun j _ => rfl, .inl ⟨rfl, rfl, rfl⟩⟩

/-- The mode of the receiving station and its deadline in the form of `Lemmas/ListenerPoll`. -/
theorem YRecv.mode {cfg : Cfg} {v : View} {seenY : Int} (h : YRecv cfg v seenY) (hslot : v.sy.s.p.slotTime = cfg.slot)
    (hto : 0 < v.sy.s.p.tokenLostTimeout) :
    Listens v.sy.s v.idle ∧
      nextArr cfg seenY [v.tr] seenY ≤ v.ly + ((lisWait v.sy.s v.idle : Nat) : Int) :=
  (listenMode_iff v.sy.s v.idle v.ly _ cfg.slot hslot hto).1 h.2.2.2.2.2

/-- The other station, receiving the telegram `t` that `tr` carries piece by piece, is polled while it is still
incomplete for it: it registers the new characters (stamp := poll time) or, if none is new, finds its deadline not
reached (`nextArr_carry`); nothing else happens. -/
theorem yrecv_partial {cfg : Cfg} {n : Net} {v : View} (h : RInv cfg n v) (hok : cfg.Ok)
    (hs1 : v.tr.sender = v.x) (hY : YRecv cfg v (n.bus.seen.getD (oth v.x) 0))
    (t : Telegram) (hv : t.Valid) (hw : v.tr.bytes = t.wire)
    (now : Int) (e : EvOk cfg n v (oth v.x) now) (hpart : cvis cfg v.tr now < v.tr.bytes.length) :
    ∃ inc c ly', n.bus.deliver (oth v.x) now = ({ n.bus with seen := n.bus.seen.set (oth v.x) now }, inc) ∧
      v.sy.s.poll [] now (n.bus.transmitting (oth v.x) now) (v.sy.rx ++ inc) = .ok c ∧ c.tx = none ∧
      c.s.p = v.sy.s.p ∧ c.s.ring = v.sy.s.ring ∧ c.s.online = true ∧ YRecv cfg (v.setY c v.idle ly' now) now := by
  have hto := h.oky.tto_pos
  obtain ⟨hmode, hdl⟩ := hY.mode h.oky.slot hto
  obtain ⟨hrx, hpb, hlt, hyl, hlc, -⟩ := hY
  have hown := e.own
  have htl := e.tl
  have htlt := h.tlt
  have hne := oth_ne v.x h.x2
  have hmar := hok.margin
  have htto := h.oky.tto
  obtain ⟨inc, hd, hcat⟩ := h.bus.deliver_recv hok.rate (oth v.x) (oth_lt _) now (by rw [hs1]; exact hne) (Int.le_of_lt e.own)
  have hphy := h.phy_other (oth v.x) (by rw [hs1]; exact hne) now e.tl
  have hlyn : v.ly < now := by rcases hlc with h1 | h1 <;> omega
  have hlen : ∀ a, (arrived cfg [v.tr] a).length = cvis cfg v.tr a := fun a => by
    have := cvis_le cfg v.tr a
    rw [arrived_single, List.length_take]; omega
  have hrx' : v.sy.rx ++ inc = arrived cfg [v.tr] now := by rw [hrx, arrived_single]; exact hcat
  obtain ⟨hfr, hdl'⟩ := nextArr_carry cfg hok.rate (H := now) (rs := [v.tr]) (l := v.ly) (pend := v.sy.s.pendingBytes)
    (W := ((lisWait v.sy.s v.idle : Nat) : Int)) (Int.le_of_lt e.own) (Int.le_refl _)
    (fun t rest hrs => by cases hrs; exact ⟨hpart, fun _ ht => by cases ht⟩) (fun t rest hrs => by cases hrs; omega)
    (by rw [hlen, hpb]; exact Nat.le_refl _)
    (by unfold lisWait; rw [h.oky.slot]; split <;> omega) hdl
  have hpoll := listener_poll_nil v.sy.s [] now v.ly (arrived cfg [v.tr] now) (arrived cfg [v.tr] now) false v.idle h.oky.son hmode hyl hlyn hto
    ((listenFresh_iff v.sy.s v.idle v.ly now _ hto).2 hfr)
    (by rw [arrived_single]; rw [hw] at hpart ⊢; exact (receiveAll_one t hv _).1 hpart)
  rw [hlen] at hpoll hdl'
  rw [arrived_single] at hpoll hrx'
  obtain ⟨f1, f2, f3, f4, -⟩ := checkBA_fields v.sy.s now (cvis cfg v.tr now)
  have hl' := checkBA_stamp_if v.sy.s now v.ly (cvis cfg v.tr now) hyl hlyn
  have hpb' : (checkBusActivity v.sy.s now (cvis cfg v.tr now)).pendingBytes = cvis cfg v.tr now := by
    have := cvis_mono cfg v.tr _ now (Int.le_of_lt e.own)
    unfold checkBusActivity
    rw [hpb]
    split
    · rfl
    · rw [hpb]; omega
  refine ⟨inc, _, (if v.sy.s.pendingBytes < cvis cfg v.tr now then now else v.ly), hd, by rw [hphy, hrx']; exact hpoll, rfl, f2, f3,
    by rw [f4]; exact h.oky.son, ?_⟩
  refine ⟨rfl, hpb', hpart, hl', .inr (by show (if _ then _ else _) ≤ now; split <;> omega), ?_⟩
  exact (listenMode_iff _ v.idle _ _ cfg.slot (by show (checkBusActivity _ _ _).p.slotTime = _; rw [f2]; exact h.oky.slot)
    (by show 0 < (checkBusActivity _ _ _).p.tokenLostTimeout; rw [f2]; exact hto)).2
      ⟨hmode.congr f1, by
        show _ ≤ _ + ((lisWait (checkBusActivity v.sy.s now (cvis cfg v.tr now)) v.idle : Nat) : Int)
        rw [lisWait_congr f2]; exact hdl'⟩

theorem stepY_gap_partial {cfg : Cfg} {n : Net} {v : View} (h : RInv cfg n v) (hok : cfg.Ok) (g : Nat)
    (hph : v.ph = .gap g) (hidle : v.idle = false) (now : Int) (e : EvOk cfg n v (oth v.x) now)
    (hpart : cvis cfg v.tr now < v.tr.bytes.length) : StepOut cfg n v (oth v.x) now := by
  obtain ⟨hs1, hb, hgy, hg, hst, hlx, hq, hsx, hY⟩ := h.gap hph
  rw [hidle] at hY
  simp only [Bool.false_eq_true, if_false] at hY
  have hax := h.okx.lta
  obtain ⟨inc, c, ly', hd, hp, htx, h1, h2, h3, hY'⟩ := yrecv_partial h hok hs1 hY (reqTel g v.ax)
    (reqTel_valid g v.ax (by omega) (by omega)) (by rw [hb, reqTel_wire]) now e hpart
  obtain ⟨n', hn', hinv'⟩ := rinv_quiet_y h now e.tl (Int.le_of_lt e.own) inc c v.idle ly' hd hp htx h1
    (h.oky.view_keep (.inl h2)) h3
    (by
      unfold PhaseOk
      have e1 : (v.setY c v.idle ly' now).ph = .gap g := hph
      rw [e1]
      simp only
      have e2 : (v.setY c v.idle ly' now).idle = false := hidle
      rw [e2]
      simp only [Bool.false_eq_true, if_false]
      exact ⟨hs1, hb, hgy, hg, hst, hlx, hq, hsx, hY'⟩)
  exact ⟨n', _, inc, c, hn', hinv', rfl, fun j _ => rfl, .inl ⟨htx, rfl, rfl⟩⟩

theorem stepY_pass_partial {cfg : Cfg} {n : Net} {v : View} (h : RInv cfg n v) (hok : cfg.Ok)
    (hph : v.ph = .pass) (now : Int) (e : EvOk cfg n v (oth v.x) now)
    (hpart : cvis cfg v.tr now < v.tr.bytes.length) : StepOut cfg n v (oth v.x) now := by
  obtain ⟨hs1, hb, hst, hlx, hq, hY⟩ := h.pass hph
  obtain ⟨inc, c, ly', hd, hp, htx, h1, h2, h3, hY'⟩ := yrecv_partial h hok hs1 hY
    (.token (UInt8.ofNat v.ay) (UInt8.ofNat v.ax)) trivial hb now e hpart
  obtain ⟨n', hn', hinv'⟩ := rinv_quiet_y h now e.tl (Int.le_of_lt e.own) inc c v.idle ly' hd hp htx h1
    (h.oky.view_keep (.inl h2)) h3
    (by
      unfold PhaseOk
      have e1 : (v.setY c v.idle ly' now).ph = .pass := hph
      rw [e1]
      simp only
      exact ⟨hs1, hb, hst, hlx, hq, hY'⟩)
  exact ⟨n', _, inc, c, hn', hinv', rfl, fun j _ => rfl, .inl ⟨htx, rfl, rfl⟩⟩

theorem yrecv_complete {cfg : Cfg} {n : Net} {v : View} (h : RInv cfg n v) (hok : cfg.Ok)
    (hs1 : v.tr.sender = v.x) (hY : YRecv cfg v (n.bus.seen.getD (oth v.x) 0))
    (t : Telegram) (hv : t.Valid) (hw : v.tr.bytes = t.wire)
    (now : Int) (e : EvOk cfg n v (oth v.x) now) (hfull : cvis cfg v.tr now = v.tr.bytes.length) :
    ∃ inc, n.bus.deliver (oth v.x) now = ({ n.bus with seen := n.bus.seen.set (oth v.x) now }, inc) ∧
      n.bus.transmitting (oth v.x) now = false ∧ receiveAll (v.sy.rx ++ inc) = .done [] [(t, true)] true ∧
      v.ly < now ∧ Listens v.sy.s v.idle ∧ ListenFresh v.sy.s v.idle v.ly now (v.sy.rx ++ inc).length ∧
      n.bus.txEnd v.tr ≤ now := by
  obtain ⟨hmode, -⟩ := hY.mode h.oky.slot h.oky.tto_pos
  obtain ⟨hrx, hpb, hlt, hyl, hlc, -⟩ := hY
  have hown := e.own
  have htl := e.tl
  have htlt := h.tlt
  have hne := oth_ne v.x h.x2
  obtain ⟨inc, hd, hcat⟩ := h.bus.deliver_recv hok.rate (oth v.x) (oth_lt _) now (by rw [hs1]; exact hne) (Int.le_of_lt e.own)
  have hrx' : v.sy.rx ++ inc = t.wire := by rw [hrx, hcat, hfull, List.take_length, hw]
  refine ⟨inc, hd, h.phy_other (oth v.x) (by rw [hs1]; exact hne) now e.tl, by rw [hrx']; exact (receiveAll_one t hv 0).2,
    by rcases hlc with h1 | h1 <;> omega, hmode, .inl (by rw [hrx', ← hw, hpb]; exact hlt), ?_⟩
  rw [h.bus.txEnd_eq]
  exact (cvis_spec cfg v.tr now _ (by omega)).1 (by omega)

/-- Phase `gap`, the poll at which the other station (still supervising) has the complete request in its
buffer: it is not addressed to it; supervision ends, the station is idle. -/
theorem stepY_gap_complete {cfg : Cfg} {n : Net} {v : View} (h : RInv cfg n v) (hok : cfg.Ok) (g : Nat)
    (hph : v.ph = .gap g) (hidle : v.idle = false) (now : Int) (e : EvOk cfg n v (oth v.x) now)
    (hfull : cvis cfg v.tr now = v.tr.bytes.length) : StepOut cfg n v (oth v.x) now := by
  obtain ⟨hs1, hb, hgy, hg, hst, hlx, hq, hsx, hY⟩ := h.gap hph
  rw [hidle] at hY
  simp only [Bool.false_eq_true, if_false] at hY
  have hax := h.okx.lta
  obtain ⟨M, hview, hsucc, hpred⟩ := h.oky.view
  obtain ⟨inc, hd, hphy, hrec, hlyn, hmode, hfresh, hend⟩ := yrecv_complete h hok hs1 hY (reqTel g v.ax)
    (reqTel_valid g v.ax (by omega) (by omega)) (by rw [hb, reqTel_wire]) now e hfull
  obtain ⟨c, hp, htx, hrx, -, -, hcp, hon, hcst, hcv, hcl, hcpb⟩ := listener_hears M v.ay v.sy.s [] now v.ly _ [] _ true v.idle
    h.oky.son hmode hY.2.2.2.1 hlyn h.oky.tto_pos hfresh hrec h.oky.addr hview (by simp)
    (by intro x hx; rw [List.mem_singleton.1 hx]; exact .inr (.inl ⟨g, v.ax, hg, hax, hgy, rfl⟩))
  rw [h.bus.txEnd_eq, hb, statusRequestBytes_length] at hend
  obtain ⟨n', hn', hinv'⟩ := rinv_quiet_y h now e.tl (Int.le_of_lt e.own) inc c true now hd (by rw [hphy]; exact hp) htx hcp
    ⟨M, hcv, hsucc, hpred⟩ hon
    (by
      unfold PhaseOk
      have e1 : (v.setY c true now now).ph = .gap g := hph
      rw [e1]
      simp only
      unfold View.setY upSt
      simp only [if_true]
      exact ⟨hs1, hb, hgy, hg, hst, hlx, hq, hsx, hcst, hrx, hcpb, hcl, hend, Int.le_refl _⟩)
  exact ⟨n', _, inc, _, hn', hinv', rfl, fun j _ => rfl, .inl ⟨htx, rfl, rfl⟩⟩

/-- Phase `pass`, the poll at which the successor has the complete token in its buffer: it accepts it (from
`CheckTokenPass` if it still supervised its own earlier pass, from `ActiveIdle` otherwise); the roles swap. -/
theorem stepY_pass_complete {cfg : Cfg} {n : Net} {v : View} (h : RInv cfg n v) (hok : cfg.Ok)
    (hph : v.ph = .pass) (now : Int) (e : EvOk cfg n v (oth v.x) now)
    (hfull : cvis cfg v.tr now = v.tr.bytes.length) : StepOut cfg n v (oth v.x) now := by
  obtain ⟨hs1, hb, hst, hlx, hq, hY⟩ := h.pass hph
  have hgapy := e.gapY
  have hne := oth_ne v.x h.x2
  have hoo := oth_oth v.x h.x2
  -- the whole margin is spent on the last clause of `hold` (the last `omega`): the token is accepted at
  -- `p1 = now < start + ce 2 + P` (as in `stepX_pass`), so `p1 + P + ce 0 ≤ start + (b33 + 1) + 2P + ce 0 ≤ start + Tslot` —
  -- the first character of what the receiver sends next reaches the supervising sender within its slot time
  have hmar := hok.margin
  have hc2 := cfg.ce2 hok.rate
  have hax := h.okx.lta
  have hay := h.oky.lta
  have hlen : v.tr.bytes.length = 3 := by rw [hb]; rfl
  obtain ⟨M, hview, hsucc, hpred⟩ := h.oky.view
  obtain ⟨inc, hd, hphy, hrec, hlyn, hmode, hfresh, hend⟩ := yrecv_complete h hok hs1 hY
    (.token (UInt8.ofNat v.ay) (UInt8.ofNat v.ax)) trivial hb now e hfull
  rw [← hpred] at hrec
  obtain ⟨c, hp, htx, hrx, -, -, hcp, hon, hcst, hcv, hcl, hcpb⟩ := listener_accepts M v.ay v.sy.s [] now v.ly _ [] [] _ v.idle
    h.oky.son hmode hY.2.2.2.1 hlyn h.oky.tto_pos hfresh hrec h.oky.addr hview (fun x hx => by cases hx)
    (by rw [hpred]; exact h.okx.ne) hay (by rw [hpred]; exact hax)
  rw [h.bus.txEnd_eq, hlen] at hend
  have hseenY : n.bus.seen.getD (oth v.x) 0 < v.tr.start + ((cfg.ce 2 : Nat) : Int) := by
    have := cvis_lt_full cfg v.tr _ (by rw [hlen]; decide) hY.2.2.1
    rw [hlen] at this
    exact this
  obtain ⟨n', hn', hinv'⟩ := rinv_swap_y h now e.tl (Int.le_of_lt e.own) inc c (v.tr.start + (cfg.b33 : Nat)) hd
    (by rw [hphy]; exact hp) htx hcp ⟨M, hcv, hsucc, hpred⟩ hon hcpb hrx
    (by
      unfold PhaseOk View.swap upSt
      simp only
      exact ⟨by rw [hoo]; exact hs1, hb, ⟨_, _, hcst⟩, hcl, hst, hlx, h.pbx, h.rxx, trivial, trivial, hend,
        Int.le_refl _, by omega, by omega⟩)
  refine ⟨n', _, inc, _, hn', hinv', rfl, ?_, .inl ⟨htx, rfl, ?_⟩⟩
  · intro j hj
    unfold View.adr View.swap
    simp only
    rcases two_cases v.x j h.x2 hj with rfl | rfl
    · rw [if_neg hne, if_pos rfl]
    · rw [if_pos rfl, if_neg (Ne.symm hne)]
  · unfold View.nextTx View.swap
    simp only [hph]

theorem ring2_step {cfg : Cfg} {n : Net} {v : View} (h : RInv cfg n v) (hok : cfg.Ok) (i : Nat) (now : Int)
    (e : EvOk cfg n v i now) : StepOut cfg n v i now := by
  rcases two_cases v.x i h.x2 e.i2 with rfl | rfl
  · cases hph : v.ph with
    | hold p1 =>
      by_cases hw : now ≤ p1 + (cfg.b33 : Nat)
      · exact stepX_hold_wait h hok p1 hph now e hw
      · exact stepX_hold_go h hok p1 hph now e (by omega)
    | gap g =>
      by_cases hw : now ≤ v.tr.start + (cfg.b66 : Nat) + (cfg.slot : Nat)
      · exact stepX_gap_wait h hok g hph now e hw
      · exact stepX_gap_timeout h hok g hph now e (by omega)
    | pass => exact stepX_pass h hok hph now e
  · cases hph : v.ph with
    | hold p1 => exact stepY_hold h hok p1 hph now e
    | gap g =>
      cases hid : v.idle with
      | true => exact stepY_gap_idle h hok g hph hid now e
      | false =>
        by_cases hpart : cvis cfg v.tr now < v.tr.bytes.length
        · exact stepY_gap_partial h hok g hph hid now e hpart
        · exact stepY_gap_complete h hok g hph hid now e (by have := cvis_le cfg v.tr now; omega)
    | pass =>
      by_cases hpart : cvis cfg v.tr now < v.tr.bytes.length
      · exact stepY_pass_partial h hok hph now e hpart
      · exact stepY_pass_complete h hok hph now e (by have := cvis_le cfg v.tr now; omega)

/-- A schedule for the two stations: events `(station, time)` in time order, every station's own poll
times strictly increasing, and at every event no station has been unpolled for more than `P`.  (`seen`
is the bus's record of the last poll times; it does not depend on what the stations do.) -/
def Sched (P : Nat) : Net → Int → List (Nat × Int) → Prop
  | _, _, [] => True
  | n, tl, (i, now) :: rest =>
    i < 2 ∧ tl ≤ now ∧ n.bus.seen.getD i 0 < now ∧ (∀ j, j < 2 → now ≤ n.bus.seen.getD j 0 + (P : Nat)) ∧
    Sched P (n.poll i now).1 now rest

/-- What a run of the stable two-station ring looks like (`adr`: the two addresses, `turn`: the station
whose turn it is to transmit, `lastEnd`: end of the last transmission on the bus):
every poll returns regularly; only the station whose turn it is transmits; every transmission starts
later than 33 bit times after the end of the previous one (no overlap, synchronisation pause); it is a GAP
request to an address that is not the other station's (the turn stays) or the token to the other station
(the turn passes on).  Nobody ever claims, retries or replies. -/
def GoodRun (cfg : Cfg) (adr : Nat → Nat) : Net → Nat → Int → List (Nat × Int) → Prop
  | _, _, _, [] => True
  | n, turn, lastEnd, (i, now) :: rest =>
    ∃ n' inc c, n.poll i now = (n', inc, some (.ok c)) ∧
      ((c.tx = none ∧ GoodRun cfg adr n' turn lastEnd rest) ∨
       (∃ b, c.tx = some b ∧ i = turn ∧ lastEnd + (cfg.b33 : Nat) < now ∧
          ((∃ g, b = statusRequestBytes g (adr i) ∧ g ≠ adr (oth i) ∧
              GoodRun cfg adr n' i (now + (cfg.ce (b.length - 1) : Nat)) rest) ∨
           (b = tokenBytes (adr (oth i)) (adr i) ∧
              GoodRun cfg adr n' (oth i) (now + (cfg.ce (b.length - 1) : Nat)) rest))))

theorem ring2_run {cfg : Cfg} (hok : cfg.Ok) (adr : Nat → Nat) : ∀ (evs : List (Nat × Int)) (n : Net) (v : View),
    RInv cfg n v → (∀ j, j < 2 → v.adr j = adr j) → Sched cfg.P n v.tl evs →
    GoodRun cfg adr n v.nextTx (n.bus.txEnd v.tr) evs := by
  intro evs
  induction evs with
  | nil => intro _ _ _ _ _; trivial
  | cons ev rest ih =>
    intro n v h hadr hs
    obtain ⟨i, now⟩ := ev
    obtain ⟨hi, htl, hown, hgap, hrest⟩ := hs
    have e : EvOk cfg n v i now := ⟨hi, htl, hown, hgap v.x h.x2, hgap (oth v.x) (oth_lt _)⟩
    obtain ⟨n', v', inc, c, hp, hinv', htl', hadr', hcase⟩ := ring2_step h hok i now e
    have hn' : (n.poll i now).1 = n' := by rw [hp]
    rw [hn', ← htl'] at hrest
    have ih' := ih n' v' hinv' (fun j hj => (hadr' j hj).trans (hadr j hj)) hrest
    refine ⟨n', inc, c, hp, ?_⟩
    rcases hcase with ⟨htx, htr, hnx⟩ | ⟨b, htx, hit, hsync, htr, hkind⟩
    · left
      refine ⟨htx, ?_⟩
      rw [hnx, htr, hinv'.bus.txEnd_eq, ← h.bus.txEnd_eq] at ih'
      exact ih'
    · right
      have hend : n'.bus.txEnd v'.tr = now + ((cfg.ce (b.length - 1) : Nat) : Int) := by
        rw [hinv'.bus.txEnd_eq, htr]
      rw [hend] at ih'
      have hoi := hadr (oth i) (oth_lt _)
      have hii := hadr i hi
      refine ⟨b, htx, hit, hsync, ?_⟩
      rcases hkind with ⟨g, hb, hg, hnx⟩ | ⟨hb, hnx⟩
      · left
        rw [hnx] at ih'
        exact ⟨g, by rw [hb, hii], by rw [← hoi]; exact hg, ih'⟩
      · right
        rw [hnx] at ih'
        exact ⟨by rw [hb, hii, hoi], ih'⟩

/-- The schedule conditions in terms of the last poll times alone. -/
def SchedT (P : Nat) : List Int → Int → List (Nat × Int) → Prop
  | _, _, [] => True
  | seen, tl, (i, now) :: rest =>
    i < 2 ∧ tl ≤ now ∧ seen.getD i 0 < now ∧ (∀ j, j < 2 → now ≤ seen.getD j 0 + (P : Nat)) ∧
    SchedT P (seen.set i now) now rest

theorem sched_of_times (P : Nat) : ∀ (evs : List (Nat × Int)) (n : Net) (tl : Int),
    SchedT P n.bus.seen tl evs → Sched P n tl evs := by
  intro evs
  induction evs with
  | nil => intro _ _ _; trivial
  | cons ev rest ih =>
    intro n tl h
    obtain ⟨i, now⟩ := ev
    obtain ⟨h1, h2, h3, h4, h5⟩ := h
    exact ⟨h1, h2, h3, h4, ih _ now (by rw [Net.poll_seenN]; exact h5)⟩

def Net.after (n : Net) (evs : List (Nat × Int)) : Net := evs.foldl (fun n e => (n.poll e.1 e.2).1) n

theorem ring2_inv_run {cfg : Cfg} (hok : cfg.Ok) : ∀ (evs : List (Nat × Int)) (n : Net) (v : View),
    RInv cfg n v → Sched cfg.P n v.tl evs → ∃ v', RInv cfg (n.after evs) v' ∧ ∀ j, j < 2 → v'.adr j = v.adr j := by
  intro evs
  induction evs with
  | nil => intro n v h _; exact ⟨v, h, fun _ _ => rfl⟩
  | cons ev rest ih =>
    intro n v h hs
    obtain ⟨i, now⟩ := ev
    obtain ⟨hi, htl, hown, hgap, hrest⟩ := hs
    have e : EvOk cfg n v i now := ⟨hi, htl, hown, hgap v.x h.x2, hgap (oth v.x) (oth_lt _)⟩
    obtain ⟨n', v', inc, c, hp, hinv', htl', hadr', -⟩ := ring2_step h hok i now e
    have hn' : (n.poll i now).1 = n' := by rw [hp]
    rw [hn', ← htl'] at hrest
    obtain ⟨v'', h1, h2⟩ := ih n' v' hinv' hrest
    refine ⟨v'', ?_, fun j hj => (h2 j hj).trans (hadr' j hj)⟩
    show RInv cfg (Net.after (n.poll i now).1 rest) v''
    rw [hn']; exact h1

theorem Cfg.ok_of_quarter_slot (cfg : Cfg) (hr : 0 < cfg.rate) (hP : cfg.P ≤ cfg.slot / 4)
    (hs : 88 * 1000000 + 6 * cfg.rate ≤ cfg.slotBits * 1000000) : cfg.Ok :=
  ⟨hr, Cfg.quarter_margin cfg.rate cfg.slotBits cfg.P 2 (cfg.ce 0) 3 hr hP
    (by
      have := Cfg.ceil_le_floor_succ cfg.rate (11 * 1000000) hr
      show 2 + (11 * 1000000 + cfg.rate - 1) / cfg.rate ≤ 11 * 1000000 / cfg.rate + 3
      omega) hs⟩

/-- **Silence bound**: at every event the time since the end of the last transmission is at most
`Tslot + P` — the bus is never silent for longer (the longest silence is the unanswered GAP request). -/
theorem ring2_silence {cfg : Cfg} {n : Net} {v : View} (h : RInv cfg n v) (hok : cfg.Ok) (i : Nat) (now : Int)
    (e : EvOk cfg n v i now) : now ≤ n.bus.txEnd v.tr + (cfg.slot : Nat) + (cfg.P : Nat) := by
  have hgx := e.gapX
  have hgy := e.gapY
  have hc2 := cfg.ce2 hok.rate
  have hc5 := cfg.ce5 hok.rate
  have hc0 := cfg.ce_pos hok.rate 0
  rw [h.bus.txEnd_eq]
  cases hph : v.ph with
  | hold p1 =>
    obtain ⟨hs1, hb, -, -, -, -, -, -, -, -, htb, hp1, hsx, hA⟩ := h.hold hph
    have hlen : v.tr.bytes.length = 3 := by rw [hb]; rfl
    rw [hlen]
    show now ≤ _ + ((cfg.ce 2 : Nat) : Int) + _ + _
    omega
  | gap g =>
    obtain ⟨hs1, hb, -, -, -, -, hq, hsx, -⟩ := h.gap hph
    have hlen : v.tr.bytes.length = 6 := by rw [hb]; exact statusRequestBytes_length _ _
    rw [hlen]
    show now ≤ _ + ((cfg.ce 5 : Nat) : Int) + _ + _
    omega
  | pass =>
    obtain ⟨hs1, hb, -, -, -, hY⟩ := h.pass hph
    have hlen : v.tr.bytes.length = 3 := by rw [hb]; rfl
    have hseenY : n.bus.seen.getD (oth v.x) 0 < v.tr.start + ((cfg.ce 2 : Nat) : Int) := by
      have := cvis_lt_full cfg v.tr _ (by rw [hlen]; decide) hY.2.2.1
      rw [hlen] at this
      exact this
    rw [hlen]
    show now ≤ _ + ((cfg.ce 2 : Nat) : Int) + _ + _
    omega

end PV
