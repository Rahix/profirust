/-
Timed ring: along every run of the stable ring all stations keep the same LAS and at most one of them is in a
token-holding state (the ring-level clauses of C02 / C06).
-/
import ProfiVerif.Lemmas.TimedRingNSys

namespace PV

/-- States in which a station has (or claims) the token. -/
def Holding : FState → Prop
  | .useToken .. | .awaitData .. | .awaitStatus .. | .passToken .. | .claimToken .. => True
  | _ => False

/-- **Agreement**: every station's ring view is the member list `M` (LAS = `M`, valid, NS / PS its cyclic
neighbours), and at most one station is in a token-holding state. -/
def Agree (M : List Nat) (adr : Nat → Nat) (n : Net) : Prop :=
  (∀ j, j < n.stations.length → ∃ st, n.stations[j]? = some st ∧ RingView M (adr j) st.s.ring) ∧
  (∀ (j k : Nat) (st st' : NetStation), n.stations[j]? = some st → n.stations[k]? = some st' →
    Holding st.s.st → Holding st'.s.st → j = k)

theorem NInv.agree {cfg : Cfg} {M : List Nat} {adr : Nat → Nat} {n : Net} {v : NView} (h : NInv cfg M adr n v) :
    Agree M adr n := by
  have hlis : ∀ j st, n.stations[j]? = some st → j ≠ v.x → ¬ Holding st.s.st := by
    intro j st hj hjx
    have hjl : j < n.stations.length := by
      rcases Nat.lt_or_ge j n.stations.length with h' | h'
      · exact h'
      · rw [List.getElem?_eq_none_iff.2 h'] at hj; cases hj
    obtain ⟨st', hst', hL⟩ := h.lis j hjl hjx
    rw [hj] at hst'
    cases hst'
    obtain ⟨dn, rs, idle, l, hX⟩ := LOkX.ofLOk hL
    rcases hX.listens.cases with ⟨np, coll, hs⟩ | hs <;> rw [hs] <;> simp [Holding]
  refine ⟨?_, ?_⟩
  · intro j hj
    by_cases hjx : j = v.x
    · subst hjx; exact ⟨v.sx, h.gx, h.okx.view⟩
    · obtain ⟨st, hst, hL⟩ := h.lis j hj hjx
      exact ⟨st, hst, hL.1.view⟩
  · intro j k st st' hj hk h1 h2
    have e1 : j = v.x := Classical.byContradiction fun hne => hlis j st hj hne h1
    have e2 : k = v.x := Classical.byContradiction fun hne => hlis k st' hk hne h2
    rw [e1, e2]

/-- Agreement before every event of a run and at its end. -/
def AgreeRun (M : List Nat) (adr : Nat → Nat) : Net → List (Nat × Int) → Prop
  | n, [] => Agree M adr n
  | n, (i, now) :: rest => Agree M adr n ∧ AgreeRun M adr (n.poll i now).1 rest

theorem ringN_agree_run {cfg : Cfg} (hok : cfg.Ok) (hP100 : cfg.P ≤ 100000) (M : List Nat) (adr : Nat → Nat) :
    ∀ (evs : List (Nat × Int)) (n : Net) (v : NView), NInv cfg M adr n v → SchedN cfg.P n v.tl evs →
    AgreeRun M adr n evs := by
  intro evs
  induction evs with
  | nil => intro n v h _; exact h.agree
  | cons ev rest ih =>
    intro n v h hs
    obtain ⟨i, now⟩ := ev
    obtain ⟨e, hrest⟩ := hs.cons
    obtain ⟨n', v', inc, c, hp, hinv', htl', -⟩ := ringN_step h hok hP100 i now e
    have hn' : (n.poll i now).1 = n' := by rw [hp]
    refine ⟨h.agree, ?_⟩
    show AgreeRun M adr (n.poll i now).1 rest
    rw [hn']
    exact ih n' v' hinv' (hrest hp htl')

end PV
