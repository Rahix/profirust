/-
Timed ring with application traffic, station level.  The application scripts survive the application loop (`AnsOk`
along `Asked`); what a station hands to the PHY when it ends a wait on a silent bus (`Emit`: application telegram, GAP
request, or the token with the next attempt); and the one statement about a silent station with a known stamp
(`silent_station_poll`): it rests until `silentWait` after the stamp, then emits.  The silent-bus schedule of a token
holder (`holder_schedule`) is read off it.
-/
import ProfiVerif.Lemmas.ListenerPoll

namespace PV
open StationGap TokenRing

/-- Every telegram any script will ever hand over satisfies `P`. -/
def AnsOk (P : Header → Bytes → Prop) (apps : Apps) : Prop :=
  ∀ script ∈ apps, ∀ ans ∈ script, ∀ h pdu, ans = AppAnswer.send h pdu → P h pdu

theorem ansOk_set (P : Header → Bytes → Prop) (apps : Apps) (i : Nat) (script : List AppAnswer) (h : AnsOk P apps)
    (hs : apps[i]? = some script) : AnsOk P (apps.set i script.tail) := by
  intro sc hsc ans hans hh pdu he
  rcases List.mem_or_eq_of_mem_set hsc with hm | rfl
  · exact h sc hm ans hans hh pdu he
  · exact h script (List.mem_of_getElem? hs) ans (List.mem_of_mem_tail hans) hh pdu he

theorem Asked.ansOk {apps apps' : Apps} {log : List AppCall} (h : Asked apps log apps') (P : Header → Bytes → Prop) :
    AnsOk P apps → AnsOk P apps' ∧ ∀ i hp hd pdu, AppCall.transmit i hp (.send hd pdu) ∈ log → P hd pdu := by
  induction h with
  | nil apps => exact fun hP => ⟨hP, fun _ _ _ _ hm => by cases hm⟩
  | @cons apps apps' i hp script rest hscr _ ih =>
    intro hP
    obtain ⟨h1, h2⟩ := ih (ansOk_set P apps i script hP hscr)
    refine ⟨h1, fun j hq hd pdu hm => ?_⟩
    rcases List.mem_cons.1 hm with he | hm
    · have hh : script.headD .decline = .send hd pdu := by
        injection he with _ _ e
        exact e.symm
      have hmem : AppAnswer.send hd pdu ∈ script := by
        cases script with
        | nil => cases hh
        | cons a r => simp only [List.headD_cons] at hh; rw [hh]; exact List.mem_cons_self ..
      exact hP script (List.mem_of_getElem? hscr) _ hmem hd pdu rfl
    · exact h2 j hq hd pdu hm

/-- What every application telegram must satisfy: valid addresses, and not an FDL status request (those are
the FDL layer's own business). -/
def AppP (h : Header) (_pdu : Bytes) : Prop := h.da < 128 ∧ h.sa < 128 ∧ ∀ fcb, h.fc ≠ .request fcb .fdlStatus

/-- An application telegram was handed to the PHY at `now`: header and PDU come from a script (so they have
every property all script answers have), the stamp is the predicted end, and the station keeps using the
token or awaits the reply. -/
def AppSent (apps : Apps) (p : Params) (c1 : Ctx) (now : Int) : Prop :=
  ∃ hd pdu bytes, (∀ P : Header → Bytes → Prop, AnsOk P apps → P hd pdu) ∧ hd.serialize pdu = .ok bytes ∧
    c1.tx = some bytes ∧ c1.s.lastBusActivity = some (now + (p.bits (11 * bytes.length) : Nat)) ∧
    ((expectsReplyOf hd = none ∧ ∃ d' f', c1.s.st = .useToken d' f') ∨
     (∃ a8, expectsReplyOf hd = some a8 ∧ ∃ d', c1.s.st = .awaitData a8.toNat d'))

structure AppFrame (c c1 : Ctx) : Prop where
  rx : c1.rx = c.rx
  p : c1.s.p = c.s.p
  ring : c1.s.ring = c.s.ring
  online : c1.s.online = c.s.online
  pending : c1.s.pendingBytes = c.s.pendingBytes
  gap : c1.s.gap = c.s.gap

theorem AppFrame.trans {a b c : Ctx} (h1 : AppFrame a b) (h2 : AppFrame b c) : AppFrame a c :=
  ⟨h2.rx.trans h1.rx, h2.p.trans h1.p, h2.ring.trans h1.ring, h2.online.trans h1.online, h2.pending.trans h1.pending,
    h2.gap.trans h1.gap⟩

section
variable {now : Int} {hp : Bool} {k : Nat} {c : Ctx} {d : UseData} {fcd : Bool} {m : Nat} {b : Bool} {c1 : Ctx}

theorem AppLoop.appFrame (h : AppLoop now hp k c d fcd m b c1) : AppFrame c c1 := by
  obtain ⟨st1, lba, e⟩ := h.frame
  exact ⟨h.rx, by rw [e], by rw [e], by rw [e], by rw [e], by rw [e]⟩

theorem AppLoop.ansOk (h : AppLoop now hp k c d fcd m b c1) (P : Header → Bytes → Prop) (hP : AnsOk P c.apps) :
    AnsOk P c1.apps := by
  obtain ⟨new, -, ha⟩ := h.asked
  exact (ha.ansOk P hP).1

theorem AppLoop.appSent (h : AppLoop now hp k c d fcd m true c1) : AppSent c.apps c.s.p c1 now := by
  obtain ⟨hd, pdu, bytes, e1, e2, -, e4, e5⟩ := h.cycle rfl
  obtain ⟨new, n1, n2⟩ := h.asked
  have hmem : AppCall.transmit c1.s.nextApp hp (.send hd pdu) ∈ new := by
    have : c.calls ++ new =
        c.calls ++ (declines hp (cyc c.apps.length c.s.nextApp m) ++ [.transmit c1.s.nextApp hp (.send hd pdu)]) := by
      rw [← n1, e1, List.append_assoc]
    rw [List.append_cancel_left this]
    exact List.mem_append_right _ (List.mem_singleton.2 rfl)
  refine ⟨hd, pdu, bytes, fun P hP => (n2.ansOk P hP).2 _ _ _ _ hmem, e2, e4, by rw [e5]; rfl, ?_⟩
  rw [e5]
  cases hexp : expectsReplyOf hd with
  | none => exact .inl ⟨rfl, visitAfter d c.s.nextApp m, fcd, by simp [markTx, sendState, hexp]⟩
  | some a8 => exact .inr ⟨a8, rfl, visitAfter d c.s.nextApp m, by simp [markTx, sendState, hexp]⟩

end

/-- What a station hands to the PHY when it ends its wait on a silent bus (any applications): an application
telegram or a GAP request (the ring view stays), or the token — to the successor in the ring view `r`, to be supervised
as attempt `att`. -/
def Emit (s : Station) (apps : Apps) (r : TokenRing) (att : Attempt) (c' : Ctx) (now : Int) : Prop :=
  c'.rx = [] ∧ c'.s.p = s.p ∧ c'.s.online = s.online ∧ c'.s.pendingBytes = s.pendingBytes ∧
  (∀ P : Header → Bytes → Prop, AnsOk P apps → AnsOk P c'.apps) ∧
  ((AppSent apps s.p c' now ∧ c'.s.ring = s.ring) ∨
   (∃ a cur, nextGapPoll s.p.address s.ring.ns s.p.hsa cur = .poll a ∧ a ≠ s.p.address ∧
      c'.tx = some (statusRequestBytes a s.p.address) ∧ c'.s.st = .awaitStatus a ∧ c'.s.ring = s.ring ∧
      c'.s.lastBusActivity = some (now + (s.p.bits (11 * 6) : Nat))) ∨
   TokenOut s r att c' now)

theorem UseStep.rests {c c' : Ctx} {now l : Int} {d : UseData} {fcd : Bool} (h : UseStep c now d fcd (.ok c')) (hs : Sil c l)
    (hw : now ≤ l + (c.s.p.bits 33 : Nat)) : c' = { c with s := holdUpdate c.s d } := by
  have hn : ¬ SyncOver c.s now := fun hso => by have := (syncOver_some hs.last).1 hso; omega
  cases h with
  | wait _ =>
    have hlh : (holdUpdate c.s d).lastBusActivity = some l := by rw [holdUpdate_eq]; exact hs.last
    rw [← held_eq, stamped_of_last hlh]
  | go hso _ _ => exact absurd hso hn
  | pass hso _ _ _ => exact absurd hso hn

theorem UseStep.emits {c c' : Ctx} {now l : Int} {d : UseData} {fcd : Bool} (h : UseStep c now d fcd (.ok c')) (hs : Sil c l)
    (hgo : l + (c.s.p.bits 33 : Nat) < now) : Emit c.s c.apps c.s.ring .first c' now := by
  have hlh : (held c now d).s.lastBusActivity = some l := by
    show some (c.s.lastBusActivity.getD now) = some l
    rw [hs.last]; rfl
  -- ending the hold from a context that agrees with `c` on everything `Emit` speaks of
  have fin : ∀ c0 : Ctx, c0.rx = [] → (∀ P : Header → Bytes → Prop, AnsOk P c.apps → AnsOk P c0.apps) →
      c0.s.p = c.s.p → c0.s.online = c.s.online → c0.s.pendingBytes = c.s.pendingBytes → c0.s.ring = c.s.ring →
      c0.s.lastBusActivity = some l → passNow c0 now = .ok c' → Emit c.s c.apps c.s.ring .first c' now := by
    intro c0 e3 e4 e6 e7 e8 e9 e10 hp
    obtain ⟨a1, a2, -, a4, a5, a6, a7⟩ := doPassToken_exact { c0 with s := { c0.s with st := .passToken true .first } } c' now l
      true .first rfl e10 (by show l + ((c0.s.p.bits 33 : Nat) : Int) < now; rw [e6]; exact hgo) (passNow_ok hp)
    refine ⟨a1.trans e3, a4.trans e6, a5.trans e7, a6.trans e8, fun P hP => by rw [a2]; exact e4 P hP, ?_⟩
    rcases a7 with ⟨a, cur, -, b1, b2, b3, b4, b5, b6⟩ | hb
    · have b1' : nextGapPoll c0.s.p.address c0.s.ring.ns c0.s.p.hsa cur = .poll a := b1
      have b2' : a ≠ c0.s.p.address := b2
      have b3' : c'.tx = some (statusRequestBytes a c0.s.p.address) := b3
      have b5' : c'.s.ring = c0.s.ring := b5
      have b6' : c'.s.lastBusActivity = some (now + ((c0.s.p.bits (11 * 6) : Nat) : Int)) := b6
      rw [e6, e9] at b1'
      rw [e6] at b2' b3' b6'
      rw [e9] at b5'
      exact .inr (.inl ⟨a, cur, b1', b2', b3', b4, b5', b6'⟩)
    · have hb' : TokenOut c0.s c0.s.ring .first c' now := hb
      unfold TokenOut at hb' ⊢
      rw [e6, e9] at hb'
      exact .inr (.inr hb')
  cases h with
  | wait hn => exact absurd ((syncOver_some hs.last).2 hgo) hn
  | pass _ _ _ hr => exact fin (held c now d) hs.rx (fun _ hP => hP) rfl rfl rfl rfl hlh hr
  | go _ _ hr =>
    have hg := useTokenGo_step (held c now d) now d (!decide (now < holdEnd c.s d))
    rw [hr] at hg
    cases hg with
    | cycle hm =>
      have hf := hm.appFrame
      exact ⟨hf.rx.trans hs.rx, hf.p, hf.online, hf.pending, fun P hP => hm.ansOk P hP, .inl ⟨hm.appSent, hf.ring⟩⟩
    | pass hm hp =>
      have hf := hm.appFrame
      obtain ⟨-, -, hst1, -⟩ := hm.still rfl
      exact fin _ (hf.rx.trans hs.rx) (fun P hP => hm.ansOk P hP) hf.p hf.online hf.pending hf.ring
        (by rw [hst1]; exact hlh) hp

theorem AwaitDataStep.rests {c c' : Ctx} {now l : Int} {a : Nat} {d : UseData} (h : AwaitDataStep c now a d (.ok c'))
    (hs : Sil c l) (hw : now ≤ l + (c.s.p.slotTime : Nat)) : c' = c := by
  have hr := receiveTelegram_nil
  rw [← hs.rx] at hr
  cases h with
  | waits _ hrx _ =>
    rw [hr] at hrx
    cases hrx
    rw [stamped_of_last hs.last]
  | timeout _ _ hex _ => exact absurd ((slotExpired_some hs.last).1 hex) (by omega)
  | reply _ hrx _ => rw [hr] at hrx; cases hrx
  | backOff _ hrx _ => rw [hr] at hrx; cases hrx

/-- Giving up on an unanswered data request: the application gets its `timeout`, and the token visit continues in
the same poll — the station transmits again. -/
theorem AwaitDataStep.emits {c c' : Ctx} {now l : Int} {a : Nat} {d : UseData} (h : AwaitDataStep c now a d (.ok c'))
    (hs : Sil c l) (hexp : l + (c.s.p.slotTime : Nat) < now) (h33 : c.s.p.bits 33 ≤ c.s.p.slotTime) :
    Emit c.s c.apps c.s.ring .first c' now := by
  have hr := receiveTelegram_nil
  rw [← hs.rx] at hr
  cases h with
  | waits _ _ hn => exact absurd ((slotExpired_some hs.last).2 hexp) hn
  | reply _ hrx _ => rw [hr] at hrx; cases hrx
  | backOff _ hrx _ => rw [hr] at hrx; cases hrx
  | timeout _ hrx _ hu =>
    rw [hr] at hrx
    cases hrx
    have hu' := doUseToken_step now (rfl : ({ c with
      rx := c.rx, s := { (stamped c.s now) with st := .useToken d true },
      calls := c.calls ++ [.timeout c.s.nextApp a] } : Ctx).s.st = .useToken d true)
    rw [hu] at hu'
    have he := hu'.emits (l := l) ⟨hs.on, hs.tx, hs.rx, by show some (c.s.lastBusActivity.getD now) = some l; rw [hs.last]; rfl⟩
      (by show l + ((c.s.p.bits 33 : Nat) : Int) < now; omega)
    exact he

theorem not_appSent_nil (p : Params) (c1 : Ctx) (now : Int) : ¬ AppSent [] p c1 now := by
  rintro ⟨hd, pdu, bytes, hP, -⟩
  exact hP (fun _ _ => False) (fun script hs => by cases hs)

/-- The states in which a station on a silent bus waits a fixed time after its stamp. -/
def SilentWaits (s : Station) : Prop :=
  (∃ d f, s.st = .useToken d f) ∨ (∃ a, s.st = .awaitStatus a) ∨ (∃ a d, s.st = .awaitData a d) ∨
    ∃ att, s.st = .checkTokenPass att

theorem SilentWaits.awake {s : Station} (h : SilentWaits s) : s.st ≠ .offline ∧ s.st ≠ .passiveIdle := by
  rcases h with ⟨d, f, e⟩ | ⟨a, e⟩ | ⟨a, d, e⟩ | ⟨att, e⟩ <;> rw [e] <;> simp

/-- That time: the synchronisation pause for a token holder, the slot time for a requester and for a supervising
sender. -/
def silentWait (s : Station) : Nat :=
  match s.st with
  | .useToken .. => s.p.bits 33
  | _ => s.p.slotTime

theorem silentWait_useToken {s : Station} {d : UseData} {f : Bool} (h : s.st = .useToken d f) : silentWait s = s.p.bits 33 := by
  simp only [silentWait, h]

theorem silentWait_slot {s : Station} (h : ∀ d f, s.st ≠ .useToken d f) : silentWait s = s.p.slotTime := by
  unfold silentWait
  split
  · exact absurd ‹_› (h _ _)
  · rfl

/-- Ring view and attempt of the token pass that may end the wait: a supervising sender repeats its pass (`RetryStep`:
NS is removed on the third expiry), every other station passes for the first time. -/
def NextPass (s : Station) (r : TokenRing) (att : Attempt) : Prop :=
  match s.st with
  | .checkTokenPass a => RetryStep s.ring a att r
  | _ => r = s.ring ∧ att = .first

theorem Emit.ofToken {s : Station} {apps : Apps} {r : TokenRing} {att : Attempt} {c' : Ctx} {now : Int}
    (h : c'.rx = [] ∧ c'.apps = apps ∧ c'.s.p = s.p ∧ c'.s.online = s.online ∧ c'.s.pendingBytes = s.pendingBytes ∧
      TokenOut s r att c' now) : Emit s apps r att c' now :=
  ⟨h.1, h.2.2.1, h.2.2.2.1, h.2.2.2.2.1, fun P hP => by rw [h.2.1]; exact hP, .inr (.inr h.2.2.2.2.2)⟩

theorem CoreEq.p {s' s : Station} (h : CoreEq s' s) : s'.p = s.p := h.1
theorem CoreEq.ring {s' s : Station} (h : CoreEq s' s) : s'.ring = s.ring := h.2.1
theorem CoreEq.online {s' s : Station} (h : CoreEq s' s) : s'.online = s.online := h.2.2.1
theorem CoreEq.st {s' s : Station} (h : CoreEq s' s) : s'.st = s.st := h.2.2.2.2.1

/-- While the station rests the poll changes nothing but the hold-time bookkeeping of `do_use_token` (`CoreEq`);
`hphy`: the PHY is idle once the stamp has passed. -/
theorem silent_station_poll (s : Station) (apps : Apps) (now l : Int) (phy : Bool) (hinv : Inv s apps)
    (hon : s.online = true) (hl : s.lastBusActivity = some l) (hphy : l < now → phy = false) (hst : SilentWaits s) :
    ∃ c, s.poll apps now phy [] = .ok c ∧ Inv c.s c.apps ∧ c.apps.length = apps.length ∧
      (now ≤ l + (silentWait s : Nat) →
        c.tx = none ∧ c.calls = [] ∧ c.apps = apps ∧ c.rx = [] ∧ CoreEq c.s s ∧ c.s.lastBusActivity = some l ∧
        c.s.pendingBytes = s.pendingBytes ∧ ((∀ d f, s.st ≠ .useToken d f) → c.s = s)) ∧
      (l + (silentWait s : Nat) < now → ((∀ d f, s.st ≠ .useToken d f) → s.p.bits 33 ≤ s.p.slotTime) →
        ∃ r att, NextPass s r att ∧ Emit s apps r att c now ∧
          ((∀ d f, s.st ≠ .useToken d f) → (∀ a d, s.st ≠ .awaitData a d) → c.apps = apps ∧ TokenOut s r att c now)) := by
  obtain ⟨c, hc, hinv', hlen⟩ := pollInner_good { s := s, apps := apps, rx := [] } now phy hinv rfl
  have hc' : s.poll apps now phy [] = .ok c := hc
  refine ⟨c, hc', hinv', hlen, ?_⟩
  by_cases hle : now ≤ l
  · -- the own transmission still counts as running: nothing happens
    rw [poll_ongoing s apps now phy [] hon hst.awake.1 hst.awake.2 l hl hle] at hc'
    cases hc'
    exact ⟨fun _ => ⟨rfl, rfl, rfl, rfl, ⟨rfl, rfl, rfl, rfl, rfl, rfl⟩, hl, rfl, fun _ => rfl⟩, fun hgo _ => absurd hle (by omega)⟩
  have hs : Sil { s := s, apps := apps, rx := [] } l := ⟨hon, rfl, rfl, hl⟩
  rw [hphy (by omega), poll_silent s apps now l hon hst.awake.1 hst.awake.2 hl (by omega)] at hc'
  rcases hst with ⟨d, f, e⟩ | ⟨a, e⟩ | ⟨a, d, e⟩ | ⟨att, e⟩
  · rw [dispatch_useToken now e] at hc'
    have hq := doUseToken_step (c := { s := s, apps := apps, rx := [] }) now e
    rw [hc'] at hq
    rw [silentWait_useToken e]
    refine ⟨fun hw => ?_, fun hgo _ => ⟨s.ring, .first, by simp only [NextPass, e, and_self], hq.emits hs hgo,
      fun hn => absurd e (hn d f)⟩⟩
    rw [hq.rests hs hw]
    exact ⟨rfl, rfl, rfl, rfl, coreEq_holdUpdate s d, by rw [holdUpdate_eq]; exact hl, by rw [holdUpdate_eq],
      fun hn => absurd e (hn d f)⟩
  · rw [dispatch_awaitStatus now e] at hc'
    have hq := doAwaitStatusResponse_step (c := { s := s, apps := apps, rx := [] }) now e
    rw [hc'] at hq
    rw [silentWait_slot (by simp [e])]
    refine ⟨fun hw => ?_, fun hgo h33 => ⟨s.ring, .first, by simp only [NextPass, e, and_self],
      .ofToken (hq.emits hs hgo (h33 (by simp [e]))), fun _ _ => ⟨(hq.emits hs hgo (h33 (by simp [e]))).2.1, (hq.emits hs hgo (h33 (by simp [e]))).2.2.2.2.2⟩⟩⟩
    rw [hq.rests hs hw]
    exact ⟨rfl, rfl, rfl, rfl, ⟨rfl, rfl, rfl, rfl, rfl, rfl⟩, hl, rfl, fun _ => rfl⟩
  · rw [dispatch_awaitData now e] at hc'
    have hq := doAwaitDataResponse_step (c := { s := s, apps := apps, rx := [] }) now e
    rw [hc'] at hq
    rw [silentWait_slot (by simp [e])]
    refine ⟨fun hw => ?_, fun hgo h33 => ⟨s.ring, .first, by simp only [NextPass, e, and_self], hq.emits hs hgo (h33 (by simp [e])),
      fun _ hn => absurd e (hn a d)⟩⟩
    rw [hq.rests hs hw]
    exact ⟨rfl, rfl, rfl, rfl, ⟨rfl, rfl, rfl, rfl, rfl, rfl⟩, hl, rfl, fun _ => rfl⟩
  · rw [dispatch_checkTokenPass now e] at hc'
    have hq := doCheckTokenPass_step (c := { s := s, apps := apps, rx := [] }) now e
    rw [hc'] at hq
    rw [silentWait_slot (by simp [e])]
    refine ⟨fun hw => ?_, fun hgo h33 => ?_⟩
    · rw [hq.rests hs hw]
      exact ⟨rfl, rfl, rfl, rfl, ⟨rfl, rfl, rfl, rfl, rfl, rfl⟩, hl, rfl, fun _ => rfl⟩
    · obtain ⟨att', r, hr, hb⟩ := hq.emits hs hgo (h33 (by simp [e]))
      exact ⟨r, att', by simpa only [NextPass, e] using hr, .ofToken hb, fun _ _ => ⟨hb.2.1, hb.2.2.2.2.2⟩⟩

theorem holder_poll_goes (s : Station) (apps : Apps) (now l : Int) (d : UseData) (fcd : Bool)
    (hinv : Inv s apps) (hon : s.online = true) (hst : s.st = .useToken d fcd) (hl : s.lastBusActivity = some l)
    (hsy : l + (s.p.bits 33 : Nat) < now) :
    ∃ c' b, s.poll apps now false [] = .ok c' ∧ c'.tx = some b ∧ HolderKind s.p.address c'.calls b ∧
      c'.s.lastBusActivity = some (now + (s.p.bits (11 * b.length) : Nat)) ∧ c'.s.p = s.p ∧
      Inv c'.s c'.apps := by
  obtain ⟨c', hc', hinv', -, -, hemit⟩ := silent_station_poll s apps now l false hinv hon hl (fun _ => rfl) (.inl ⟨d, fcd, hst⟩)
  obtain ⟨r, att, -, ⟨-, hp, -, -, -, hout⟩, -⟩ := hemit (by rw [silentWait_useToken hst]; exact hsy)
    (fun hn => absurd hst (hn d fcd))
  have htx : ∃ b, c'.tx = some b := by
    rcases hout with ⟨⟨_, _, _, -, -, h, -⟩, -⟩ | ⟨_, _, -, -, h, -⟩ | ⟨h, -⟩ <;> exact ⟨_, h⟩
  obtain ⟨b, hb⟩ := htx
  obtain ⟨-, -, hsent, hwho⟩ := pollInner_sent { s := s, apps := apps, rx := [] } now false c' b hc' rfl hb
  simp only [Allowed, hst] at hwho
  have hmark := hsent.mark
  unfold MarkK at hmark
  exact ⟨c', b, hc', hb, hwho, by rw [hmark, hp], hp, hinv'⟩

/-- Silent-bus schedule of a token holder (PHY idle, nothing received): the polls at the times `early`
all return regularly without transmitting anything or calling an application, and the poll at `t` then
returns regularly and hands a telegram to the PHY — an application telegram, a GAP poll or the token
with the own source address `ts` — and stamps its predicted end. -/
def QuietThenTx (ts : Nat) : Station → Apps → List Int → Int → Prop
  | s, apps, [], t => ∃ c b, s.poll apps t false [] = .ok c ∧ c.tx = some b ∧ HolderKind ts c.calls b ∧
      c.s.lastBusActivity = some (t + (s.p.bits (11 * b.length) : Nat))
  | s, apps, e :: es, t => ∃ c, s.poll apps e false [] = .ok c ∧ c.tx = none ∧ c.calls = [] ∧ c.rx = [] ∧
      QuietThenTx ts c.s c.apps es t

theorem holder_schedule (ts : Nat) (p : Params) (l t : Int) (d : UseData) (fcd : Bool) (hsy : l + (p.bits 33 : Nat) < t) :
    ∀ (early : List Int) (s : Station) (apps : Apps), Inv s apps → s.online = true → s.st = .useToken d fcd →
      s.lastBusActivity = some l → s.p = p → s.p.address = ts → (∀ e ∈ early, e ≤ l + (p.bits 33 : Nat)) →
      QuietThenTx ts s apps early t := by
  intro early
  induction early with
  | nil =>
    intro s apps hinv hon hst hl hp hts _
    obtain ⟨c', b, h1, h2, h3, h4, -⟩ := holder_poll_goes s apps t l d fcd hinv hon hst hl (by rw [hp]; exact hsy)
    exact ⟨c', b, h1, h2, by rw [← hts]; exact h3, h4⟩
  | cons e es ih =>
    intro s apps hinv hon hst hl hp hts he
    obtain ⟨c, h1, hinv', -, hwait, -⟩ := silent_station_poll s apps e l false hinv hon hl (fun _ => rfl) (.inl ⟨d, fcd, hst⟩)
    obtain ⟨htx, hcalls, happs, hrx, hce, hl', -, -⟩ := hwait (by
      rw [silentWait_useToken hst, hp]; exact he e (by simp))
    refine ⟨c, h1, htx, hcalls, hrx, ?_⟩
    exact ih c.s c.apps hinv' (hce.online.trans hon) (hce.st.trans hst) hl' (hce.p.trans hp)
      (by rw [hce.p]; exact hts) (fun x hx => he x (by simp [hx]))

end PV
