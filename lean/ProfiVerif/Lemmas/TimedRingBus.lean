/-
Timed ring: arithmetic of `Model/Net.lean`'s byte-accurate bus.  How many characters of a transmission are complete at a time
(`visCount`); the configuration constants `Cfg` with the character end times `Cfg.ce` (= `Bus.byteEnd` on a bus of the same
rate, `byteEnd_cfg`) and `cvis`, the characters complete in those terms; who is transmitting, what `send` does to the log.
What `deliver` hands over is in `TimedRingBusN.lean`.
-/
import ProfiVerif.Model.Net

namespace PV

/-- Number of characters of a transmission started at `q` (`n` characters, character `k` complete at
`q + be k`) that are complete at time `a`. -/
def visCount (be : Nat → Int) (n : Nat) (q a : Int) : Nat :=
  ((List.range n).filter fun k => decide (q + be k ≤ a)).length

theorem filter_range_down (p : Nat → Bool) : ∀ n, (∀ k j, j ≤ k → k < n → p k = true → p j = true) →
    (List.range n).filter p = List.range ((List.range n).filter p).length := by
  intro n
  induction n with
  | zero => intro _; rfl
  | succ n ih =>
    intro hd
    have ih' := ih (fun k j hjk hk hp => hd k j hjk (Nat.lt_succ_of_lt hk) hp)
    rw [List.range_succ, List.filter_append]
    by_cases hp : p n = true
    · have hall : (List.range n).filter p = List.range n := by
        rw [List.filter_eq_self]
        intro k hk
        exact hd n k (Nat.le_of_lt (List.mem_range.1 hk)) (Nat.lt_succ_self _) hp
      simp only [List.filter_cons, hp, if_true, List.filter_nil, List.length_append, hall, List.length_range,
        List.length_cons, List.length_nil]
      rw [List.range_succ]
    · have hpf : p n = false := by
        cases h : p n with
        | false => rfl
        | true => exact absurd h hp
      simp only [List.filter_cons, hpf, Bool.false_eq_true, if_false, List.filter_nil, List.append_nil]
      exact ih'

theorem visCount_le (be : Nat → Int) (n : Nat) (q a : Int) : visCount be n q a ≤ n := by
  unfold visCount
  calc _ ≤ (List.range n).length := List.length_filter_le _ _
    _ = n := List.length_range

theorem vis_filter (be : Nat → Int) (hmono : ∀ k j, j ≤ k → be j ≤ be k) (n : Nat) (q a : Int) :
    (List.range n).filter (fun k => decide (q + be k ≤ a)) = List.range (visCount be n q a) := by
  unfold visCount
  apply filter_range_down
  intro k j hjk _ hp
  have := hmono k j hjk
  simp only [decide_eq_true_eq] at hp ⊢
  omega

theorem vis_spec (be : Nat → Int) (hmono : ∀ k j, j ≤ k → be j ≤ be k) (n : Nat) (q a : Int) (k : Nat) (hk : k < n) :
    k < visCount be n q a ↔ q + be k ≤ a := by
  have h := vis_filter be hmono n q a
  have hm : k ∈ (List.range n).filter (fun k => decide (q + be k ≤ a)) ↔ k ∈ List.range (visCount be n q a) := by rw [h]
  simp only [List.mem_filter, List.mem_range, decide_eq_true_eq] at hm
  constructor
  · intro h1; exact (hm.2 h1).2
  · intro h1; exact hm.1 ⟨hk, h1⟩

theorem vis_mono (be : Nat → Int) (hmono : ∀ k j, j ≤ k → be j ≤ be k) (n : Nat) (q a a' : Int) (haa : a ≤ a') :
    visCount be n q a ≤ visCount be n q a' := by
  apply Classical.byContradiction
  intro hc
  have hlt : visCount be n q a' < visCount be n q a := by omega
  have hn : visCount be n q a' < n := Nat.lt_of_lt_of_le hlt (visCount_le be n q a)
  have h1 := (vis_spec be hmono n q a _ hn).1 hlt
  have h2 := (vis_spec be hmono n q a' _ hn).2 (by omega)
  omega

theorem vis_zero (be : Nat → Int) (hmono : ∀ k j, j ≤ k → be j ≤ be k) (n : Nat) (q a : Int) (h : a < q + be 0) :
    visCount be n q a = 0 := by
  apply Classical.byContradiction
  intro hc
  have hpos : 0 < visCount be n q a := Nat.pos_of_ne_zero hc
  have hn : 0 < n := Nat.lt_of_lt_of_le hpos (visCount_le be n q a)
  have := (vis_spec be hmono n q a 0 hn).1 hpos
  omega

theorem vis_full (be : Nat → Int) (hmono : ∀ k j, j ≤ k → be j ≤ be k) (n : Nat) (q a : Int) (hn : 0 < n)
    (h : q + be (n - 1) ≤ a) : visCount be n q a = n := by
  apply Classical.byContradiction
  intro hc
  have hlt : visCount be n q a < n := Nat.lt_of_le_of_ne (visCount_le be n q a) hc
  have := (vis_spec be hmono n q a (n - 1) (by omega)).2 h
  omega

theorem vis_lt_full (be : Nat → Int) (hmono : ∀ k j, j ≤ k → be j ≤ be k) (n : Nat) (q a : Int) (hn : 0 < n)
    (h : visCount be n q a < n) : a < q + be (n - 1) := by
  apply Classical.byContradiction
  intro hc
  have := vis_full be hmono n q a hn (by omega)
  omega

theorem filter_range_concat (P Q : Nat → Bool) : ∀ n, (∀ k j, j ≤ k → k < n → P k = true → P j = true) →
    (∀ k, k < n → P k = true → Q k = true) →
    (List.range n).filter P ++ (List.range n).filter (fun k => !P k && Q k) = (List.range n).filter Q := by
  intro n
  induction n with
  | zero => intro _ _; rfl
  | succ n ih =>
    intro hd hpq
    have ih' := ih (fun k j hjk hk hp => hd k j hjk (Nat.lt_succ_of_lt hk) hp) (fun k hk hp => hpq k (Nat.lt_succ_of_lt hk) hp)
    rw [List.range_succ, List.filter_append, List.filter_append, List.filter_append]
    cases hP : P n with
    | true =>
      have hQ : Q n = true := hpq n (Nat.lt_succ_self _) hP
      have hM : (List.range n).filter (fun k => !P k && Q k) = [] := by
        rw [List.filter_eq_nil_iff]
        intro k hk
        have := hd n k (Nat.le_of_lt (List.mem_range.1 hk)) (Nat.lt_succ_self _) hP
        simp [this]
      rw [hM] at ih'
      simp only [List.append_nil] at ih'
      simp [hP, hQ, hM, ih']
    | false =>
      cases hQ : Q n with
      | true =>
        simp only [List.filter_cons, hP, hQ, Bool.not_false, Bool.and_self, if_true, Bool.false_eq_true, if_false,
          List.filter_nil, List.append_nil]
        rw [← List.append_assoc, ih']
      | false =>
        simp only [List.filter_cons, hP, hQ, Bool.not_false, Bool.and_false, Bool.false_eq_true, if_false,
          List.filter_nil, List.append_nil]
        exact ih'

theorem map_range_getD (bytes : Bytes) : ∀ m, m ≤ bytes.length →
    (List.range m).map (fun k => bytes.getD k 0) = bytes.take m := by
  intro m
  induction m with
  | zero => intro _; simp
  | succ m ih =>
    intro hm
    rw [List.range_succ, List.map_append, ih (by omega), List.take_succ]
    have : bytes[m]? = some bytes[m] := List.getElem?_eq_getElem (by omega)
    simp [List.getD, this]

structure Cfg where
  rate : Nat
  slotBits : Nat
  /-- upper bound on the time any station goes unpolled (µs) -/
  P : Nat

namespace Cfg
def b33 (c : Cfg) : Nat := bitsToTime c.rate 33
def b66 (c : Cfg) : Nat := bitsToTime c.rate 66
def slot (c : Cfg) : Nat := bitsToTime c.rate c.slotBits
/-- end of character `k` of a transmission, relative to its start (`ceil`, as the bus delivers) -/
def ce (c : Cfg) (k : Nat) : Nat := (11 * (k + 1) * 1000000 + c.rate - 1) / c.rate

/-- The margin of the two-party handshake (`C01.Margin` with `E = 1` and one spare microsecond) -/
structure Ok (c : Cfg) : Prop where
  rate : 0 < c.rate
  margin : 2 + 2 * c.P + c.b33 + c.ce 0 ≤ c.slot

theorem floor_le_ceil (r a : Nat) (hr : 0 < r) : a / r ≤ (a + r - 1) / r :=
  Nat.div_le_div_right (by omega)

theorem ceil_le_floor_succ (r a : Nat) (hr : 0 < r) : (a + r - 1) / r ≤ a / r + 1 := by
  have : (a + r - 1) / r ≤ (a + r) / r := Nat.div_le_div_right (by omega)
  rw [Nat.add_div_right _ hr] at this
  exact this

theorem ceil_add (r x y : Nat) (hr : 0 < r) : (x + y + r - 1) / r ≤ (x + r - 1) / r + (y + r - 1) / r := by
  have hx : x ≤ (x + r - 1) / r * r := by
    have := Nat.lt_div_mul_add (a := x + r - 1) hr
    omega
  have hy : y ≤ (y + r - 1) / r * r := by
    have := Nat.lt_div_mul_add (a := y + r - 1) hr
    omega
  have : (x + y + r - 1) / r < (x + r - 1) / r + (y + r - 1) / r + 1 := by
    rw [Nat.div_lt_iff_lt_mul hr]
    have e : ((x + r - 1) / r + (y + r - 1) / r + 1) * r = (x + r - 1) / r * r + (y + r - 1) / r * r + r := by
      rw [Nat.add_mul, Nat.add_mul]; omega
    omega
  omega

theorem ce2 (c : Cfg) (h : 0 < c.rate) : c.b33 ≤ c.ce 2 ∧ c.ce 2 ≤ c.b33 + 1 := by
  unfold b33 ce bitsToTime
  exact ⟨floor_le_ceil _ _ h, ceil_le_floor_succ _ _ h⟩

theorem ce5 (c : Cfg) (h : 0 < c.rate) : c.b66 ≤ c.ce 5 ∧ c.ce 5 ≤ c.b66 + 1 := by
  unfold b66 ce bitsToTime
  exact ⟨floor_le_ceil _ _ h, ceil_le_floor_succ _ _ h⟩

theorem ce_step (c : Cfg) (h : 0 < c.rate) (k : Nat) : c.ce (k + 1) ≤ c.ce k + c.ce 0 := by
  unfold ce
  have := ceil_add c.rate (11 * (k + 1) * 1000000) (11 * (0 + 1) * 1000000) h
  have e : 11 * (k + 1 + 1) * 1000000 = 11 * (k + 1) * 1000000 + 11 * (0 + 1) * 1000000 := by omega
  rw [e]
  exact this

theorem ce_mono (c : Cfg) (k j : Nat) (hjk : j ≤ k) : c.ce j ≤ c.ce k := by
  unfold ce
  apply Nat.div_le_div_right
  have : 11 * (j + 1) * 1000000 ≤ 11 * (k + 1) * 1000000 := by
    apply Nat.mul_le_mul_right; apply Nat.mul_le_mul_left; omega
  omega

theorem ce_pos (c : Cfg) (h : 0 < c.rate) (k : Nat) : 0 < c.ce k := by
  unfold ce
  have h1 : 1 ≤ (11 * (k + 1) * 1000000 + c.rate - 1) / c.rate := by
    rw [Nat.le_div_iff_mul_le h]
    have : 1 ≤ 11 * (k + 1) * 1000000 := by
      calc 1 ≤ 11 * 1 * 1000000 := by decide
        _ ≤ 11 * (k + 1) * 1000000 := by apply Nat.mul_le_mul_right; apply Nat.mul_le_mul_left; omega
    omega
  omega

end Cfg
theorem byteEnd_cfg (b : Bus) (c : Cfg) (h : b.rate = c.rate) (k : Nat) : b.byteEnd k = (c.ce k : Int) := by
  unfold Bus.byteEnd Cfg.ce; rw [h]


def cvis (cfg : Cfg) (tr : Transmission) (a : Int) : Nat :=
  visCount (fun k => (cfg.ce k : Int)) tr.bytes.length tr.start a

theorem ce_monoI (cfg : Cfg) (k j : Nat) (hjk : j ≤ k) : (cfg.ce j : Int) ≤ (cfg.ce k : Int) :=
  Int.ofNat_le.2 (cfg.ce_mono k j hjk)

theorem cvis_full (cfg : Cfg) (tr : Transmission) (a : Int) (hn : 0 < tr.bytes.length)
    (h : tr.start + (cfg.ce (tr.bytes.length - 1) : Nat) ≤ a) : cvis cfg tr a = tr.bytes.length :=
  vis_full _ (ce_monoI cfg) _ _ _ hn h

theorem cvis_zero (cfg : Cfg) (tr : Transmission) (a : Int) (h : a < tr.start + (cfg.ce 0 : Nat)) : cvis cfg tr a = 0 :=
  vis_zero _ (ce_monoI cfg) _ _ _ h

theorem cvis_spec (cfg : Cfg) (tr : Transmission) (a : Int) (k : Nat) (hk : k < tr.bytes.length) :
    k < cvis cfg tr a ↔ tr.start + (cfg.ce k : Nat) ≤ a :=
  vis_spec _ (ce_monoI cfg) _ _ _ k hk

theorem cvis_mono (cfg : Cfg) (tr : Transmission) (a a' : Int) (h : a ≤ a') : cvis cfg tr a ≤ cvis cfg tr a' :=
  vis_mono _ (ce_monoI cfg) _ _ _ _ h

theorem cvis_le (cfg : Cfg) (tr : Transmission) (a : Int) : cvis cfg tr a ≤ tr.bytes.length := visCount_le _ _ _ _

theorem cvis_lt_full (cfg : Cfg) (tr : Transmission) (a : Int) (hn : 0 < tr.bytes.length)
    (h : cvis cfg tr a < tr.bytes.length) : a < tr.start + ((cfg.ce (tr.bytes.length - 1) : Nat) : Int) :=
  vis_lt_full _ (ce_monoI cfg) _ _ _ hn h

namespace Bus

theorem insertSorted_end (x : Int × Nat × Nat × UInt8) : ∀ L : List (Int × Nat × Nat × UInt8),
    (∀ y ∈ L, keyLe x y = false) → insertSorted x L = L ++ [x] := by
  intro L
  induction L with
  | nil => intro _; rfl
  | cons y ys ih =>
    intro h
    simp only [insertSorted]
    rw [if_neg (by rw [h y (List.mem_cons_self ..)]; simp), ih (fun z hz => h z (List.mem_cons_of_mem _ hz))]
    rfl

theorem byteEnd_mono (b : Bus) (k j : Nat) (hjk : j ≤ k) : b.byteEnd j ≤ b.byteEnd k := by
  rw [byteEnd_cfg b ⟨b.rate, 0, 0⟩ rfl, byteEnd_cfg b ⟨b.rate, 0, 0⟩ rfl]
  exact ce_monoI _ k j hjk

theorem byteEnd_pos (b : Bus) (hr : 0 < b.rate) (k : Nat) : 0 < b.byteEnd k := by
  rw [byteEnd_cfg b ⟨b.rate, 0, 0⟩ rfl]
  exact Int.natCast_pos.2 (Cfg.ce_pos ⟨b.rate, 0, 0⟩ hr k)

theorem foldl_skip {α β : Type} (f : β → α → β) (acc : β) : ∀ l : List α, (∀ x ∈ l, ∀ a, f a x = a) → l.foldl f acc = acc := by
  intro l
  induction l generalizing acc with
  | nil => intro _; rfl
  | cons x xs ih =>
    intro h
    rw [List.foldl_cons, h x (List.mem_cons_self ..) acc]
    exact ih acc (fun y hy => h y (List.mem_cons_of_mem _ hy))

theorem foldl_ext_mem {α β : Type} (f g : β → α → β) : ∀ (l : List α) (acc : β),
    (∀ a, ∀ x ∈ l, f a x = g a x) → l.foldl f acc = l.foldl g acc := by
  intro l
  induction l with
  | nil => intro _ _; rfl
  | cons x xs ih =>
    intro acc h
    rw [List.foldl_cons, List.foldl_cons, h acc x (List.mem_cons_self ..)]
    exact ih _ (fun a y hy => h a y (List.mem_cons_of_mem _ hy))

theorem take_cvis_append (b : Bus) (cfg : Cfg) (hb : b.rate = cfg.rate) (T : Transmission) (seen now : Int) (hsn : seen ≤ now) :
    T.bytes.take (cvis cfg T seen) ++
      ((List.range T.bytes.length).filter (fun k => !decide (T.start + b.byteEnd k ≤ seen) &&
        decide (T.start + b.byteEnd k ≤ now))).map (fun k => T.bytes.getD k 0) =
    T.bytes.take (cvis cfg T now) := by
  have hm := ce_monoI cfg
  have hbe : b.byteEnd = fun k => (cfg.ce k : Int) := funext (byteEnd_cfg b cfg hb)
  unfold cvis
  rw [hbe, ← map_range_getD T.bytes _ (visCount_le _ _ _ _), ← map_range_getD T.bytes _ (visCount_le _ _ _ _),
    ← vis_filter _ hm, ← vis_filter _ hm, ← List.map_append]
  congr 1
  apply filter_range_concat
  · intro k j hjk _ hp
    have := hm k j hjk
    simp only [decide_eq_true_eq] at hp ⊢
    omega
  · intro k _ hp
    simp only [decide_eq_true_eq] at hp ⊢
    omega

theorem transmitting_last (b : Bus) (i : Nat) (now : Int) (old : List Transmission) (T : Transmission)
    (htx : b.txs = old ++ [T]) (hs : T.sender = i) : b.transmitting i now = decide (now < b.txEnd T) := by
  unfold transmitting
  rw [htx, List.reverse_append]
  simp [hs]

theorem transmitting_over (b : Bus) (i : Nat) (now : Int) (h : ∀ t ∈ b.txs, t.sender = i → b.txEnd t ≤ now) :
    b.transmitting i now = false := by
  unfold transmitting
  cases hf : b.txs.reverse.find? (fun t => decide (t.sender = i)) with
  | none => rfl
  | some t =>
    have hmem : t ∈ b.txs := List.mem_reverse.1 (List.mem_of_find?_eq_some hf)
    have hs : t.sender = i := by simpa using List.find?_some hf
    have := h t hmem hs
    simp only [decide_eq_false_iff_not]
    omega

theorem send_spec (b : Bus) (i : Nat) (now : Int) (bytes : Bytes) (hdrops : b.drops = []) :
    b.send i now bytes = { b with
      txs := (b.txs ++ [({ start := now, sender := i, bytes := bytes, dropped := false } : Transmission)]).filter
        fun t => decide (b.txEnd t + 100000 > now) } := by
  unfold send
  simp [hdrops]

theorem txEnd_cfg (b : Bus) (cfg : Cfg) (hb : b.rate = cfg.rate) (t : Transmission) :
    b.txEnd t = t.start + ((cfg.ce (t.bytes.length - 1) : Nat) : Int) := by
  unfold txEnd; rw [byteEnd_cfg b cfg hb]

theorem txEnd_congr (b b' : Bus) (h : b'.rate = b.rate) (t : Transmission) : b'.txEnd t = b.txEnd t := by
  unfold txEnd byteEnd; rw [h]

/-- The filter: `send` drops from the log what ended more than 100 ms ago. -/
theorem send_txs (b : Bus) (i : Nat) (now : Int) (bytes : Bytes) (hdrops : b.drops = []) (hr : 0 < b.rate) :
    (b.send i now bytes).txs = (b.txs.filter fun t => decide (b.txEnd t + 100000 > now)) ++
      [({ start := now, sender := i, bytes := bytes, dropped := false } : Transmission)] ∧
    (b.send i now bytes).rate = b.rate ∧ (b.send i now bytes).seen = b.seen ∧
    (b.send i now bytes).corrupt = b.corrupt ∧ (b.send i now bytes).drops = [] := by
  rw [send_spec b i now bytes hdrops]
  refine ⟨?_, rfl, rfl, rfl, hdrops⟩
  simp only [List.filter_append, List.filter_cons, List.filter_nil]
  have : decide (b.txEnd ({ start := now, sender := i, bytes := bytes, dropped := false } : Transmission) + 100000 > now) = true := by
    have := byteEnd_pos b hr (bytes.length - 1)
    unfold txEnd
    simp only [decide_eq_true_eq]
    omega
  rw [if_pos this]

end Bus

theorem seen_set_self (b : Bus) (i : Nat) (now : Int) (hi : i < b.seen.length) :
    (b.seen.set i now).getD i 0 = now := by
  simp [List.getD, hi]

theorem seen_set_other (b : Bus) (i j : Nat) (now : Int) (hij : i ≠ j) :
    (b.seen.set i now).getD j 0 = b.seen.getD j 0 := by
  simp [List.getD, List.getElem?_set_ne hij]

theorem transmitting_seen (b : Bus) (i j : Nat) (t now : Int) :
    Bus.transmitting { b with seen := b.seen.set i t } j now = b.transmitting j now := rfl

theorem deliver_seen (b : Bus) (i : Nat) (now : Int) : (b.deliver i now).1.seen = b.seen.set i now := rfl

theorem send_seen (b : Bus) (i : Nat) (now : Int) (bytes : Bytes) : (b.send i now bytes).seen = b.seen := rfl

end PV
