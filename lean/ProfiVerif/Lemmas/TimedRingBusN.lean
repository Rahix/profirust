/-
Timed ring: what `Model/Net.lean`'s bus delivers on a fault-free log `dn ++ rs` where `dn` is over for
the polled station and `rs` is time-ordered and non-overlapping (`Chained`): for every transmission of `rs` sent
by somebody else exactly its characters whose ends lie in `(seen, now]`, transmission after transmission, in order;
nothing collides (`deliver_split`).  Such a segment continues the prefix the station had (`seg_extend`).
-/
import ProfiVerif.Lemmas.TimedRingBus

namespace PV
namespace Bus

def Chained (b : Bus) (l : List Transmission) : Prop := l.Pairwise fun o t => b.txEnd o ≤ t.start

/-- The characters of `t` that are handed to station `i` at a poll at `now` when its previous poll was at `frm`. -/
def seg (b : Bus) (i : Nat) (frm now : Int) (t : Transmission) : Bytes :=
  if t.sender = i then [] else
  ((List.range t.bytes.length).filter (fun k => !decide (t.start + b.byteEnd k ≤ frm) &&
    decide (t.start + b.byteEnd k ≤ now))).map (fun k => t.bytes.getD k 0)

/-- `Bus.deliver` gathers the characters due by insertion sort on arrival time.  Within one transmission the times
increase and lie after everything gathered so far (`hacc`), so each `insertSorted` only appends (`insertSorted_end`). -/
theorem inner_fold_acc (cond : Nat → Bool) (arr : Nat → Int) (ti : Nat) (byte : Nat → UInt8)
    (hmono : ∀ k j, j ≤ k → arr j ≤ arr k) (acc : List (Int × Nat × Nat × UInt8))
    (hacc : ∀ y ∈ acc, y.1 < arr 0) : ∀ m,
    (List.range m).foldl (fun acc k => if cond k = true then insertSorted (arr k, ti, k, byte k) acc else acc) acc =
      acc ++ ((List.range m).filter cond).map fun k => (arr k, ti, k, byte k) := by
  intro m
  induction m with
  | zero => simp
  | succ m ih =>
    rw [List.range_succ, List.foldl_append, ih, List.filter_append, List.map_append]
    simp only [List.foldl_cons, List.foldl_nil]
    cases hc : cond m with
    | false => simp [hc]
    | true =>
      simp only [if_true, List.filter_cons, hc, List.filter_nil, List.map_cons, List.map_nil, ← List.append_assoc]
      apply insertSorted_end
      intro y hy
      rcases List.mem_append.1 hy with hy | hy
      · have h1 := hacc y hy
        have h2 := hmono m 0 (Nat.zero_le _)
        simp only [keyLe, Bool.or_eq_false_iff, Bool.and_eq_false_iff, decide_eq_false_iff_not, beq_eq_false_iff_ne]
        refine ⟨by omega, .inl (by omega)⟩
      · simp only [List.mem_map, List.mem_filter, List.mem_range] at hy
        obtain ⟨k, ⟨hk, -⟩, rfl⟩ := hy
        have := hmono m k (Nat.le_of_lt hk)
        simp only [keyLe, Bool.or_eq_false_iff, Bool.and_eq_false_iff, decide_eq_false_iff_not, beq_eq_false_iff_ne,
          Nat.lt_irrefl, decide_false, Bool.false_or, beq_self_eq_true, Bool.true_and]
        refine ⟨by omega, ?_⟩
        by_cases he : arr m = arr k
        · right; simp; omega
        · left; exact he

theorem collides_free (b : Bus) (hr : 0 < b.rate) (pre post : List Transmission) (t : Transmission)
    (htx : b.txs = pre ++ t :: post) (hpre : ∀ o ∈ pre, b.txEnd o ≤ t.start) (hpost : ∀ o ∈ post, b.txEnd t ≤ o.start)
    (k : Nat) (hk : k < t.bytes.length) :
    b.collides pre.length t k = false := by
  unfold collides
  simp only
  rw [List.any_eq_false]
  intro x hx
  obtain ⟨o, j⟩ := x
  rw [htx, List.zipIdx_append] at hx
  have hp := byteEnd_pos b hr
  have hm := byteEnd_mono b
  rcases List.mem_append.1 hx with hx | hx
  · have he := hpre o (List.fst_mem_of_mem_zipIdx hx)
    have : ¬ (b.txEnd o > t.start + (if k = 0 then 0 else b.byteEnd (k - 1))) := by
      split
      · omega
      · have := hp (k - 1); omega
    simp [this]
  · simp only [List.zipIdx_cons, Nat.zero_add, List.mem_cons, Prod.mk.injEq] at hx
    rcases hx with ⟨rfl, rfl⟩ | hx
    · simp
    · have he := hpost o (List.fst_mem_of_mem_zipIdx hx)
      have : ¬ (o.start < t.start + b.byteEnd k) := by
        have := hm (t.bytes.length - 1) k (by omega)
        unfold txEnd at he
        omega
      simp [this]

/-- The same over a chained log: each transmission starts after the end of the one before (`T0` bounds what is
gathered so far), so the sort only appends and the result is the segments in log order. -/
theorem outer_fold (b : Bus) (hr : 0 < b.rate) (hcor : b.corrupt = []) (i : Nat) (now : Int) :
    ∀ (l pre : List Transmission) (acc : List (Int × Nat × Nat × UInt8)) (T0 : Int), b.txs = pre ++ l →
      b.Chained l → (∀ t ∈ l, t.dropped = false) → (∀ o ∈ pre, ∀ t ∈ l, b.txEnd o ≤ t.start) →
      (∀ y ∈ acc, y.1 ≤ T0) → (∀ t ∈ l, T0 ≤ t.start) →
      ((l.zipIdx pre.length).foldl (fun acc (x : Transmission × Nat) =>
          if x.1.sender = i ∨ x.1.dropped = true ∨ b.txEnd x.1 ≤ b.seen.getD i 0 ∨ x.1.start ≥ now then acc else
          (List.range x.1.bytes.length).foldl (fun acc k =>
            let at' := x.1.start + b.byteEnd k
            if at' > b.seen.getD i 0 ∧ at' ≤ now then
              let raw := x.1.bytes.getD k 0
              let byte := if b.collides x.2 x.1 k || b.corrupt.any (fun w => decide (at' > w.1) && decide (at' ≤ w.2)) then 0 else raw
              insertSorted (at', x.2, k, byte) acc
            else acc) acc) acc).map (·.2.2.2) =
        acc.map (·.2.2.2) ++ (l.map (b.seg i (b.seen.getD i 0) now)).flatten := by
  have hp := byteEnd_pos b hr
  have hm := byteEnd_mono b
  intro l
  induction l with
  | nil => intro pre acc T0 _ _ _ _ _ _; simp
  | cons t l' ih =>
    intro pre acc T0 htx hc hlive hcross hacc hst
    have htx' : b.txs = (pre ++ [t]) ++ l' := by rw [htx]; simp
    obtain ⟨hpost, hc'⟩ := List.pairwise_cons.1 hc
    have hlive' : ∀ t' ∈ l', t'.dropped = false := fun t' ht' => hlive t' (List.mem_cons_of_mem _ ht')
    have hcross' : ∀ o ∈ pre ++ [t], ∀ t' ∈ l', b.txEnd o ≤ t'.start := by
      intro o ho t' ht'
      rcases List.mem_append.1 ho with ho | ho
      · exact hcross o ho t' (List.mem_cons_of_mem _ ht')
      · rw [List.mem_singleton.1 ho]; exact hpost t' ht'
    have hend : ∀ y ∈ acc, y.1 ≤ b.txEnd t := by
      intro y hy
      have := hacc y hy
      have := hst t (List.mem_cons_self ..)
      have := hp (t.bytes.length - 1)
      unfold txEnd; omega
    simp only [List.zipIdx_cons, List.foldl_cons, List.map_cons, List.flatten_cons]
    have hlen : pre.length + 1 = (pre ++ [t]).length := by simp
    rw [hlen]
    by_cases hskip : (t.sender = i ∨ t.dropped = true ∨ b.txEnd t ≤ b.seen.getD i 0 ∨ t.start ≥ now)
    · rw [if_pos hskip]
      have hseg : b.seg i (b.seen.getD i 0) now t = [] := by
        unfold seg
        by_cases hs : t.sender = i
        · rw [if_pos hs]
        · rw [if_neg hs]
          simp only [List.map_eq_nil_iff, List.filter_eq_nil_iff, List.mem_range]
          intro k hk
          rcases hskip with h1 | h1 | h1 | h1
          · exact absurd h1 hs
          · rw [hlive t (List.mem_cons_self ..)] at h1; cases h1
          · have := hm (t.bytes.length - 1) k (by omega)
            unfold txEnd at h1
            simp [-List.getD_eq_getElem?_getD]; omega
          · have := hp k
            simp [-List.getD_eq_getElem?_getD]; omega
      rw [hseg, List.nil_append]
      exact ih (pre ++ [t]) acc (b.txEnd t) htx' hc' hlive' hcross' hend hpost
    · rw [if_neg hskip]
      have hs : t.sender ≠ i := fun h => hskip (.inl h)
      rw [foldl_ext_mem _ (fun acc k => if (!decide (t.start + b.byteEnd k ≤ b.seen.getD i 0) &&
          decide (t.start + b.byteEnd k ≤ now)) = true then
            insertSorted (t.start + b.byteEnd k, pre.length, k, t.bytes.getD k 0) acc else acc) _ _ (by
        intro a k hk
        have hcol := collides_free b hr pre l' t htx (fun o ho => hcross o ho t (List.mem_cons_self ..)) hpost k
          (List.mem_range.1 hk)
        simp only [hcol, hcor, List.any_nil, Bool.or_false, Bool.false_eq_true, if_false,
          Bool.and_eq_true, Bool.not_eq_true', decide_eq_false_iff_not, decide_eq_true_eq, gt_iff_lt, Int.not_le])]
      rw [inner_fold_acc _ (fun k => t.start + b.byteEnd k) pre.length (fun k => t.bytes.getD k 0)
        (fun k j hjk => by have := hm k j hjk; omega) acc (fun y hy => by
          have := hacc y hy
          have := hst t (List.mem_cons_self ..)
          have := hp 0
          omega)]
      rw [ih (pre ++ [t]) _ (b.txEnd t) htx' hc' hlive' hcross' (fun y hy => by
          rcases List.mem_append.1 hy with hy | hy
          · exact hend y hy
          · simp only [List.mem_map, List.mem_filter, List.mem_range] at hy
            obtain ⟨k, ⟨hk, -⟩, rfl⟩ := hy
            have := hm (t.bytes.length - 1) k (by omega)
            unfold txEnd
            simp only
            omega) hpost]
      rw [List.map_append, List.append_assoc]
      congr 1
      unfold seg
      rw [if_neg hs, List.map_map]
      rfl

theorem deliver_split (b : Bus) (hr : 0 < b.rate) (hcor : b.corrupt = []) (i : Nat) (now : Int)
    (dn rs : List Transmission) (htx : b.txs = dn ++ rs)
    (hdn : ∀ o ∈ dn, o.sender = i ∨ o.dropped = true ∨ b.txEnd o ≤ b.seen.getD i 0)
    (hcross : ∀ o ∈ dn, ∀ t ∈ rs, b.txEnd o ≤ t.start)
    (hc : b.Chained rs) (hlive : ∀ t ∈ rs, t.dropped = false) :
    b.deliver i now = ({ b with seen := b.seen.set i now },
      (rs.map (b.seg i (b.seen.getD i 0) now)).flatten) := by
  unfold deliver
  simp only
  congr 1
  rw [htx, List.zipIdx_append, List.foldl_append]
  rw [foldl_skip _ _ dn.zipIdx (by
    intro x hx a
    obtain ⟨o, j⟩ := x
    simp only
    rw [if_pos]
    rcases hdn o (List.fst_mem_of_mem_zipIdx hx) with h1 | h1 | h1
    · exact .inl h1
    · exact .inr (.inl h1)
    · exact .inr (.inr (.inl h1)))]
  have hT : ∃ T0 : Int, ∀ t ∈ rs, T0 ≤ t.start := by
    cases rs with
    | nil => exact ⟨0, fun t ht => by cases ht⟩
    | cons t0 rest =>
      refine ⟨t0.start, fun t ht => ?_⟩
      rcases List.mem_cons.1 ht with rfl | ht
      · exact Int.le_refl _
      · have := (List.pairwise_cons.1 hc).1 t ht
        have := byteEnd_pos b hr (t0.bytes.length - 1)
        unfold txEnd at *
        omega
  obtain ⟨T0, hT0⟩ := hT
  have := outer_fold b hr hcor i now rs dn [] T0 htx hc hlive hcross (fun y hy => by cases hy) hT0
  simpa using this

theorem deliver_chained (b : Bus) (hr : 0 < b.rate) (hcor : b.corrupt = []) (i : Nat) (now : Int)
    (hc : b.Chained b.txs) (hlive : ∀ t ∈ b.txs, t.dropped = false) :
    b.deliver i now = ({ b with seen := b.seen.set i now },
      (b.txs.map (b.seg i (b.seen.getD i 0) now)).flatten) :=
  deliver_split b hr hcor i now [] b.txs rfl (fun o ho => by cases ho) (fun o ho => by cases ho) hc hlive

end Bus

theorem seg_extend (cfg : Cfg) (b : Bus) (hb : b.rate = cfg.rate) (j : Nat) (t : Transmission)
    (hs : t.sender ≠ j) (seen now : Int) (hsn : seen ≤ now) :
    t.bytes.take (cvis cfg t seen) ++ b.seg j seen now t = t.bytes.take (cvis cfg t now) := by
  unfold Bus.seg
  rw [if_neg hs]
  exact Bus.take_cvis_append b cfg hb t seen now hsn

theorem seg_nil_of_full (cfg : Cfg) (b : Bus) (hb : b.rate = cfg.rate) (j : Nat) (t : Transmission)
    (seen now : Int) (hsn : seen ≤ now) (hfull : cvis cfg t seen = t.bytes.length) : b.seg j seen now t = [] := by
  by_cases hs : t.sender = j
  · unfold Bus.seg; rw [if_pos hs]
  · have h1 := seg_extend cfg b hb j t hs seen now hsn
    have h2 : cvis cfg t now = t.bytes.length := by
      have := cvis_mono cfg t seen now hsn
      have := cvis_le cfg t now
      omega
    rw [hfull, h2] at h1
    have := congrArg List.length h1
    simp only [List.length_append] at this
    exact List.eq_nil_of_length_eq_zero (by omega)

end PV
