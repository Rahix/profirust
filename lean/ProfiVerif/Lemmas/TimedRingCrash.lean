/-
Timed ring: the successor of a station stops for good (is never polled again) after the station has passed
the token to it.  The survivor repeats the pass twice (any number of stations) and then removes the successor
from its LAS; in a ring of two it is then alone and keeps the token (`crash_final`, `crash_run`).  Also: a quiet
listener whose token holder stopped waits for its token-lost time-out (`quiet_wait`).  For the ring-level clause of C06.
-/
import ProfiVerif.Lemmas.TimedRingNSys

namespace PV
open StationGap TokenRing

theorem check_poll_timeout (s : Station) (apps : Apps) (now l : Int) (att : Attempt) (hinv : Inv s apps)
    (hon : s.online = true) (hst : s.st = .checkTokenPass att) (hl : s.lastBusActivity = some l)
    (hexp : l + (s.p.slotTime : Nat) < now) (h33 : s.p.bits 33 ≤ s.p.slotTime) :
    ∃ c', s.poll apps now false [] = .ok c' ∧ Inv c'.s c'.apps ∧ c'.rx = [] ∧ c'.apps = apps ∧ c'.s.p = s.p ∧
      c'.s.online = s.online ∧ c'.s.pendingBytes = s.pendingBytes ∧
      ∃ r next, RetryStep s.ring att next r ∧ TokenOut s r next c' now := by
  have hns : ∀ d f, s.st ≠ .useToken d f := by simp [hst]
  obtain ⟨c, hp, hinv', -, -, hgo⟩ := silent_station_poll s apps now l false hinv hon hl (fun _ => rfl)
    (.inr (.inr (.inr ⟨att, hst⟩)))
  obtain ⟨r, next, hn, ⟨o1, o4, o5, o6, -, -⟩, ht⟩ := hgo (by rw [silentWait_slot hns]; exact hexp) (fun _ => h33)
  obtain ⟨o2, htok⟩ := ht hns (by simp [hst])
  exact ⟨c, hp, hinv', o1, o2, o4, o5, o6, r, next, by simpa only [NextPass, hst] using hn, htok⟩

/-- Crash invariant: station `x` (record `sx`) supervises its `att`-th pass of the token, sent at `s`; every
transmission of another station has been delivered to it completely; nothing is pending. -/
structure CInv (cfg : Cfg) (M : List Nat) (adr : Nat → Nat) (n : Net) (x : Nat) (sx : NetStation) (att : Attempt)
    (s : Int) : Prop where
  ring : RingCfg M adr n.stations.length
  xlt : x < n.stations.length
  gx : n.stations[x]? = some sx
  okx : StOkN cfg M sx (adr x)
  log : LogOk cfg M adr n.stations.length n.bus
  doneX : ∀ o ∈ n.bus.txs, o.sender = x ∨ cEnd cfg o ≤ n.bus.seen.getD x 0
  ownX : ∀ o ∈ n.bus.txs, o.sender = x → cEnd cfg o ≤ s + (cfg.b33 : Nat) + 1
  pbx : sx.s.pendingBytes = 0
  rxx : sx.rx = []
  st : sx.s.st = .checkTokenPass att
  stamp : sx.s.lastBusActivity = some (s + (cfg.b33 : Nat))
  seenlo : s ≤ n.bus.seen.getD x 0
  seenhi : n.bus.seen.getD x 0 ≤ s + (cfg.b33 : Nat) + (cfg.slot : Nat)

theorem CInv.ofNInv {cfg : Cfg} {M : List Nat} {adr : Nat → Nat} {n : Net} {v : NView} (h : NInv cfg M adr n v)
    (hph : v.ph = .pass) (hseen : n.bus.seen.getD v.x 0 ≤ v.tr.start + (cfg.b33 : Nat) + (cfg.slot : Nat)) :
    CInv cfg M adr n v.x v.sx .first v.tr.start := by
  obtain ⟨-, -, hst, hlx, hq, -, -, -⟩ := h.pass hph
  exact ⟨h.ring, h.xlt, h.gx, h.okx, h.log, h.doneX, fun o ho hs => h.ownX _ hlx o ho hs, h.pbx, h.rxx, hst, hlx, hq, hseen⟩

theorem CInv.up {cfg : Cfg} {M : List Nat} {adr : Nat → Nat} {n : Net} {x : Nat} {sx : NetStation} {att : Attempt}
    {s : Int} (h : CInv cfg M adr n x sx att s) : Up cfg M adr n x sx (s + (cfg.b33 : Nat)) :=
  ⟨h.ring, h.xlt, h.gx, h.okx, h.log, h.doneX, h.ownX, h.pbx, h.rxx, h.stamp⟩

theorem CInv.ofUp {cfg : Cfg} {M : List Nat} {adr : Nat → Nat} {n : Net} {x : Nat} {sx : NetStation} {att : Attempt}
    {s : Int} (h : Up cfg M adr n x sx (s + (cfg.b33 : Nat))) (hst : sx.s.st = .checkTokenPass att)
    (hlo : s ≤ n.bus.seen.getD x 0) (hhi : n.bus.seen.getD x 0 ≤ s + (cfg.b33 : Nat) + (cfg.slot : Nat)) :
    CInv cfg M adr n x sx att s :=
  ⟨h.ring, h.xlt, h.gx, h.okx, h.log, h.done, h.own, h.pb, h.rx, hst, h.stamp, hlo, hhi⟩

theorem CInv.deliver {cfg : Cfg} {M : List Nat} {adr : Nat → Nat} {n : Net} {x : Nat} {sx : NetStation} {att : Attempt}
    {s : Int} (h : CInv cfg M adr n x sx att s) (hok : cfg.Ok) (now : Int) (hsn : n.bus.seen.getD x 0 ≤ now) :
    n.bus.deliver x now = ({ n.bus with seen := n.bus.seen.set x now }, []) := by
  exact h.up.deliver hok.rate hsn

theorem crash_wait {cfg : Cfg} {M : List Nat} {adr : Nat → Nat} {n : Net} {x : Nat} {sx : NetStation} {att : Attempt}
    {s : Int} (h : CInv cfg M adr n x sx att s) (hok : cfg.Ok) (now : Int) (hown : n.bus.seen.getD x 0 < now)
    (hw : now ≤ s + (cfg.b33 : Nat) + (cfg.slot : Nat)) :
    ∃ n' c, n.poll x now = (n', [], some (.ok c)) ∧ c.tx = none ∧ CInv cfg M adr n' x sx att s := by
  have hU := h.up
  have hns : ∀ d f, sx.s.st ≠ .useToken d f := by simp [h.st]
  obtain ⟨c, hp, -, -, hrest, -⟩ := silent_station_poll sx.s sx.apps now _ (n.bus.transmitting x now) h.okx.inv
    h.okx.son h.stamp (fun hl => hU.phy hl) (.inr (.inr (.inr ⟨att, h.st⟩)))
  obtain ⟨htx, -, ha, hr, hce, hl, hpb, hs⟩ := hrest (by rw [silentWait_slot hns, h.okx.slot]; omega)
  obtain ⟨hU', -⟩ := hU.quiet hown hp htx hce.p (by rw [hce.ring]; exact h.okx.view) (hce.online.trans h.okx.son) (hpb.trans h.pbx) hr
    (by rw [ha]; exact h.okx.apps) hl (Int.le_refl _)
  have hsame : upSt sx c = sx := by
    unfold upSt; rw [hs hns, ha, hr, ← h.rxx]
  rw [hsame] at hU'
  refine ⟨_, c, hU.poll hok hp, htx, CInv.ofUp hU' h.st ?_ ?_⟩
  · rw [hU.polled_seen]; have := h.seenlo; omega
  · rw [hU.polled_seen]; exact hw

theorem crash_resend {cfg : Cfg} {M : List Nat} {adr : Nat → Nat} {n : Net} {x : Nat} {sx : NetStation} {att : Attempt}
    {s : Int} (h : CInv cfg M adr n x sx att s) (hok : cfg.Ok) (hatt : att ≠ .third) (now : Int)
    (hown : n.bus.seen.getD x 0 < now) (hexp : s + (cfg.b33 : Nat) + (cfg.slot : Nat) < now) :
    ∃ n' c next, n.poll x now = (n', [], some (.ok c)) ∧
      c.tx = some (tokenBytes (cycSucc (adr x) M) (adr x)) ∧
      ((att = .first ∧ next = .second) ∨ (att = .second ∧ next = .third)) ∧
      CInv cfg M adr n' x (upSt sx c) next now := by
  -- of the margin only `bits 33 ≤ Tslot`: when the slot time has expired the synchronisation pause is over too (`h33`)
  have hmar := hok.margin
  have hc2 := cfg.ce2 hok.rate
  have hU := h.up
  have hlt : s + (cfg.b33 : Nat) < now := by omega
  obtain ⟨c, hc, hinvc, c1, c2, c3, c4, c5, r, next, hrn, htx, hring, hst, hlast⟩ :=
    check_poll_timeout sx.s sx.apps now _ att h.okx.inv h.okx.son h.st h.stamp (by rw [h.okx.slot]; omega)
      (by rw [h.okx.b33, h.okx.slot]; omega)
  have hr' : r = sx.s.ring ∧ ((att = .first ∧ next = .second) ∨ (att = .second ∧ next = .third)) := by
    rcases hrn with ⟨h1, h2, h3⟩ | ⟨h1, h2, h3⟩ | ⟨h1, -, -⟩
    · exact ⟨h3, .inl ⟨h1, h2⟩⟩
    · exact ⟨h3, .inr ⟨h1, h2⟩⟩
    · exact absurd h1 hatt
  obtain ⟨hre, hnext⟩ := hr'
  subst hre
  have hview' : RingView M (adr x) (sx.s.ring.witness (adr x) (cycSucc (adr x) M)) := h.okx.view.witness
  rw [h.okx.addr, h.okx.view.ns.1] at htx hring hst
  rw [hview'.ns.1, if_neg (h.ring.two _ (h.ring.mem x h.xlt))] at hst
  rw [bits_11_3, h.okx.b33] at hlast
  rw [← hU.phy hlt] at hc
  obtain ⟨hU', -, -⟩ := hU.send hok hc htx c3 (by rw [hring]; exact hview') (c4.trans h.okx.son) (c5.trans h.pbx) c1
    (by rw [c2]; exact h.okx.apps) ⟨x, h.xlt, rfl, .inl rfl⟩ (hU.ends hlt hown) hlast (by omega)
    (by show now + ((cfg.ce 2 : Nat) : Int) ≤ _; omega)
  refine ⟨_, c, next, hU.poll hok hc, htx, hnext, CInv.ofUp hU' hst ?_ ?_⟩
  · rw [hU.polled_seen]; exact Int.le_refl _
  · rw [hU.polled_seen]; omega

theorem removeStation_las (r r' : TokenRing) (a : Nat) (h : r.removeStation a = some r') : r'.las = r.las := by
  obtain ⟨v, rfl⟩ := TokenRing.removeStation_upd r r' a h
  exact (TokenRing.updateNextPrev_las _).1

theorem alone_after_remove {M : List Nat} {adr : Nat → Nat} (hR : RingCfg M adr 2) (x : Nat) (hx : x < 2) (r r' : TokenRing)
    (hv : RingView M (adr x) r) (h : r.removeStation (cycSucc (adr x) M) = some r') :
    RingView [adr x] (adr x) r' := by
  have hax := hR.ring.bound _ (hR.mem x hx)
  have hne := hR.two _ (hR.mem x hx)
  have hlas : TokenRing.LasIs r' [adr x] := by
    intro a ha
    rw [TokenRing.removeStation_active r r' _ h a, hv.las a ha]
    by_cases hay : a = cycSucc (adr x) M
    · rw [if_pos hay]
      simp only [List.mem_singleton]
      rw [hay]
      exact (decide_eq_false hne).symm
    · rw [if_neg hay]
      simp only [List.mem_singleton]
      by_cases hm : a ∈ M
      · obtain ⟨i, hi, e⟩ := hR.surj a hm
        obtain ⟨j, hj, ej⟩ := hR.surj _ (cycSucc_mem _ M (hR.mem x hx))
        have hjx : j ≠ x := by intro e'; rw [e'] at ej; exact hne ej.symm
        have hij : i ≠ j := by intro e'; rw [e', ej] at e; exact hay e.symm
        have hix : i = x := by omega
        rw [← e, hix]
        simp [hR.mem x hx]
      · have : a ≠ adr x := by intro e; rw [e] at hm; exact hm (hR.mem x hx)
        simp [hm, this]
  exact ⟨⟨by simp, trivial, by intro z hz; simp only [List.mem_singleton] at hz; rw [hz]; exact hax⟩, by simp,
    (removeStation_ts r r' _ h).trans hv.ts, (removeStation_las r r' _ h).trans hv.valid, hlas, removeStation_nbr r r' _ h⟩

theorem crash_final {cfg : Cfg} {M : List Nat} {adr : Nat → Nat} {n : Net} {x : Nat} {sx : NetStation}
    {s : Int} (h : CInv cfg M adr n x sx .third s) (hok : cfg.Ok) (hN : n.stations.length = 2) (now : Int)
    (hexp : s + (cfg.b33 : Nat) + (cfg.slot : Nat) < now) :
    ∃ n' c, n.poll x now = (n', [], some (.ok c)) ∧ c.tx = some (tokenBytes (adr x) (adr x)) ∧
      c.s.st = .useToken ⟨now, none⟩ false ∧ RingView [adr x] (adr x) c.s.ring ∧ Inv c.s c.apps ∧
      n'.stations[x]? = some (upSt sx c) := by
  have hmar := hok.margin
  have hU := h.up
  obtain ⟨c, hc, hinvc, c1, c2, c3, c4, c5, r, next, hrn, htx, hring, hst, hlast⟩ :=
    check_poll_timeout sx.s sx.apps now _ .third h.okx.inv h.okx.son h.st h.stamp (by rw [h.okx.slot]; omega)
      (by rw [h.okx.b33, h.okx.slot]; omega)
  have hrem : sx.s.ring.removeStation sx.s.ring.ns = some r := by
    rcases hrn with ⟨h1, -, -⟩ | ⟨h1, -, -⟩ | ⟨-, -, h3⟩
    · cases h1
    · cases h1
    · exact h3
  rw [h.okx.view.ns.1] at hrem
  have hR2 : RingCfg M adr 2 := by rw [← hN]; exact h.ring
  have hv1 := alone_after_remove hR2 x (by rw [← hN]; exact h.xlt) _ r h.okx.view hrem
  have hrns : r.ns = adr x := by rw [hv1.ns.1, cycSucc_single]
  rw [h.okx.addr, hrns] at htx hring hst
  have hv2 : RingView [adr x] (adr x) (r.witness (adr x) (adr x)) := by
    have := hv1.witness
    rw [cycSucc_single] at this
    exact this
  rw [hv2.ns.1, cycSucc_single, if_pos rfl] at hst
  rw [← hU.phy (now := now) (by omega)] at hc
  exact ⟨_, c, hU.poll hok hc, htx, hst, by rw [hring]; exact hv2, hinvc, List.getElem?_set_self h.xlt⟩

def Attempt.num : Attempt → Nat
  | .first => 1
  | .second => 2
  | .third => 3

/-- One recovery period: the token (33 bit), the slot time, one poll gap. -/
def Cfg.retry (c : Cfg) : Nat := c.b33 + c.slot + c.P

/-- **Run of the survivor** (`k` = number of the pass it supervises, `s0` = start of its first pass): every poll
returns regularly and receives nothing; while it has not recovered, every poll happens no later than
`s0 + k·(bits 33 + Tslot + P)`; a poll either transmits nothing, or repeats the token to the dead successor
(`k < 3`), or (`k = 3`) sends the token to the station itself, which is then alone in its ring view and uses
the token; from then on every poll returns regularly. -/
def CrashRun (cfg : Cfg) (M : List Nat) (adr : Nat → Nat) (x : Nat) (s0 : Int) : Nat → Net → List Int → Prop
  | _, _, [] => True
  | k, n, now :: rest =>
    ∃ n' c, n.poll x now = (n', [], some (.ok c)) ∧ now ≤ s0 + ((k * cfg.retry : Nat) : Int) ∧
      ((c.tx = none ∧ CrashRun cfg M adr x s0 k n' rest) ∨
       (k < 3 ∧ c.tx = some (tokenBytes (cycSucc (adr x) M) (adr x)) ∧ CrashRun cfg M adr x s0 (k + 1) n' rest) ∨
       (k = 3 ∧ c.tx = some (tokenBytes (adr x) (adr x)) ∧ c.s.st = .useToken ⟨now, none⟩ false ∧
          RingView [adr x] (adr x) c.s.ring ∧ SoloRun x n' rest))

theorem crash_run {cfg : Cfg} (hok : cfg.Ok) (M : List Nat) (adr : Nat → Nat) (x : Nat) (s0 : Int) :
    ∀ (evs : List Int) (n : Net) (sx : NetStation) (att : Attempt) (s : Int), CInv cfg M adr n x sx att s →
    n.stations.length = 2 → s ≤ s0 + (((att.num - 1) * cfg.retry : Nat) : Int) →
    SchedXT cfg.P (n.bus.seen.getD x 0) evs → CrashRun cfg M adr x s0 att.num n evs := by
  intro evs
  induction evs with
  | nil => intro _ _ _ _ _ _ _ _; trivial
  | cons now rest ih =>
    intro n sx att s h hN hs hsch
    obtain ⟨hlt, hle, hrest⟩ := hsch
    have hxs : x < n.bus.seen.length := by rw [h.log.seen]; exact h.xlt
    have hseen' : ∀ {n' inc r}, n.poll x now = (n', inc, r) → n'.bus.seen.getD x 0 = now := fun hp => by
      rw [Net.poll_seen_of hp, seen_set_self _ _ _ hxs]
    have hhi := h.seenhi
    have hk : 1 ≤ att.num := by cases att <;> simp [Attempt.num]
    have hmul : ((att.num * cfg.retry : Nat) : Int) = (((att.num - 1) * cfg.retry : Nat) : Int) + (cfg.retry : Nat) := by
      have : att.num * cfg.retry = (att.num - 1) * cfg.retry + cfg.retry := by
        have : att.num = (att.num - 1) + 1 := by omega
        conv => lhs; rw [this, Nat.add_mul, Nat.one_mul]
      rw [this]; push_cast; rfl
    have hre : ((cfg.retry : Nat) : Int) = (cfg.b33 : Nat) + (cfg.slot : Nat) + (cfg.P : Nat) := by
      unfold Cfg.retry; push_cast; rfl
    have hdl : now ≤ s0 + ((att.num * cfg.retry : Nat) : Int) := by
      rw [hmul]
      omega
    by_cases hw : now ≤ s + (cfg.b33 : Nat) + (cfg.slot : Nat)
    · obtain ⟨n', c, hp, htx, hinv'⟩ := crash_wait h hok now hlt hw
      refine ⟨n', c, hp, hdl, .inl ⟨htx, ?_⟩⟩
      exact ih n' sx att s hinv' ((Net.poll_len_of hp).trans hN) hs (by rw [hseen' hp]; exact hrest)
    · have hexp : s + (cfg.b33 : Nat) + (cfg.slot : Nat) < now := by omega
      by_cases h3 : att = .third
      · subst h3
        obtain ⟨n', c, hp, htx, hst, hview, hinvc, hgx'⟩ := crash_final h hok hN now hexp
        refine ⟨n', c, hp, hdl, .inr (.inr ⟨rfl, htx, hst, hview, ?_⟩)⟩
        exact solo_regular x rest n' (upSt sx c) hgx' h.okx.alive h.okx.online hinvc
      · obtain ⟨n', c, next, hp, htx, hnext, hinv'⟩ := crash_resend h hok h3 now hlt hexp
        refine ⟨n', c, hp, hdl, .inr (.inl ⟨?_, htx, ?_⟩)⟩
        · rcases hnext with ⟨e, -⟩ | ⟨e, -⟩ <;> rw [e] <;> simp [Attempt.num]
        · have hnum : next.num = att.num + 1 := by
            rcases hnext with ⟨e1, e2⟩ | ⟨e1, e2⟩ <;> rw [e1, e2] <;> rfl
          rw [← hnum]
          refine ih n' (upSt sx c) next now hinv' ((Net.poll_len_of hp).trans hN) ?_ (by rw [hseen' hp]; exact hrest)
          rw [hnum]
          simpa using hdl

/-- **Quiet-survivor invariant**: station `j` (record `st`) is idle and up to date — everything that was ever
transmitted by others has been delivered to it completely, its buffer is empty — with stamp `l`. -/
structure QInv (cfg : Cfg) (M : List Nat) (adr : Nat → Nat) (n : Net) (j : Nat) (st : NetStation) (l : Int) : Prop where
  ring : RingCfg M adr n.stations.length
  jlt : j < n.stations.length
  gj : n.stations[j]? = some st
  okj : StOkN cfg M st (adr j)
  log : LogOk cfg M adr n.stations.length n.bus
  done : ∀ o ∈ n.bus.txs, o.sender = j ∨ cEnd cfg o ≤ n.bus.seen.getD j 0
  own : ∀ o ∈ n.bus.txs, o.sender = j → cEnd cfg o ≤ l + 1
  pb : st.s.pendingBytes = 0
  rx : st.rx = []
  idle : ∃ np coll, st.s.st = .activeIdle none np coll
  stamp : st.s.lastBusActivity = some l
  lseen : l ≤ n.bus.seen.getD j 0

theorem QInv.ofNInv {cfg : Cfg} {M : List Nat} {adr : Nat → Nat} {n : Net} {v : NView} (h : NInv cfg M adr n v)
    (j : Nat) (hj : j < n.stations.length) (hjx : j ≠ v.x) (st : NetStation) (hst : n.stations[j]? = some st)
    (hidle : ∃ np coll, st.s.st = .activeIdle none np coll)
    (hall : ∀ t ∈ n.bus.txs, cEnd cfg t ≤ n.bus.seen.getD j 0)
    (hstamp : ∀ l, st.s.lastBusActivity = some l → l ≤ n.bus.seen.getD j 0) :
    ∃ l, QInv cfg M adr n j st l := by
  obtain ⟨st', hst', hL⟩ := h.lis j hj hjx
  rw [hst] at hst'
  cases hst'
  obtain ⟨hokS, dn, rs, idle, l, h1, h2, h3, h4, h5, h0, h6, h7, h8, h9, hF, h10⟩ := hL
  have hrs : rs = [] := by
    cases rs with
    | nil => rfl
    | cons t rest =>
      exfalso
      have hm : t ∈ n.bus.txs := by rw [h1]; simp
      have hpos := (TxKind.wire h.ring (h.log.kinds t hm)).2.2
      have hfull := cvis_full cfg t (n.bus.seen.getD j 0) hpos (hall t hm)
      have := h6 t rest rfl
      omega
  subst hrs
  have hl : l ≤ n.bus.seen.getD j 0 := hstamp l h7
  simp only [arrived, List.map_nil, List.flatten_nil, List.length_nil] at h4 h5
  exact ⟨l, h.ring, hj, hst, hokS, h.log, by rw [h1, List.append_nil]; exact h2, h0, by omega, h4, hidle, h7, hl⟩

theorem QInv.up {cfg : Cfg} {M : List Nat} {adr : Nat → Nat} {n : Net} {j : Nat} {st : NetStation} {l : Int}
    (h : QInv cfg M adr n j st l) : Up cfg M adr n j st l :=
  ⟨h.ring, h.jlt, h.gj, h.okj, h.log, h.done, h.own, h.pb, h.rx, h.stamp⟩

theorem quiet_wait {cfg : Cfg} {M : List Nat} {adr : Nat → Nat} {n : Net} {j : Nat} {st : NetStation} {l : Int}
    (h : QInv cfg M adr n j st l) (hok : cfg.Ok) (now : Int) (hown : n.bus.seen.getD j 0 < now)
    (hw : now < l + (st.s.p.tokenLostTimeout : Nat)) :
    ∃ n' c, n.poll j now = (n', [], some (.ok c)) ∧ c.tx = none ∧ QInv cfg M adr n' j st l := by
  have hU := h.up
  have hlt : l < now := by have := h.lseen; omega
  obtain ⟨np, coll, hst⟩ := h.idle
  have hto : 0 < st.s.p.tokenLostTimeout := by have := h.okj.tto; omega
  have hp := listener_poll_nil st.s st.apps now l [] [] false true h.okj.son ⟨np, coll, hst⟩ h.stamp hlt hto (.inr hw) receiveAll_nil
  simp only [List.length_nil, checkBus_nil] at hp
  rw [← hU.phy hlt] at hp
  obtain ⟨hU', -⟩ := hU.quiet hown hp rfl rfl h.okj.view h.okj.son h.pb rfl h.okj.apps h.stamp (Int.le_refl _)
  have hsame : upSt st { s := st.s, apps := st.apps, rx := [] } = st := by unfold upSt; rw [← h.rx]
  rw [hsame] at hU'
  refine ⟨_, _, hU.poll hok hp, rfl, hU'.ring, hU'.xlt, hU'.gx, hU'.okx, hU'.log, hU'.done, hU'.own, h.pb, h.rx,
    ⟨np, coll, hst⟩, h.stamp, ?_⟩
  rw [hU.polled_seen]; omega

end PV
