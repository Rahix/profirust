/-
Timed ring: who writes the hold-time bookkeeping (`last_token_time`, `end_token_hold_time`) — only
`do_use_token` at the first poll of a token visit — and when an application message cycle may start; read off the
step relations of `Lemmas/StationStep` and `StationStepIdle` (`PassTokenStep.hk`, `IdleStep.hk`, `CheckStep.hk`,
`StatusStep.hk`, `doUseToken_hk`, `doAwaitData_rel`).  The rotation bound uses the summary `poll_holdRel`.
-/
import ProfiVerif.Lemmas.TimedRingApps

namespace PV
open StationGap TokenRing

/-- The hold-time bookkeeping is untouched. -/
def HK (s s' : Station) : Prop := s'.lastTokenTime = s.lastTokenTime ∧ s'.endTokenHoldTime = s.endTokenHoldTime

theorem HK.rfl' (s : Station) : HK s s := ⟨rfl, rfl⟩
theorem HK.trans {a b c : Station} (h1 : HK a b) (h2 : HK b c) : HK a c := ⟨h2.1.trans h1.1, h2.2.trans h1.2⟩

theorem hk_markRx (s : Station) (now : Int) : HK s (markRx s now) := by simp [HK, markRx, markBusActivity]
theorem hk_checkBA (s : Station) (now : Int) (n : Nat) : HK s (checkBusActivity s now n) := by
  obtain ⟨-, -, -, -, -, -, h1, h2⟩ := checkBA_fields s now n
  exact ⟨h1, h2⟩

theorem hk_stamped (s : Station) (now : Int) : HK s (StationGap.stamped s now) := ⟨rfl, rfl⟩

def StHK (f : Station → Option Station) : Prop := ∀ s s', f s = some s' → HK s s'

theorem StHK.of_setsSt {f : Station → Option Station} {st' : FState} (h : SetsSt f st') : StHK f := by
  intro s s' e
  rw [h s s' e]
  exact ⟨rfl, rfl⟩

theorem stHK_toListenToken : StHK toListenToken :=
  StHK.of_setsSt setsSt_toListenToken
theorem stHK_toActiveIdle : StHK toActiveIdle :=
  StHK.of_setsSt setsSt_toActiveIdle
theorem stHK_toUseToken (d : UseData) : StHK (fun s => toUseToken s d) :=
  StHK.of_setsSt (setsSt_toUseToken d)
theorem stHK_toPassToken (g : Bool) (a : Attempt) : StHK (fun s => toPassToken s g a) :=
  StHK.of_setsSt (setsSt_toPassToken g a)
theorem stHK_toCheckTokenPass (a : Attempt) : StHK (fun s => toCheckTokenPass s a) :=
  StHK.of_setsSt (setsSt_toCheckTokenPass a)
theorem stHK_toAwaitStatus (a : Nat) : StHK (fun s => toAwaitStatus s a) :=
  StHK.of_setsSt (setsSt_toAwaitStatus a)
theorem stHK_toAwaitData (a : Nat) (d : UseData) : StHK (fun s => toAwaitData s a d) :=
  StHK.of_setsSt (setsSt_toAwaitData a d)

theorem tr_hk (c : Ctx) (f : Station → Option Station) (site : String) (hf : StHK f) (c' : Ctx)
    (h : tr c f site = .ok c') : HK c.s c'.s := by
  obtain ⟨s', hs', rfl⟩ := tr_cases c f site c' h
  exact hf c.s s' hs'

/-- Time of the token receipt the station is currently using (`UseTokenData.token_time`). -/
def visitTime : FState → Option Int
  | .useToken d _ => some d.tokenTime
  | .awaitData _ d => some d.tokenTime
  | _ => none

/-- `first_cycle_done` (a station waiting for a reply has started its first cycle). -/
def lateFlag : FState → Bool
  | .useToken _ f => f
  | .awaitData .. => true
  | _ => false

/-- Not in a token visit, or in one that begins right now. -/
def NVs (st : FState) (now : Int) : Prop := visitTime st = none ∨ visitTime st = some now ∧ lateFlag st = false

/-- Not in a token visit, or (the token was passed to the station itself) in one that begins now. -/
def NVt (st : FState) (tx : Option Bytes) (now : Int) : Prop :=
  visitTime st = none ∨ visitTime st = some now ∧ lateFlag st = false ∧ ∃ da sa, tx = some (sendToken da sa)

theorem NVt.nvs {st : FState} {tx : Option Bytes} {now : Int} (h : NVt st tx now) : NVs st now :=
  h.imp id (fun h => ⟨h.1, h.2.1⟩)

/-- `handle_telegram` only rewrites the FDL state (and the ring view): to `ActiveIdle`, to `ListenToken`, or —
the token is accepted — to `UseToken` with the receipt time `now`. -/
theorem handleTelegram_hk (c : Ctx) (now : Int) (t : Telegram) (isLast : Bool) (c' : Ctx) (h0 : NVs c.s.st now)
    (h : handleTelegram c now t isLast = .ok c') : HK c.s c'.s ∧ NVs c'.s.st now := by
  rcases handleTelegram_ok_st h with ⟨sr, np, coll, hst⟩ | ⟨sr, coll, hst⟩
  · cases h ▸ handleTelegram_step now t isLast hst with
    | accept | acceptNew => exact ⟨⟨rfl, rfl⟩, .inr ⟨rfl, rfl⟩⟩
    | ignore | sc => exact ⟨⟨rfl, rfl⟩, h0⟩
    | collision | backOff | heard | stranger | request => exact ⟨⟨rfl, rfl⟩, .inl rfl⟩
  · rw [handleTelegram_listening now t isLast hst] at h; cases h; exact ⟨⟨rfl, rfl⟩, h0⟩

theorem foldIdleF_hk (now : Int) (calls : List (Telegram × Bool)) (c c' : Ctx) (h0 : NVs c.s.st now)
    (h : foldTelegrams (idleF now) c calls = .ok c') : HK c.s c'.s ∧ NVs c'.s.st now := by
  refine foldTelegrams_post (fun c1 => HK c.s c1.s ∧ NVs c1.s.st now) ?_ calls c c' ⟨HK.rfl' _, h0⟩ h
  intro c1 t l c2 hq h1
  unfold idleF at h1
  obtain ⟨a, b⟩ := handleTelegram_hk _ now t l c2 (by rw [show (upd c1 fun s => markRx s now).s.st = c1.s.st from markRx_st c1.s now]; exact hq.2) h1
  exact ⟨hq.1.trans ((hk_markRx c1.s now).trans a), b⟩

theorem nvt_passed (c : Ctx) (now : Int) (att : Attempt) : NVt (passed c now att).s.st (passed c now att).tx now := by
  unfold passed
  dsimp only
  split
  · exact .inr ⟨rfl, rfl, _, _, rfl⟩
  · exact .inl rfl

theorem PassTokenStep.hk {c c' : Ctx} {now : Int} {att : Attempt} {g : Bool} (h : PassTokenStep c now att g (.ok c'))
    (hst : c.s.st = .passToken g att) : HK c.s c'.s ∧ NVt c'.s.st c'.tx now := by
  cases h with
  | wait _ => exact ⟨⟨rfl, rfl⟩, .inl (by rw [show ({ c with s := stamped c.s now } : Ctx).s.st = _ from hst]; rfl)⟩
  | poll _ _ _ _ => exact ⟨⟨rfl, rfl⟩, .inl rfl⟩
  | passGap _ _ _ => exact ⟨⟨rfl, rfl⟩, nvt_passed _ now att⟩
  | pass _ _ => exact ⟨⟨rfl, rfl⟩, nvt_passed _ now att⟩

/-- The end of a token hold: `PassToken(do_gap, first)` is entered and handled in the same poll. -/
theorem passNow_hk (c : Ctx) (now : Int) (c' : Ctx) {d : UseData} {f : Bool} (hst : c.s.st = .useToken d f)
    (h : passNow c now = .ok c') : HK c.s c'.s ∧ NVt c'.s.st c'.tx now := by
  rw [passNow_eq now hst] at h
  exact (h ▸ doPassToken_step now rfl).hk rfl

theorem lateFlag_of_none (st : FState) (h : visitTime st = none) : lateFlag st = false := by
  cases st <;> first | rfl | (simp [visitTime] at h)

/-- Outcome of a visit step: still the same visit, or the token has been passed on (possibly to the
station itself when it is alone). -/
def VisOut (st : FState) (tx : Option Bytes) (tk now : Int) : Prop :=
  visitTime st = some tk ∧ lateFlag st = true ∨ NVt st tx now

theorem holdUpdate_last (s : Station) (d : UseData) : (holdUpdate s d).lastTokenTime = d.tokenTime := by
  rw [holdUpdate_eq]

theorem hk_held (c : Ctx) (now : Int) (d : UseData) : HK (holdUpdate c.s d) (held c now d).s := by
  rw [holdUpdate_eq]; exact ⟨rfl, rfl⟩

theorem doUseToken_hk (c : Ctx) (now : Int) (d : UseData) (fcd : Bool) (c' : Ctx)
    (hst : c.s.st = .useToken d fcd) (htx : c.tx = none) (h : doUseToken c now = .ok c') :
    HK (holdUpdate c.s d) c'.s ∧
    (c'.s.st = .useToken d fcd ∧ c'.tx = none ∨ VisOut c'.s.st c'.tx d.tokenTime now) ∧
    (c'.tx ≠ none → lateFlag c'.s.st = true →
      now < (holdUpdate c.s d).endTokenHoldTime ∨ fcd = false) := by
  -- the token hold ends from a context `c1` of the visit with the bookkeeping done
  have fin : ∀ (c1 : Ctx) (d1 : UseData) (f1 : Bool), c1.s.st = .useToken d1 f1 → HK (holdUpdate c.s d) c1.s →
      passNow c1 now = .ok c' →
      HK (holdUpdate c.s d) c'.s ∧ (c'.s.st = .useToken d fcd ∧ c'.tx = none ∨ VisOut c'.s.st c'.tx d.tokenTime now) ∧
      (c'.tx ≠ none → lateFlag c'.s.st = true → now < (holdUpdate c.s d).endTokenHoldTime ∨ fcd = false) := by
    intro c1 d1 f1 hs1 h1 hp
    obtain ⟨a1, a2⟩ := passNow_hk c1 now c' hs1 hp
    refine ⟨h1.trans a1, .inr (.inr a2), fun _ hl => ?_⟩
    -- the token has been passed: the flag of the new state, if any, is fresh
    rcases a2 with a2 | ⟨-, a3, -⟩
    · rw [lateFlag_of_none _ a2] at hl; cases hl
    · rw [a3] at hl; cases hl
  have hs := doUseToken_step now hst
  rw [h] at hs
  cases hs with
  | wait _ => exact ⟨hk_held c now d, .inl ⟨hst, htx⟩, fun h1 => absurd htx h1⟩
  | go _ hg hgo =>
    have hu := useTokenGo_step (held c now d) now d (!decide (now < holdEnd c.s d))
    rw [hgo] at hu
    have hvt : ∀ j m, (visitAfter d j m).tokenTime = d.tokenTime := fun j m => by unfold visitAfter; split <;> rfl
    cases hu with
    | @cycle m _ hL =>
      obtain ⟨hd, pdu, bytes, -, -, -, -, e5⟩ := hL.cycle rfl
      have hk2 : HK (holdUpdate c.s d) c'.s := by rw [e5]; exact hk_held c now d
      obtain ⟨-, -, -, -, -, ⟨-, hs1⟩ | ⟨a8, -, hs1⟩⟩ := hL.sent rfl
      · exact ⟨hk2, .inr (.inl (by rw [hs1]; exact ⟨congrArg some (hvt _ m), rfl⟩)), fun _ _ => hg⟩
      · exact ⟨hk2, .inr (.inl (by rw [hs1]; exact ⟨congrArg some (hvt _ m), rfl⟩)), fun _ _ => hg⟩
    | @pass m c1 _ hL hp =>
      obtain ⟨-, -, e3, -⟩ := hL.still rfl
      exact fin c1 _ true (by rw [e3]) (by rw [e3]; exact hk_held c now d) hp
  | pass _ _ _ hp => exact fin (held c now d) d fcd hst (hk_held c now d) hp

theorem ClaimTokStep.hk {c c' : Ctx} {now : Int} {step : ClaimStep} (h : ClaimTokStep c now step (.ok c'))
    (hst : c.s.st = .claimToken step) : HK c.s c'.s ∧ visitTime c'.s.st = none := by
  cases h with
  | wait _ => exact ⟨⟨rfl, rfl⟩, by rw [show ({ c with s := stamped c.s now } : Ctx).s.st = _ from hst]; rfl⟩
  | claim _ _ => exact ⟨⟨rfl, rfl⟩, rfl⟩

/-- After the token-lost time-out the station claims the token in the same poll. -/
theorem claimLost_hk (c : Ctx) (now : Int) (c' : Ctx)
    (h : doClaimToken { c with s := { (stamped c.s now) with st := .claimToken .firstToken } } now 2 = .ok c') :
    HK c.s c'.s ∧ NVs c'.s.st now := by
  obtain ⟨a1, a2⟩ := (h ▸ doClaimToken_tok_step now 1 (.inl rfl) rfl).hk rfl
  exact ⟨⟨a1.1, a1.2⟩, .inl a2⟩

theorem IdleStep.hk {c c' : Ctx} {now : Int} {sr np : Option Nat} {coll : Nat} (h : IdleStep c now np coll sr (.ok c'))
    (hst : c.s.st = .activeIdle sr np coll) : HK c.s c'.s ∧ NVs c'.s.st now := by
  cases h with
  | lost _ hc => exact claimLost_hk c now c' hc
  | wait _ _ => exact ⟨⟨rfl, rfl⟩, .inl (by rw [show ({ c with s := stamped c.s now } : Ctx).s.st = _ from hst]; rfl)⟩
  | reply _ _ _ => exact ⟨⟨rfl, rfl⟩, .inl rfl⟩
  | recv _ _ hf =>
    obtain ⟨b1, b2⟩ := foldIdleF_hk now _ _ c' (.inl (by rw [show (stamped c.s now).st = _ from hst]; rfl)) hf
    exact ⟨⟨b1.1, b1.2⟩, b2⟩

theorem CheckStep.hk {c c' : Ctx} {now : Int} {att : Attempt} (h : CheckStep c now att (.ok c'))
    (hst : c.s.st = .checkTokenPass att) : HK c.s c'.s ∧ NVs c'.s.st now := by
  cases h with
  | retry _ _ hp =>
    -- the slot time has expired: the pass is repeated (the third time after removing NS)
    obtain ⟨b1, b2⟩ := (hp ▸ doPassToken_step now rfl).hk rfl
    exact ⟨⟨b1.1, b1.2⟩, b2.nvs⟩
  | quiet _ _ => exact ⟨⟨rfl, rfl⟩, .inl (by rw [show ({ c with rx := _, s := stamped c.s now } : Ctx).s.st = _ from hst]; rfl)⟩
  | heard _ _ hf =>
    -- something was heard: supervision ends, the batch is handled as by an idle station
    obtain ⟨b1, b2⟩ := foldIdleF_hk now _ _ c' (.inl rfl) hf
    exact ⟨⟨b1.1, b1.2⟩, b2⟩

theorem AwaitGapStep.hk {c c1 : Ctx} {now : Int} {addr : Nat} {g : GapPollResponse}
    (h : AwaitGapStep c now addr (.ok c1, g)) : HK c.s c1.s := by
  cases h <;> exact ⟨rfl, rfl⟩

theorem StatusStep.hk {c c' : Ctx} {now : Int} {addr : Nat} (h : StatusStep c now addr (.ok c'))
    (hst : c.s.st = .awaitStatus addr) : HK c.s c'.s ∧ NVs c'.s.st now := by
  cases h with
  | waits hq => exact ⟨hq.hk, .inl (by rw [hq.st, hst]; rfl)⟩
  | responded hq => exact ⟨hq.hk, .inl rfl⟩
  | timeout hq hp =>
    obtain ⟨b1, b2⟩ := (hp ▸ doPassToken_step now rfl).hk rfl
    exact ⟨hq.hk.trans ⟨b1.1, b1.2⟩, b2.nvs⟩
  | unexpected hq => exact ⟨hq.hk, .inl rfl⟩

/-- The bookkeeping is untouched, or this was the first `do_use_token` of the visit that began at `tk`:
`last_token_time` becomes `tk` and the hold deadline is at most the previous receipt + TTR. -/
def F1 (s : Station) (c' : Ctx) (tk : Int) : Prop :=
  HK s c'.s ∨ (s.lastTokenTime ≠ tk ∧ c'.s.lastTokenTime = tk ∧
    c'.s.endTokenHoldTime ≤ s.lastTokenTime + ((s.p.ttrTime : Nat) : Int))

theorem holdUpdate_F1 (s s1 : Station) (d : UseData) (c' : Ctx) (h1 : HK s s1) (hp : s1.p = s.p)
    (h2 : HK (holdUpdate s1 d) c'.s) : F1 s c' d.tokenTime := by
  unfold holdUpdate at h2
  split at h2
  · rename_i hne
    refine Or.inr ⟨by rw [← h1.1]; exact hne, h2.1, ?_⟩
    rw [h2.2]
    simp only
    rw [h1.1, hp]
    split <;> omega
  · exact Or.inl (h1.trans h2)

/-- **What one poll does to the hold-time bookkeeping** (`s` = station before, `c'` = result).  `upd` / `keep`: the
two fields, in and outside a token visit; `vis`: the state after — unchanged, same visit with the flag set, or
outside / at the start of a visit; `cls`: the same for a poll in a visit, together with what was transmitted;
`guard`: a message cycle starts only before the deadline or as the first of the visit; `recd`: a poll that transmits
in a visit has recorded the receipt. -/
structure HoldRel (s : Station) (c' : Ctx) (now : Int) : Prop where
  upd : ∀ tk, visitTime s.st = some tk → F1 s c' tk
  keep : visitTime s.st = none → HK s c'.s
  vis : c'.s.st = s.st ∨ (visitTime c'.s.st = visitTime s.st ∧ visitTime s.st ≠ none ∧ lateFlag c'.s.st = true) ∨ NVs c'.s.st now
  guard : c'.tx ≠ none → lateFlag c'.s.st = true → now < c'.s.endTokenHoldTime ∨ lateFlag s.st = false
  cls : ∀ tk, visitTime s.st = some tk → (c'.s.st = s.st ∧ c'.tx = none) ∨ (visitTime c'.s.st = some tk ∧ lateFlag c'.s.st = true) ∨
    visitTime c'.s.st = none ∨ ∃ da sa, c'.tx = some (sendToken da sa)
  recd : ∀ tk, visitTime s.st = some tk → c'.tx ≠ none → c'.s.lastTokenTime = tk

/-- The bookkeeping of the visit begun at `acc` across one poll: the receipt is recorded and the deadline at most
`Eb`, or it is not recorded yet and the previous receipt + TTR is at most `Eb`. -/
theorem HoldRel.bk {s : Station} {c : Ctx} {now acc Eb : Int} (rel : HoldRel s c now) (hp : c.s.p = s.p)
    (hvis : visitTime s.st = some acc)
    (h : (s.lastTokenTime = acc ∧ s.endTokenHoldTime ≤ Eb) ∨
      (s.lastTokenTime ≠ acc ∧ s.lastTokenTime + ((s.p.ttrTime : Nat) : Int) ≤ Eb)) :
    (c.s.lastTokenTime = acc ∧ c.s.endTokenHoldTime ≤ Eb) ∨
      (c.s.lastTokenTime ≠ acc ∧ c.s.lastTokenTime + ((c.s.p.ttrTime : Nat) : Int) ≤ Eb) := by
  rcases rel.upd acc hvis with hk | ⟨hne, hl, he⟩
  · rw [hk.1, hk.2, hp]; exact h
  · rcases h with ⟨a1, -⟩ | ⟨-, a2⟩
    · exact absurd a1 hne
    · exact .inl ⟨hl, by omega⟩

theorem HoldRel.bk_rec {s : Station} {c : Ctx} {now acc Eb : Int} (rel : HoldRel s c now)
    (hvis : visitTime s.st = some acc) (h : s.lastTokenTime = acc ∧ s.endTokenHoldTime ≤ Eb) :
    c.s.lastTokenTime = acc ∧ c.s.endTokenHoldTime ≤ Eb := by
  rcases rel.upd acc hvis with hk | ⟨hne, -, -⟩
  · rw [hk.1, hk.2]; exact h
  · exact absurd h.1 hne

theorem HoldRel.bk_tx {s : Station} {c : Ctx} {now acc Eb : Int} (rel : HoldRel s c now) (hp : c.s.p = s.p)
    (hvis : visitTime s.st = some acc)
    (h : (s.lastTokenTime = acc ∧ s.endTokenHoldTime ≤ Eb) ∨
      (s.lastTokenTime ≠ acc ∧ s.lastTokenTime + ((s.p.ttrTime : Nat) : Int) ≤ Eb))
    (htx : c.tx ≠ none) : c.s.lastTokenTime = acc ∧ c.s.endTokenHoldTime ≤ Eb := by
  rcases rel.bk hp hvis h with u | ⟨u1, -⟩
  · exact u
  · exact absurd (rel.recd acc hvis htx) u1

theorem doUseToken_rel (c : Ctx) (now : Int) (d : UseData) (fcd : Bool) (c' : Ctx)
    (hst : c.s.st = .useToken d fcd) (htx : c.tx = none) (h : doUseToken c now = .ok c') : HoldRel c.s c' now := by
  obtain ⟨a1, a2, a3⟩ := doUseToken_hk c now d fcd c' hst htx h
  refine ⟨?_, ?_, ?_, ?_, ?_, ?_⟩
  · intro tk htk
    rw [hst] at htk
    cases htk
    exact holdUpdate_F1 c.s c.s d c' (HK.rfl' _) rfl a1
  · intro hn; rw [hst] at hn; cases hn
  · rcases a2 with ⟨b1, -⟩ | ⟨b1, b2⟩ | b1
    · exact .inl (b1.trans hst.symm)
    · exact .inr (.inl ⟨by rw [b1, hst]; rfl, by rw [hst]; simp [visitTime], b2⟩)
    · exact .inr (.inr b1.nvs)
  · intro h1 h2
    rcases a3 h1 h2 with b | b
    · exact .inl (by rw [a1.2]; exact b)
    · exact .inr (by rw [hst]; exact b)
  · intro tk htk
    rw [hst] at htk; cases htk
    rcases a2 with ⟨b1, b2⟩ | ⟨b1, b2⟩ | b1 | ⟨-, -, b3⟩
    · exact .inl ⟨b1.trans hst.symm, b2⟩
    · exact .inr (.inl ⟨b1, b2⟩)
    · exact .inr (.inr (.inl b1))
    · exact .inr (.inr (.inr b3))
  · intro tk htk _
    rw [hst] at htk; cases htk
    rw [a1.1]; exact holdUpdate_last c.s d

/-- A poll seen from a station that differs from the polled one only outside the bookkeeping, in the same visit and
like it with the flag set (`AwaitDataResponse` against the `UseToken` it returns to at its time-out). -/
theorem HoldRel.of_late {s s0 : Station} {c' : Ctx} {now : Int} (h1 : HK s s0) (h3 : s0.p = s.p)
    (hv : visitTime s0.st = visitTime s.st) (hvn : visitTime s.st ≠ none) (hl0 : lateFlag s0.st = true)
    (h : HoldRel s0 c' now) : HoldRel s c' now := by
  refine ⟨?_, fun hn => absurd hn hvn, ?_, ?_, ?_, fun tk htk => h.recd tk (hv.trans htk)⟩
  · intro tk htk
    rcases h.upd tk (hv.trans htk) with a | ⟨a1, a2, a3⟩
    · exact .inl (h1.trans a)
    · exact .inr ⟨by rw [← h1.1]; exact a1, a2, by rw [← h1.1, ← h3]; exact a3⟩
  · rcases h.vis with a | ⟨x, -, z⟩ | a
    · exact .inr (.inl ⟨by rw [a]; exact hv, hvn, by rw [a]; exact hl0⟩)
    · exact .inr (.inl ⟨x.trans hv, hvn, z⟩)
    · exact .inr (.inr a)
  · intro ht hl
    rcases h.guard ht hl with g | g
    · exact .inl g
    · rw [hl0] at g; cases g
  · intro tk htk
    rcases h.cls tk (hv.trans htk) with ⟨a, -⟩ | b | b | b
    · exact .inr (.inl ⟨by rw [a]; exact hv.trans htk, by rw [a]; exact hl0⟩)
    · exact .inr (.inl b)
    · exact .inr (.inr (.inl b))
    · exact .inr (.inr (.inr b))

theorem doAwaitData_rel (c : Ctx) (now : Int) (a : Nat) (d : UseData) (c' : Ctx)
    (hst : c.s.st = .awaitData a d) (htx : c.tx = none) (h : doAwaitDataResponse c now = .ok c') : HoldRel c.s c' now := by
  have hv : visitTime c.s.st = some d.tokenTime := by rw [hst]; rfl
  have hs := doAwaitDataResponse_step now hst
  rw [h] at hs
  cases hs with
  | waits _ _ _ =>
    exact ⟨fun tk _ => .inl (hk_stamped c.s now), fun _ => hk_stamped c.s now, .inl rfl, fun hh => absurd htx hh,
      fun tk htk => .inl ⟨rfl, htx⟩, fun _ _ hh => absurd htx hh⟩
  | timeout _ _ _ hu =>
    -- the visit continues in `do_use_token`
    exact HoldRel.of_late (s0 := { StationGap.stamped c.s now with st := .useToken d true }) ⟨rfl, rfl⟩ rfl
      (by rw [hv]; rfl) (by rw [hv]; simp) rfl ((fun hc ht => doUseToken_rel _ now d true c' hc ht hu) rfl htx)
  | reply _ _ _ =>
    -- the reply is handed to the application
    refine ⟨fun tk _ => .inl (hk_markRx c.s now), fun _ => hk_markRx c.s now,
      .inr (.inl ⟨hv.symm, by rw [hv]; simp, rfl⟩), fun hh => absurd htx hh, ?_, fun _ _ hh => absurd htx hh⟩
    intro tk htk
    rw [hv] at htk; cases htk
    exact .inr (.inl ⟨rfl, rfl⟩)
  | backOff _ _ _ =>
    -- an inadmissible telegram: back to `ActiveIdle`
    exact ⟨fun tk _ => .inl (hk_markRx c.s now), fun _ => hk_markRx c.s now, .inr (.inr (.inl rfl)),
      fun hh => absurd htx hh, fun _ _ => .inr (.inr (.inl rfl)), fun _ _ hh => absurd htx hh⟩

theorem HoldRel.of_nv {s : Station} {c' : Ctx} {now : Int} (hv : visitTime s.st = none) (h1 : HK s c'.s)
    (h2 : NVs c'.s.st now) : HoldRel s c' now := by
  refine ⟨fun tk htk => (by rw [hv] at htk; cases htk), fun _ => h1, .inr (.inr h2), ?_,
    fun tk htk => (by rw [hv] at htk; cases htk), fun tk htk => (by rw [hv] at htk; cases htk)⟩
  intro _ hl
  rcases h2 with h2 | ⟨-, h2⟩
  · rw [lateFlag_of_none _ h2] at hl; cases hl
  · rw [h2] at hl; cases hl

theorem HoldRel.of_eq {s s0 : Station} {c' : Ctx} {now : Int} (h1 : HK s s0) (h2 : s0.st = s.st) (h3 : s0.p = s.p)
    (h : HoldRel s0 c' now) : HoldRel s c' now := by
  refine ⟨?_, ?_, ?_, ?_, ?_, ?_⟩
  · intro tk htk
    rcases h.upd tk (by rw [h2]; exact htk) with a | ⟨a1, a2, a3⟩
    · exact .inl (h1.trans a)
    · exact .inr ⟨by rw [← h1.1]; exact a1, a2, by rw [← h1.1, ← h3]; exact a3⟩
  · intro hn; exact h1.trans (h.keep (by rw [h2]; exact hn))
  · rw [← h2]; exact h.vis
  · rw [← h2]; exact h.guard
  · rw [← h2]; exact h.cls
  · rw [← h2]; exact h.recd

/-- States of a station in a running ring. -/
def RingState (st : FState) : Prop :=
  (∃ sr np coll, st = .activeIdle sr np coll) ∨ (∃ att, st = .checkTokenPass att) ∨ (∃ a, st = .awaitStatus a) ∨
  (∃ d f, st = .useToken d f) ∨ (∃ a d, st = .awaitData a d)

/-- **Only `do_use_token` writes the hold-time bookkeeping**, at most once per visit; and an application
message cycle starts only before the deadline or as the first cycle of the visit. -/
theorem poll_holdRel (s : Station) (apps : Apps) (now : Int) (phy : Bool) (rx : Bytes) (c : Ctx)
    (hon : s.online = true) (hst : RingState s.st) (h : s.poll apps now phy rx = .ok c) : HoldRel s c now := by
  have hno : s.st ≠ .offline ∧ s.st ≠ .passiveIdle := by
    rcases hst with ⟨_, _, _, e⟩ | ⟨_, e⟩ | ⟨_, e⟩ | ⟨_, _, e⟩ | ⟨_, _, e⟩ <;> rw [e] <;> simp
  rw [Station.poll_started s apps now phy rx hon hno.1 hno.2] at h
  rcases ite_inv h with ⟨_, h⟩ | ⟨_, h⟩
  · cases h
    have hk : HK s (markBusActivity s now) := ⟨rfl, rfl⟩
    exact ⟨fun tk _ => .inl hk, fun _ => hk, .inl rfl, fun hh => absurd rfl hh,
      (fun tk htk => .inl ⟨rfl, rfl⟩), (fun _ _ hh => absurd rfl hh)⟩
  · -- the handler of the FDL state runs on the station after `check_for_bus_activity`
    obtain ⟨f1, f2, -⟩ := checkBA_fields s now rx.length
    refine HoldRel.of_eq (s0 := checkBusActivity s now rx.length) (hk_checkBA s now rx.length) f1 f2 ?_
    rcases hst with ⟨sr, np, coll, e⟩ | ⟨att, e⟩ | ⟨a, e⟩ | ⟨d, f, e⟩ | ⟨a, d, e⟩
    · have e1 := f1.trans e
      rw [dispatch_activeIdle now e1] at h
      obtain ⟨a1, a2⟩ := (h ▸ doActiveIdle_step now e1).hk e1
      exact HoldRel.of_nv (by rw [e1]; rfl) a1 a2
    · have e1 := f1.trans e
      rw [dispatch_checkTokenPass now e1] at h
      obtain ⟨a1, a2⟩ := (h ▸ doCheckTokenPass_step now e1).hk e1
      exact HoldRel.of_nv (by rw [e1]; rfl) a1 a2
    · have e1 := f1.trans e
      rw [dispatch_awaitStatus now e1] at h
      obtain ⟨a1, a2⟩ := (h ▸ doAwaitStatusResponse_step now e1).hk e1
      exact HoldRel.of_nv (by rw [e1]; rfl) a1 a2
    · have e1 := f1.trans e
      rw [dispatch_useToken now e1] at h
      exact doUseToken_rel _ now d f c e1 rfl h
    · have e1 := f1.trans e
      rw [dispatch_awaitData now e1] at h
      exact doAwaitData_rel _ now a d c e1 rfl h

end PV
