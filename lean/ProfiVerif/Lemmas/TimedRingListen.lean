/-
A station that merely listens (ActiveIdle, or still supervising its own pass) is handed a batch of
complete telegrams of other stations (`Foreign`: token passes between other members, GAP requests to
other addresses, application data), possibly ending with the token addressed to itself: it transmits
nothing, witnesses the passes (ring view unchanged as a `RingView`), answers nothing and accepts the
token only as the last telegram of the batch.
-/
import ProfiVerif.Lemmas.TimedRing2

namespace PV
open StationGap TokenRing

def tokTel (M : List Nat) (a : Nat) : Telegram := .token (UInt8.ofNat (cycSucc a M)) (UInt8.ofNat a)
def reqTel (g a : Nat) : Telegram := .data (fdlStatusRequestHeader (UInt8.ofNat g) (UInt8.ofNat a)) []

theorem tokTel_wire (M : List Nat) (a : Nat) : (tokTel M a).wire = tokenBytes (cycSucc a M) a := rfl
theorem reqTel_wire (g a : Nat) : (reqTel g a).wire = statusRequestBytes g a := by
  unfold reqTel Telegram.wire; exact (statusRequest_frame g a).symm

theorem u8n (a : Nat) (h : a < 256) : (UInt8.ofNat a).toNat = a := by simp [Nat.mod_eq_of_lt h]

theorem tokTel_valid (M : List Nat) (a : Nat) : (tokTel M a).Valid := trivial
theorem reqTel_valid (g a : Nat) (hg : g < 128) (ha : a < 128) : (reqTel g a).Valid := by
  unfold reqTel Telegram.Valid
  refine ⟨?_, ?_, by simp [Header.lengthByte, Header.saps, fdlStatusRequestHeader]⟩
  · simp [fdlStatusRequestHeader, UInt8.lt_iff_toNat_lt]; omega
  · simp [fdlStatusRequestHeader, UInt8.lt_iff_toNat_lt]; omega

/-- Telegrams the listener `me` merely overhears: a pass between other members that does not end at `me`,
a GAP request to an address that is not `me`, or an application data telegram (anything but an FDL status
request). -/
def Foreign (M : List Nat) (me : Nat) (t : Telegram) : Prop :=
  (∃ a, a ∈ M ∧ a ≠ me ∧ cycSucc a M ≠ me ∧ t = tokTel M a) ∨
  (∃ g a, g < 126 ∧ a < 126 ∧ g ≠ me ∧ t = reqTel g a) ∨
  (∃ h pdu, t = .data h pdu ∧ ∀ fcb, h.fc ≠ .request fcb .fdlStatus)

theorem handleTelegram_ignores (c : Ctx) (now : Int) (sr np : Option Nat) (coll : Nat) (h : Header) (pdu : Bytes)
    (l : Bool) (hst : c.s.st = .activeIdle sr np coll) (hn : ¬ AsksStatus c.s.p.address h l) :
    handleTelegram c now (.data h pdu) l = .ok c :=
  (handleTelegram_step now (.data h pdu) l hst).unique (.ignore hn)

theorem foldTelegrams_append (f : Ctx → Telegram → Bool → Res) : ∀ (l1 l2 : List (Telegram × Bool)) (c : Ctx),
    foldTelegrams f c (l1 ++ l2) = (foldTelegrams f c l1).bind fun c' => foldTelegrams f c' l2 := by
  intro l1
  induction l1 with
  | nil => intro l2 c; rfl
  | cons x xs ih =>
    intro l2 c
    obtain ⟨t, l⟩ := x
    simp only [List.cons_append, foldTelegrams]
    cases h : f c t l with
    | panic s => rfl
    | ok c1 => simp only [Res.bind]; exact ih l2 c1

structure Heard (M : List Nat) (me : Nat) (c c' : Ctx) : Prop where
  tx : c'.tx = c.tx
  rx : c'.rx = c.rx
  apps : c'.apps = c.apps
  calls : c'.calls = c.calls
  p : c'.s.p = c.s.p
  online : c'.s.online = c.s.online
  st : ∃ np coll, c'.s.st = .activeIdle none np coll
  view : RingView M me c'.s.ring

theorem idleF_foreign (M : List Nat) (me : Nat) (now l0 : Int) (c : Ctx) (t : Telegram) (isLast : Bool)
    (hf : Foreign M me t) (hme : c.s.p.address = me) (hst : ∃ np coll, c.s.st = .activeIdle none np coll)
    (hv : RingView M me c.s.ring) (hl : c.s.lastBusActivity = some l0) (hle : l0 ≤ now) :
    ∃ c', idleF now c t isLast = .ok c' ∧ Heard M me c c' ∧ c'.s.lastBusActivity = some now ∧ c'.s.pendingBytes = 0 := by
  obtain ⟨np, coll, hst⟩ := hst
  unfold idleF
  simp only [upd]
  rw [markRx_at _ _ _ hl hle]
  rcases hf with ⟨a, haM, hane, hsne, rfl⟩ | ⟨g, a, hg, ha, hgne, rfl⟩ | ⟨h, pdu, rfl, hfc⟩
  · have ha125 := hv.ring.bound a haM
    have hs125 := hv.ring.bound _ (cycSucc_mem a M haM)
    have hsa : (UInt8.ofNat a).toNat ≠ me := by rw [u8n a (by omega)]; exact hane
    have hda : (UInt8.ofNat (cycSucc a M)).toNat ≠ me := by rw [u8n _ (by omega)]; exact hsne
    have e := (handleTelegram_step (c := { c with s := { c.s with pendingBytes := 0, lastBusActivity := some now } })
      now (tokTel M a) isLast hst).unique
      (.heard (fun h => hsa (h.trans hme)) (.inl fun h => hda (h.trans hme)))
    unfold tokTel at e ⊢
    rw [e]
    refine ⟨_, rfl, ⟨rfl, rfl, rfl, rfl, rfl, rfl, ⟨np, 0, rfl⟩, ?_⟩, rfl, rfl⟩
    simp only
    rw [u8n a (by omega), u8n _ (by omega)]
    exact hv.witness_member a haM
  · unfold reqTel
    rw [handleTelegram_ignores { c with s := { c.s with pendingBytes := 0, lastBusActivity := some now } } now none np coll _ [] isLast hst (fun ha => hgne (by
      have := ha.2.1
      rw [show (fdlStatusRequestHeader (UInt8.ofNat g) (UInt8.ofNat a)).da = UInt8.ofNat g from rfl, u8n g (by omega)] at this
      exact this.trans hme))]
    exact ⟨_, rfl, ⟨rfl, rfl, rfl, rfl, rfl, rfl, ⟨np, coll, hst⟩, hv⟩, rfl, rfl⟩
  · rw [handleTelegram_ignores { c with s := { c.s with pendingBytes := 0, lastBusActivity := some now } } now none np coll h pdu isLast hst
      (fun ha => ha.1.elim fun fcb hf => hfc fcb hf)]
    exact ⟨_, rfl, ⟨rfl, rfl, rfl, rfl, rfl, rfl, ⟨np, coll, hst⟩, hv⟩, rfl, rfl⟩

theorem fold_foreign (M : List Nat) (me : Nat) (now : Int) : ∀ (calls : List (Telegram × Bool)) (c : Ctx) (l0 : Int),
    (∀ x ∈ calls, Foreign M me x.1) → c.s.p.address = me → (∃ np coll, c.s.st = .activeIdle none np coll) →
    RingView M me c.s.ring → c.s.lastBusActivity = some l0 → l0 ≤ now →
    ∃ c', foldTelegrams (idleF now) c calls = .ok c' ∧ Heard M me c c' ∧
      (calls ≠ [] → c'.s.lastBusActivity = some now ∧ c'.s.pendingBytes = 0) ∧ (calls = [] → c' = c) := by
  intro calls
  induction calls with
  | nil =>
    intro c l0 _ _ hst hv _ _
    exact ⟨c, rfl, ⟨rfl, rfl, rfl, rfl, rfl, rfl, hst, hv⟩, fun h => absurd rfl h, fun _ => rfl⟩
  | cons x rest ih =>
    intro c l0 hf hme hst hv hl hle
    obtain ⟨t, l⟩ := x
    obtain ⟨c1, h1, hh1, hl1, hp1⟩ := idleF_foreign M me now l0 c t l (hf _ (List.mem_cons_self ..)) hme hst hv hl hle
    obtain ⟨c2, h2, hh2, hne2, -⟩ := ih c1 now (fun y hy => hf y (List.mem_cons_of_mem _ hy)) (by rw [hh1.p]; exact hme)
      hh1.st hh1.view hl1 (Int.le_refl _)
    refine ⟨c2, ?_, ⟨hh2.tx.trans hh1.tx, hh2.rx.trans hh1.rx, hh2.apps.trans hh1.apps, hh2.calls.trans hh1.calls,
      hh2.p.trans hh1.p, hh2.online.trans hh1.online, hh2.st, hh2.view⟩, fun _ => ?_, fun h => by cases h⟩
    · simp only [foldTelegrams, h1, Res.bind]; exact h2
    · cases rest with
      | nil =>
        simp only [foldTelegrams] at h2
        cases h2
        exact ⟨hl1, hp1⟩
      | cons y ys => exact hne2 (by simp)

theorem fold_accept (M : List Nat) (me : Nat) (now : Int) (pre : List (Telegram × Bool)) (c : Ctx) (l0 : Int)
    (hf : ∀ x ∈ pre, Foreign M me x.1) (hme : c.s.p.address = me) (hst : ∃ np coll, c.s.st = .activeIdle none np coll)
    (hv : RingView M me c.s.ring) (hl : c.s.lastBusActivity = some l0) (hle : l0 ≤ now)
    (hne : cycPred me M ≠ me) (hlt : me < 126) (hlp : cycPred me M < 126) :
    ∃ c', foldTelegrams (idleF now) c
        (pre ++ [(Telegram.token (UInt8.ofNat me) (UInt8.ofNat (cycPred me M)), true)]) = .ok c' ∧
      c'.tx = c.tx ∧ c'.rx = c.rx ∧ c'.apps = c.apps ∧ c'.calls = c.calls ∧ c'.s.p = c.s.p ∧ c'.s.online = c.s.online ∧
      c'.s.st = .useToken ⟨now, none⟩ false ∧ RingView M me c'.s.ring ∧ c'.s.lastBusActivity = some now ∧
      c'.s.pendingBytes = 0 := by
  obtain ⟨c1, h1, hh1, hne1, heq1⟩ := fold_foreign M me now pre c l0 hf hme hst hv hl hle
  rw [foldTelegrams_append, h1]
  simp only [Res.bind, foldTelegrams]
  have hl1 : ∃ l1, c1.s.lastBusActivity = some l1 ∧ l1 ≤ now := by
    cases pre with
    | nil => rw [heq1 rfl]; exact ⟨l0, hl, hle⟩
    | cons y ys => exact ⟨now, (hne1 (by simp)).1, Int.le_refl _⟩
  obtain ⟨l1, hl1, hle1⟩ := hl1
  obtain ⟨np, coll, hst1⟩ := hh1.st
  have hme1 : c1.s.p.address = me := by rw [hh1.p]; exact hme
  unfold idleF
  simp only [upd]
  rw [markRx_at _ _ _ hl1 hle1]
  have hps := hh1.view.ns.2
  have e := handleTelegram_accepts
    { c1 with s := { c1.s with pendingBytes := 0, lastBusActivity := some now } } now np coll
    (UInt8.ofNat me) (UInt8.ofNat (cycPred me M)) hst1
    (by rw [u8n me (by omega)]; exact hme1.symm)
    (by rw [u8n _ (by omega)]; simp only; rw [hme1]; exact hne)
    (.inl (by rw [u8n _ (by omega)]; exact hps.symm))
  rw [e]
  have hacc : acceptRing c1.s.ring (UInt8.ofNat (cycPred me M)).toNat (UInt8.ofNat me).toNat = c1.s.ring := by
    unfold acceptRing
    rw [if_pos (by rw [u8n _ (by omega)]; exact hps.symm)]
  refine ⟨_, rfl, hh1.tx, hh1.rx, hh1.apps, hh1.calls, hh1.p, hh1.online, rfl, ?_, rfl, rfl⟩
  simp only
  rw [hacc]
  exact hh1.view

theorem idle_poll_batch (s : Station) (now : Int) (rx rx' : Bytes) (calls : List (Telegram × Bool)) (ret : Bool)
    (np : Option Nat) (coll : Nat) (l : Int)
    (hon : s.online = true) (hst : s.st = .activeIdle none np coll) (hl : s.lastBusActivity = some l) (hlt : l < now)
    (hne : s.pendingBytes < rx.length ∨ now < l + (s.p.tokenLostTimeout : Nat)) (hto : 0 < s.p.tokenLostTimeout)
    (hrx : receiveAll rx = .done rx' calls ret) :
    s.poll [] now false rx =
      foldTelegrams (idleF now) { s := checkBusActivity s now rx.length, apps := [], rx := rx' } calls :=
  idle_poll_recv s [] now rx rx' calls ret np coll hon hst (late_of_some hl hlt) hto (hne.imp id fun h => ⟨l, hl, h⟩) hrx

theorem check_poll_batch (s : Station) (now : Int) (rx rx' : Bytes) (x : Telegram × Bool) (rest : List (Telegram × Bool))
    (ret : Bool) (att : Attempt) (l : Int)
    (hon : s.online = true) (hst : s.st = .checkTokenPass att) (hl : s.lastBusActivity = some l) (hlt : l < now)
    (hne : s.pendingBytes < rx.length ∨ now ≤ l + (s.p.slotTime : Nat))
    (hrx : receiveAll rx = .done rx' (x :: rest) ret) :
    s.poll [] now false rx =
      foldTelegrams (idleF now)
        { s := { (checkBusActivity s now rx.length) with st := .activeIdle none none 0 }, apps := [], rx := rx' }
        (x :: rest) :=
  check_poll_recv s [] now rx rx' (x :: rest) ret att hon hst (late_of_some hl hlt) (hne.imp id fun h => ⟨l, hl, h⟩) hrx

end PV
