/-
Timed ring, N stations: N station models on the byte-accurate bus of `Model/Net.lean`, stable ring with member
list `M`.  The side conditions that never change (`RingCfg`, `StOkN`, `LogOk`, what may be on the bus: `TxKind`)
and the condition `LOk` on a station that merely listens — its place in the log (`Rcv` of `Lemmas/BusLog`: what it has
consumed, what is in its buffer), that among what it has not consumed only the last transmission of the log may be the
token for it, and that the next character reaches it before its deadline — with the lemmas that carry it over other
stations' polls and transmissions.
-/
import ProfiVerif.Lemmas.BusLog
import ProfiVerif.Lemmas.TimedRingApps

namespace PV
open StationGap TokenRing

/-- The stable ring: member list `M` (ascending, valid addresses), `n` stations whose addresses `adr i` are
exactly the members, pairwise different; at least two members (nobody is its own successor). -/
structure RingCfg (M : List Nat) (adr : Nat → Nat) (n : Nat) : Prop where
  ring : IsRing M
  mem : ∀ i, i < n → adr i ∈ M
  inj : ∀ i j, i < n → j < n → adr i = adr j → i = j
  surj : ∀ a, a ∈ M → ∃ i, i < n ∧ adr i = a
  two : ∀ a, a ∈ M → cycSucc a M ≠ a

theorem RingCfg.lt {M : List Nat} {adr : Nat → Nat} {n : Nat} (h : RingCfg M adr n) (i : Nat) (hi : i < n) : adr i < 126 := by
  have := h.ring.bound _ (h.mem i hi); omega

theorem RingCfg.succ_idx {M : List Nat} {adr : Nat → Nat} {n : Nat} (h : RingCfg M adr n) (i : Nat) (hi : i < n) :
    ∃ s, s < n ∧ adr s = cycSucc (adr i) M ∧ s ≠ i := by
  obtain ⟨s, hs, e⟩ := h.surj _ (cycSucc_mem _ M (h.mem i hi))
  refine ⟨s, hs, e, ?_⟩
  intro hsi
  subst hsi
  exact h.two _ (h.mem s hs) e.symm

theorem telOf_app (t : Transmission) (h : Header) (pdu : Bytes) (hb : t.bytes = frameSpec h pdu) (hP : AppP h pdu)
    (hl : h.lengthByte pdu.length ≤ 249) : telOf t = .data h pdu :=
  telOf_wire t (.data h pdu) ⟨hP.1, hP.2.1, hl⟩ hb

theorem frameSpec_ne_sendToken (h : Header) (pdu : Bytes) (da sa : UInt8) : frameSpec h pdu ≠ sendToken da sa := by
  intro e
  have := congrArg (fun l => l.head?) e
  unfold frameSpec sendToken at this
  simp only at this
  split at this
  · simp [SD1, SD4] at this
  · split at this
    · simp [SD3, SD4] at this
    · simp [SD2, SD4] at this

theorem frameSpec_ne_token (h : Header) (pdu : Bytes) (a b : Nat) : frameSpec h pdu ≠ tokenBytes a b :=
  frameSpec_ne_sendToken h pdu _ _

/-- What may be on the bus of the stable ring: a token pass of a member to its successor, a GAP request
of a member to an address that is not a member, or an application telegram (`AppP`: valid addresses, not an
FDL status request). -/
def TxKind (M : List Nat) (adr : Nat → Nat) (n : Nat) (t : Transmission) : Prop :=
  ∃ i, i < n ∧ t.sender = i ∧
    (t.bytes = tokenBytes (cycSucc (adr i) M) (adr i) ∨ (∃ g, g < 126 ∧ g ∉ M ∧ t.bytes = statusRequestBytes g (adr i)) ∨
     (∃ h pdu, t.bytes = frameSpec h pdu ∧ AppP h pdu ∧ h.lengthByte pdu.length ≤ 249))

theorem TxKind.wire {M : List Nat} {adr : Nat → Nat} {n : Nat} (hR : RingCfg M adr n) {t : Transmission}
    (h : TxKind M adr n t) : t.bytes = (telOf t).wire ∧ (telOf t).Valid ∧ 0 < t.bytes.length := by
  obtain ⟨i, hi, -, hb | ⟨g, hg, -, hb⟩ | ⟨h0, pdu, hb, hP, hl⟩⟩ := h
  · rw [telOf_token t _ M hb, tokTel_wire]
    exact ⟨hb, trivial, by rw [hb]; show 0 < 3; omega⟩
  · have ha := hR.lt i hi
    rw [telOf_req t g _ (by omega) (by omega) hb, reqTel_wire]
    exact ⟨hb, reqTel_valid _ _ (by omega) (by omega), by rw [hb, statusRequestBytes_length]; omega⟩
  · rw [telOf_app t h0 pdu hb hP hl]
    refine ⟨hb, ⟨hP.1, hP.2.1, hl⟩, ?_⟩
    rw [hb, frame_length]
    unfold Header.telegramLen
    simp only
    split <;> omega

theorem TxKind.foreign {M : List Nat} {adr : Nat → Nat} {n : Nat} (hR : RingCfg M adr n) {t : Transmission}
    (h : TxKind M adr n t) (j : Nat) (hj : j < n) (hs : t.sender ≠ j)
    (hnot : ∀ a, t.bytes ≠ tokenBytes (adr j) a) : Foreign M (adr j) (telOf t) := by
  obtain ⟨i, hi, hsi, hb | ⟨g, hg, hgM, hb⟩ | ⟨h0, pdu, hb, hP, hl⟩⟩ := h
  · left
    refine ⟨adr i, hR.mem i hi, ?_, ?_, telOf_token t _ M hb⟩
    · intro e; exact hs (hsi.trans (hR.inj i j hi hj e))
    · intro e; exact hnot (adr i) (by rw [hb, e])
  · right; left
    have ha := hR.lt i hi
    refine ⟨g, adr i, hg, ha, ?_, telOf_req t g _ (by omega) (by omega) hb⟩
    intro e; exact hgM (e ▸ hR.mem j hj)
  · right; right
    exact ⟨h0, pdu, telOf_app t h0 pdu hb hP hl, hP.2.2⟩

/-- Longest time between the end of a transmission and the start of the next one. -/
def Cfg.gmax (c : Cfg) : Nat := c.slot + 2 * c.P + c.b33

/-- Per-station side conditions, the same for the holder and the listeners and kept by every poll (`StOkN.step`).  `tto`:
the token-lost time-out exceeds the longest silence of normal operation (`gmax`) by the first character of the
transmission that ends it and the rounding, so that a listener's deadline for the next character never passes. -/
structure StOkN (cfg : Cfg) (M : List Nat) (st : NetStation) (a : Nat) : Prop where
  online : st.online = true
  alive : st.dead = false
  apps : AnsOk AppP st.apps
  inv : Inv st.s st.apps
  son : st.s.online = true
  rate : st.s.p.rate = cfg.rate
  slotBits : st.s.p.slotBits = cfg.slotBits
  addr : st.s.p.address = a
  view : RingView M a st.s.ring
  tto : cfg.gmax + cfg.ce 0 + 2 ≤ st.s.p.tokenLostTimeout

theorem StOkN.bits {cfg : Cfg} {M : List Nat} {st : NetStation} {a : Nat} (h : StOkN cfg M st a) (k : Nat) :
    st.s.p.bits k = bitsToTime cfg.rate k := by unfold Params.bits; rw [h.rate]
theorem StOkN.b33 {cfg : Cfg} {M : List Nat} {st : NetStation} {a : Nat} (h : StOkN cfg M st a) : st.s.p.bits 33 = cfg.b33 := h.bits 33
theorem StOkN.slot {cfg : Cfg} {M : List Nat} {st : NetStation} {a : Nat} (h : StOkN cfg M st a) : st.s.p.slotTime = cfg.slot := by
  unfold Params.slotTime Cfg.slot; rw [h.bits, h.slotBits]

theorem StOkN.step {cfg : Cfg} {M : List Nat} {st : NetStation} {a : Nat} (h : StOkN cfg M st a) (now : Int) (phy : Bool)
    (rx : Bytes) (c : Ctx) (hp : st.s.poll st.apps now phy rx = .ok c) (h1 : c.s.p = st.s.p)
    (h2 : RingView M a c.s.ring) (h3 : c.s.online = true) (h4 : AnsOk AppP c.apps) : StOkN cfg M (upSt st c) a := by
  obtain ⟨c', hc', hinv', hlen⟩ := pollInner_good { s := st.s, apps := st.apps, rx := rx } now phy h.inv rfl
  have : c' = c := by
    have hp' : pollInner { s := st.s, apps := st.apps, rx := rx } now phy = .ok c := hp
    rw [hc'] at hp'; cases hp'; rfl
  subst this
  unfold upSt
  exact ⟨h.online, h.alive, h4, hinv', h3, by simp only [h1]; exact h.rate, by simp only [h1]; exact h.slotBits,
    by simp only [h1]; exact h.addr, h2, by simp only [h1]; exact h.tto⟩

/-- Bus side conditions of the stable ring: no faults, one poll time per station, the log time-ordered without overlap
and made of `TxKind`s only.  With `RingCfg` it gives the fault-free log `Wire` (`LogOk.wire`). -/
structure LogOk (cfg : Cfg) (M : List Nat) (adr : Nat → Nat) (n : Nat) (b : Bus) : Prop where
  rate : b.rate = cfg.rate
  corrupt : b.corrupt = []
  drops : b.drops = []
  seen : b.seen.length = n
  chained : CChained cfg b.txs
  live : ∀ t ∈ b.txs, t.dropped = false
  kinds : ∀ t ∈ b.txs, TxKind M adr n t

/-- The log of the stable ring is fault-free (`Wire`); the kinds of its transmissions say that none is empty. -/
theorem LogOk.wire {cfg : Cfg} {M : List Nat} {adr : Nat → Nat} {n : Nat} {b : Bus} (h : LogOk cfg M adr n b)
    (hR : RingCfg M adr n) : Wire cfg b :=
  ⟨h.rate, h.corrupt, h.chained, h.live, fun t ht => (TxKind.wire hR (h.kinds t ht)).2.2⟩

theorem LogOk.seenSet {cfg : Cfg} {M : List Nat} {adr : Nat → Nat} {n : Nat} {b : Bus} (h : LogOk cfg M adr n b) (i : Nat) (now : Int) :
    LogOk cfg M adr n { b with seen := b.seen.set i now } :=
  ⟨h.rate, h.corrupt, h.drops, by simp [h.seen], h.chained, h.live, h.kinds⟩

theorem LogOk.send {cfg : Cfg} {M : List Nat} {adr : Nat → Nat} {N : Nat} {b : Bus} (h : LogOk cfg M adr N b)
    (hR : RingCfg M adr N) (hr : 0 < cfg.rate) (i : Nat) (now : Int) (bytes : Bytes)
    (hkind : TxKind M adr N { start := now, sender := i, bytes := bytes, dropped := false })
    (hends : ∀ o ∈ b.txs, cEnd cfg o ≤ now) :
    (b.send i now bytes).txs = (b.txs.filter fun t => decide (b.txEnd t + 100000 > now)) ++
        [({ start := now, sender := i, bytes := bytes, dropped := false } : Transmission)] ∧
      (b.send i now bytes).seen = b.seen ∧
      (∀ o ∈ (b.send i now bytes).txs, o ∈ b.txs ∨ o = { start := now, sender := i, bytes := bytes, dropped := false }) ∧
      LogOk cfg M adr N (b.send i now bytes) := by
  obtain ⟨hW, hdr, hseen, htxs, hall⟩ := (h.wire hR).send hr h.drops i now bytes (TxKind.wire hR hkind).2.2 hends
  exact ⟨htxs, hseen, hall (fun o => o ∈ b.txs ∨ o = _) (fun t ht => .inl ht) (.inr rfl), hW.rate, hW.corrupt, hdr,
    hseen ▸ h.seen, hW.chained, hW.live, hall _ h.kinds hkind⟩

/-- **The listener condition** for station `j` (record `st`): side conditions; the log splits into `dn`
(sent by `j` or completely delivered to it) and `rs` (other stations' transmissions not yet consumed); its
buffer holds exactly what has arrived of `rs`, the head of `rs` is incomplete; among `rs` only the last
transmission of the log may be a token for `j`; it is idle or still supervises its own pass, and the next
character arrives before its deadline.  `H` is the horizon: the next transmission of the ring starts no later;
`Lo`: and later than this.  Its own transmissions ended by `l + 1` (the stamp `l` is the predicted end, a floor,
the bus delivers by the ceiling).  The stamp is not later than the last poll, or — right after an own transmission —
it lies ahead of it, and then nothing of `rs` has started before it. -/
def LOk (cfg : Cfg) (M : List Nat) (adr : Nat → Nat) (b : Bus) (H Lo : Int) (j : Nat) (st : NetStation) : Prop :=
  StOkN cfg M st (adr j) ∧
  ∃ (dn rs : List Transmission) (idle : Bool) (l : Int),
    b.txs = dn ++ rs ∧
    (∀ o ∈ dn, o.sender = j ∨ cEnd cfg o ≤ b.seen.getD j 0) ∧
    (∀ t ∈ rs, t.sender ≠ j) ∧
    st.rx = arrived cfg rs (b.seen.getD j 0) ∧ st.s.pendingBytes ≤ (arrived cfg rs (b.seen.getD j 0)).length ∧
    (∀ o ∈ b.txs, o.sender = j → cEnd cfg o ≤ l + 1) ∧
    (∀ t rest, rs = t :: rest → cvis cfg t (b.seen.getD j 0) < t.bytes.length) ∧
    st.s.lastBusActivity = some l ∧ (l ≤ b.seen.getD j 0 ∨ ((∀ t ∈ rs, l < t.start) ∧ l ≤ Lo)) ∧
    (∀ t ∈ rs.dropLast, ∀ a, t.bytes ≠ tokenBytes (adr j) a) ∧
    ((∃ t a, b.txs.getLast? = some t ∧ t.bytes = tokenBytes (adr j) a) → rs ≠ []) ∧
    (if idle = true then
      (∃ np coll, st.s.st = .activeIdle none np coll) ∧
        nextArr cfg H rs (b.seen.getD j 0) < l + (st.s.p.tokenLostTimeout : Nat)
     else st.s.st = .checkTokenPass .first ∧ nextArr cfg H rs (b.seen.getD j 0) ≤ l + (cfg.slot : Nat))

/-- The listener condition with its witnesses named: `dn` the transmissions sent by `j` or completely delivered to
it, `rs` those not yet consumed, `idle` its mode, `l` its stamp. -/
structure LOkX (cfg : Cfg) (M : List Nat) (adr : Nat → Nat) (b : Bus) (H Lo : Int) (j : Nat) (st : NetStation)
    (dn rs : List Transmission) (idle : Bool) (l : Int) : Prop where
  ok : StOkN cfg M st (adr j)
  log : b.txs = dn ++ rs
  done : ∀ o ∈ dn, o.sender = j ∨ cEnd cfg o ≤ b.seen.getD j 0
  foreign : ∀ t ∈ rs, t.sender ≠ j
  rx : st.rx = arrived cfg rs (b.seen.getD j 0)
  pend : st.s.pendingBytes ≤ (arrived cfg rs (b.seen.getD j 0)).length
  own : ∀ o ∈ b.txs, o.sender = j → cEnd cfg o ≤ l + 1
  head : ∀ t rest, rs = t :: rest → cvis cfg t (b.seen.getD j 0) < t.bytes.length
  stamp : st.s.lastBusActivity = some l
  fresh : l ≤ b.seen.getD j 0 ∨ ((∀ t ∈ rs, l < t.start) ∧ l ≤ Lo)
  noTok : ∀ t ∈ rs.dropLast, ∀ a, t.bytes ≠ tokenBytes (adr j) a
  tokLast : (∃ t a, b.txs.getLast? = some t ∧ t.bytes = tokenBytes (adr j) a) → rs ≠ []
  mode : if idle = true then
      (∃ np coll, st.s.st = .activeIdle none np coll) ∧
        nextArr cfg H rs (b.seen.getD j 0) < l + (st.s.p.tokenLostTimeout : Nat)
     else st.s.st = .checkTokenPass .first ∧ nextArr cfg H rs (b.seen.getD j 0) ≤ l + (cfg.slot : Nat)

section
variable {cfg : Cfg} {M : List Nat} {adr : Nat → Nat} {b : Bus} {H Lo : Int} {j : Nat} {st : NetStation}
  {dn rs : List Transmission} {idle : Bool} {l : Int}

theorem LOkX.ofLOk (h : LOk cfg M adr b H Lo j st) : ∃ dn rs idle l, LOkX cfg M adr b H Lo j st dn rs idle l := by
  obtain ⟨hok, dn, rs, idle, l, h1, h2, h3, h4, h5, h0, h6, h7, h8, h9, hF, h10⟩ := h
  exact ⟨dn, rs, idle, l, hok, h1, h2, h3, h4, h5, h0, h6, h7, h8, h9, hF, h10⟩

theorem LOkX.toLOk (h : LOkX cfg M adr b H Lo j st dn rs idle l) : LOk cfg M adr b H Lo j st :=
  ⟨h.ok, dn, rs, idle, l, h.log, h.done, h.foreign, h.rx, h.pend, h.own, h.head, h.stamp, h.fresh, h.noTok, h.tokLast, h.mode⟩

theorem LOkX.rcv (h : LOkX cfg M adr b H Lo j st dn rs idle l) : Rcv cfg b j st dn rs l :=
  ⟨h.log, h.done, h.rx, h.pend, h.head, h.stamp⟩

theorem LOkX.tokenLast (h : LOkX cfg M adr b H Lo j st dn rs idle l) {t : Transmission} {a : Nat}
    (hlast : b.txs.getLast? = some t) (hbt : t.bytes = tokenBytes (adr j) a) : rs.getLast? = some t := by
  have hrsne := h.tokLast ⟨t, a, hlast, hbt⟩
  rw [h.log, List.getLast?_append] at hlast
  cases hg : rs.getLast? with
  | none => exact absurd (List.getLast?_eq_none_iff.1 hg) hrsne
  | some t2 => rw [hg] at hlast; simpa using hlast

theorem Listens.cases {s : Station} {idle : Bool} (h : Listens s idle) :
    (∃ np coll, s.st = .activeIdle none np coll) ∨ s.st = .checkTokenPass .first := by
  unfold Listens at h
  cases idle with
  | true => simp only [if_true] at h; exact .inl h
  | false => simp only [Bool.false_eq_true, if_false] at h; exact .inr h

theorem StOkN.listenMode {a : Nat} (h : StOkN cfg M st a) (idle : Bool) (l x : Int) :
    (if idle = true then (∃ np coll, st.s.st = .activeIdle none np coll) ∧ x < l + (st.s.p.tokenLostTimeout : Nat)
     else st.s.st = .checkTokenPass .first ∧ x ≤ l + (cfg.slot : Nat)) ↔
    Listens st.s idle ∧ x ≤ l + ((lisWait st.s idle : Nat) : Int) :=
  listenMode_iff st.s idle l x cfg.slot h.slot (by have := h.tto; omega)

theorem LOkX.rsWire {n : Nat} (h : LOkX cfg M adr b H Lo j st dn rs idle l) (hR : RingCfg M adr n)
    (hlog : LogOk cfg M adr n b) :
    CChained cfg rs ∧ ∀ t ∈ rs, t.bytes = (telOf t).wire ∧ (telOf t).Valid ∧ 0 < t.bytes.length :=
  ⟨h.rcv.chained (hlog.wire hR),
    fun t ht => TxKind.wire hR (hlog.kinds t (by rw [h.log]; exact List.mem_append_right _ ht))⟩

/-- The deadline clause for another suffix, horizon or time at which the next character is due no later. -/
theorem LOkX.mode_of_le (h : LOkX cfg M adr b H Lo j st dn rs idle l) {H' a : Int} {rs' : List Transmission}
    (hn : nextArr cfg H' rs' a ≤ nextArr cfg H rs (b.seen.getD j 0)) :
    if idle = true then
      (∃ np coll, st.s.st = .activeIdle none np coll) ∧ nextArr cfg H' rs' a < l + (st.s.p.tokenLostTimeout : Nat)
     else st.s.st = .checkTokenPass .first ∧ nextArr cfg H' rs' a ≤ l + (cfg.slot : Nat) := by
  obtain ⟨hm, hd⟩ := (h.ok.listenMode idle l _).1 h.mode
  exact (h.ok.listenMode idle l _).2 ⟨hm, Int.le_trans hn hd⟩

end

theorem LOk.other {cfg : Cfg} {M : List Nat} {adr : Nat → Nat} {b : Bus} {H Lo : Int} {j : Nat} {st : NetStation}
    (h : LOk cfg M adr b H Lo j st) (i : Nat) (now : Int) (hij : i ≠ j) :
    LOk cfg M adr { b with seen := b.seen.set i now } H Lo j st := by
  obtain ⟨hok, dn, rs, idle, l, h1, h2, h3, h4, h5, h0, h6, h7, h8, h9, hF, h10⟩ := h
  refine ⟨hok, dn, rs, idle, l, h1, ?_⟩
  simp only
  rw [seen_set_other b i j now hij]
  exact ⟨h2, h3, h4, h5, h0, h6, h7, h8, h9, hF, h10⟩

theorem LOk.mono {cfg : Cfg} {M : List Nat} {adr : Nat → Nat} {b : Bus} {H Lo H' Lo' : Int} {j : Nat} {st : NetStation}
    (h : LOk cfg M adr b H Lo j st) (hH : H' ≤ H) (hLo : Lo ≤ Lo') : LOk cfg M adr b H' Lo' j st := by
  obtain ⟨dn, rs, idle, l, hX⟩ := LOkX.ofLOk h
  exact LOkX.toLOk ⟨hX.ok, hX.log, hX.done, hX.foreign, hX.rx, hX.pend, hX.own, hX.head, hX.stamp,
    hX.fresh.imp id (fun h8 => ⟨h8.1, by omega⟩), hX.noTok, hX.tokLast, hX.mode_of_le (nextArr_horizon_le cfg hH rs _)⟩

theorem mem_dropLast_or_last {α : Type} (l : List α) (x : α) (hx : x ∈ l) : x ∈ l.dropLast ∨ l.getLast? = some x := by
  induction l with
  | nil => cases hx
  | cons y ys ih =>
    cases ys with
    | nil =>
      right
      simp only [List.mem_singleton] at hx
      subst hx; rfl
    | cons z zs =>
      rcases List.mem_cons.1 hx with rfl | hx
      · left; simp [List.dropLast]
      · rcases ih hx with h | h
        · left; simp only [List.dropLast_cons_cons, List.mem_cons]; exact .inr h
        · right; rw [List.getLast?_cons_cons]; exact h

theorem LOk.last_incomplete {cfg : Cfg} {M : List Nat} {adr : Nat → Nat} {n : Nat} {b : Bus} {H Lo : Int} {j : Nat}
    {st : NetStation} (h : LOk cfg M adr b H Lo j st) (hR : RingCfg M adr n) (hlog : LogOk cfg M adr n b)
    {t : Transmission} {a : Nat} (hlast : b.txs.getLast? = some t) (hbt : t.bytes = tokenBytes (adr j) a) :
    b.seen.getD j 0 < cEnd cfg t := by
  obtain ⟨dn, rs, idle, l, hX⟩ := LOkX.ofLOk h
  exact hX.rcv.ends_after (hlog.wire hR) t (List.mem_of_getLast? (hX.tokenLast hlast hbt))

/-- Station `x ≠ j` transmits at `q`.  The new horizon `H'` is arbitrary: afterwards `rs` is not empty, and the
horizon is read only when it is. -/
theorem LOk.send {cfg : Cfg} {M : List Nat} {adr : Nat → Nat} {n : Nat} {b b' : Bus} {H Lo H' Lo' : Int} {j : Nat}
    {st : NetStation} (h : LOk cfg M adr b H Lo j st) (hR : RingCfg M adr n) (hlog : LogOk cfg M adr n b)
    (hr : 0 < cfg.rate)
    (x : Nat) (hxj : x ≠ j) (q : Int) (bytes : Bytes) (hbl : 0 < bytes.length)
    (hq1 : Lo < q) (hq2 : q ≤ H) (hLo : Lo ≤ Lo') (hsj : b.seen.getD j 0 ≤ q) (hP : q ≤ b.seen.getD j 0 + (cfg.P : Nat))
    (hP100 : cfg.P ≤ 100000)
    (hlast : ∀ t, b.txs.getLast? = some t → ∀ a, t.bytes ≠ tokenBytes (adr j) a)
    (htx' : b'.txs = (b.txs ++ [({ start := q, sender := x, bytes := bytes, dropped := false } : Transmission)]).filter
      fun t => decide (b.txEnd t + 100000 > q))
    (hseen : b'.seen = b.seen) : LOk cfg M adr b' H' Lo' j st := by
  obtain ⟨dn, rs, idle, l, hX⟩ := LOkX.ofLOk h
  obtain ⟨r, hn⟩ := hX.rcv.snoc (hlog.wire hR) hr x q bytes hbl hsj (fun _ => by omega) htx' hseen
  refine LOkX.toLOk (idle := idle) ⟨hX.ok, r.log, r.done, ?_, r.rx, r.pend, ?_, r.head, r.stamp, ?_, ?_, fun _ => by simp, ?_⟩
  · intro t ht
    rcases List.mem_append.1 ht with ht | ht
    · exact hX.foreign t ht
    · rw [List.mem_singleton.1 ht]; exact hxj
  · intro o ho hs
    rw [htx'] at ho
    rcases List.mem_append.1 (List.mem_filter.1 ho).1 with ho' | ho'
    · exact hX.own o ho' hs
    · rw [List.mem_singleton.1 ho'] at hs; exact absurd hs hxj
  · rw [hseen]
    refine hX.fresh.imp id (fun h8 => ⟨fun t ht => ?_, by omega⟩)
    rcases List.mem_append.1 ht with ht | ht
    · exact h8.1 t ht
    · rw [List.mem_singleton.1 ht]; simp only; omega
  · rw [List.dropLast_concat]
    intro t ht
    rcases mem_dropLast_or_last rs t ht with hd | hl
    · exact hX.noTok t hd
    · apply hlast t
      rw [hX.log, List.getLast?_append, hl]
      rfl
  · rw [hseen]; exact hX.mode_of_le (hn H H' hq2)

end PV
