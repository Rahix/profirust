/-
Timed ring, N stations: one poll of a listening station (`listener_step`).  The bus hands it what has arrived
since its last poll (`Rcv.deliver`); it registers incomplete telegrams (`listener_poll_nil`), overhears complete ones
(`listener_hears`), and accepts the token when the last transmission of the log is the token addressed to it and has
arrived completely (`listener_accepts`); its new place in the log is `Rcv.advance`.
-/
import ProfiVerif.Lemmas.TimedRingN
import ProfiVerif.Lemmas.BusHear

namespace PV
open StationGap TokenRing

/-- Outcome of one poll of a listening station `j`: the bus hands over `inc`, the poll returns regularly and
transmits nothing; the station is a listener again, or — the last transmission of the log being the token
addressed to it, now complete — it has accepted the token. -/
def ListenOut (cfg : Cfg) (M : List Nat) (adr : Nat → Nat) (b : Bus) (H Lo : Int) (j : Nat) (st : NetStation) (now : Int) : Prop :=
  ∃ inc c, b.deliver j now = ({ b with seen := b.seen.set j now }, inc) ∧
    st.s.poll st.apps now (b.transmitting j now) (st.rx ++ inc) = .ok c ∧ c.tx = none ∧
    (LOk cfg M adr { b with seen := b.seen.set j now } H Lo j (upSt st c) ∨
     ((∃ t a, b.txs.getLast? = some t ∧ t.bytes = tokenBytes (adr j) a) ∧ StOkN cfg M (upSt st c) (adr j) ∧
        c.s.st = .useToken ⟨now, none⟩ false ∧ c.s.lastBusActivity = some now ∧ c.s.pendingBytes = 0 ∧ c.rx = [] ∧
        (∀ o ∈ b.txs, o.sender = j ∨ cEnd cfg o ≤ now) ∧ (∀ o ∈ b.txs, o.sender = j → cEnd cfg o ≤ now + 1)))

section
variable {cfg : Cfg} {M : List Nat} {adr : Nat → Nat} {n : Nat} {b : Bus} {H Lo : Int} {j : Nat} {st : NetStation}
  {dn rs : List Transmission} {idle : Bool} {l : Int}

/-- Mode and deadline of the listener condition in the form of `Lemmas/ListenerPoll`. -/
theorem LOkX.due (h : LOkX cfg M adr b H Lo j st dn rs idle l) :
    Listens st.s idle ∧ nextArr cfg H rs (b.seen.getD j 0) ≤ l + ((lisWait st.s idle : Nat) : Int) :=
  (h.ok.listenMode idle l _).1 h.mode

theorem LOkX.listens (h : LOkX cfg M adr b H Lo j st dn rs idle l) : Listens st.s idle := h.due.1

theorem StOkN.ce0_le_lisWait {a : Nat} (h : StOkN cfg M st a) (hok : cfg.Ok) (idle : Bool) :
    ((cfg.ce 0 : Nat) : Int) ≤ ((lisWait st.s idle : Nat) : Int) := by
  have := h.tto
  have := hok.margin
  unfold Cfg.gmax at *
  unfold lisWait
  split
  · omega
  · rw [h.slot]; omega

theorem LOkX.phy (h : LOkX cfg M adr b H Lo j st dn rs idle l) (hW : Wire cfg b) {now : Int} (hl : l < now) :
    b.transmitting j now = false :=
  hW.phy fun o ho hs => by have := h.own o ho hs; omega

/-- The listener is polled while its stamp lies ahead (right after an own transmission): nothing of `rs` has
started, the poll changes nothing (`poll_ongoing`). -/
theorem listener_ongoing (hX : LOkX cfg M adr b H Lo j st dn rs idle l) (hR : RingCfg M adr n) (hlog : LogOk cfg M adr n b)
    (hr : 0 < cfg.rate) (hj : j < n) (now : Int) (hsn : b.seen.getD j 0 < now) (hnl : now ≤ l) :
    ListenOut cfg M adr b H Lo j st now := by
  have hc0 := cfg.ce_pos hr 0
  have hW := hlog.wire hR
  have hjl : j < b.seen.length := by rw [hlog.seen]; exact hj
  rcases hX.fresh with h8 | ⟨h8, h8'⟩
  · omega
  obtain ⟨inc, hd, hcat⟩ := hX.rcv.deliver hW hr hX.foreign now (Int.le_of_lt hsn)
  have hz : ∀ t ∈ rs, cvis cfg t now = 0 := fun t ht => cvis_zero cfg t now (by have := h8 t ht; omega)
  have hz' : ∀ t ∈ rs, cvis cfg t (b.seen.getD j 0) = 0 := fun t ht => cvis_zero cfg t _ (by have := h8 t ht; omega)
  have hst : st.s.st ≠ .offline ∧ st.s.st ≠ .passiveIdle := by
    rcases hX.listens.cases with ⟨np, coll, hs⟩ | hs <;> rw [hs] <;> simp
  have hp := poll_ongoing st.s st.apps now (b.transmitting j now) (st.rx ++ inc) hX.ok.son hst.1 hst.2 l hX.stamp hnl
  have hpend : st.s.pendingBytes ≤ (arrived cfg rs now).length := Nat.le_trans hX.pend (arrived_length_le cfg rs (Int.le_of_lt hsn))
  have r := hX.rcv.advance hW hjl (Int.le_of_lt hsn) (k := 0) (c := { s := st.s, apps := st.apps, rx := st.rx ++ inc })
    (fun t ht => by cases ht)
    (fun t rest hrs => by rw [hz t (by rw [show rs = t :: rest from hrs]; exact List.mem_cons_self ..)]; exact hX.rcv.pos hW t (by rw [show rs = t :: rest from hrs]; exact List.mem_cons_self ..))
    hcat hpend hX.stamp
  refine ⟨inc, _, hd, hp, rfl, .inl (LOkX.toLOk (idle := idle) ⟨hX.ok.step now _ _ _ hp rfl hX.ok.view hX.ok.son hX.ok.apps,
    r.log, r.done, hX.foreign, r.rx, r.pend, hX.own, r.head, r.stamp, .inr ⟨h8, h8'⟩, hX.noTok, hX.tokLast, ?_⟩)⟩
  simp only
  rw [seen_set_self b j now hjl]
  refine hX.mode_of_le (H' := H) (rs' := rs) (a := now) ?_
  unfold nextArr
  cases rs with
  | nil => exact Int.le_refl _
  | cons t r => simp only; rw [hz t (List.mem_cons_self ..), hz' t (List.mem_cons_self ..)]; exact Int.le_refl _

end

theorem tokenBytes_inj (a b c d : Nat) (ha : a < 256) (hb : b < 256) (hc : c < 256) (hd : d < 256)
    (h : tokenBytes a b = tokenBytes c d) : a = c ∧ b = d := by
  unfold tokenBytes sendToken at h
  simp only [List.cons.injEq, and_true, true_and] at h
  obtain ⟨h1, h2⟩ := h
  have e1 := congrArg UInt8.toNat h1
  have e2 := congrArg UInt8.toNat h2
  rw [u8n a ha, u8n c hc] at e1
  rw [u8n b hb, u8n d hd] at e2
  exact ⟨e1, e2⟩

theorem tokenBytes_adr_inj (a b c d : Nat) (ha : a < 256) (hc : c < 256) (h : tokenBytes a b = tokenBytes c d) : a = c := by
  unfold tokenBytes sendToken at h
  simp only [List.cons.injEq, and_true, true_and] at h
  have e1 := congrArg UInt8.toNat h.1
  rw [u8n a ha, u8n c hc] at e1
  exact e1

section
variable {cfg : Cfg} {M : List Nat} {adr : Nat → Nat} {n : Nat} {b : Bus} {H Lo : Int} {j : Nat} {st : NetStation}
  {dn rs : List Transmission} {idle : Bool} {l : Int} {now : Int} {inc : Bytes} {k : Nat}
  {d : List (Telegram × Bool)} {ret : Bool}

/-- The listener is polled later than its stamp and no telegram is complete: the poll registers the new characters;
the deadline for the next one is carried over (`nextArr_carry`). -/
theorem listener_quiet (hok' : cfg.Ok) (hR : RingCfg M adr n) (hlog : LogOk cfg M adr n b) (hj : j < n)
    (hX : LOkX cfg M adr b H Lo j st dn rs idle l)
    (hsn : b.seen.getD j 0 < now) (hl : l < now) (hnowH : now ≤ H)
    (hstart : ∀ t ∈ b.txs, t.start ≤ now)
    (hd : b.deliver j now = ({ b with seen := b.seen.set j now }, inc))
    (hcat : st.rx ++ inc = arrived cfg rs now)
    (hrec : receiveAll (arrived cfg rs now) = .done (arrived cfg rs now) [] ret)
    (hhead : ∀ t rest, rs = t :: rest → cvis cfg t now < t.bytes.length ∧ ∀ t' ∈ rest, cvis cfg t' now = 0) :
    ListenOut cfg M adr b H Lo j st now := by
  have hW := hlog.wire hR
  have hjl : j < b.seen.length := by rw [hlog.seen]; exact hj
  have hto : 0 < st.s.p.tokenLostTimeout := by have := hX.ok.tto; omega
  obtain ⟨hm, hdue⟩ := hX.due
  obtain ⟨hfr, hdl⟩ := nextArr_carry cfg hok'.rate (Int.le_of_lt hsn) hnowH hhead
    (fun t rest hrs => hstart t (by rw [hX.log, hrs]; simp)) hX.pend (hX.ok.ce0_le_lisWait hok' idle) hdue
  have hc := listener_poll_nil st.s st.apps now l _ _ ret idle hX.ok.son hm hX.stamp hl hto
    ((listenFresh_iff st.s idle l now _ hto).2 hfr) hrec
  obtain ⟨f1, f2, f3, f4, -⟩ := checkBA_fields st.s now (arrived cfg rs now).length
  have hok1 := hX.ok.step now false _ _ hc f2 (by rw [f3]; exact hX.ok.view) (by rw [f4]; exact hX.ok.son) hX.ok.apps
  have r := hX.rcv.fragment hW hjl (Int.le_of_lt hsn) hl (fun t rest hrs => (hhead t rest hrs).1)
  refine ⟨inc, _, hd, by rw [hX.phy hW hl, hcat]; exact hc, rfl, .inl (LOkX.toLOk (idle := idle)
    ⟨hok1, r.log, r.done, hX.foreign, r.rx, r.pend, ?_, r.head, r.stamp, ?_, hX.noTok, hX.tokLast, ?_⟩)⟩
  · intro o ho hs
    have := hX.own o ho hs
    split <;> omega
  · left; simp only; rw [seen_set_self b j now hjl]; split <;> omega
  · rw [seen_set_self b j now hjl]
    exact (listenMode_iff _ idle _ _ cfg.slot hok1.slot (by show 0 < (checkBusActivity _ _ _).p.tokenLostTimeout; rw [f2]; exact hto)).2
      ⟨hm.congr f1, by
        show _ ≤ _ + ((lisWait (checkBusActivity st.s now (arrived cfg rs now).length) idle : Nat) : Int)
        rw [lisWait_congr f2]; exact hdl⟩

theorem listener_accept (hB : Batch cfg st now rs k d ret) (hX : LOkX cfg M adr b H Lo j st dn rs idle l)
    (hR : RingCfg M adr n) (hlog : LogOk cfg M adr n b) (hj : j < n) (hsn : b.seen.getD j 0 < now) (hl : l < now)
    (hd : b.deliver j now = ({ b with seen := b.seen.set j now }, inc)) (hcat : st.rx ++ inc = arrived cfg rs now)
    (hdr : rs.drop k = []) {t : Transmission} {a : Nat} (hlast : rs.getLast? = some t)
    (hbt : t.bytes = tokenBytes (adr j) a) : ListenOut cfg M adr b H Lo j st now := by
  have htto := hX.ok.tto
  have hW := hlog.wire hR
  have hjl : j < b.seen.length := by rw [hlog.seen]; exact hj
  have hrsk : rs.take k = rs := take_of_drop_nil rs k hdr
  have hbn : arrived cfg (rs.drop k) now = [] := by rw [hdr]; rfl
  obtain ⟨dpre, tg, hdpre⟩ := hB.lastFlag hdr
  obtain ⟨pre, hrs'⟩ := List.getLast?_eq_some_iff.1 hlast
  have hpre : rs.dropLast = pre := by rw [hrs', List.dropLast_concat]
  have htlast : b.txs.getLast? = some t := by rw [hX.log, hrs', ← List.append_assoc, List.getLast?_concat]
  -- the token comes from the predecessor
  obtain ⟨i, hi, hsi, hbk | ⟨g, -, -, hbk⟩ | ⟨h0, pdu0, hbk, -, -⟩⟩ := hlog.kinds t (List.mem_of_getLast? htlast)
  · have hai := hR.lt i hi
    have haj := hR.lt j hj
    have hsm := hR.ring.bound _ (cycSucc_mem _ M (hR.mem i hi))
    have hinj : cycSucc (adr i) M = adr j := tokenBytes_adr_inj _ _ _ _ (by omega) (by omega) (hbk.symm.trans hbt)
    have hpred : cycPred (adr j) M = adr i := by rw [← hinj]; exact cycPred_cycSucc _ M (hR.mem i hi)
    have htel : telOf t = Telegram.token (UInt8.ofNat (adr j)) (UInt8.ofNat (cycPred (adr j) M)) := by
      rw [telOf_token t _ M hbk]; unfold tokTel; rw [hinj, hpred]
    -- shape of the batch: the telegrams of `pre`, all merely overheard, then the token
    have hdm := hB.tel
    rw [hrsk, hrs', List.map_append, hdpre, List.map_append] at hdm
    simp only [List.map_cons, List.map_nil] at hdm
    have hlen : (dpre.map Prod.fst).length = (pre.map telOf).length := by
      have := congrArg List.length hdm
      simp only [List.length_append, List.length_map, List.length_cons, List.length_nil] at this ⊢
      omega
    obtain ⟨hdm1, hdm2⟩ := List.append_inj hdm hlen
    have htg : tg = telOf t := by simpa using hdm2
    have hfor : ∀ x ∈ dpre, Foreign M (adr j) x.1 := by
      intro x hx
      have : x.1 ∈ pre.map telOf := by rw [← hdm1]; exact List.mem_map_of_mem hx
      obtain ⟨t', ht', e⟩ := List.mem_map.1 this
      have hmem : t' ∈ rs := by rw [hrs']; exact List.mem_append_left _ ht'
      rw [← e]
      exact TxKind.foreign hR (hlog.kinds t' (by rw [hX.log]; exact List.mem_append_right _ hmem)) j hj
        (hX.foreign t' hmem) (hX.noTok t' (by rw [hpre]; exact ht'))
    obtain ⟨c', hc', a1, a2, a3, -, a5, a6, a7, a8, a9, a10⟩ := listener_accepts M (adr j) st.s st.apps now l _ _ dpre ret idle
      hX.ok.son hX.listens hX.stamp hl (by unfold Cfg.gmax at htto; omega) (.inl hB.new)
      (by rw [hB.recv, hdpre, htg, htel]) hX.ok.addr hX.ok.view hfor
      (by rw [hpred]; intro e; exact hR.two _ (hR.mem i hi) (by rw [hinj, e])) haj (by rw [hpred]; exact hai)
    have hpoll : st.s.poll st.apps now (b.transmitting j now) (st.rx ++ inc) = .ok c' := by rw [hX.phy hW hl, hcat]; exact hc'
    have hdone := (hB.rcv hX.rcv hW hjl (Int.le_of_lt hsn) a2 a10 a9).done
    simp only at hdone
    rw [seen_set_self b j now hjl, hrsk, ← hX.log] at hdone
    exact ⟨inc, c', hd, hpoll, a1, .inr ⟨⟨t, a, htlast, hbt⟩,
      hX.ok.step now _ _ c' hpoll a5 a8 a6 (by rw [a3]; exact hX.ok.apps), a7, a9, a10,
      by rw [a2, hbn], hdone, fun o ho hs => by have := hX.own o ho hs; omega⟩⟩
  · exact absurd (hbk.symm.trans hbt) (statusRequest_ne_token _ _ _ _)
  · exact absurd (hbk.symm.trans hbt) (frameSpec_ne_token _ _ _ _)

theorem listener_overhear (hB : Batch cfg st now rs k d ret) (hX : LOkX cfg M adr b H Lo j st dn rs idle l)
    (hok' : cfg.Ok) (hR : RingCfg M adr n) (hlog : LogOk cfg M adr n b) (hj : j < n) (hsn : b.seen.getD j 0 < now)
    (hl : l < now) (hd : b.deliver j now = ({ b with seen := b.seen.set j now }, inc))
    (hcat : st.rx ++ inc = arrived cfg rs now) (hstart : ∀ t ∈ b.txs, t.start ≤ now)
    (hH : ∀ t, b.txs.getLast? = some t → H ≤ cEnd cfg t + (cfg.gmax : Nat))
    (hacc : ¬ (rs.drop k = [] ∧ ∃ t a, rs.getLast? = some t ∧ t.bytes = tokenBytes (adr j) a)) :
    ListenOut cfg M adr b H Lo j st now := by
  have hr := hok'.rate
  have htto := hX.ok.tto
  have hW := hlog.wire hR
  have hjl : j < b.seen.length := by rw [hlog.seen]; exact hj
  obtain ⟨hcrs, hw⟩ := hX.rsWire hR hlog
  have hsplit : rs = rs.take k ++ rs.drop k := (List.take_append_drop _ _).symm
  have hdrop : rs.drop k ≠ [] → rs.dropLast = rs.take k ++ (rs.drop k).dropLast := fun hne => by
    have := List.dropLast_append_of_ne_nil (l' := rs.take k) hne
    rw [← hsplit] at this
    exact this
  have hfor : ∀ x ∈ d, Foreign M (adr j) x.1 := by
    intro x hx
    have : x.1 ∈ (rs.take k).map telOf := by rw [← hB.tel]; exact List.mem_map_of_mem hx
    obtain ⟨t', ht', e⟩ := List.mem_map.1 this
    rw [← e]
    have hmem : t' ∈ rs := List.mem_of_mem_take ht'
    refine TxKind.foreign hR (hlog.kinds t' (by rw [hX.log]; exact List.mem_append_right _ hmem)) j hj (hX.foreign t' hmem) ?_
    rcases mem_dropLast_or_last rs t' hmem with hdl | hlt
    · exact hX.noTok t' hdl
    · intro a hbt
      refine hacc ⟨?_, t', a, hlt, hbt⟩
      -- `t'` is the last of `rs` and was consumed, so nothing is left: a chained list has no duplicates
      apply Classical.byContradiction
      intro hne
      have hin : t' ∈ rs.dropLast := by rw [hdrop hne]; exact List.mem_append_left _ ht'
      obtain ⟨pre, hpre⟩ := List.getLast?_eq_some_iff.1 hlt
      rw [hpre, List.dropLast_concat] at hin
      rw [hpre] at hcrs
      have := (List.pairwise_append.1 hcrs).2.2 t' hin t' (by simp)
      have hpo := (hw t' hmem).2.2
      have := cfg.ce_pos hr (t'.bytes.length - 1)
      omega
  obtain ⟨c', hc', a1, a2, a3, -, a5, a6, a7, a8, a9, a10⟩ := listener_hears M (adr j) st.s st.apps now l _ _ d ret idle
    hX.ok.son hX.listens hX.stamp hl (by unfold Cfg.gmax at htto; omega) (.inl hB.new) hB.recv hX.ok.addr hX.ok.view hB.ne hfor
  have hpoll : st.s.poll st.apps now (b.transmitting j now) (st.rx ++ inc) = .ok c' := by rw [hX.phy hW hl, hcat]; exact hc'
  have r := hB.rcv hX.rcv hW hjl (Int.le_of_lt hsn) a2 a10 a9
  refine ⟨inc, c', hd, hpoll, a1, .inl (LOkX.toLOk (idle := true)
    ⟨hX.ok.step now _ _ c' hpoll a5 a8 a6 (by rw [a3]; exact hX.ok.apps), r.log, r.done, ?_, r.rx, r.pend, ?_, r.head,
      r.stamp, ?_, ?_, ?_, ?_⟩)⟩
  all_goals try simp only
  all_goals try rw [seen_set_self b j now hjl]
  · exact fun t ht => hX.foreign t (List.mem_of_mem_drop ht)
  · intro o ho hs; have := hX.own o ho hs; omega
  · exact .inl (Int.le_refl _)
  · intro t ht a
    by_cases hne : rs.drop k = []
    · rw [hne] at ht; cases ht
    · exact hX.noTok t (by rw [hdrop hne]; exact List.mem_append_right _ ht) a
  · rintro ⟨t, a, hlt, hbt⟩ hdr
    exact hacc ⟨hdr, t, a, hX.tokenLast hlt hbt, hbt⟩
  · -- the next character is due within `gmax` and a character time
    simp only [if_true]
    refine ⟨a7, ?_⟩
    show _ < _ + ((c'.s.p.tokenLostTimeout : Nat) : Int)
    rw [a5]
    have := hB.due hr (H := H) (G := cfg.gmax) (fun t ht => (hw t ht).2.2)
      (fun t ht => hstart t (by rw [hX.log]; exact List.mem_append_right _ ht))
      (fun t ht => hH t (by rw [hX.log, List.getLast?_append, ht]; rfl))
    omega

end

theorem listener_step {cfg : Cfg} {M : List Nat} {adr : Nat → Nat} {n : Nat} {b : Bus} {H Lo : Int} {j : Nat}
    {st : NetStation} (hL : LOk cfg M adr b H Lo j st) (hok' : cfg.Ok) (hR : RingCfg M adr n)
    (hlog : LogOk cfg M adr n b) (hj : j < n) (now : Int) (hsn : b.seen.getD j 0 < now) (hnowH : now ≤ H)
    (hstart : ∀ t ∈ b.txs, t.start ≤ now)
    (hH : ∀ t, b.txs.getLast? = some t → H ≤ cEnd cfg t + (cfg.gmax : Nat)) :
    ListenOut cfg M adr b H Lo j st now := by
  have hr := hok'.rate
  obtain ⟨dn, rs, idle, l, hX⟩ := LOkX.ofLOk hL
  by_cases hl : now ≤ l
  · exact listener_ongoing hX hR hlog hr hj now hsn hl
  have hl' : l < now := by omega
  obtain ⟨inc, hd, hcat⟩ := hX.rcv.deliver (hlog.wire hR) hr hX.foreign now (Int.le_of_lt hsn)
  obtain ⟨hcrs, hw⟩ := hX.rsWire hR hlog
  rcases hX.rcv.batch hr hcrs hw (Int.le_of_lt hsn) with ⟨ret, hrec, hhead⟩ | ⟨k, d, ret, hB⟩
  · exact listener_quiet hok' hR hlog hj hX hsn hl' hnowH hstart hd hcat hrec hhead
  -- is the last consumed telegram the token for this station?
  by_cases hacc : rs.drop k = [] ∧ ∃ t a, rs.getLast? = some t ∧ t.bytes = tokenBytes (adr j) a
  · obtain ⟨hdr, t, a, hlast, hbt⟩ := hacc
    exact listener_accept hB hX hR hlog hj hsn hl' hd hcat hdr hlast hbt
  · exact listener_overhear hB hX hok' hR hlog hj hsn hl' hd hcat hstart hH hacc

end PV
