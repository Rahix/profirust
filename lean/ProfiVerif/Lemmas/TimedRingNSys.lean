/-
Timed ring, N stations: the invariant `NInv` of the stable ring on the byte-accurate bus — one station whose turn
it is, in one of the phases `PhaseN`, all others listeners (`LOk`) — its preservation by every event
(`ringN_step`), and what follows for whole runs under a schedule that polls every station at least every `P`.
-/
import ProfiVerif.Lemmas.TimedRingNStep
import ProfiVerif.Lemmas.TimedRingUp

namespace PV
open StationGap TokenRing

/-- Phases of the station whose turn it is: `hold p1` it accepted the token at `p1`; `holdT` it has sent an
application telegram that expects no reply and keeps the token; `await a` it has sent an application request to
`a` and waits for the reply; `gap g` it has sent a GAP request to `g`; `pass` it has passed the token on. -/
inductive PhaseN
  | hold (p1 : Int)
  | holdT
  | gap (g : Nat)
  | pass
  | await (a : Nat)

/-- Phases in which the station holds the token for application traffic. -/
def PhaseN.useLike : PhaseN → Prop
  | .hold _ | .holdT | .await _ => True
  | _ => False

def IsAppTx (t : Transmission) : Prop := ∃ h pdu, t.bytes = frameSpec h pdu

/-- What the invariant talks about: `x` the station whose turn it is (record `sx`), the log `pre ++ [tr]`,
its phase, the horizon `H` (the next transmission starts no later), the lower bound `Lo` (and later than
this), the time `tl` of the last event. -/
structure NView where
  x : Nat
  sx : NetStation
  pre : List Transmission
  tr : Transmission
  ph : PhaseN
  H : Int
  Lo : Int
  tl : Int

/-- Phase-specific part (`seen j` = last poll time of station `j`). -/
def PhaseOkN (cfg : Cfg) (M : List Nat) (adr : Nat → Nat) (N : Nat) (v : NView) (seen : Nat → Int) : Prop :=
  match v.ph with
  | .hold p1 =>
    (∃ d f, v.sx.s.st = .useToken d f) ∧ v.sx.s.lastBusActivity = some p1 ∧ (∃ a, v.tr.bytes = tokenBytes (adr v.x) a) ∧
    cEnd cfg v.tr ≤ p1 ∧ p1 ≤ seen v.x ∧ seen v.x ≤ p1 + (cfg.b33 : Nat) ∧
    v.H = p1 + (cfg.b33 : Nat) + (cfg.P : Nat) ∧ v.Lo = p1 + (cfg.b33 : Nat) ∧ p1 ≤ cEnd cfg v.tr + (cfg.P : Nat)
  | .gap g =>
    v.tr.sender = v.x ∧ v.tr.bytes = statusRequestBytes g (adr v.x) ∧ v.sx.s.st = .awaitStatus g ∧
    v.sx.s.lastBusActivity = some (v.tr.start + (cfg.b66 : Nat)) ∧ v.tr.start ≤ seen v.x ∧
    seen v.x ≤ v.tr.start + (cfg.b66 : Nat) + (cfg.slot : Nat) ∧
    v.H = v.tr.start + (cfg.b66 : Nat) + (cfg.slot : Nat) + (cfg.P : Nat) ∧
    v.Lo = v.tr.start + (cfg.b66 : Nat) + (cfg.slot : Nat)
  | .holdT =>
    v.tr.sender = v.x ∧ IsAppTx v.tr ∧ (∃ d f, v.sx.s.st = .useToken d f) ∧
    v.sx.s.lastBusActivity = some (tEnd cfg v.tr) ∧ v.tr.start ≤ seen v.x ∧ seen v.x ≤ tEnd cfg v.tr + (cfg.b33 : Nat) ∧
    v.H = tEnd cfg v.tr + (cfg.b33 : Nat) + (cfg.P : Nat) ∧ v.Lo = tEnd cfg v.tr + (cfg.b33 : Nat)
  | .await a =>
    v.tr.sender = v.x ∧ IsAppTx v.tr ∧ (∃ d, v.sx.s.st = .awaitData a d) ∧
    v.sx.s.lastBusActivity = some (tEnd cfg v.tr) ∧ v.tr.start ≤ seen v.x ∧ seen v.x ≤ tEnd cfg v.tr + (cfg.slot : Nat) ∧
    v.H = tEnd cfg v.tr + (cfg.slot : Nat) + (cfg.P : Nat) ∧ v.Lo = tEnd cfg v.tr + (cfg.slot : Nat)
  | .pass =>
    v.tr.sender = v.x ∧ v.tr.bytes = tokenBytes (cycSucc (adr v.x) M) (adr v.x) ∧ v.sx.s.st = .checkTokenPass .first ∧
    v.sx.s.lastBusActivity = some (v.tr.start + (cfg.b33 : Nat)) ∧ v.tr.start ≤ seen v.x ∧
    v.H = cEnd cfg v.tr + 2 * (cfg.P : Nat) + (cfg.b33 : Nat) ∧ v.Lo = cEnd cfg v.tr + (cfg.b33 : Nat) ∧
    ∀ s, s < N → adr s = cycSucc (adr v.x) M → seen s < cEnd cfg v.tr

/-- The invariant of the N-station ring.  `doneX` / `ownX`: the station whose turn it is is up to date with the log —
every foreign transmission had ended at its last poll, its own end by its stamp (the predicted end, a floor: hence `+ 1`),
after which its PHY is idle.  `tls` / `tlt`: `tl` is not earlier than any station's last poll or the start of any
transmission, so an event at `now ≥ tl` comes after all of them. -/
structure NInv (cfg : Cfg) (M : List Nat) (adr : Nat → Nat) (n : Net) (v : NView) : Prop where
  ring : RingCfg M adr n.stations.length
  xlt : v.x < n.stations.length
  gx : n.stations[v.x]? = some v.sx
  okx : StOkN cfg M v.sx (adr v.x)
  log : LogOk cfg M adr n.stations.length n.bus
  txs : n.bus.txs = v.pre ++ [v.tr]
  doneX : ∀ o ∈ n.bus.txs, o.sender = v.x ∨ cEnd cfg o ≤ n.bus.seen.getD v.x 0
  ownX : ∀ l, v.sx.s.lastBusActivity = some l → ∀ o ∈ n.bus.txs, o.sender = v.x → cEnd cfg o ≤ l + 1
  lis : ∀ j, j < n.stations.length → j ≠ v.x → ∃ st, n.stations[j]? = some st ∧ LOk cfg M adr n.bus v.H v.Lo j st
  tls : ∀ j, j < n.stations.length → n.bus.seen.getD j 0 ≤ v.tl
  tlt : ∀ t ∈ n.bus.txs, t.start ≤ v.tl
  pbx : v.sx.s.pendingBytes = 0
  rxx : v.sx.rx = []
  ph : PhaseOkN cfg M adr n.stations.length v (fun j => n.bus.seen.getD j 0)

structure EvOkN (cfg : Cfg) (n : Net) (tl : Int) (i : Nat) (now : Int) : Prop where
  ilt : i < n.stations.length
  tl : tl ≤ now
  own : n.bus.seen.getD i 0 < now
  gap : ∀ j, j < n.stations.length → now ≤ n.bus.seen.getD j 0 + (cfg.P : Nat)

theorem SchedN.cons {cfg : Cfg} {n : Net} {tl : Int} {i : Nat} {now : Int} {rest : List (Nat × Int)}
    (hs : SchedN cfg.P n tl ((i, now) :: rest)) :
    EvOkN cfg n tl i now ∧
      ∀ {n' : Net} {inc : Bytes} {r : Option Res} {tl' : Int}, n.poll i now = (n', inc, r) → tl' = now →
        SchedN cfg.P n' tl' rest := by
  obtain ⟨hi, htl, hown, hgap, hrest⟩ := hs
  refine ⟨⟨hi, htl, hown, hgap⟩, fun hp htl' => ?_⟩
  rw [htl']
  exact hrest.of_poll hp

theorem NInv.last {cfg : Cfg} {M : List Nat} {adr : Nat → Nat} {n : Net} {v : NView} (h : NInv cfg M adr n v) :
    n.bus.txs.getLast? = some v.tr := by rw [h.txs]; simp

theorem cEnd_token (cfg : Cfg) {t : Transmission} {a b : Nat} (hb : t.bytes = tokenBytes a b) :
    cEnd cfg t = t.start + ((cfg.ce 2 : Nat) : Int) := by
  unfold cEnd; rw [hb]; rfl

theorem cEnd_req (cfg : Cfg) {t : Transmission} {g a : Nat} (hb : t.bytes = statusRequestBytes g a) :
    cEnd cfg t = t.start + ((cfg.ce 5 : Nat) : Int) := by
  unfold cEnd; rw [hb, statusRequestBytes_length]

section phases
variable {cfg : Cfg} {M : List Nat} {adr : Nat → Nat} {n : Net} {v : NView}

theorem NInv.hold (h : NInv cfg M adr n v) {p1 : Int} (hph : v.ph = .hold p1) :
    (∃ d f, v.sx.s.st = .useToken d f) ∧ v.sx.s.lastBusActivity = some p1 ∧ (∃ a, v.tr.bytes = tokenBytes (adr v.x) a) ∧
    cEnd cfg v.tr ≤ p1 ∧ p1 ≤ n.bus.seen.getD v.x 0 ∧ n.bus.seen.getD v.x 0 ≤ p1 + (cfg.b33 : Nat) ∧
    v.H = p1 + (cfg.b33 : Nat) + (cfg.P : Nat) ∧ v.Lo = p1 + (cfg.b33 : Nat) ∧ p1 ≤ cEnd cfg v.tr + (cfg.P : Nat) := by
  have hP := h.ph
  unfold PhaseOkN at hP
  rw [hph] at hP
  exact hP

theorem NInv.gap (h : NInv cfg M adr n v) {g : Nat} (hph : v.ph = .gap g) :
    v.tr.sender = v.x ∧ v.tr.bytes = statusRequestBytes g (adr v.x) ∧ v.sx.s.st = .awaitStatus g ∧
    v.sx.s.lastBusActivity = some (v.tr.start + (cfg.b66 : Nat)) ∧ v.tr.start ≤ n.bus.seen.getD v.x 0 ∧
    n.bus.seen.getD v.x 0 ≤ v.tr.start + (cfg.b66 : Nat) + (cfg.slot : Nat) ∧
    v.H = v.tr.start + (cfg.b66 : Nat) + (cfg.slot : Nat) + (cfg.P : Nat) ∧
    v.Lo = v.tr.start + (cfg.b66 : Nat) + (cfg.slot : Nat) := by
  have hP := h.ph
  unfold PhaseOkN at hP
  rw [hph] at hP
  exact hP

theorem NInv.holdT (h : NInv cfg M adr n v) (hph : v.ph = .holdT) :
    v.tr.sender = v.x ∧ IsAppTx v.tr ∧ (∃ d f, v.sx.s.st = .useToken d f) ∧
    v.sx.s.lastBusActivity = some (tEnd cfg v.tr) ∧ v.tr.start ≤ n.bus.seen.getD v.x 0 ∧
    n.bus.seen.getD v.x 0 ≤ tEnd cfg v.tr + (cfg.b33 : Nat) ∧
    v.H = tEnd cfg v.tr + (cfg.b33 : Nat) + (cfg.P : Nat) ∧ v.Lo = tEnd cfg v.tr + (cfg.b33 : Nat) := by
  have hP := h.ph
  unfold PhaseOkN at hP
  rw [hph] at hP
  exact hP

theorem NInv.await (h : NInv cfg M adr n v) {a : Nat} (hph : v.ph = .await a) :
    v.tr.sender = v.x ∧ IsAppTx v.tr ∧ (∃ d, v.sx.s.st = .awaitData a d) ∧
    v.sx.s.lastBusActivity = some (tEnd cfg v.tr) ∧ v.tr.start ≤ n.bus.seen.getD v.x 0 ∧
    n.bus.seen.getD v.x 0 ≤ tEnd cfg v.tr + (cfg.slot : Nat) ∧
    v.H = tEnd cfg v.tr + (cfg.slot : Nat) + (cfg.P : Nat) ∧ v.Lo = tEnd cfg v.tr + (cfg.slot : Nat) := by
  have hP := h.ph
  unfold PhaseOkN at hP
  rw [hph] at hP
  exact hP

theorem NInv.pass (h : NInv cfg M adr n v) (hph : v.ph = .pass) :
    v.tr.sender = v.x ∧ v.tr.bytes = tokenBytes (cycSucc (adr v.x) M) (adr v.x) ∧ v.sx.s.st = .checkTokenPass .first ∧
    v.sx.s.lastBusActivity = some (v.tr.start + (cfg.b33 : Nat)) ∧ v.tr.start ≤ n.bus.seen.getD v.x 0 ∧
    v.H = cEnd cfg v.tr + 2 * (cfg.P : Nat) + (cfg.b33 : Nat) ∧ v.Lo = cEnd cfg v.tr + (cfg.b33 : Nat) ∧
    ∀ s, s < n.stations.length → adr s = cycSucc (adr v.x) M → n.bus.seen.getD s 0 < cEnd cfg v.tr := by
  have hP := h.ph
  unfold PhaseOkN at hP
  rw [hph] at hP
  exact hP

theorem NInv.trPos (h : NInv cfg M adr n v) : 0 < v.tr.bytes.length :=
  (TxKind.wire h.ring (h.log.kinds v.tr (by rw [h.txs]; simp))).2.2

/-- **What the phases but `pass` have in common**: the station whose turn it is rests in silence (`SilentWaits`) until
`Lo`, which is `silentWait` after its stamp `l`, and was last polled before; the horizon is one poll gap later.  `Lo` lies
at least 33 bit times after the end of the last transmission (after an own application telegram the station goes by the
predicted end, which may be 1 µs early) and at most a slot time.  It is not supervising a pass, so a token it emits is a
first attempt in its own ring view; outside a token hold it emits nothing else. -/
theorem NInv.rests (h : NInv cfg M adr n v) (hok : cfg.Ok) (hph : v.ph ≠ .pass) :
    ∃ l, v.sx.s.lastBusActivity = some l ∧ v.Lo = l + (silentWait v.sx.s : Nat) ∧ v.H = v.Lo + (cfg.P : Nat) ∧
      n.bus.seen.getD v.x 0 ≤ v.Lo ∧ v.Lo ≤ cEnd cfg v.tr + (cfg.slot : Nat) ∧
      (cEnd cfg v.tr + (cfg.b33 : Nat) ≤ v.Lo ∨ (v.ph = .holdT ∧ cEnd cfg v.tr + (cfg.b33 : Nat) ≤ v.Lo + 1)) ∧
      SilentWaits v.sx.s ∧ (∀ r att, NextPass v.sx.s r att → r = v.sx.s.ring ∧ att = .first) ∧
      (¬ v.ph.useLike → (∀ d f, v.sx.s.st ≠ .useToken d f) ∧ ∀ a d, v.sx.s.st ≠ .awaitData a d) := by
  have hmar := hok.margin
  have hc5 := cfg.ce5 hok.rate
  have hte := tEnd_cEnd cfg hok.rate v.tr h.trPos
  cases hv : v.ph with
  | hold p1 =>
    obtain ⟨⟨d, f, hst⟩, hlx, -, hend, -, hs, hH, hLo, hp1⟩ := h.hold hv
    refine ⟨p1, hlx, by rw [silentWait_useToken hst, h.okx.b33]; exact hLo, by omega, by omega, by omega, .inl (by omega),
      .inl ⟨d, f, hst⟩, fun r att hn => by simpa only [NextPass, hst] using hn, fun hnu => absurd trivial hnu⟩
  | holdT =>
    obtain ⟨-, -, ⟨d, f, hst⟩, hlx, -, hs, hH, hLo⟩ := h.holdT hv
    refine ⟨_, hlx, by rw [silentWait_useToken hst, h.okx.b33]; exact hLo, by omega, by omega, by omega,
      .inr ⟨rfl, by omega⟩, .inl ⟨d, f, hst⟩, fun r att hn => by simpa only [NextPass, hst] using hn,
      fun hnu => absurd trivial hnu⟩
  | await a =>
    obtain ⟨-, -, ⟨d, hst⟩, hlx, -, hs, hH, hLo⟩ := h.await hv
    refine ⟨_, hlx, by rw [silentWait_slot (by simp [hst]), h.okx.slot]; exact hLo, by omega, by omega, by omega,
      .inl (by omega), .inr (.inr (.inl ⟨a, d, hst⟩)), fun r att hn => by simpa only [NextPass, hst] using hn,
      fun hnu => absurd trivial hnu⟩
  | gap g =>
    obtain ⟨-, hb, hst, hlx, -, hs, hH, hLo⟩ := h.gap hv
    have hce := cEnd_req cfg hb
    refine ⟨_, hlx, by rw [silentWait_slot (by simp [hst]), h.okx.slot]; exact hLo, by omega, by omega, by omega,
      .inl (by omega), .inr (.inl ⟨g, hst⟩), fun r att hn => by simpa only [NextPass, hst] using hn,
      fun _ => ⟨by simp [hst], by simp [hst]⟩⟩
  | pass => exact absurd hv hph

theorem NInv.last_token_for (h : NInv cfg M adr n v) {j a : Nat} (hj : j < n.stations.length) (hjx : j ≠ v.x)
    (hbt : v.tr.bytes = tokenBytes (adr j) a) : v.ph = .pass ∧ cycSucc (adr v.x) M = adr j := by
  have haj := h.ring.lt j hj
  have hax := h.ring.lt v.x h.xlt
  cases hv : v.ph with
  | hold p1 =>
    obtain ⟨-, -, ⟨a', ha'⟩, -⟩ := h.hold hv
    rw [ha'] at hbt
    exact absurd (h.ring.inj j v.x hj h.xlt (tokenBytes_adr_inj _ _ _ _ (by omega) (by omega) hbt).symm) hjx
  | gap g =>
    obtain ⟨-, hb, -⟩ := h.gap hv
    rw [hb] at hbt
    exact absurd hbt (statusRequest_ne_token _ _ _ _)
  | holdT =>
    obtain ⟨-, ⟨h0, pdu, hb⟩, -⟩ := h.holdT hv
    rw [hb] at hbt
    exact absurd hbt (frameSpec_ne_token _ _ _ _)
  | await a0 =>
    obtain ⟨-, ⟨h0, pdu, hb⟩, -⟩ := h.await hv
    rw [hb] at hbt
    exact absurd hbt (frameSpec_ne_token _ _ _ _)
  | pass =>
    obtain ⟨-, hb, -⟩ := h.pass hv
    rw [hb] at hbt
    have hsm := h.ring.ring.bound _ (cycSucc_mem _ M (h.ring.mem v.x h.xlt))
    exact ⟨rfl, tokenBytes_adr_inj _ _ _ _ (by omega) (by omega) hbt⟩

theorem NInv.last_not_token (h : NInv cfg M adr n v) (hph : v.ph ≠ .pass) :
    ∀ j, j < n.stations.length → j ≠ v.x → ∀ a, v.tr.bytes ≠ tokenBytes (adr j) a :=
  fun _ hj hjx _ hbt => hph (h.last_token_for hj hjx hbt).1

end phases

/-- The horizon is never further than `Tslot + P` behind the end of the last transmission — the bound of the two-station
ring; the longest wait is that for the reply to a request.  (The handshake margin `cfg.Ok` makes `P + bits 33 ≤ Tslot`.) -/
theorem NInv.horizon_tight {cfg : Cfg} {M : List Nat} {adr : Nat → Nat} {n : Net} {v : NView} (h : NInv cfg M adr n v)
    (hok : cfg.Ok) : v.H ≤ cEnd cfg v.tr + (cfg.slot : Nat) + (cfg.P : Nat) := by
  by_cases hph : v.ph = .pass
  · obtain ⟨-, -, -, -, -, hH, -, -⟩ := h.pass hph
    have hmar := hok.margin
    omega
  · obtain ⟨l, -, -, hH, -, hLo, -⟩ := h.rests hok hph
    omega

theorem NInv.horizon {cfg : Cfg} {M : List Nat} {adr : Nat → Nat} {n : Net} {v : NView} (h : NInv cfg M adr n v)
    (hok : cfg.Ok) : v.H ≤ cEnd cfg v.tr + (cfg.gmax : Nat) := by
  have := h.horizon_tight hok
  unfold Cfg.gmax
  omega

/-- Address of the station whose turn it is to transmit next. -/
def NView.turn (v : NView) (M : List Nat) (adr : Nat → Nat) : Nat :=
  match v.ph with | .pass => cycSucc (adr v.x) M | _ => adr v.x

/-- Outcome of one event: the poll returns regularly and the invariant holds again; either nothing was
transmitted (same last transmission, same turn; the phase is unchanged or — the token was accepted — a fresh
`hold`), or the station whose turn it is transmitted `b`, later than 33 bit times after the end of the
previous transmission (after an own application telegram: not earlier than 33 bit times after its predicted
end, i.e. up to the 1 µs rounding): a GAP request to a non-member (turn stays), the token to the successor
(turn passes on), or an application telegram from one of its scripts (turn stays). -/
def NStepOut (cfg : Cfg) (M : List Nat) (adr : Nat → Nat) (n : Net) (v : NView) (i : Nat) (now : Int) : Prop :=
  ∃ n' v' inc c, n.poll i now = (n', inc, some (.ok c)) ∧ NInv cfg M adr n' v' ∧ v'.tl = now ∧
    ((c.tx = none ∧ v'.tr = v.tr ∧ v'.turn M adr = v.turn M adr ∧
        ((v'.ph = v.ph ∧ v'.x = v.x ∧ v'.H = v.H) ∨ (v.ph = .pass ∧ v'.ph = .hold now ∧ v'.x = i ∧ i ≠ v.x))) ∨
     (∃ b, c.tx = some b ∧ adr i = v.turn M adr ∧
        (cEnd cfg v.tr + (cfg.b33 : Nat) < now ∨ (v.ph = .holdT ∧ cEnd cfg v.tr + (cfg.b33 : Nat) ≤ now)) ∧
        v'.tr = { start := now, sender := i, bytes := b, dropped := false } ∧ (i = v.x ∧ v'.x = v.x) ∧
        ((∃ g, b = statusRequestBytes g (adr i) ∧ g ∉ M ∧ v'.turn M adr = adr i ∧ v'.ph = .gap g ∧ v.ph.useLike) ∨
         (b = tokenBytes (cycSucc (adr i) M) (adr i) ∧ v'.turn M adr = cycSucc (adr i) M ∧ v'.ph = .pass) ∨
         (∃ h pdu, b = frameSpec h pdu ∧ AppP h pdu ∧ v'.turn M adr = adr i ∧ (v'.ph = .holdT ∨ ∃ a, v'.ph = .await a) ∧
            (∀ st, n.stations[i]? = some st → ∀ P : Header → Bytes → Prop, AnsOk P st.apps → P h pdu) ∧ v.ph.useLike))))

theorem NInv.now_le_H {cfg : Cfg} {M : List Nat} {adr : Nat → Nat} {n : Net} {v : NView} (h : NInv cfg M adr n v)
    (hok : cfg.Ok) (i : Nat) (now : Int) (e : EvOkN cfg n v.tl i now) : now ≤ v.H := by
  by_cases hph : v.ph = .pass
  · obtain ⟨-, -, -, -, -, hH, -, hs⟩ := h.pass hph
    obtain ⟨s, hs1, hs2, -⟩ := h.ring.succ_idx v.x h.xlt
    have := hs s hs1 hs2
    have := e.gap s hs1
    omega
  · obtain ⟨l, -, -, hH, hs, -⟩ := h.rests hok hph
    have := e.gap v.x h.xlt
    omega

theorem seen_set_le (b : Bus) (i j : Nat) (now tl : Int) (hi : i < b.seen.length) (h : b.seen.getD j 0 ≤ tl)
    (htl : tl ≤ now) : (b.seen.set i now).getD j 0 ≤ now := by
  by_cases hji : j = i
  · rw [hji, seen_set_self _ _ _ hi]; exact Int.le_refl _
  · rw [seen_set_other _ _ _ _ (Ne.symm hji)]; exact Int.le_trans h htl

/-- What every event leaves alone.  Station `i` is polled at `now` and its record becomes `st'`; nothing is
transmitted yet (`seen i := now` is all that changes on the bus). -/
theorem NInv.advance {cfg : Cfg} {M : List Nat} {adr : Nat → Nat} {n : Net} {v : NView} (h : NInv cfg M adr n v)
    {i : Nat} {now : Int} (e : EvOkN cfg n v.tl i now) (st' : NetStation) :
    RingCfg M adr (n.stations.set i st').length ∧
    LogOk cfg M adr (n.stations.set i st').length { n.bus with seen := n.bus.seen.set i now } ∧
    (∀ j, j < (n.stations.set i st').length → (n.bus.seen.set i now).getD j 0 ≤ now) ∧
    (∀ t ∈ n.bus.txs, t.start ≤ now) ∧
    (∀ j, j < (n.stations.set i st').length → j ≠ v.x → j ≠ i →
      ∃ st, (n.stations.set i st')[j]? = some st ∧
        LOk cfg M adr { n.bus with seen := n.bus.seen.set i now } v.H v.Lo j st) := by
  have his : i < n.bus.seen.length := by rw [h.log.seen]; exact e.ilt
  simp only [List.length_set]
  refine ⟨h.ring, h.log.seenSet i now, ?_, fun t ht => Int.le_trans (h.tlt t ht) e.tl, ?_⟩
  · intro j hj
    exact seen_set_le n.bus i j now v.tl his (h.tls j hj) e.tl
  · intro j hj hjx hji
    obtain ⟨st, hst, hL⟩ := h.lis j hj hjx
    exact ⟨st, by rw [List.getElem?_set_ne (Ne.symm hji)]; exact hst, hL.other i now (Ne.symm hji)⟩

/-- **An event on a listening station**: it stays a listener, or — phase `pass`, it is the successor and the token
is complete — it accepts the token and becomes the station whose turn it is, the previous one a supervising
listener that has everything. -/
theorem stepL {cfg : Cfg} {M : List Nat} {adr : Nat → Nat} {n : Net} {v : NView} (h : NInv cfg M adr n v)
    (hok : cfg.Ok) (j : Nat) (hjx : j ≠ v.x) (now : Int) (e : EvOkN cfg n v.tl j now) :
    NStepOut cfg M adr n v j now := by
  obtain ⟨st, hst, hL⟩ := h.lis j e.ilt hjx
  have hnowH := h.now_le_H hok j now e
  have hH := h.horizon hok
  obtain ⟨inc, c, hd, hp, htx, hcase⟩ := listener_step hL hok h.ring h.log e.ilt now e.own hnowH
    (fun t ht => Int.le_trans (h.tlt t ht) e.tl)
    (fun t ht => by rw [h.last] at ht; cases ht; exact hH)
  have hp' : st.s.poll st.apps now (Bus.transmitting { n.bus with seen := n.bus.seen.set j now } j now) (st.rx ++ inc) = .ok c := by
    rw [transmitting_seen]; exact hp
  have hpe := Net.poll_eq n j now st _ inc c hst hL.1.alive hL.1.online hd hp'
  rw [htx] at hpe
  have hjl : j < n.stations.length := e.ilt
  have hjs : j < n.bus.seen.length := by rw [h.log.seen]; exact hjl
  obtain ⟨fr1, fr2, fr3, fr4, fr5⟩ := h.advance e (upSt st c)
  rcases hcase with hL' | ⟨htok, hokS, hcst, hcl, hcp, hcr, hdone, hown⟩
  · -- stays a listener
    refine ⟨_, { v with tl := now }, inc, c, hpe, ?_, rfl, .inl ⟨htx, rfl, rfl, .inl ⟨rfl, rfl, rfl⟩⟩⟩
    refine ⟨fr1, by simp only [List.length_set]; exact h.xlt, ?_, h.okx, fr2, h.txs, ?_, h.ownX, ?_, fr3, fr4, h.pbx, h.rxx, ?_⟩
    · simp only; rw [List.getElem?_set_ne hjx]; exact h.gx
    · intro o ho
      simp only
      rw [seen_set_other _ _ _ _ hjx]
      exact h.doneX o ho
    · intro j' hj' hj'x
      by_cases hjj : j' = j
      · rw [hjj]
        exact ⟨upSt st c, List.getElem?_set_self hjl, hL'⟩
      · exact fr5 j' hj' hj'x hjj
    · -- the phase facts: only `seen j` changed
      have hP := h.ph
      unfold PhaseOkN at hP ⊢
      simp only [List.length_set]
      cases hph : v.ph with
      | pass =>
        rw [hph] at hP
        simp only at hP ⊢
        rw [seen_set_other _ _ _ _ hjx]
        obtain ⟨a1, a2, a3, a4, a5, a6, a7, a8⟩ := hP
        refine ⟨a1, a2, a3, a4, a5, a6, a7, ?_⟩
        intro s hs hsa
        by_cases hsj : s = j
        · subst hsj
          rw [seen_set_self _ _ _ hjs]
          -- the token for `s` is the last transmission and `s` is still a listener: it is incomplete
          have := hL'.last_incomplete h.ring (h.log.seenSet s now) h.last (a := adr v.x) (by rw [a2, hsa])
          simp only at this
          rw [seen_set_self _ _ _ hjs] at this
          exact this
        · rw [seen_set_other _ _ _ _ (Ne.symm hsj)]
          exact a8 s hs hsa
      | _ =>
        rw [hph] at hP
        simp only at hP ⊢
        rw [seen_set_other _ _ _ _ hjx]
        exact hP
  · -- accepts the token
    have hgj := e.gap j hjl
    -- the margin is spent on the previous holder's deadline below (the `omega` after `unfold nextArr`): `j` accepts at
    -- `now < cEnd tr + P` (`hsj`, `hgj`), the next transmission starts by `H = now + b33 + P`, so its first character is
    -- complete by `start + (b33 + 1) + 2P + b33 + ce 0 ≤ (start + b33) + Tslot`, the supervisor's stamp plus slot time
    have hmar := hok.margin
    have hc2 := cfg.ce2 hok.rate
    -- the phase is `pass` and `j` is the successor
    obtain ⟨t, a, hlt, hbt⟩ := htok
    have htr : t = v.tr := by rw [h.last] at hlt; exact (Option.some.inj hlt).symm
    subst htr
    obtain ⟨hph, hsucc⟩ := h.last_token_for hjl hjx hbt
    obtain ⟨a1, a2, a3, a4, a5, a6, a7, a8⟩ := h.pass hph
    have hce := cEnd_token cfg a2
    have hsj := a8 j hjl hsucc.symm
    have hend : cEnd cfg v.tr ≤ now := by
      rcases hdone v.tr (by rw [h.txs]; simp) with hs | hs
      · exact absurd (a1.symm.trans hs) (Ne.symm hjx)
      · exact hs
    refine ⟨_, { x := j, sx := upSt st c, pre := v.pre, tr := v.tr, ph := .hold now,
                 H := now + (cfg.b33 : Nat) + (cfg.P : Nat), Lo := now + (cfg.b33 : Nat), tl := now },
      inc, c, hpe, ?_, rfl, .inl ⟨htx, rfl, ?_, .inr ⟨hph, rfl, rfl, hjx⟩⟩⟩
    · refine ⟨fr1, by simp only [List.length_set]; exact hjl, List.getElem?_set_self hjl, hokS, fr2, h.txs, ?_, ?_, ?_,
        fr3, fr4, hcp, hcr, ?_⟩
      · intro o ho
        simp only
        rw [seen_set_self _ _ _ hjs]
        exact hdone o ho
      · intro l hl o ho hs
        have hl' : c.s.lastBusActivity = some l := hl
        rw [hcl] at hl'; cases hl'
        exact hown o ho hs
      · intro j' hj' hj'j
        by_cases hjx' : j' = v.x
        · -- the previous holder: a supervising listener that has everything
          rw [hjx']
          refine ⟨v.sx, by simp only; rw [List.getElem?_set_ne hjx]; exact h.gx, h.okx, n.bus.txs, [], false,
            v.tr.start + (cfg.b33 : Nat), by simp, ?_⟩
          simp only
          rw [seen_set_other _ _ _ _ hjx]
          refine ⟨h.doneX, (fun t ht => by cases ht), h.rxx, (by rw [h.pbx]; exact Nat.zero_le _), h.ownX _ a4,
            (fun t rest hrs => by cases hrs), a4, .inr ⟨(fun t ht => by cases ht), (by omega)⟩,
            (fun t ht => by cases ht), ?_, ?_⟩
          · rintro ⟨t', a', hlt', hbt'⟩
            have : t' = v.tr := by rw [h.last] at hlt'; exact (Option.some.inj hlt').symm
            subst this
            rw [a2] at hbt'
            have hsm := h.ring.ring.bound _ (cycSucc_mem _ M (h.ring.mem v.x h.xlt))
            have hax := h.ring.lt v.x h.xlt
            exact absurd (tokenBytes_adr_inj _ _ _ _ (by omega) (by omega) hbt') (h.ring.two _ (h.ring.mem v.x h.xlt))
          · simp only [Bool.false_eq_true, if_false]
            refine ⟨a3, ?_⟩
            unfold nextArr
            simp only
            omega
        · obtain ⟨st', hst', hL'⟩ := fr5 j' hj' hjx' hj'j
          exact ⟨st', hst', hL'.mono (by simp only; omega) (by simp only; omega)⟩
      · unfold PhaseOkN
        simp only
        rw [seen_set_self _ _ _ hjs]
        unfold upSt
        simp only
        refine ⟨⟨_, _, hcst⟩, hcl, ⟨a, hbt⟩, hend, Int.le_refl _, by omega, trivial, trivial, by omega⟩
    · unfold NView.turn
      simp only [hph, hsucc]

theorem NInv.up {cfg : Cfg} {M : List Nat} {adr : Nat → Nat} {n : Net} {v : NView} (h : NInv cfg M adr n v) {l : Int}
    (hl : v.sx.s.lastBusActivity = some l) : Up cfg M adr n v.x v.sx l :=
  ⟨h.ring, h.xlt, h.gx, h.okx, h.log, h.doneX, h.ownX l hl, h.pbx, h.rxx, hl⟩

theorem NInv.ofUp {cfg : Cfg} {M : List Nat} {adr : Nat → Nat} {n : Net} {v : NView} {l : Int}
    (hU : Up cfg M adr n v.x v.sx l) (txs : n.bus.txs = v.pre ++ [v.tr])
    (lis : ∀ j, j < n.stations.length → j ≠ v.x → ∃ st, n.stations[j]? = some st ∧ LOk cfg M adr n.bus v.H v.Lo j st)
    (tls : ∀ j, j < n.stations.length → n.bus.seen.getD j 0 ≤ v.tl) (tlt : ∀ t ∈ n.bus.txs, t.start ≤ v.tl)
    (ph : PhaseOkN cfg M adr n.stations.length v (fun j => n.bus.seen.getD j 0)) : NInv cfg M adr n v :=
  ⟨hU.ring, hU.xlt, hU.gx, hU.okx, hU.log, txs, hU.done,
    fun l' hl' o => by rw [hU.stamp] at hl'; cases hl'; exact hU.own o, lis, tls, tlt, hU.pb, hU.rx, ph⟩

def NView.setX (v : NView) (c : Ctx) (now : Int) : NView := { v with sx := upSt v.sx c, tl := now }

theorem ninv_quiet_x {cfg : Cfg} {M : List Nat} {adr : Nat → Nat} {n : Net} {v : NView} (h : NInv cfg M adr n v)
    (hok : cfg.Ok) (now : Int) (e : EvOkN cfg n v.tl v.x now) (c : Ctx)
    (hp : v.sx.s.poll v.sx.apps now (n.bus.transmitting v.x now) [] = .ok c)
    (htx : c.tx = none) (h1 : c.s.p = v.sx.s.p) (h2 : c.s.ring = v.sx.s.ring) (h3 : c.s.online = true)
    (h4 : c.s.pendingBytes = 0) (h5 : c.rx = []) {l : Int} (hl : v.sx.s.lastBusActivity = some l)
    (h6 : c.s.lastBusActivity = some l) (h7 : AnsOk AppP c.apps)
    (hph : PhaseOkN cfg M adr n.stations.length (v.setX c now)
      (fun j => ({ n.bus with seen := n.bus.seen.set v.x now } : Bus).seen.getD j 0)) :
    NStepOut cfg M adr n v v.x now := by
  have hU := h.up hl
  obtain ⟨hU', -⟩ := hU.quiet e.own hp htx h1 (by rw [h2]; exact h.okx.view) h3 h4 h5 h7 h6 (Int.le_refl _)
  obtain ⟨-, -, fr3, fr4, fr5⟩ := h.advance e (upSt v.sx c)
  have en : n.polled v.x now v.sx c = ⟨{ n.bus with seen := n.bus.seen.set v.x now }, n.stations.set v.x (upSt v.sx c)⟩ := by
    unfold Net.polled; rw [htx]
  rw [en] at hU'
  exact ⟨_, v.setX c now, [], c, en ▸ hU.poll hok hp,
    NInv.ofUp (v := v.setX c now) hU' h.txs (fun j hj hjx => fr5 j hj hjx hjx) fr3 fr4 (by simp only [List.length_set]; exact hph),
    rfl, .inl ⟨htx, rfl, rfl, .inl ⟨rfl, rfl, rfl⟩⟩⟩

def NView.sendX (v : NView) (c : Ctx) (pre' : List Transmission) (b : Bytes) (ph' : PhaseN) (H' Lo' : Int) (now : Int) : NView :=
  { x := v.x, sx := upSt v.sx c, pre := pre', tr := { start := now, sender := v.x, bytes := b, dropped := false },
    ph := ph', H := H', Lo := Lo', tl := now }

theorem ninv_send_x {cfg : Cfg} {M : List Nat} {adr : Nat → Nat} {n : Net} {v : NView} (h : NInv cfg M adr n v)
    (hok : cfg.Ok) (hP100 : cfg.P ≤ 100000) (now : Int) (e : EvOkN cfg n v.tl v.x now) (c : Ctx) (b : Bytes)
    (ph' : PhaseN) (H' Lo' : Int)
    (hp : v.sx.s.poll v.sx.apps now (n.bus.transmitting v.x now) [] = .ok c)
    (htx : c.tx = some b) (h1 : c.s.p = v.sx.s.p) (h2 : RingView M (adr v.x) c.s.ring) (h3 : c.s.online = true)
    (h4 : c.s.pendingBytes = 0) (h5 : c.rx = []) (h7 : AnsOk AppP c.apps) (hbl : 0 < b.length)
    (hkind : TxKind M adr n.stations.length { start := now, sender := v.x, bytes := b, dropped := false })
    (hq1 : v.Lo < now) (hLo : v.Lo ≤ Lo') (hends : ∀ o ∈ n.bus.txs, cEnd cfg o ≤ now)
    (hnotok : ∀ j, j < n.stations.length → j ≠ v.x → ∀ a, v.tr.bytes ≠ tokenBytes (adr j) a)
    {l l' : Int} (hl : v.sx.s.lastBusActivity = some l) (hl' : c.s.lastBusActivity = some l') (hl1 : now ≤ l')
    (hl2 : now + ((cfg.ce (b.length - 1) : Nat) : Int) ≤ l' + 1)
    (hph : ∀ pre', PhaseOkN cfg M adr n.stations.length (v.sendX c pre' b ph' H' Lo' now)
      (fun j => ({ n.bus with seen := n.bus.seen.set v.x now } : Bus).seen.getD j 0)) :
    ∃ n' pre', n.poll v.x now = (n', [], some (.ok c)) ∧ NInv cfg M adr n' (v.sendX c pre' b ph' H' Lo' now) := by
  have hU := h.up hl
  have hnowH := h.now_le_H hok v.x now e
  obtain ⟨hU', e1, hmem⟩ := hU.send hok hp htx h1 h2 h3 h4 h5 h7 hkind hends hl' hl1 hl2
  obtain ⟨-, -, fr3, fr4, fr5⟩ := h.advance e (upSt v.sx c)
  have e4 := Net.polled_seen n v.x now v.sx c
  have hlen := Net.polled_len n v.x now v.sx c
  refine ⟨_, _, hU.poll hok hp, NInv.ofUp (v := v.sendX c _ b ph' H' Lo' now) hU' e1 ?_ ?_ ?_ ?_⟩
  · intro j hj hjx'
    have hjx : j ≠ v.x := hjx'
    rw [hlen] at hj
    obtain ⟨st', hst', hL'⟩ := fr5 j (by rw [List.length_set]; exact hj) hjx hjx
    refine ⟨st', hst', ?_⟩
    refine LOk.send (b := { n.bus with seen := n.bus.seen.set v.x now }) hL' h.ring (h.log.seenSet v.x now) hok.rate v.x
      (Ne.symm hjx) now b hbl hq1 hnowH hLo ?_ ?_ hP100 ?_ ?_ e4
    · simp only; rw [seen_set_other _ _ _ _ (Ne.symm hjx)]; exact Int.le_trans (h.tls j hj) e.tl
    · simp only; rw [seen_set_other _ _ _ _ (Ne.symm hjx)]; exact e.gap j hj
    · intro t ht a
      have hl := h.last
      simp only at ht
      rw [hl] at ht
      cases ht
      exact hnotok j hj hjx a
    · unfold Net.polled
      simp only [htx]
      rw [Bus.send_spec { n.bus with seen := n.bus.seen.set v.x now } v.x now b h.log.drops]
  · intro j hj
    rw [e4]
    exact fr3 j (by rw [List.length_set, ← hlen]; exact hj)
  · intro t ht
    rcases hmem t ht with ht | rfl
    · exact fr4 t ht
    · exact Int.le_refl _
  · rw [hlen, e4]
    exact hph _

/-- The phase facts at a later poll of the station whose turn it is that changed neither its FDL state nor its stamp:
only its poll time enters them, between the bounds of the phase. -/
theorem NInv.phase_setX {cfg : Cfg} {M : List Nat} {adr : Nat → Nat} {n : Net} {v : NView} (h : NInv cfg M adr n v)
    {now : Int} (hown : n.bus.seen.getD v.x 0 < now) (hw : v.ph ≠ .pass → now ≤ v.Lo) {c : Ctx}
    (hst : c.s.st = v.sx.s.st) (hl : c.s.lastBusActivity = v.sx.s.lastBusActivity) :
    PhaseOkN cfg M adr n.stations.length (v.setX c now)
      (fun j => ({ n.bus with seen := n.bus.seen.set v.x now } : Bus).seen.getD j 0) := by
  have hxs : v.x < n.bus.seen.length := by rw [h.log.seen]; exact h.xlt
  unfold PhaseOkN NView.setX upSt
  cases hph : v.ph with
  | hold p1 =>
    obtain ⟨hs, hlx, htok, hend, hp1, hsx, hH, hLo, hp1P⟩ := h.hold hph
    have hw' := hw (by rw [hph]; simp)
    simp only
    rw [seen_set_self _ _ _ hxs, hst, hl]
    exact ⟨hs, hlx, htok, hend, by omega, by omega, hH, hLo, hp1P⟩
  | holdT =>
    obtain ⟨hs1, happ, hs, hlx, hq, hsx, hH, hLo⟩ := h.holdT hph
    have hw' := hw (by rw [hph]; simp)
    simp only
    rw [seen_set_self _ _ _ hxs, hst, hl]
    exact ⟨hs1, happ, hs, hlx, by omega, by omega, hH, hLo⟩
  | gap g =>
    obtain ⟨hs1, hb, hs, hlx, hq, hsx, hH, hLo⟩ := h.gap hph
    have hw' := hw (by rw [hph]; simp)
    simp only
    rw [seen_set_self _ _ _ hxs, hst, hl]
    exact ⟨hs1, hb, hs, hlx, by omega, by omega, hH, hLo⟩
  | await a =>
    obtain ⟨hs1, happ, hs, hlx, hq, hsx, hH, hLo⟩ := h.await hph
    have hw' := hw (by rw [hph]; simp)
    simp only
    rw [seen_set_self _ _ _ hxs, hst, hl]
    exact ⟨hs1, happ, hs, hlx, by omega, by omega, hH, hLo⟩
  | pass =>
    obtain ⟨hs1, hb, hs, hlx, hq, hH, hLo, hsucc⟩ := h.pass hph
    simp only
    rw [seen_set_self _ _ _ hxs, hst, hl]
    refine ⟨hs1, hb, hs, hlx, by omega, hH, hLo, ?_⟩
    intro s' hs'1 hs'2
    have hne : s' ≠ v.x := by
      intro e'; rw [e'] at hs'2; exact h.ring.two _ (h.ring.mem v.x h.xlt) hs'2.symm
    rw [seen_set_other _ _ _ _ (Ne.symm hne)]
    exact hsucc s' hs'1 hs'2

/-- **The station whose turn it is is polled while it still has to wait**: within the synchronisation pause of a
hold, within the slot time of a request, or — phase `pass` — supervising, while the successor has not even seen
the complete token. -/
theorem stepNX_wait {cfg : Cfg} {M : List Nat} {adr : Nat → Nat} {n : Net} {v : NView} (h : NInv cfg M adr n v)
    (hok : cfg.Ok) (now : Int) (e : EvOkN cfg n v.tl v.x now) (hw : v.ph ≠ .pass → now ≤ v.Lo) :
    NStepOut cfg M adr n v v.x now := by
  obtain ⟨l, hlx, hsw, hwait⟩ : ∃ l, v.sx.s.lastBusActivity = some l ∧ SilentWaits v.sx.s ∧
      now ≤ l + (silentWait v.sx.s : Nat) := by
    by_cases hph : v.ph = .pass
    · -- the successor was polled before the token was complete, and no more than `P` ago: `now < cEnd tr + P`, within
      -- the slot time after the stamp `start + b33` (of the margin only `P < Tslot`)
      obtain ⟨-, hb, hst, hlx, -, -, -, hsucc⟩ := h.pass hph
      have hmar := hok.margin
      have hc2 := cfg.ce2 hok.rate
      have hce := cEnd_token cfg hb
      obtain ⟨s, hs1, hs2, -⟩ := h.ring.succ_idx v.x h.xlt
      have hss := hsucc s hs1 hs2
      have hgs := e.gap s hs1
      exact ⟨_, hlx, .inr (.inr (.inr ⟨_, hst⟩)), by rw [silentWait_slot (by simp [hst]), h.okx.slot]; omega⟩
    · obtain ⟨l, hlx, hLo, -, -, -, -, hsw, -⟩ := h.rests hok hph
      exact ⟨l, hlx, hsw, by have := hw hph; omega⟩
  obtain ⟨c, hp, -, -, hrest, -⟩ := silent_station_poll v.sx.s v.sx.apps now l _ h.okx.inv h.okx.son hlx (h.up hlx).phy hsw
  obtain ⟨htx, -, ha, hr, hce, hl', hpb, -⟩ := hrest hwait
  exact ninv_quiet_x h hok now e c hp htx hce.p hce.ring (hce.online.trans h.okx.son) (hpb.trans h.pbx) hr
    hlx hl' (by rw [ha]; exact h.okx.apps) (h.phase_setX e.own hw hce.st (hl'.trans hlx.symm))

theorem stepNX_token {cfg : Cfg} {M : List Nat} {adr : Nat → Nat} {n : Net} {v : NView} (h : NInv cfg M adr n v)
    (hok : cfg.Ok) (hP100 : cfg.P ≤ 100000) (now : Int) (e : EvOkN cfg n v.tl v.x now) (c : Ctx)
    (hp : v.sx.s.poll v.sx.apps now (n.bus.transmitting v.x now) [] = .ok c)
    (ht : TokenOut v.sx.s v.sx.s.ring .first c now)
    (h1 : c.s.p = v.sx.s.p) (h3 : c.s.online = true) (h4 : c.s.pendingBytes = 0) (h5 : c.rx = []) (h7 : AnsOk AppP c.apps)
    {l : Int} (hl : v.sx.s.lastBusActivity = some l)
    (hq1 : v.Lo < now) (hends : ∀ o ∈ n.bus.txs, cEnd cfg o ≤ now)
    (hnotok : ∀ j, j < n.stations.length → j ≠ v.x → ∀ a, v.tr.bytes ≠ tokenBytes (adr j) a)
    (hturn : v.turn M adr = adr v.x)
    (hsync : cEnd cfg v.tr + (cfg.b33 : Nat) < now ∨ (v.ph = .holdT ∧ cEnd cfg v.tr + (cfg.b33 : Nat) ≤ now)) :
    NStepOut cfg M adr n v v.x now := by
  obtain ⟨htx, hring, hst, hlast⟩ := ht
  have hc2 := cfg.ce2 hok.rate
  have hc0 := cfg.ce_pos hok.rate 2
  have hxs : v.x < n.bus.seen.length := by rw [h.log.seen]; exact h.xlt
  have hns : v.sx.s.ring.ns = cycSucc (adr v.x) M := h.okx.view.ns.1
  have hview' : RingView M (adr v.x) (v.sx.s.ring.witness (adr v.x) (cycSucc (adr v.x) M)) := h.okx.view.witness
  rw [h.okx.addr, hns] at htx hring hst
  have hst' : c.s.st = .checkTokenPass .first := by
    rw [hst, hview'.ns.1, if_neg (h.ring.two _ (h.ring.mem v.x h.xlt))]
  have hlast' : c.s.lastBusActivity = some (now + (cfg.b33 : Nat)) := by
    rw [hlast, bits_11_3, h.okx.bits]; rfl
  have hLo : v.Lo ≤ now + ((cfg.ce 2 : Nat) : Int) + (cfg.b33 : Nat) := by omega
  obtain ⟨n', pre', hn', hinv'⟩ := ninv_send_x h hok hP100 now e c _ .pass
    (now + ((cfg.ce 2 : Nat) : Int) + 2 * (cfg.P : Nat) + (cfg.b33 : Nat)) (now + ((cfg.ce 2 : Nat) : Int) + (cfg.b33 : Nat))
    hp htx h1 (by rw [hring]; exact hview') h3 h4 h5 h7 (by show 0 < 3; omega)
    ⟨v.x, h.xlt, rfl, .inl rfl⟩ hq1 hLo hends hnotok hl hlast' (by omega)
    (by show now + ((cfg.ce 2 : Nat) : Int) ≤ _; omega)
    (by
      intro pre'
      unfold PhaseOkN NView.sendX upSt
      simp only
      rw [seen_set_self _ _ _ hxs]
      refine ⟨trivial, trivial, hst', hlast', Int.le_refl _, rfl, rfl, ?_⟩
      intro s hs hsa
      have hne : s ≠ v.x := by
        intro e'; rw [e'] at hsa; exact h.ring.two _ (h.ring.mem v.x h.xlt) hsa.symm
      rw [seen_set_other _ _ _ _ (Ne.symm hne)]
      have := h.tls s hs
      have := e.tl
      show _ < now + ((cfg.ce 2 : Nat) : Int)
      omega)
  refine ⟨n', _, [], c, hn', hinv', rfl, .inr ⟨_, htx, hturn.symm, hsync, rfl, ⟨rfl, rfl⟩, .inr (.inl ⟨rfl, ?_, rfl⟩)⟩⟩
  unfold NView.turn NView.sendX
  rfl

theorem scriptsOk_ansOk {apps : Apps} (h : ScriptsOk apps) : AnsOk (fun hd pdu => hd.lengthByte pdu.length ≤ 249) apps := h

/-- **The station whose turn it is transmits** (after the synchronisation pause of a hold, or when it gives
up on an unanswered request): an application telegram of one of its scripts, a GAP request to a
non-member, or the token to its successor. -/
theorem stepNX_emit {cfg : Cfg} {M : List Nat} {adr : Nat → Nat} {n : Net} {v : NView} (h : NInv cfg M adr n v)
    (hok : cfg.Ok) (hP100 : cfg.P ≤ 100000) (now : Int) (e : EvOkN cfg n v.tl v.x now) (c : Ctx)
    (hp : v.sx.s.poll v.sx.apps now (n.bus.transmitting v.x now) [] = .ok c) (hinvc : Inv c.s c.apps)
    (hout : Emit v.sx.s v.sx.apps v.sx.s.ring .first c now)
    (htok : ¬ v.ph.useLike → TokenOut v.sx.s v.sx.s.ring .first c now)
    {l : Int} (hl : v.sx.s.lastBusActivity = some l)
    (hq1 : v.Lo < now) (hends : ∀ o ∈ n.bus.txs, cEnd cfg o ≤ now)
    (hnotok : ∀ j, j < n.stations.length → j ≠ v.x → ∀ a, v.tr.bytes ≠ tokenBytes (adr j) a)
    (hturn : v.turn M adr = adr v.x)
    (hsync : cEnd cfg v.tr + (cfg.b33 : Nat) < now ∨ (v.ph = .holdT ∧ cEnd cfg v.tr + (cfg.b33 : Nat) ≤ now)) :
    NStepOut cfg M adr n v v.x now := by
  obtain ⟨o1, o4, o5, o6, oans, o7⟩ := hout
  have hxs : v.x < n.bus.seen.length := by rw [h.log.seen]; exact h.xlt
  have hc5 := cfg.ce5 hok.rate
  have hr := hok.rate
  have h7 : AnsOk AppP c.apps := oans AppP h.okx.apps
  have token : TokenOut v.sx.s v.sx.s.ring .first c now → NStepOut cfg M adr n v v.x now := fun ht =>
    stepNX_token h hok hP100 now e c hp ht o4 (o5.trans h.okx.son) (o6.trans h.pbx) o1 h7 hl hq1 hends hnotok hturn hsync
  by_cases hnu : ¬ v.ph.useLike
  · exact token (htok hnu)
  have huse : v.ph.useLike := Classical.not_not.1 hnu
  rcases o7 with ⟨⟨hd, pdu, bytes, hP, hser, htx, hlast, hstc⟩, hring⟩ | ⟨g, cur, hcur, hna, htx, hst', hring, hlast⟩ | ht
  · -- application telegram
    have hlb : hd.lengthByte pdu.length ≤ 249 := hP _ (scriptsOk_ansOk h.okx.inv.scripts)
    have happP : AppP hd pdu := hP AppP h.okx.apps
    have hbytes : bytes = frameSpec hd pdu := by
      have := serialize_ok hd pdu hlb
      rw [hser] at this
      cases this; rfl
    subst hbytes
    have hpos : 0 < (frameSpec hd pdu).length := by
      rw [frame_length]; unfold Header.telegramLen; simp only; split <;> omega
    have hlast' : c.s.lastBusActivity = some (now + ((bitsToTime cfg.rate (11 * (frameSpec hd pdu).length) : Nat) : Int)) := by
      rw [hlast, h.okx.bits]
    have hte := tEnd_cEnd cfg hr { start := now, sender := v.x, bytes := frameSpec hd pdu, dropped := false } hpos
    unfold tEnd cEnd at hte
    simp only at hte
    have hkind : TxKind M adr n.stations.length { start := now, sender := v.x, bytes := frameSpec hd pdu, dropped := false } :=
      ⟨v.x, h.xlt, rfl, .inr (.inr ⟨hd, pdu, rfl, happP, hlb⟩)⟩
    have hfin : ∀ st, n.stations[v.x]? = some st → ∀ P : Header → Bytes → Prop, AnsOk P st.apps → P hd pdu := by
      intro st hst P hPa
      rw [h.gx] at hst
      cases hst
      exact hP P hPa
    -- the new phase `ph'` waits `W` after the predicted end of the telegram
    have send : ∀ (ph' : PhaseN) (W : Nat), (cfg.b33 : Int) ≤ W → (ph' = .holdT ∨ ∃ a, ph' = .await a) →
        (∀ pre', PhaseOkN cfg M adr n.stations.length
          (v.sendX c pre' (frameSpec hd pdu) ph'
            (now + ((bitsToTime cfg.rate (11 * (frameSpec hd pdu).length) : Nat) : Int) + (W : Int) + (cfg.P : Nat))
            (now + ((bitsToTime cfg.rate (11 * (frameSpec hd pdu).length) : Nat) : Int) + (W : Int)) now)
          (fun j => ({ n.bus with seen := n.bus.seen.set v.x now } : Bus).seen.getD j 0)) →
        NStepOut cfg M adr n v v.x now := by
      intro ph' W hW hph' hph
      obtain ⟨n', pre', hn', hinv'⟩ := ninv_send_x h hok hP100 now e c _ ph' _ _
        hp htx o4 (by rw [hring]; exact h.okx.view) (o5.trans h.okx.son) (o6.trans h.pbx) o1 h7 hpos hkind hq1 (by omega)
        hends hnotok hl hlast' (by omega) hte.2 hph
      refine ⟨n', _, [], c, hn', hinv', rfl, .inr ⟨_, htx, hturn.symm, hsync, rfl, ⟨rfl, rfl⟩,
        .inr (.inr ⟨hd, pdu, rfl, happP, ?_, hph', hfin, huse⟩)⟩⟩
      unfold NView.turn NView.sendX
      rcases hph' with rfl | ⟨a, rfl⟩ <;> rfl
    have hmar := hok.margin
    rcases hstc with ⟨hexp, d', f', hst'⟩ | ⟨a8, hexp, d', hst'⟩
    · refine send .holdT cfg.b33 (Int.le_refl _) (.inl rfl) ?_
      intro pre'
      unfold PhaseOkN NView.sendX upSt tEnd
      simp only
      rw [seen_set_self _ _ _ hxs]
      exact ⟨trivial, ⟨hd, pdu, rfl⟩, ⟨d', f', hst'⟩, hlast', Int.le_refl _, by omega, trivial, trivial⟩
    · refine send (.await a8.toNat) cfg.slot (by omega) (.inr ⟨_, rfl⟩) ?_
      intro pre'
      unfold PhaseOkN NView.sendX upSt tEnd
      simp only
      rw [seen_set_self _ _ _ hxs]
      exact ⟨trivial, ⟨hd, pdu, rfl⟩, ⟨d', hst'⟩, hlast', Int.le_refl _, by omega, trivial, trivial⟩
  · -- GAP request
    have hns : v.sx.s.ring.ns = cycSucc (adr v.x) M := h.okx.view.ns.1
    rw [h.okx.addr, hns] at hcur
    rw [h.okx.addr] at hna htx
    have hbtw := (nextGapPoll_poll' hcur).1
    have hgM : g ∉ M := fun hm =>
      (cycSucc_gapless (adr v.x) M).2 g hm hbtw
    have hg126 : g < 126 := by
      have h1 := (hinvc.await1 g hst').1
      have h2 := hinvc.gap g h1
      have h3 := hinvc.hsa
      omega
    have hlast' : c.s.lastBusActivity = some (now + (cfg.b66 : Nat)) := by
      rw [hlast, bits_11_6, h.okx.bits]; rfl
    obtain ⟨n', pre', hn', hinv'⟩ := ninv_send_x h hok hP100 now e c _ (.gap g)
      (now + (cfg.b66 : Nat) + (cfg.slot : Nat) + (cfg.P : Nat)) (now + (cfg.b66 : Nat) + (cfg.slot : Nat))
      hp htx o4 (by rw [hring]; exact h.okx.view) (o5.trans h.okx.son) (o6.trans h.pbx) o1 h7
      (by rw [statusRequestBytes_length]; omega)
      ⟨v.x, h.xlt, rfl, .inr (.inl ⟨g, hg126, hgM, rfl⟩)⟩ hq1 (by omega) hends hnotok hl hlast' (by omega)
      (by rw [statusRequestBytes_length]; show now + ((cfg.ce 5 : Nat) : Int) ≤ _; omega)
      (by
        intro pre'
        unfold PhaseOkN NView.sendX upSt
        simp only
        rw [seen_set_self _ _ _ hxs]
        exact ⟨trivial, trivial, hst', hlast', Int.le_refl _, by omega, trivial, trivial⟩)
    refine ⟨n', _, [], c, hn', hinv', rfl, .inr ⟨_, htx, hturn.symm, hsync, rfl, ⟨rfl, rfl⟩, .inl ⟨g, rfl, hgM, ?_, rfl, huse⟩⟩⟩
    unfold NView.turn NView.sendX
    rfl
  · exact token ht

/-- **The waiting time of the station whose turn it is is over** (the synchronisation pause of a hold; the slot time
of an unanswered application request — the application gets its time-out and the visit continues in the same poll —
or of an unanswered GAP request): it transmits. -/
theorem stepNX_go {cfg : Cfg} {M : List Nat} {adr : Nat → Nat} {n : Net} {v : NView} (h : NInv cfg M adr n v)
    (hok : cfg.Ok) (hP100 : cfg.P ≤ 100000) (hnp : v.ph ≠ .pass) (now : Int) (e : EvOkN cfg n v.tl v.x now)
    (hgo : v.Lo < now) : NStepOut cfg M adr n v v.x now := by
  have hmar := hok.margin
  obtain ⟨l, hlx, hLo, -, -, -, hsync, hsw, hfirst, hnot⟩ := h.rests hok hnp
  have hlt : l < now := by omega
  obtain ⟨c, hp, hinvc, -, -, hemit⟩ := silent_station_poll v.sx.s v.sx.apps now l _ h.okx.inv h.okx.son hlx
    (h.up hlx).phy hsw
  obtain ⟨r, att, hn, he, ht⟩ := hemit (by omega) (fun _ => by rw [h.okx.b33, h.okx.slot]; omega)
  obtain ⟨rfl, rfl⟩ := hfirst r att hn
  have hturn : v.turn M adr = adr v.x := by
    unfold NView.turn
    cases hv : v.ph with
    | pass => exact absurd hv hnp
    | _ => rfl
  exact stepNX_emit h hok hP100 now e c hp hinvc he (fun hnu => (ht (hnot hnu).1 (hnot hnu).2).2) hlx hgo
    ((h.up hlx).ends hlt e.own) (h.last_not_token hnp) hturn
    (hsync.imp (fun h1 => by omega) (fun h1 => ⟨h1.1, by have := h1.2; omega⟩))

theorem ringN_step {cfg : Cfg} {M : List Nat} {adr : Nat → Nat} {n : Net} {v : NView} (h : NInv cfg M adr n v)
    (hok : cfg.Ok) (hP100 : cfg.P ≤ 100000) (i : Nat) (now : Int) (e : EvOkN cfg n v.tl i now) :
    NStepOut cfg M adr n v i now := by
  by_cases hix : i = v.x
  · subst hix
    by_cases hw : v.ph ≠ .pass → now ≤ v.Lo
    · exact stepNX_wait h hok now e hw
    · have hgo : v.Lo < now := by
        apply Classical.byContradiction
        intro hn
        exact hw (fun _ => by omega)
      exact stepNX_go h hok hP100 (fun hph => hw (fun hne => absurd hph hne)) now e hgo
  · exact stepL h hok i hix now e

/-- What a run of the stable ring WITH application traffic looks like (`turn`: address of the station whose
turn it is, `lastEnd` / `lastSender`: end and sender of the last transmission): every poll returns regularly;
only the station whose turn it is transmits; every transmission starts at least 33 bit times after the end of
the previous one — strictly later if the previous one came from another station (after an own application
telegram a station goes by its predicted end, which may be 1 µs early); it is a GAP request to a non-member
(turn stays), the token to the cyclic successor (turn passes on), or an application telegram satisfying
`AppP` (turn stays).  Nobody claims, retries or replies. -/
def GoodRunA (cfg : Cfg) (M : List Nat) (adr : Nat → Nat) : Net → Nat → Int → Nat → List (Nat × Int) → Prop
  | _, _, _, _, [] => True
  | n, turn, lastEnd, lastSender, (i, now) :: rest =>
    ∃ n' inc c, n.poll i now = (n', inc, some (.ok c)) ∧
      ((c.tx = none ∧ GoodRunA cfg M adr n' turn lastEnd lastSender rest) ∨
       (∃ b, c.tx = some b ∧ adr i = turn ∧ lastEnd + (cfg.b33 : Nat) ≤ now ∧
          (lastSender ≠ i → lastEnd + (cfg.b33 : Nat) < now) ∧
          ((∃ g, b = statusRequestBytes g (adr i) ∧ g ∉ M ∧
              GoodRunA cfg M adr n' (adr i) (now + (cfg.ce (b.length - 1) : Nat)) i rest) ∨
           (b = tokenBytes (TokenRing.cycSucc (adr i) M) (adr i) ∧
              GoodRunA cfg M adr n' (TokenRing.cycSucc (adr i) M) (now + (cfg.ce (b.length - 1) : Nat)) i rest) ∨
           (∃ h pdu, b = frameSpec h pdu ∧ AppP h pdu ∧
              GoodRunA cfg M adr n' (adr i) (now + (cfg.ce (b.length - 1) : Nat)) i rest))))

theorem ringA_run {cfg : Cfg} (hok : cfg.Ok) (hP100 : cfg.P ≤ 100000) (M : List Nat) (adr : Nat → Nat) :
    ∀ (evs : List (Nat × Int)) (n : Net) (v : NView), NInv cfg M adr n v → SchedN cfg.P n v.tl evs →
    GoodRunA cfg M adr n (v.turn M adr) (cEnd cfg v.tr) v.tr.sender evs := by
  intro evs
  induction evs with
  | nil => intro _ _ _ _; trivial
  | cons ev rest ih =>
    intro n v h hs
    obtain ⟨i, now⟩ := ev
    obtain ⟨e, hrest⟩ := hs.cons
    obtain ⟨n', v', inc, c, hp, hinv', htl', hcase⟩ := ringN_step h hok hP100 i now e
    have ih' := ih n' v' hinv' (hrest hp htl')
    refine ⟨n', inc, c, hp, ?_⟩
    rcases hcase with ⟨htx, htr, hnx, -⟩ | ⟨b, htx, hit, hsync, htr, -, hkind⟩
    · left
      rw [hnx, htr] at ih'
      exact ⟨htx, ih'⟩
    · right
      have hend : cEnd cfg v'.tr = now + ((cfg.ce (b.length - 1) : Nat) : Int) := by rw [htr]; rfl
      have hsnd : v'.tr.sender = i := by rw [htr]
      rw [hend, hsnd] at ih'
      have hs1 : cEnd cfg v.tr + (cfg.b33 : Nat) ≤ now := by rcases hsync with h1 | ⟨-, h1⟩ <;> omega
      have hs2 : v.tr.sender ≠ i → cEnd cfg v.tr + (cfg.b33 : Nat) < now := by
        intro hne
        rcases hsync with h1 | ⟨hph, -⟩
        · exact h1
        · exfalso
          have hsx := (h.holdT hph).1
          have hturn : v.turn M adr = adr v.x := by unfold NView.turn; rw [hph]
          rw [hturn] at hit
          exact hne (hsx.trans (h.ring.inj i v.x e.ilt h.xlt hit).symm)
      refine ⟨b, htx, hit, hs1, hs2, ?_⟩
      rcases hkind with ⟨g, hb, hg, hnx, -⟩ | ⟨hb, hnx, -⟩ | ⟨hd, pdu, hb, hA, hnx, -, -⟩
      · left; rw [hnx] at ih'; exact ⟨g, hb, hg, ih'⟩
      · right; left; rw [hnx] at ih'; exact ⟨hb, ih'⟩
      · right; right; rw [hnx] at ih'; exact ⟨hd, pdu, hb, hA, ih'⟩

def Net.afterN (n : Net) (evs : List (Nat × Int)) : Net := evs.foldl (fun n e => (n.poll e.1 e.2).1) n

theorem ringN_inv_run {cfg : Cfg} (hok : cfg.Ok) (hP100 : cfg.P ≤ 100000) (M : List Nat) (adr : Nat → Nat) :
    ∀ (evs : List (Nat × Int)) (n : Net) (v : NView), NInv cfg M adr n v → SchedN cfg.P n v.tl evs →
    ∃ v', NInv cfg M adr (n.afterN evs) v' := by
  intro evs
  induction evs with
  | nil => intro n v h _; exact ⟨v, h⟩
  | cons ev rest ih =>
    intro n v h hs
    obtain ⟨i, now⟩ := ev
    obtain ⟨e, hrest⟩ := hs.cons
    obtain ⟨n', v', inc, c, hp, hinv', htl', -⟩ := ringN_step h hok hP100 i now e
    have hn' : (n.poll i now).1 = n' := by rw [hp]
    obtain ⟨v'', h1⟩ := ih n' v' hinv' (hrest hp htl')
    refine ⟨v'', ?_⟩
    show NInv cfg M adr (Net.afterN (n.poll i now).1 rest) v''
    rw [hn']; exact h1

/-- Silence bound: at every event the end of the last transmission lies at most `Tslot + P` back (the longest silence
is the unanswered request), as in the two-station ring. -/
theorem ringN_silence_tight {cfg : Cfg} {M : List Nat} {adr : Nat → Nat} {n : Net} {v : NView} (h : NInv cfg M adr n v)
    (hok : cfg.Ok) (i : Nat) (now : Int) (e : EvOkN cfg n v.tl i now) :
    now ≤ cEnd cfg v.tr + (cfg.slot : Nat) + (cfg.P : Nat) :=
  Int.le_trans (h.now_le_H hok i now e) (h.horizon_tight hok)

/-- Silence bound: at every event the end of the last transmission lies at most `Tslot + 2P + bits 33` back. -/
theorem ringN_silence {cfg : Cfg} {M : List Nat} {adr : Nat → Nat} {n : Net} {v : NView} (h : NInv cfg M adr n v)
    (hok : cfg.Ok) (i : Nat) (now : Int) (e : EvOkN cfg n v.tl i now) : now ≤ cEnd cfg v.tr + (cfg.gmax : Nat) := by
  have := ringN_silence_tight h hok i now e
  unfold Cfg.gmax
  omega

def NoApps (n : Net) : Prop := ∀ st ∈ n.stations, st.apps = []

theorem NoApps.poll {n : Net} (h : NoApps n) (i : Nat) (now : Int) : NoApps (n.poll i now).1 := by
  obtain ⟨bus, inc, -, hp | ⟨st, m, rx, hst, hp⟩ | ⟨st, phy, rx, c, hst, hc, hp⟩⟩ := Net.poll_cases n i now
  · rw [hp]; exact h
  · rw [hp]
    intro st' hst'
    rcases List.mem_or_eq_of_mem_set hst' with hm' | rfl
    · exact h st' hm'
    · exact h st (List.mem_of_getElem? hst)
  · rw [hp]
    intro st' hst'
    rcases List.mem_or_eq_of_mem_set hst' with hm' | rfl
    · exact h st' hm'
    · have := (poll_frame st.s st.apps now _ _ c hc).2
      rw [h st (List.mem_of_getElem? hst)] at this
      exact List.eq_nil_of_length_eq_zero this

/-- What a run of the stable ring WITHOUT applications looks like (`turn`: ADDRESS of the station whose turn it
is, `lastEnd`: end of the last transmission): every poll returns regularly; only the station whose turn it is
transmits; every transmission starts later than 33 bit times after the end of the previous one; it is a GAP
request to an address that is not a member (the turn stays) or the token to the cyclic successor in the
ascending member list (the turn passes to it).  Nobody claims, retries or replies. -/
def GoodRunN (cfg : Cfg) (M : List Nat) (adr : Nat → Nat) : Net → Nat → Int → List (Nat × Int) → Prop
  | _, _, _, [] => True
  | n, turn, lastEnd, (i, now) :: rest =>
    ∃ n' inc c, n.poll i now = (n', inc, some (.ok c)) ∧
      ((c.tx = none ∧ GoodRunN cfg M adr n' turn lastEnd rest) ∨
       (∃ b, c.tx = some b ∧ adr i = turn ∧ lastEnd + (cfg.b33 : Nat) < now ∧
          ((∃ g, b = statusRequestBytes g (adr i) ∧ g ∉ M ∧
              GoodRunN cfg M adr n' (adr i) (now + (cfg.ce (b.length - 1) : Nat)) rest) ∨
           (b = tokenBytes (TokenRing.cycSucc (adr i) M) (adr i) ∧
              GoodRunN cfg M adr n' (TokenRing.cycSucc (adr i) M) (now + (cfg.ce (b.length - 1) : Nat)) rest))))

def PhaseN.plain : PhaseN → Prop
  | .holdT => False
  | .await _ => False
  | _ => True

theorem ringN_run {cfg : Cfg} (hok : cfg.Ok) (hP100 : cfg.P ≤ 100000) (M : List Nat) (adr : Nat → Nat) :
    ∀ (evs : List (Nat × Int)) (n : Net) (v : NView), NInv cfg M adr n v → NoApps n → v.ph.plain →
    SchedN cfg.P n v.tl evs → GoodRunN cfg M adr n (v.turn M adr) (cEnd cfg v.tr) evs := by
  intro evs
  induction evs with
  | nil => intro _ _ _ _ _ _; trivial
  | cons ev rest ih =>
    intro n v h hna hpl hs
    obtain ⟨i, now⟩ := ev
    obtain ⟨e, hrest⟩ := hs.cons
    obtain ⟨n', v', inc, c, hp, hinv', htl', hcase⟩ := ringN_step h hok hP100 i now e
    have hn' : (n.poll i now).1 = n' := by rw [hp]
    have hna' : NoApps n' := by rw [← hn']; exact hna.poll i now
    have hrest := hrest hp htl'
    refine ⟨n', inc, c, hp, ?_⟩
    rcases hcase with ⟨htx, htr, hnx, hph⟩ | ⟨b, htx, hit, hsync, htr, -, hkind⟩
    · left
      have hpl' : v'.ph.plain := by
        rcases hph with ⟨hph, -, -⟩ | ⟨-, hph, -, -⟩
        · rw [hph]; exact hpl
        · rw [hph]; trivial
      have ih' := ih n' v' hinv' hna' hpl' hrest
      rw [hnx, htr] at ih'
      exact ⟨htx, ih'⟩
    · right
      have hend : cEnd cfg v'.tr = now + ((cfg.ce (b.length - 1) : Nat) : Int) := by rw [htr]; rfl
      have hs1 : cEnd cfg v.tr + (cfg.b33 : Nat) < now := by
        rcases hsync with h1 | ⟨hph, -⟩
        · exact h1
        · rw [hph] at hpl; exact absurd hpl (by simp [PhaseN.plain])
      refine ⟨b, htx, hit, hs1, ?_⟩
      rcases hkind with ⟨g, hb, hg, hnx, hph, -⟩ | ⟨hb, hnx, hph⟩ | ⟨hd, pdu, hb, hA, hnx, -, hfin, -⟩
      · left
        have ih' := ih n' v' hinv' hna' (by rw [hph]; trivial) hrest
        rw [hnx, hend] at ih'
        exact ⟨g, hb, hg, ih'⟩
      · right
        have ih' := ih n' v' hinv' hna' (by rw [hph]; trivial) hrest
        rw [hnx, hend] at ih'
        exact ⟨hb, ih'⟩
      · exfalso
        obtain ⟨st, hst⟩ : ∃ st, n.stations[i]? = some st := ⟨_, List.getElem?_eq_getElem e.ilt⟩
        have hsa := hna st (List.mem_of_getElem? hst)
        exact hfin st hst (fun _ _ => False) (by rw [hsa]; intro s hs; cases hs)

end PV
