/-
Timed ring with application traffic: the hold-time logic bounds the real rotation time.  The station-local
step (`rot_core`, any number of stations), the timing invariant `TInv` of the two-station ring and what a run
with bounded rotation looks like (`RotRun`); the ring-level step, for any number of stations and with the
two-station ring as a case, is in `TimedRingRotN`.  For the ring-level clause of C13.
-/
import ProfiVerif.Lemmas.TimedRingNSys
import ProfiVerif.Lemmas.TimedRingHold

namespace PV
open TokenRing

/-- Longest telegram time (255 characters). -/
def Cfg.tmax (c : Cfg) : Nat := bitsToTime c.rate (11 * 255)
/-- Longest message cycle as seen by the schedule: telegram, slot time, one poll gap. -/
def Cfg.cyc (c : Cfg) : Nat := c.tmax + c.slot + c.P
/-- An unanswered GAP request: request, slot time, one poll gap. -/
def Cfg.gapT (c : Cfg) : Nat := c.b66 + c.slot + c.P
/-- Token transfer: the token telegram and one poll gap. -/
def Cfg.hand (c : Cfg) : Nat := c.ce 2 + c.P
/-- **Per-station overshoot**: one message cycle, one GAP request, one token transfer. -/
def Cfg.over (c : Cfg) : Nat := c.cyc + c.gapT + c.hand

/-- Latest start of the last transmit-poll of a visit accepted at `acc` with hold deadline at most `Eb`: a message
cycle starts before the deadline, or is the guaranteed first one, right after the synchronisation pause
(`acc + bits 33`, found one poll gap `P` later); each is over one `cyc` later. -/
def qb (cfg : Cfg) (acc Eb : Int) : Int := max Eb (acc + (cfg.b33 : Nat) + (cfg.P : Nat)) + (cfg.cyc : Nat)

/-- Bookkeeping of a station that uses the token of the visit begun at `acc`, deadline at most `Eb`. -/
def UseT (s : Station) (acc Eb : Int) : Prop :=
  visitTime s.st = some acc ∧ lateFlag s.st = true ∧ s.lastTokenTime = acc ∧ s.endTokenHoldTime ≤ Eb

/-- Phase-specific part of the timing invariant (`s` the station whose turn it is, `H` the horizon,
`start` the start of the last transmission). -/
def TPh (cfg : Cfg) (ph : PhaseN) (s : Station) (H start acc Eb : Int) : Prop :=
  match ph with
  | .hold p1 => p1 = acc ∧ visitTime s.st = some acc ∧
      ((s.lastTokenTime = acc ∧ s.endTokenHoldTime ≤ Eb) ∨
       (s.lastTokenTime ≠ acc ∧ s.lastTokenTime + ((s.p.ttrTime : Nat) : Int) ≤ Eb))
  | .holdT => UseT s acc Eb ∧ H ≤ qb cfg acc Eb ∧ acc < start
  | .await _ => UseT s acc Eb ∧ H ≤ qb cfg acc Eb ∧ acc < start
  | .gap _ => s.lastTokenTime = acc ∧ H ≤ qb cfg acc Eb + (cfg.gapT : Nat) ∧ acc < start
  | .pass => s.lastTokenTime = acc ∧ start ≤ qb cfg acc Eb + (cfg.gapT : Nat) ∧ acc < start

/-- **Timing invariant of the two-station ring** (`acc` = when the station whose turn it is accepted the
token, `Eb` = bound of its hold deadline, `TT` = largest target rotation time). -/
structure TInv (cfg : Cfg) (TT : Nat) (n : Net) (v : NView) (acc Eb : Int) : Prop where
  two : n.stations.length = 2
  ttr : ∀ (j : Nat) (st : NetStation), n.stations[j]? = some st → st.s.p.ttrTime ≤ TT
  big : cfg.b33 + cfg.P ≤ TT
  oth : ∃ sy, n.stations[1 - v.x]? = some sy ∧ Eb ≤ sy.s.lastTokenTime + (TT : Int) ∧
    acc ≤ sy.s.lastTokenTime + (TT : Int) + (cfg.over : Nat) ∧ sy.s.lastTokenTime ≤ acc
  seen : acc ≤ n.bus.seen.getD v.x 0
  ph : TPh cfg v.ph v.sx.s v.H v.tr.start acc Eb

theorem LOk.ringState {cfg : Cfg} {M : List Nat} {adr : Nat → Nat} {b : Bus} {H Lo : Int} {j : Nat} {st : NetStation}
    (h : LOk cfg M adr b H Lo j st) : RingState st.s.st ∧ visitTime st.s.st = none ∧ st.s.online = true := by
  obtain ⟨dn, rs, idle, l, hX⟩ := LOkX.ofLOk h
  rcases hX.listens.cases with ⟨np, coll, hs⟩ | hs
  · exact ⟨.inl ⟨_, _, _, hs⟩, by rw [hs]; rfl, hX.ok.son⟩
  · exact ⟨.inr (.inl ⟨_, hs⟩), by rw [hs]; rfl, hX.ok.son⟩

def Cfg.rot (c : Cfg) (TT : Nat) : Nat := TT + 2 * c.over + c.b33 + c.P

theorem NInv.xState {cfg : Cfg} {M : List Nat} {adr : Nat → Nat} {n : Net} {v : NView} (h : NInv cfg M adr n v) :
    RingState v.sx.s.st := by
  cases hph : v.ph with
  | hold p1 => obtain ⟨⟨d, f, hs⟩, -⟩ := h.hold hph; exact .inr (.inr (.inr (.inl ⟨d, f, hs⟩)))
  | holdT => obtain ⟨-, -, ⟨d, f, hs⟩, -⟩ := h.holdT hph; exact .inr (.inr (.inr (.inl ⟨d, f, hs⟩)))
  | gap g => obtain ⟨-, -, hs, -⟩ := h.gap hph; exact .inr (.inr (.inl ⟨g, hs⟩))
  | pass => obtain ⟨-, -, hs, -⟩ := h.pass hph; exact .inr (.inl ⟨_, hs⟩)
  | await a => obtain ⟨-, -, ⟨d, hs⟩, -⟩ := h.await hph; exact .inr (.inr (.inr (.inr ⟨a, d, hs⟩)))

theorem NInv.xVisit {cfg : Cfg} {M : List Nat} {adr : Nat → Nat} {n : Net} {v : NView} (h : NInv cfg M adr n v) :
    (v.ph.useLike → visitTime v.sx.s.st ≠ none) ∧ (¬ v.ph.useLike → visitTime v.sx.s.st = none) := by
  cases hph : v.ph with
  | hold p1 =>
    obtain ⟨⟨d, f, hs⟩, -⟩ := h.hold hph
    exact ⟨fun _ => by rw [hs]; simp [visitTime], fun hn => absurd trivial hn⟩
  | holdT =>
    obtain ⟨-, -, ⟨d, f, hs⟩, -⟩ := h.holdT hph
    exact ⟨fun _ => by rw [hs]; simp [visitTime], fun hn => absurd trivial hn⟩
  | gap g =>
    obtain ⟨-, -, hs, -⟩ := h.gap hph
    exact ⟨fun hu => hu.elim, fun _ => by rw [hs]; rfl⟩
  | pass =>
    obtain ⟨-, -, hs, -⟩ := h.pass hph
    exact ⟨fun hu => hu.elim, fun _ => by rw [hs]; rfl⟩
  | await a =>
    obtain ⟨-, -, ⟨d, hs⟩, -⟩ := h.await hph
    exact ⟨fun _ => by rw [hs]; simp [visitTime], fun hn => absurd trivial hn⟩

theorem tmax_bound (cfg : Cfg) (k : Nat) (hk : k ≤ 255) : bitsToTime cfg.rate (11 * k) ≤ cfg.tmax := by
  unfold Cfg.tmax bitsToTime
  apply Nat.div_le_div_right
  apply Nat.mul_le_mul_right
  omega

theorem qb_ge (cfg : Cfg) (acc Eb : Int) :
    Eb + (cfg.cyc : Nat) ≤ qb cfg acc Eb ∧ acc + (cfg.b33 : Nat) + (cfg.P : Nat) + (cfg.cyc : Nat) ≤ qb cfg acc Eb := by
  unfold qb; omega

/-- Station-local part of the timing invariant (parameters as in `TInv`). -/
structure TCore (cfg : Cfg) (TT : Nat) (n : Net) (v : NView) (acc Eb : Int) : Prop where
  ttr : ∀ (j : Nat) (st : NetStation), n.stations[j]? = some st → st.s.p.ttrTime ≤ TT
  big : cfg.b33 + cfg.P ≤ TT
  seen : acc ≤ n.bus.seen.getD v.x 0
  ph : TPh cfg v.ph v.sx.s v.H v.tr.start acc Eb

theorem ttr_set {n n' : Net} {TT i : Nat} {st : NetStation} {c : Ctx}
    (ht : ∀ (j : Nat) (st : NetStation), n.stations[j]? = some st → st.s.p.ttrTime ≤ TT)
    (hst : n.stations[i]? = some st) (hp : c.s.p = st.s.p) (hset : n'.stations = n.stations.set i (upSt st c)) :
    ∀ (j : Nat) (st' : NetStation), n'.stations[j]? = some st' → st'.s.p.ttrTime ≤ TT := by
  intro j st' hj
  rw [hset] at hj
  by_cases hji : j = i
  · rw [hji, List.getElem?_set_self (List.getElem?_eq_some_iff.1 hst).1] at hj
    cases hj
    show c.s.p.ttrTime ≤ TT
    rw [hp]; exact ht _ _ hst
  · rw [List.getElem?_set_ne (Ne.symm hji)] at hj; exact ht _ _ hj

/-- `rot_core` when the station whose turn it is is polled.  The arithmetic is the budget of `TPh`: a poll of the visit that
transmits comes by `qb` (`useTx`); an application telegram is the guaranteed first one or starts before the deadline
(`rel.guard`), so the horizon, at most its start + `cyc`, stays `≤ qb`; a GAP request moves it to at most `qb + gapT`, and
the token leaves by `qb + gapT`. -/
theorem rot_coreB {cfg : Cfg} {M : List Nat} {adr : Nat → Nat} {n : Net} {v : NView} (h : NInv cfg M adr n v)
    (hok : cfg.Ok) {TT : Nat} {acc Eb : Int} (t : TCore cfg TT n v acc Eb) (now : Int)
    (e : EvOkN cfg n v.tl v.x now) (n' : Net) (v' : NView) (inc : Bytes) (c : Ctx)
    (hp : n.poll v.x now = (n', inc, some (.ok c))) (hinv' : NInv cfg M adr n' v')
    (hcase : (c.tx = none ∧ v'.tr = v.tr ∧ v'.ph = v.ph ∧ v'.x = v.x ∧ v'.H = v.H) ∨
      (∃ b, c.tx = some b ∧ v'.tr = { start := now, sender := v.x, bytes := b, dropped := false } ∧ v'.x = v.x ∧
        ((∃ g, v'.ph = .gap g ∧ v.ph.useLike) ∨ (v'.ph = .pass ∧ v.ph ≠ .pass) ∨
         (∃ hd pdu, b = frameSpec hd pdu ∧ hd.lengthByte pdu.length ≤ 249 ∧ (v'.ph = .holdT ∨ ∃ a, v'.ph = .await a) ∧
            v.ph.useLike)))) :
    TCore cfg TT n' v' acc Eb ∧ v'.x = v.x ∧ n'.stations = n.stations.set v.x (upSt v.sx c) ∧
      (∀ st, n.stations[v.x]? = some st → visitTime st.s.st = none → visitTime c.s.st = some now → False) := by
  obtain ⟨-, st, hst, hset, hpoll⟩ := Net.poll_bus n v.x now n' inc c hp
  rw [h.gx] at hst
  cases hst
  have hil : v.x < n.stations.length := h.xlt
  have hfr := (poll_frame v.sx.s v.sx.apps now _ _ c hpoll).1
  have hseen : n'.bus.seen = n.bus.seen.set v.x now := Net.poll_seen_of hp
  have httr' := ttr_set t.ttr h.gx hfr hset
  have rel := poll_holdRel v.sx.s v.sx.apps now _ _ c h.okx.son h.xState hpoll
  have hxs : v.x < n.bus.seen.length := by rw [h.log.seen]; exact h.xlt
  have hacc : acc < now := by have := t.seen; have := e.own; omega
  have hgx' := hinv'.gx
  have hx' : v'.x = v.x := by
    rcases hcase with ⟨-, -, -, hx, -⟩ | ⟨b, -, -, hx, -⟩ <;> exact hx
  have hsx' : v'.sx = upSt v.sx c := by
    rw [hx', hset, List.getElem?_set_self hil] at hgx'
    exact (Option.some.inj hgx').symm
  have hcs : v'.sx.s = c.s := by rw [hsx']; rfl
  have hseen' : acc ≤ n'.bus.seen.getD v'.x 0 := by
    rw [hx', hseen, seen_set_self _ _ _ hxs]; omega
  have hHnow := h.now_le_H hok v.x now e
  have hT := t.ph
  have hnv : ¬ v.ph.useLike → c.s.lastTokenTime = v.sx.s.lastTokenTime := fun hnu => (rel.keep (h.xVisit.2 hnu)).1
  have hv'vis : v'.ph.useLike → visitTime c.s.st ≠ none := fun hu => by rw [← hcs]; exact hinv'.xVisit.1 hu
  have hbnd : ∀ st0, n.stations[v.x]? = some st0 → visitTime st0.s.st = none → visitTime c.s.st = some now →
      v'.ph.useLike := by
    intro st0 hst0 hvn hvs
    apply Classical.byContradiction
    intro hnu'
    have := hinv'.xVisit.2 hnu'
    rw [hcs, hvs] at this
    cases this
  rcases hcase with ⟨htx, htr, hph, -, hH'⟩ | ⟨b, htx, htr, -, hkind⟩
  · -- nothing transmitted: the phase is the same
    have hcls : ∀ (hvis : visitTime v.sx.s.st = some acc), visitTime c.s.st ≠ none →
        visitTime c.s.st = some acc ∧ (lateFlag v.sx.s.st = true → lateFlag c.s.st = true) := by
      intro hvis hnn
      rcases rel.cls acc hvis with a1 | a2 | a3 | ⟨da, sa, a4⟩
      · rw [a1.1]; exact ⟨hvis, id⟩
      · exact ⟨a2.1, fun _ => a2.2⟩
      · exact absurd a3 hnn
      · rw [htx] at a4; cases a4
    have happ : v.ph.useLike → UseT v.sx.s acc Eb → UseT c.s acc Eb := by
      rintro hu ⟨hvis, hfl, hLx, hE⟩
      obtain ⟨b1, b2⟩ := hcls hvis (hv'vis (by rw [hph]; exact hu))
      obtain ⟨u1, u2⟩ := rel.bk_rec hvis ⟨hLx, hE⟩
      exact ⟨b1, b2 hfl, u1, u2⟩
    refine ⟨⟨httr', t.big, hseen', ?_⟩, hx', hset, ?_⟩
    · rw [hph, hcs, hH', htr]
      cases hv : v.ph with
      | hold p1 =>
        rw [hv] at hT
        obtain ⟨hp1, hvis, halt⟩ := hT
        exact ⟨hp1, (hcls hvis (hv'vis (by rw [hph, hv]; trivial))).1, rel.bk hfr hvis halt⟩
      | holdT =>
        rw [hv] at hT
        exact ⟨happ (by rw [hv]; trivial) hT.1, hT.2⟩
      | await a =>
        rw [hv] at hT
        exact ⟨happ (by rw [hv]; trivial) hT.1, hT.2⟩
      | gap g =>
        rw [hv] at hT
        exact ⟨by rw [hnv (by rw [hv]; simp [PhaseN.useLike])]; exact hT.1, hT.2⟩
      | pass =>
        rw [hv] at hT
        exact ⟨by rw [hnv (by rw [hv]; simp [PhaseN.useLike])]; exact hT.1, hT.2⟩
    · intro st0 hst0 hvn hvs
      rw [h.gx] at hst0
      cases hst0
      have hu' := hbnd _ h.gx hvn hvs
      rw [hph] at hu'
      exact h.xVisit.1 hu' hvn
  · -- something transmitted
    have htxn : c.tx ≠ none := by rw [htx]; simp
    have hstart : v'.tr.start = now := by rw [htr]
    -- a visit phase that transmits: receipt recorded, and the transmission starts in time
    have useTx : v.ph.useLike → visitTime v.sx.s.st = some acc ∧ c.s.lastTokenTime = acc ∧ c.s.endTokenHoldTime ≤ Eb ∧
        now ≤ qb cfg acc Eb ∧
        (now + (cfg.cyc : Nat) ≤ qb cfg acc Eb ∨ (lateFlag v.sx.s.st = true)) := by
      intro hu
      have hq := qb_ge cfg acc Eb
      cases hv : v.ph with
      | hold p1 =>
        rw [hv] at hT
        obtain ⟨hp1, hvis, halt⟩ := hT
        obtain ⟨-, -, -, -, -, -, hH, -⟩ := h.hold hv
        obtain ⟨u1, u2⟩ := rel.bk_tx hfr hvis halt htxn
        exact ⟨hvis, u1, u2, by omega, .inl (by omega)⟩
      | holdT =>
        rw [hv] at hT
        obtain ⟨⟨hvis, hfl, hLx, hE⟩, hH, hs0⟩ := hT
        obtain ⟨u1, u2⟩ := rel.bk_rec hvis ⟨hLx, hE⟩
        exact ⟨hvis, u1, u2, by omega, .inr hfl⟩
      | await a =>
        rw [hv] at hT
        obtain ⟨⟨hvis, hfl, hLx, hE⟩, hH, hs0⟩ := hT
        obtain ⟨u1, u2⟩ := rel.bk_rec hvis ⟨hLx, hE⟩
        exact ⟨hvis, u1, u2, by omega, .inr hfl⟩
      | gap g => rw [hv] at hu; exact hu.elim
      | pass => rw [hv] at hu; exact hu.elim
    refine ⟨⟨httr', t.big, hseen', ?_⟩, hx', hset, ?_⟩
    rotate_left
    · intro st0 hst0 hvn hvs
      rw [h.gx] at hst0
      cases hst0
      have hnu : ¬ v.ph.useLike := fun hu => h.xVisit.1 hu hvn
      have hu' := hbnd _ h.gx hvn hvs
      rcases hkind with ⟨g, hg, hu⟩ | ⟨hpass, -⟩ | ⟨hd, pdu, -, -, -, hu⟩
      · exact hnu hu
      · rw [hpass] at hu'; exact hu'
      · exact hnu hu
    rw [hcs, hstart]
    rcases hkind with ⟨g, hg, hu⟩ | ⟨hpass, hnp⟩ | ⟨hd, pdu, hb, hlb, hnew, hu⟩
    · -- GAP request
      obtain ⟨-, hl, -, hq, -⟩ := useTx hu
      obtain ⟨-, -, -, -, -, -, hH', -⟩ := hinv'.gap hg
      rw [hstart] at hH'
      rw [hg]
      refine ⟨hl, ?_, hacc⟩
      unfold Cfg.gapT
      push_cast
      omega
    · -- token
      rw [hpass]
      by_cases hu : v.ph.useLike
      · obtain ⟨-, hl, -, hq, -⟩ := useTx hu
        exact ⟨hl, by omega, hacc⟩
      · cases hv : v.ph with
        | gap g =>
          rw [hv] at hT
          obtain ⟨hLx, hH, hs0⟩ := hT
          exact ⟨by rw [hnv hu]; exact hLx, by omega, hacc⟩
        | pass => exact absurd hv hnp
        | hold p1 => rw [hv] at hu; exact absurd trivial hu
        | holdT => rw [hv] at hu; exact absurd trivial hu
        | await a => rw [hv] at hu; exact absurd trivial hu
    · -- application telegram
      obtain ⟨hvis, hl, hE, hq, hcy⟩ := useTx hu
      have hlen : b.length ≤ 255 := by
        rw [hb, frame_length]; unfold Header.telegramLen; simp only; split <;> omega
      have htm := tmax_bound cfg b.length hlen
      have hte : tEnd cfg v'.tr = now + ((bitsToTime cfg.rate (11 * b.length) : Nat) : Int) := by rw [htr]; rfl
      have hu' : v'.ph.useLike := by rcases hnew with hn | ⟨a, hn⟩ <;> rw [hn] <;> trivial
      have hvf : visitTime c.s.st = some acc ∧ lateFlag c.s.st = true := by
        rcases rel.cls acc hvis with a1 | a2 | a3 | ⟨da, sa, a4⟩
        · exact absurd a1.2 htxn
        · exact a2
        · exact absurd a3 (hv'vis hu')
        · rw [htx] at a4
          exact absurd (Option.some.inj a4) (by rw [hb]; exact frameSpec_ne_sendToken hd pdu da sa)
      have hgu : now + (cfg.cyc : Nat) ≤ qb cfg acc Eb := by
        rcases hcy with hcy | hfl
        · exact hcy
        · rcases rel.guard htxn hvf.2 with g1 | g2
          · have := (qb_ge cfg acc Eb).1; omega
          · rw [hfl] at g2; cases g2
      -- in both new phases the horizon is the predicted end plus a waiting time of at most a slot time and `P`
      have hH' : v'.H ≤ now + ((bitsToTime cfg.rate (11 * b.length) : Nat) : Int) + (cfg.slot : Nat) + (cfg.P : Nat) := by
        have hmar := hok.margin
        rcases hnew with hn | ⟨a, hn⟩
        · obtain ⟨-, -, -, -, -, -, hH', -⟩ := hinv'.holdT hn
          rw [hte] at hH'
          omega
        · obtain ⟨-, -, -, -, -, -, hH', -⟩ := hinv'.await hn
          rw [hte] at hH'
          omega
      have hqb : v'.H ≤ qb cfg acc Eb := by
        unfold Cfg.cyc at hgu
        push_cast at hgu
        omega
      rcases hnew with hn | ⟨a, hn⟩
      · rw [hn]; exact ⟨⟨hvf.1, hvf.2, hl, hE⟩, hqb, hacc⟩
      · rw [hn]; exact ⟨⟨hvf.1, hvf.2, hl, hE⟩, hqb, hacc⟩

/-- `rot_core` when another station `i` is polled: it stays a listener, or accepts the token, which left by `qb + gapT`
(`TPh`, phase `pass`), at most one `hand` later: `qb + gapT + hand = max Eb (acc + bits 33 + P) + over` (`hbound`). -/
theorem rot_coreA {cfg : Cfg} {M : List Nat} {adr : Nat → Nat} {n : Net} {v : NView} (h : NInv cfg M adr n v)
    {TT : Nat} {acc Eb : Int} (t : TCore cfg TT n v acc Eb) (i : Nat) (now : Int)
    (e : EvOkN cfg n v.tl i now) (hix : i ≠ v.x) (n' : Net) (v' : NView) (inc : Bytes) (c : Ctx)
    (hp : n.poll i now = (n', inc, some (.ok c))) (hinv' : NInv cfg M adr n' v')
    (hcase : c.tx = none ∧ v'.tr = v.tr ∧
      ((v'.ph = v.ph ∧ v'.x = v.x ∧ v'.H = v.H) ∨ (v.ph = .pass ∧ v'.ph = .hold now ∧ v'.x = i ∧ i ≠ v.x))) :
    ∃ st, n.stations[i]? = some st ∧ n'.stations = n.stations.set i (upSt st c) ∧
      c.s.lastTokenTime = st.s.lastTokenTime ∧
      ((TCore cfg TT n' v' acc Eb ∧ v'.x = v.x ∧
          (visitTime st.s.st = none → visitTime c.s.st = some now → False)) ∨
       (v.ph = .pass ∧ v'.ph = .hold now ∧ v'.x = i ∧ v.sx.s.lastTokenTime = acc ∧ acc < now ∧
          now ≤ max Eb (acc + (cfg.b33 : Nat) + (cfg.P : Nat)) + (cfg.over : Nat) ∧
          (st.s.lastTokenTime < now →
            TCore cfg TT n' v' now (st.s.lastTokenTime + ((st.s.p.ttrTime : Nat) : Int))))) := by
  obtain ⟨-, st, hst, hset, hpoll⟩ := Net.poll_bus n i now n' inc c hp
  have hil : i < n.stations.length := e.ilt
  have hfr := (poll_frame st.s st.apps now _ _ c hpoll).1
  have hseen : n'.bus.seen = n.bus.seen.set i now := Net.poll_seen_of hp
  have hlen' : n'.stations.length = n.stations.length := by rw [hset, List.length_set]
  have httr' := ttr_set t.ttr hst hfr hset
  obtain ⟨st2, hst2, hL⟩ := h.lis i hil hix
  rw [hst] at hst2
  cases hst2
  obtain ⟨hrs, hvn, hon⟩ := hL.ringState
  have rel := poll_holdRel st.s st.apps now _ _ c hon hrs hpoll
  have hk := rel.keep hvn
  obtain ⟨htx, htr, hview⟩ := hcase
  have hgx' := hinv'.gx
  have hxs : v.x < n.bus.seen.length := by rw [h.log.seen]; exact h.xlt
  have his : i < n.bus.seen.length := by rw [h.log.seen]; exact hil
  refine ⟨st, hst, hset, hk.1, ?_⟩
  rcases hview with ⟨hph, hx', hH'⟩ | ⟨hpass, hph', hx', -⟩
  · -- stays a listener
    left
    have hsx' : v'.sx = v.sx := by
      rw [hx', hset, List.getElem?_set_ne hix, h.gx] at hgx'
      exact (Option.some.inj hgx').symm
    refine ⟨⟨httr', t.big, ?_, ?_⟩, hx', ?_⟩
    · rw [hx', hseen, seen_set_other _ _ _ _ hix]; exact t.seen
    · rw [hph, hsx', hH', htr]; exact t.ph
    · intro _ hvs
      obtain ⟨st3, hst3, hL3⟩ := hinv'.lis i (by rw [hlen']; exact hil) (by rw [hx']; exact hix)
      rw [hset, List.getElem?_set_self hil] at hst3
      cases hst3
      have hc : visitTime c.s.st = none := hL3.ringState.2.1
      rw [hc] at hvs; cases hvs
  · -- accepts the token
    right
    have hsx' : v'.sx = upSt st c := by
      rw [hx', hset, List.getElem?_set_self hil] at hgx'
      exact (Option.some.inj hgx').symm
    obtain ⟨-, hbytes, -⟩ := h.pass hpass
    have hce := cEnd_token cfg hbytes
    obtain ⟨⟨d, f, hcs⟩, -, -, -, -, -, -, -, hlate⟩ := hinv'.hold hph'
    rw [htr, hce] at hlate
    have hT := t.ph
    rw [hpass] at hT
    obtain ⟨hLx, hstart, haccs⟩ := hT
    have htl := h.tlt v.tr (by rw [h.txs]; simp)
    have hnow := e.tl
    have hbound : now ≤ max Eb (acc + (cfg.b33 : Nat) + (cfg.P : Nat)) + (cfg.over : Nat) := by
      unfold qb at hstart
      unfold Cfg.over Cfg.hand
      push_cast
      omega
    refine ⟨hpass, hph', hx', hLx, by omega, hbound, ?_⟩
    intro hlt
    refine ⟨httr', t.big, ?_, ?_⟩
    · rw [hx', hseen, seen_set_self _ _ _ his]; exact Int.le_refl _
    · rw [hph', hsx']
      refine ⟨rfl, ?_, .inr ⟨?_, ?_⟩⟩
      · show visitTime c.s.st = some now
        have hc' : v'.sx.s.st = c.s.st := by rw [hsx']; rfl
        rw [hc'] at hcs
        rcases rel.vis with a1 | a2 | a3 | a3
        · rw [a1] at hcs; rw [hcs] at hvn; simp [visitTime] at hvn
        · exact absurd hvn a2.2.1
        · rw [hcs] at a3; simp [visitTime] at a3
        · exact a3.1
      · show c.s.lastTokenTime ≠ now; rw [hk.1]; omega
      · show c.s.lastTokenTime + ((c.s.p.ttrTime : Nat) : Int) ≤ _; rw [hk.1, hfr]; exact Int.le_refl _

/-- One event and the station-local timing facts (any number of stations).  The polled station `i` (record
`st` before the poll) either does not accept the token — the station-local part is kept with the same `acc`,
`Eb`, and a listener's `last_token_time` is untouched — or it is the successor accepting the token the holder
passed: no later than `max(Eb, acc + bits 33 + P) + over`, and the station-local part holds for it with its own
previous receipt + TTR as deadline bound. -/
theorem rot_core {cfg : Cfg} {M : List Nat} {adr : Nat → Nat} {n : Net} {v : NView} (h : NInv cfg M adr n v)
    (hok : cfg.Ok) (hP100 : cfg.P ≤ 100000) {TT : Nat} {acc Eb : Int} (t : TCore cfg TT n v acc Eb) (i : Nat) (now : Int)
    (e : EvOkN cfg n v.tl i now) :
    ∃ n' v' inc c st, n.poll i now = (n', inc, some (.ok c)) ∧ NInv cfg M adr n' v' ∧ v'.tl = now ∧
      n.stations[i]? = some st ∧ n'.stations = n.stations.set i (upSt st c) ∧
      ((TCore cfg TT n' v' acc Eb ∧ v'.x = v.x ∧ (i ≠ v.x → c.s.lastTokenTime = st.s.lastTokenTime) ∧
          (visitTime st.s.st = none → visitTime c.s.st = some now → False)) ∨
       (i ≠ v.x ∧ v'.x = i ∧ adr i = cycSucc (adr v.x) M ∧ c.s.lastTokenTime = st.s.lastTokenTime ∧
          v.sx.s.lastTokenTime = acc ∧ acc < now ∧
          now ≤ max Eb (acc + (cfg.b33 : Nat) + (cfg.P : Nat)) + (cfg.over : Nat) ∧
          (st.s.lastTokenTime < now →
            TCore cfg TT n' v' now (st.s.lastTokenTime + ((st.s.p.ttrTime : Nat) : Int))))) := by
  obtain ⟨n', v', inc, c, hp, hinv', htl', hcase⟩ := ringN_step h hok hP100 i now e
  by_cases hix : i = v.x
  · subst hix
    obtain ⟨hcore, hx', hset, hbnd⟩ := rot_coreB h hok t now e n' v' inc c hp hinv' (by
      rcases hcase with ⟨htx, htr, -, ⟨hph, hx, hH⟩ | ⟨-, -, -, hne⟩⟩ | ⟨b, htx, hit, -, htr, ⟨-, hx⟩, hkind⟩
      · exact .inl ⟨htx, htr, hph, hx, hH⟩
      · exact absurd rfl hne
      · refine .inr ⟨b, htx, htr, hx, ?_⟩
        rcases hkind with ⟨g, -, -, -, hph, hu⟩ | ⟨-, -, hph⟩ | ⟨hd, pdu, hb, -, -, hnew, hfin, hu⟩
        · exact .inl ⟨g, hph, hu⟩
        · refine .inr (.inl ⟨hph, ?_⟩)
          intro hpass
          unfold NView.turn at hit
          rw [hpass] at hit
          exact h.ring.two _ (h.ring.mem v.x h.xlt) hit.symm
        · exact .inr (.inr ⟨hd, pdu, hb, hfin v.sx h.gx _ (scriptsOk_ansOk h.okx.inv.scripts), hnew, hu⟩))
    exact ⟨n', v', inc, c, v.sx, hp, hinv', htl', h.gx, hset,
      .inl ⟨hcore, hx', fun hne => absurd rfl hne, hbnd v.sx h.gx⟩⟩
  · have hc1 : c.tx = none ∧ v'.tr = v.tr ∧ v'.turn M adr = v.turn M adr ∧
        ((v'.ph = v.ph ∧ v'.x = v.x ∧ v'.H = v.H) ∨ (v.ph = .pass ∧ v'.ph = .hold now ∧ v'.x = i ∧ i ≠ v.x)) := by
      rcases hcase with hc | ⟨b, -, -, -, -, ⟨hiv, -⟩, -⟩
      · exact hc
      · exact absurd hiv hix
    obtain ⟨htx, htr, hnx, hview⟩ := hc1
    obtain ⟨st, hst, hset, hkL, hres⟩ := rot_coreA h t i now e hix n' v' inc c hp hinv' ⟨htx, htr, hview⟩
    refine ⟨n', v', inc, c, st, hp, hinv', htl', hst, hset, ?_⟩
    rcases hres with ⟨hcore, hx', hno⟩ | ⟨hpass, hph', hx', hLx, haccnow, hbound, hcoreF⟩
    · exact .inl ⟨hcore, hx', fun _ => hkL, hno⟩
    · refine .inr ⟨hix, hx', ?_, hkL, hLx, haccnow, hbound, hcoreF⟩
      unfold NView.turn at hnx
      rw [hph', hpass] at hnx
      simp only at hnx
      rw [hx'] at hnx
      exact hnx

/-- Along a run: every poll returns regularly, and whenever a station accepts the token (its poll takes it
from a state outside a token visit into `UseToken` with `token_time = now`), the time since its previous
token receipt is at most `B`. -/
def RotRun (B : Nat) : Net → List (Nat × Int) → Prop
  | _, [] => True
  | n, (i, now) :: rest =>
    ∃ n' inc c, n.poll i now = (n', inc, some (.ok c)) ∧
      (∀ st, n.stations[i]? = some st → visitTime st.s.st = none → visitTime c.s.st = some now →
        now ≤ st.s.lastTokenTime + (B : Int)) ∧
      RotRun B n' rest

end PV
