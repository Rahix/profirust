/-
Timed ring with application traffic, any number of stations: the hold-time logic bounds the real rotation
time.  One step theorem (`rotG_step`) for the invariant `TInvG`, whose slack `σ ≤ bits 33 + P` is subtracted from
the age allowed to a listener's last token receipt: `σ = 0` is `TInvN` and gives `TT + N·share`; for two stations
`σ = bits 33 + P` is `TInv` and gives `Cfg.rot`.  For the ring-level clause of C13.
-/
import ProfiVerif.Lemmas.TimedRingRot

namespace PV
open TokenRing

/-- Index of the ring successor when the stations are numbered in ascending address order (`succ_sorted`). -/
def nx (N i : Nat) : Nat := if i + 1 < N then i + 1 else 0
/-- Number of token passes from station `j` to station `x`. -/
def dist (N x j : Nat) : Nat := if j ≤ x then x - j else x + N - j

theorem succ_sorted {M : List Nat} {adr : Nat → Nat} {N : Nat} (hR : RingCfg M adr N)
    (hsort : ∀ i j, i < j → j < N → adr i < adr j) (i : Nat) (hi : i < N) : adr (nx N i) = cycSucc (adr i) M := by
  have hle : ∀ a b, a ≤ b → b < N → adr a ≤ adr b := by
    intro a b hab hb
    rcases Nat.lt_or_ge a b with h | h
    · exact Nat.le_of_lt (hsort a b h hb)
    · have : a = b := by omega
      rw [this]; exact Nat.le_refl _
  unfold nx
  by_cases h1 : i + 1 < N
  · rw [if_pos h1]
    obtain ⟨hm, hgt, hmin⟩ := cycSucc_above ⟨adr (i + 1), hR.mem _ h1, hsort i (i + 1) (by omega) h1⟩
    obtain ⟨k, hk, ek⟩ := hR.surj _ hm
    have hki : i < k := by
      rcases Nat.lt_or_ge i k with h | h
      · exact h
      · have := hle k i h hi; omega
    have hk1 := hmin (adr (i + 1)) (hR.mem _ h1) (hsort i (i + 1) (by omega) h1)
    rcases Nat.lt_or_ge (i + 1) k with h | h
    · have := hsort (i + 1) k h hk; omega
    · have : k = i + 1 := by omega
      rw [← ek, this]
  · rw [if_neg h1]
    have hall : ∀ a ∈ M, a ≤ adr i := by
      intro a ha
      obtain ⟨k, hk, ek⟩ := hR.surj a ha
      rw [← ek]; exact hle k i (by omega) hi
    obtain ⟨hm, hmin⟩ := cycSucc_wrap hall ⟨adr i, hR.mem i hi⟩
    obtain ⟨k, hk, ek⟩ := hR.surj _ hm
    have h0 := hmin (adr 0) (hR.mem 0 (by omega))
    rcases Nat.eq_zero_or_pos k with h | h
    · rw [← ek, h]
    · have := hsort 0 k h hk; omega

/-- Station `j`'s `lastTokenTime`: when it last accepted the token (`0` for an index out of range, never read). -/
def Lt (n : Net) (j : Nat) : Int :=
  match n.stations[j]? with
  | some st => st.s.lastTokenTime
  | none => 0

theorem Lt_of {n : Net} {j : Nat} {st : NetStation} (h : n.stations[j]? = some st) : Lt n j = st.s.lastTokenTime := by
  unfold Lt; rw [h]

/-- Per-station allowance in the rotation bound: the overshoot plus one synchronisation pause and poll gap. -/
def Cfg.share (c : Cfg) : Nat := c.over + c.b33 + c.P

/-- **Timing invariant of the N-station ring**: stations numbered in ascending address order; the listeners'
last token receipts are ordered along the ring (the successor's is the oldest), none later than `acc`; the
receipt of a listener `dist` passes before `x` is at most `TT + dist·share` old; and the holder's deadline is at
most any listener's receipt + `TT`. -/
structure TInvN (cfg : Cfg) (adr : Nat → Nat) (TT : Nat) (n : Net) (v : NView) (acc Eb : Int) : Prop where
  core : TCore cfg TT n v acc Eb
  sort : ∀ i j, i < j → j < n.stations.length → adr i < adr j
  mono : ∀ j j', j < n.stations.length → j' < n.stations.length → j ≠ v.x → j' ≠ v.x →
    dist n.stations.length v.x j' ≤ dist n.stations.length v.x j → Lt n j ≤ Lt n j'
  old : ∀ j, j < n.stations.length → j ≠ v.x → Lt n j ≤ acc
  age : ∀ j, j < n.stations.length → j ≠ v.x →
    acc ≤ Lt n j + (TT : Int) + ((dist n.stations.length v.x j * cfg.share : Nat) : Int)
  dl : ∀ j, j < n.stations.length → j ≠ v.x → Eb ≤ Lt n j + (TT : Int)

def Cfg.rotN (c : Cfg) (TT N : Nat) : Nat := TT + N * c.share

theorem dist_succ (N x j : Nat) (hx : x < N) (hj : j < N) (hjs : j ≠ nx N x) :
    dist N (nx N x) j = dist N x j + 1 := by
  unfold dist nx at *
  by_cases h1 : x + 1 < N
  · simp only [h1, if_true] at hjs ⊢
    by_cases h2 : j ≤ x + 1 <;> by_cases h3 : j ≤ x <;> simp only [h2, h3, if_true, if_false] <;> omega
  · simp only [h1, if_false] at hjs ⊢
    by_cases h2 : j ≤ 0 <;> by_cases h3 : j ≤ x <;> simp only [h2, h3, if_true, if_false] <;> omega

theorem dist_succ_self (N x : Nat) (hx : x < N) (h2 : 2 ≤ N) : dist N (nx N x) x = 1 ∧ dist N x (nx N x) = N - 1 := by
  unfold dist nx
  by_cases h1 : x + 1 < N
  · simp only [h1, if_true]
    constructor
    · rw [if_pos (by omega)]; omega
    · rw [if_neg (by omega)]; omega
  · simp only [h1, if_false]
    constructor
    · by_cases h3 : x ≤ 0
      · omega
      · rw [if_neg h3]; omega
    · rw [if_pos (by omega)]; omega

theorem dist_le (N x j : Nat) (hx : x < N) (hj : j < N) : dist N x j ≤ N - 1 := by
  unfold dist; split <;> omega

theorem dist_pos (N x j : Nat) (hj : j < N) (hjx : j ≠ x) : 1 ≤ dist N x j := by
  unfold dist; split <;> omega

theorem Lt_set_ne {n n' : Net} {i j : Nat} {st' : NetStation} (hset : n'.stations = n.stations.set i st') (h : j ≠ i) :
    Lt n' j = Lt n j := by
  unfold Lt; rw [hset, List.getElem?_set_ne (Ne.symm h)]

theorem Lt_set_self {n n' : Net} {i : Nat} {st' : NetStation} (hset : n'.stations = n.stations.set i st')
    (hi : i < n.stations.length) : Lt n' i = st'.s.lastTokenTime :=
  Lt_of (by rw [hset]; exact List.getElem?_set_self hi)

/-- **Timing invariant with slack `σ`**: the clauses of `TInvN` about the listeners' receipts, the age of the receipt
of a listener `dist` passes before `x` bounded by `TT + dist·share − σ`.  The slack survives a token pass as long as
`σ ≤ bits 33 + P`: the new holder's acceptance is later than the old one's by at most `max(Eb − acc, bits 33 + P) +
over`, and `share = over + bits 33 + P`. -/
structure TInvG (cfg : Cfg) (TT σ : Nat) (n : Net) (v : NView) (acc Eb : Int) : Prop where
  core : TCore cfg TT n v acc Eb
  mono : ∀ j j', j < n.stations.length → j' < n.stations.length → j ≠ v.x → j' ≠ v.x →
    dist n.stations.length v.x j' ≤ dist n.stations.length v.x j → Lt n j ≤ Lt n j'
  old : ∀ j, j < n.stations.length → j ≠ v.x → Lt n j ≤ acc
  age : ∀ j, j < n.stations.length → j ≠ v.x →
    acc + (σ : Int) ≤ Lt n j + (TT : Int) + ((dist n.stations.length v.x j * cfg.share : Nat) : Int)
  dl : ∀ j, j < n.stations.length → j ≠ v.x → Eb ≤ Lt n j + (TT : Int)

/-- The listeners' clauses read the net only through the number of stations and the listeners' receipts. -/
theorem TInvG.transport {cfg : Cfg} {TT σ : Nat} {n n' : Net} {v v' : NView} {acc Eb : Int}
    (t : TInvG cfg TT σ n v acc Eb) (hcore : TCore cfg TT n' v' acc Eb)
    (hlen : n'.stations.length = n.stations.length) (hx : v'.x = v.x) (hL : ∀ j, j ≠ v.x → Lt n' j = Lt n j) :
    TInvG cfg TT σ n' v' acc Eb := by
  refine ⟨hcore, ?_, ?_, ?_, ?_⟩
  · rw [hlen, hx]
    intro j j' hj hj' hjx hjx' hd
    rw [hL j hjx, hL j' hjx']; exact t.mono j j' hj hj' hjx hjx' hd
  · rw [hlen, hx]; intro j hj hjx; rw [hL j hjx]; exact t.old j hj hjx
  · rw [hlen, hx]; intro j hj hjx; rw [hL j hjx]; exact t.age j hj hjx
  · rw [hlen, hx]; intro j hj hjx; rw [hL j hjx]; exact t.dl j hj hjx

/-- One event of the timed N-station ring with application traffic keeps the timing invariant (any slack
`σ ≤ bits 33 + P`; `hnx`: the stations are numbered along the ring), and a station that accepts the token does so
at most `TT + N·share − σ` after its previous receipt. -/
theorem rotG_step {cfg : Cfg} {M : List Nat} {adr : Nat → Nat} {n : Net} {v : NView} (h : NInv cfg M adr n v)
    (hok : cfg.Ok) (hP100 : cfg.P ≤ 100000) {TT σ : Nat} (hσ : σ ≤ cfg.b33 + cfg.P)
    (hnx : ∀ i, i < n.stations.length → adr (nx n.stations.length i) = cycSucc (adr i) M)
    {acc Eb : Int} (t : TInvG cfg TT σ n v acc Eb) (i : Nat) (now : Int)
    (e : EvOkN cfg n v.tl i now) :
    ∃ n' v' inc c acc' Eb', n.poll i now = (n', inc, some (.ok c)) ∧ NInv cfg M adr n' v' ∧ v'.tl = now ∧
      TInvG cfg TT σ n' v' acc' Eb' ∧
      (∀ st, n.stations[i]? = some st → visitTime st.s.st = none → visitTime c.s.st = some now →
        now + (σ : Int) ≤ st.s.lastTokenTime + ((cfg.rotN TT n.stations.length : Nat) : Int)) := by
  obtain ⟨n', v', inc, c, st, hp, hinv', htl', hst, hset, hres⟩ := rot_core h hok hP100 t.core i now e
  have hil : i < n.stations.length := e.ilt
  have hN' : n'.stations.length = n.stations.length := by rw [hset, List.length_set]
  have hxl := h.xlt
  have h2N : 2 ≤ n.stations.length := by
    obtain ⟨s, hs, -, hne⟩ := h.ring.succ_idx v.x h.xlt
    omega
  have hLi : Lt n i = st.s.lastTokenTime := Lt_of hst
  have hLi' : Lt n' i = c.s.lastTokenTime := Lt_set_self hset hil
  rcases hres with ⟨hcore, hx', hkL, hno⟩ | ⟨hix, hx', hsucc, hkL, hLx, haccnow, hbound, hcoreF⟩
  · refine ⟨n', v', inc, c, acc, Eb, hp, hinv', htl', t.transport hcore hN' hx' ?_, ?_⟩
    · intro j hj
      by_cases hji : j = i
      · rw [hji, hLi', hLi]; exact hkL (hji ▸ hj)
      · exact Lt_set_ne hset hji
    · intro st0 hst0 h1 h2
      rw [hst] at hst0; cases hst0
      exact (hno h1 h2).elim
  · have hL : ∀ j, Lt n' j = Lt n j := by
      intro j
      by_cases hji : j = i
      · rw [hji, hLi', hLi]; exact hkL
      · exact Lt_set_ne hset hji
    -- the successor accepts the token
    have hsi : i = nx n.stations.length v.x := by
      rw [← hnx v.x hxl] at hsucc
      have hnl : nx n.stations.length v.x < n.stations.length := by unfold nx; split <;> omega
      exact h.ring.inj i _ hil hnl hsucc
    have hLxx : Lt n v.x = acc := by rw [Lt_of h.gx]; exact hLx
    have holdi := t.old i hil hix
    have hagei := t.age i hil hix
    have hdli := t.dl i hil hix
    have hds := dist_succ_self n.stations.length v.x hxl h2N
    rw [← hsi] at hds
    have hcore' := hcoreF (by rw [← hLi]; omega)
    have hbig := t.core.big
    have httri := t.core.ttr _ _ hst
    -- the arithmetic below splits the `max` of `hbound`: if the old deadline `Eb` decides, `dl` bounds it by any listener's
    -- receipt + `TT`, and `over + σ ≤ share`; else the visit took `bits 33 + P + over = share`, one more `dist` in `age`
    have hshare : ((cfg.share : Nat) : Int) = (cfg.over : Nat) + (cfg.b33 : Nat) + (cfg.P : Nat) := by
      unfold Cfg.share; push_cast; rfl
    refine ⟨n', v', inc, c, now, st.s.lastTokenTime + ((st.s.p.ttrTime : Nat) : Int), hp, hinv', htl',
      ⟨hcore', ?_, ?_, ?_, ?_⟩, ?_⟩
    · -- order of the receipts along the ring
      rw [hN', hx']
      intro j j' hj hj' hji hji' hd
      rw [hL j, hL j']
      by_cases hjx : j = v.x
      · by_cases hjx' : j' = v.x
        · rw [hjx, hjx']; exact Int.le_refl _
        · exfalso
          have e1 := dist_succ n.stations.length v.x j' hxl hj' (by rw [← hsi]; exact hji')
          rw [← hsi] at e1
          rw [hjx, hds.1] at hd
          have := dist_pos n.stations.length v.x j' hj' hjx'
          omega
      · by_cases hjx' : j' = v.x
        · rw [hjx', hLxx]; exact t.old j hj hjx
        · have e1 := dist_succ n.stations.length v.x j hxl hj (by rw [← hsi]; exact hji)
          have e2 := dist_succ n.stations.length v.x j' hxl hj' (by rw [← hsi]; exact hji')
          rw [← hsi] at e1 e2
          exact t.mono j j' hj hj' hjx hjx' (by omega)
    · rw [hN', hx']
      intro j hj hji
      rw [hL j]
      by_cases hjx : j = v.x
      · rw [hjx, hLxx]; omega
      · have := t.old j hj hjx; omega
    · -- age of the receipts
      rw [hN', hx']
      intro j hj hji
      rw [hL j]
      by_cases hjx : j = v.x
      · rw [hjx, hLxx, hds.1, Nat.one_mul, hshare]
        omega
      · have e1 := dist_succ n.stations.length v.x j hxl hj (by rw [← hsi]; exact hji)
        rw [← hsi] at e1
        rw [e1, Nat.add_mul, Nat.one_mul, Int.natCast_add]
        have ha := t.age j hj hjx
        have hd := t.dl j hj hjx
        rw [hshare]
        omega
    · -- the new deadline
      rw [hN', hx']
      intro j hj hji
      rw [hL j, ← hLi]
      by_cases hjx : j = v.x
      · rw [hjx, hLxx]; omega
      · have hdj := dist_le n.stations.length v.x j hxl hj
        have := t.mono i j hil hj hix hjx (by rw [hds.2]; exact hdj)
        omega
    · intro st0 hst0 _ _
      rw [hst] at hst0; cases hst0
      rw [hds.2] at hagei
      unfold Cfg.rotN
      have hNW : n.stations.length * cfg.share = (n.stations.length - 1) * cfg.share + cfg.share := by
        have : n.stations.length = (n.stations.length - 1) + 1 := by omega
        conv => lhs; rw [this, Nat.add_mul, Nat.one_mul]
      rw [hNW, Int.natCast_add, Int.natCast_add]
      rw [hshare]
      rw [hLi] at hagei hdli
      omega

/-- `TInvN` is the invariant with slack 0 for stations numbered in ascending address order (`succ_sorted`: that
numbers them along the ring). -/
theorem TInvN.toG {cfg : Cfg} {adr : Nat → Nat} {TT : Nat} {n : Net} {v : NView} {acc Eb : Int}
    (t : TInvN cfg adr TT n v acc Eb) : TInvG cfg TT 0 n v acc Eb :=
  ⟨t.core, t.mono, t.old, fun j hj hjx => by simpa using t.age j hj hjx, t.dl⟩

theorem rotN_step {cfg : Cfg} {M : List Nat} {adr : Nat → Nat} {n : Net} {v : NView} (h : NInv cfg M adr n v)
    (hok : cfg.Ok) (hP100 : cfg.P ≤ 100000) {TT : Nat} {acc Eb : Int} (t : TInvN cfg adr TT n v acc Eb) (i : Nat) (now : Int)
    (e : EvOkN cfg n v.tl i now) :
    ∃ n' v' inc c acc' Eb', n.poll i now = (n', inc, some (.ok c)) ∧ NInv cfg M adr n' v' ∧ v'.tl = now ∧
      TInvN cfg adr TT n' v' acc' Eb' ∧
      (∀ st, n.stations[i]? = some st → visitTime st.s.st = none → visitTime c.s.st = some now →
        now ≤ st.s.lastTokenTime + ((cfg.rotN TT n.stations.length : Nat) : Int)) := by
  obtain ⟨n', v', inc, c, acc', Eb', hp, hinv', htl', t', hb⟩ :=
    rotG_step h hok hP100 (Nat.zero_le _) (succ_sorted h.ring t.sort) t.toG i now e
  have hlen : n'.stations.length = n.stations.length := Net.poll_len_of hp
  exact ⟨n', v', inc, c, acc', Eb', hp, hinv', htl',
    ⟨t'.core, by rw [hlen]; exact t.sort, t'.mono, t'.old, fun j hj hjx => by simpa using t'.age j hj hjx, t'.dl⟩,
    fun st hst h1 h2 => by simpa using hb st hst h1 h2⟩

/-- In a ring of two the other station is the successor, whatever the order of the addresses. -/
theorem nx_two {M : List Nat} {adr : Nat → Nat} (hR : RingCfg M adr 2) (i : Nat) (hi : i < 2) :
    adr (nx 2 i) = cycSucc (adr i) M := by
  obtain ⟨s, hs, e, hne⟩ := hR.succ_idx i hi
  have : nx 2 i = s := by unfold nx; split <;> omega
  rw [this, e]

theorem TInv.toG {cfg : Cfg} {TT : Nat} {n : Net} {v : NView} {acc Eb : Int} (t : TInv cfg TT n v acc Eb) (hx : v.x < 2) :
    TInvG cfg TT (cfg.b33 + cfg.P) n v acc Eb := by
  obtain ⟨sy, hsy, o1, o2, o3⟩ := t.oth
  have hj : ∀ j, j < n.stations.length → j ≠ v.x → Lt n j = sy.s.lastTokenTime ∧ dist n.stations.length v.x j = 1 := by
    intro j hj hjx
    rw [t.two] at hj ⊢
    have : j = 1 - v.x := by omega
    exact ⟨by rw [this]; exact Lt_of hsy, by unfold dist; split <;> omega⟩
  refine ⟨⟨t.ttr, t.big, t.seen, t.ph⟩, ?_, ?_, ?_, ?_⟩
  · intro j j' hj1 hj2 hjx hjx' _; rw [(hj j hj1 hjx).1, (hj j' hj2 hjx').1]; exact Int.le_refl _
  · intro j hj1 hjx; rw [(hj j hj1 hjx).1]; exact o3
  · intro j hj1 hjx
    rw [(hj j hj1 hjx).1, (hj j hj1 hjx).2, Nat.one_mul]
    unfold Cfg.share; push_cast; omega
  · intro j hj1 hjx; rw [(hj j hj1 hjx).1]; exact o1

theorem TInvG.toTInv {cfg : Cfg} {TT : Nat} {n : Net} {v : NView} {acc Eb : Int}
    (t : TInvG cfg TT (cfg.b33 + cfg.P) n v acc Eb) (h2 : n.stations.length = 2) (hx : v.x < 2) : TInv cfg TT n v acc Eb := by
  have hy : 1 - v.x < n.stations.length := by omega
  have hyx : 1 - v.x ≠ v.x := by omega
  have hd : dist n.stations.length v.x (1 - v.x) = 1 := by rw [h2]; unfold dist; split <;> omega
  have ha := t.age _ hy hyx
  rw [hd, Nat.one_mul] at ha
  refine ⟨h2, t.core.ttr, t.core.big, ⟨_, List.getElem?_eq_getElem hy, ?_, ?_, ?_⟩, t.core.seen, t.core.ph⟩
  · rw [← Lt_of (List.getElem?_eq_getElem hy)]; exact t.dl _ hy hyx
  · rw [← Lt_of (List.getElem?_eq_getElem hy)]; unfold Cfg.share at ha; push_cast at ha; omega
  · rw [← Lt_of (List.getElem?_eq_getElem hy)]; exact t.old _ hy hyx

/-- **One event of the timed two-station ring with application traffic**: the poll returns regularly,
the ring invariant and the timing invariant hold again, and if the polled station accepts the token in this
poll, the time since its previous token receipt (`last_token_time`) is at most the rotation bound
`TT + 2·share − (bits 33 + P)`. -/
theorem rot_step {cfg : Cfg} {M : List Nat} {adr : Nat → Nat} {n : Net} {v : NView} (h : NInv cfg M adr n v)
    (hok : cfg.Ok) (hP100 : cfg.P ≤ 100000) {TT : Nat} {acc Eb : Int} (t : TInv cfg TT n v acc Eb) (i : Nat) (now : Int)
    (e : EvOkN cfg n v.tl i now) :
    ∃ n' v' inc c acc' Eb', n.poll i now = (n', inc, some (.ok c)) ∧ NInv cfg M adr n' v' ∧ v'.tl = now ∧
      TInv cfg TT n' v' acc' Eb' ∧
      (∀ st, n.stations[i]? = some st → visitTime st.s.st = none → visitTime c.s.st = some now →
        now ≤ st.s.lastTokenTime + ((cfg.rot TT : Nat) : Int)) := by
  have hx : v.x < 2 := by rw [← t.two]; exact h.xlt
  obtain ⟨n', v', inc, c, acc', Eb', hp, hinv', htl', t', hb⟩ :=
    rotG_step h hok hP100 (Nat.le_refl _) (by rw [t.two]; exact nx_two (t.two ▸ h.ring)) (t.toG hx) i now e
  have hlen : n'.stations.length = 2 := (Net.poll_len_of hp).trans t.two
  refine ⟨n', v', inc, c, acc', Eb', hp, hinv', htl', t'.toTInv hlen (by rw [← hlen]; exact hinv'.xlt), ?_⟩
  intro st hst h1 h2
  have := hb st hst h1 h2
  rw [t.two] at this
  unfold Cfg.rotN Cfg.share at this
  unfold Cfg.rot
  push_cast at this ⊢
  omega

theorem rot_run {cfg : Cfg} (hok : cfg.Ok) (hP100 : cfg.P ≤ 100000) (M : List Nat) (adr : Nat → Nat) (TT : Nat) :
    ∀ (evs : List (Nat × Int)) (n : Net) (v : NView) (acc Eb : Int), NInv cfg M adr n v → TInv cfg TT n v acc Eb →
    SchedN cfg.P n v.tl evs → RotRun (cfg.rot TT) n evs := by
  intro evs
  induction evs with
  | nil => intro _ _ _ _ _ _ _; trivial
  | cons ev rest ih =>
    intro n v acc Eb h t hs
    obtain ⟨i, now⟩ := ev
    obtain ⟨e, hrest⟩ := hs.cons
    obtain ⟨n', v', inc, c, acc', Eb', hp, hinv', htl', ht', hb⟩ := rot_step h hok hP100 t i now e
    exact ⟨n', inc, c, hp, hb, ih n' v' acc' Eb' hinv' ht' (hrest hp htl')⟩

theorem rotN_run {cfg : Cfg} (hok : cfg.Ok) (hP100 : cfg.P ≤ 100000) (M : List Nat) (adr : Nat → Nat) (TT : Nat) :
    ∀ (evs : List (Nat × Int)) (n : Net) (v : NView) (acc Eb : Int), NInv cfg M adr n v → TInvN cfg adr TT n v acc Eb →
    SchedN cfg.P n v.tl evs → RotRun (cfg.rotN TT n.stations.length) n evs := by
  intro evs
  induction evs with
  | nil => intro _ _ _ _ _ _ _; trivial
  | cons ev rest ih =>
    intro n v acc Eb h t hs
    obtain ⟨i, now⟩ := ev
    obtain ⟨e, hrest⟩ := hs.cons
    obtain ⟨n', v', inc, c, acc', Eb', hp, hinv', htl', ht', hb⟩ := rotN_step h hok hP100 t i now e
    have hlen : n'.stations.length = n.stations.length := Net.poll_len_of hp
    have := ih n' v' acc' Eb' hinv' ht' (hrest hp htl')
    rw [hlen] at this
    exact ⟨n', inc, c, hp, hb, this⟩

end PV
