/-
Timed ring: exact results of single polls of the station model in the situations that occur in
a stable ring — ending a token hold (GAP request or token pass, `PassOut`); on a silent bus, waiting out the
slot time after a GAP request or a token pass and then giving up (the token goes out, `TokenOut`).
-/
import ProfiVerif.Lemmas.StationHandshake

namespace PV
open StationGap

theorem statusRequest_frame (a ts : Nat) :
    statusRequestBytes a ts = frameSpec (fdlStatusRequestHeader (UInt8.ofNat a) (UInt8.ofNat ts)) [] := by
  have h1 := statusRequest_serialize a ts
  have h2 := serialize_ok (fdlStatusRequestHeader (UInt8.ofNat a) (UInt8.ofNat ts)) []
    (by simp [Header.lengthByte, Header.saps, fdlStatusRequestHeader])
  rw [h1] at h2
  cases h2
  rfl

theorem nextGapPoll_ne (ts ns hsa cur a : Nat) (h : nextGapPoll ts ns hsa cur = .poll a) :
    a ≠ ns ∧ a ≠ ts := by
  have := (nextGapPoll_poll' h).1
  rw [TokenRing.between_arith] at this
  omega

theorem gapAdvance_doPoll (s : Station) (a : Nat) (h : gapAdvance s = some (.doPoll a)) :
    ∃ cur, nextGapPoll s.p.address s.ring.ns s.p.hsa cur = .poll a := by
  unfold gapAdvance at h
  have key : ∀ cur, nextGap s cur = some (.doPoll a) → nextGapPoll s.p.address s.ring.ns s.p.hsa cur = .poll a := by
    intro cur hn
    unfold nextGap at hn
    split at hn
    · rename_i a' ha'; cases hn; exact ha'
    · cases hn
    · cases hn
  split at h
  · split at h
    · exact ⟨_, key _ h⟩
    · cases h
  · exact ⟨_, key _ h⟩

/-- The token went from `s` to the successor `r.ns` in the ring view `r`: the telegram is in the transmit slot, the own
pass is witnessed in the view, the stamp is the predicted end of the telegram; the pass is supervised as attempt `att`,
or — the station being its own successor — a new visit begins. -/
def TokenOut (s : Station) (r : TokenRing) (att : Attempt) (c' : Ctx) (now : Int) : Prop :=
  c'.tx = some (tokenBytes r.ns s.p.address) ∧
  c'.s.ring = r.witness s.p.address r.ns ∧
  c'.s.st = (if (r.witness s.p.address r.ns).ns = s.p.address
            then FState.useToken ⟨now, none⟩ false else FState.checkTokenPass att) ∧
  c'.s.lastBusActivity = some (now + (s.p.bits (11 * 3) : Nat))

/-- What `do_pass_token` does once the synchronisation pause is over. -/
def PassOut (c c' : Ctx) (now : Int) (g : Bool) (att : Attempt) : Prop :=
  c'.rx = c.rx ∧ c'.apps = c.apps ∧ c'.calls = c.calls ∧ c'.s.p = c.s.p ∧ c'.s.online = c.s.online ∧
  c'.s.pendingBytes = c.s.pendingBytes ∧
  ((∃ a cur, g = true ∧ nextGapPoll c.s.p.address c.s.ring.ns c.s.p.hsa cur = .poll a ∧ a ≠ c.s.p.address ∧
      c'.tx = some (statusRequestBytes a c.s.p.address) ∧ c'.s.st = .awaitStatus a ∧ c'.s.ring = c.s.ring ∧
      c'.s.lastBusActivity = some (now + (c.s.p.bits (11 * 6) : Nat))) ∨
   TokenOut c.s c.s.ring att c' now)

theorem doPassToken_exact (c c' : Ctx) (now l : Int) (g : Bool) (att : Attempt)
    (hst : c.s.st = .passToken g att) (hl : c.s.lastBusActivity = some l)
    (hsy : l + (c.s.p.bits 33 : Nat) < now) (h : doPassToken c now = .ok c') : PassOut c c' now g att := by
  have hw : SyncOver c.s now := (syncOver_some hl).2 hsy
  have hs := doPassToken_step now hst
  rw [h] at hs
  cases hs <;> rw [stamped_of_last hl] at *
  case wait h1 => exact absurd hw h1
  case poll _ hga hne _ =>
    obtain ⟨cur, hcur⟩ := gapAdvance_doPoll c.s _ hga
    exact ⟨rfl, rfl, rfl, rfl, rfl, rfl, .inl ⟨_, cur, rfl, hcur, hne, rfl, rfl, rfl, rfl⟩⟩
  case passGap _ _ _ => exact ⟨rfl, rfl, rfl, rfl, rfl, rfl, .inr ⟨rfl, rfl, rfl, rfl⟩⟩
  case pass _ _ => exact ⟨rfl, rfl, rfl, rfl, rfl, rfl, .inr ⟨rfl, rfl, rfl, rfl⟩⟩

/-! In a silent context with stamp `l` (`Sil c l`) a requester and a supervising sender rest up to `l + Tslot`
(`rests`: the poll changes nothing); later the token goes out in the same poll (`emits`): from a requester to its NS as a
first attempt, from a supervising sender with the attempt and ring view `RetryStep` gives (the third expiry removes NS). -/

theorem token_goes {c c' : Ctx} {now l : Int} (hs : Sil c l) (hsy : l + (c.s.p.bits 33 : Nat) < now) (r : TokenRing)
    (att : Attempt) (h : doPassToken { c with s := { c.s with ring := r, st := .passToken false att } } now = .ok c') :
    c'.rx = [] ∧ c'.apps = c.apps ∧ c'.s.p = c.s.p ∧ c'.s.online = c.s.online ∧
      c'.s.pendingBytes = c.s.pendingBytes ∧ TokenOut c.s r att c' now := by
  obtain ⟨a1, a2, -, a4, a5, a6, a7⟩ := doPassToken_exact { c with s := { c.s with ring := r, st := .passToken false att } }
    c' now l false att rfl hs.last hsy h
  rcases a7 with ⟨_, _, hf, -⟩ | hb
  · cases hf
  · exact ⟨a1.trans hs.rx, a2, a4, a5, a6, hb⟩

theorem AwaitGapStep.silent {c c1 : Ctx} {now l : Int} {a : Nat} {g : GapPollResponse}
    (h : AwaitGapStep c now a (.ok c1, g)) (hs : Sil c l) (hexp : l + (c.s.p.slotTime : Nat) < now) :
    c1 = c ∧ g = .noResponse := by
  have hr := receiveTelegram_nil
  rw [← hs.rx] at hr
  cases h with
  | waits _ _ hn => exact absurd ((slotExpired_some hs.last).2 hexp) hn
  | timeout _ h1 _ =>
    rw [hr] at h1
    cases h1
    exact ⟨by rw [stamped_of_last hs.last], rfl⟩
  | unexpected _ h1 _ => rw [hr] at h1; cases h1
  | other _ h1 _ _ => rw [hr] at h1; cases h1
  | admits _ h1 _ _ _ => rw [hr] at h1; cases h1

theorem StatusStep.rests {c c' : Ctx} {now l : Int} {a : Nat} (h : StatusStep c now a (.ok c')) (hs : Sil c l)
    (hw : now ≤ l + (c.s.p.slotTime : Nat)) : c' = c := by
  have hr := receiveTelegram_nil
  rw [← hs.rx] at hr
  have key : ∀ c1 g, AwaitGapStep c now a (.ok c1, g) → c1 = c ∧ g = .waitingForBus := fun c1 g hg =>
    (awaitGap_not_expired hs.last (by omega) hg).2.2.2 _ _ hr
  cases h with
  | waits hg => exact (key _ _ hg).1
  | responded hg => exact absurd (key _ _ hg).2 (by simp)
  | timeout hg _ => exact absurd (key _ _ hg).2 (by simp)
  | unexpected hg => exact absurd (key _ _ hg).2 (by simp)

theorem StatusStep.emits {c c' : Ctx} {now l : Int} {a : Nat} (h : StatusStep c now a (.ok c')) (hs : Sil c l)
    (hexp : l + (c.s.p.slotTime : Nat) < now) (h33 : c.s.p.bits 33 ≤ c.s.p.slotTime) :
    c'.rx = [] ∧ c'.apps = c.apps ∧ c'.s.p = c.s.p ∧ c'.s.online = c.s.online ∧
      c'.s.pendingBytes = c.s.pendingBytes ∧ TokenOut c.s c.s.ring .first c' now := by
  cases h with
  | waits hg => exact absurd (hg.silent hs hexp).2 (by simp)
  | responded hg => exact absurd (hg.silent hs hexp).2 (by simp)
  | unexpected hg => exact absurd (hg.silent hs hexp).2 (by simp)
  | timeout hg hr =>
    obtain ⟨rfl, -⟩ := hg.silent hs hexp
    exact token_goes hs (by omega) _ .first hr

theorem CheckStep.rests {c c' : Ctx} {now l : Int} {att : Attempt} (h : CheckStep c now att (.ok c')) (hs : Sil c l)
    (hw : now ≤ l + (c.s.p.slotTime : Nat)) : c' = c := by
  have hr := receiveAll_nil
  rw [← hs.rx] at hr
  cases h with
  | retry hex _ _ => exact absurd ((slotExpired_some hs.last).1 hex) (by omega)
  | quiet _ hrx =>
    rw [hr] at hrx
    cases hrx
    rw [stamped_of_last hs.last]
  | heard _ hrx _ => rw [hr] at hrx; cases hrx

theorem CheckStep.emits {c c' : Ctx} {now l : Int} {att : Attempt} (h : CheckStep c now att (.ok c')) (hs : Sil c l)
    (hexp : l + (c.s.p.slotTime : Nat) < now) (h33 : c.s.p.bits 33 ≤ c.s.p.slotTime) :
    ∃ att' r, RetryStep c.s.ring att att' r ∧ c'.rx = [] ∧ c'.apps = c.apps ∧ c'.s.p = c.s.p ∧
      c'.s.online = c.s.online ∧ c'.s.pendingBytes = c.s.pendingBytes ∧ TokenOut c.s r att' c' now := by
  have hex : StationGap.SlotExpired c.s now := (slotExpired_some hs.last).2 hexp
  cases h with
  | @retry att' r0 _ _ hr hp =>
    rw [stamped_of_last hs.last] at hp
    exact ⟨att', r0, hr, token_goes hs (by omega) r0 att' hp⟩
  | quiet hn _ => exact absurd hex hn
  | heard hn _ _ => exact absurd hex hn

end PV
