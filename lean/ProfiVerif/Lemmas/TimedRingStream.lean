/-
What a station that lags behind has received of a chained suffix `rs` of the transmission log (timed ring of any size, cold
start): the arrived characters (`arrived`) form a prefix of the concatenated bytes; a delivery extends it; the
transmissions whose telegrams a `receive_all_telegrams` call consumed had arrived completely (`consume`).
-/
import ProfiVerif.Lemmas.TimedRingBusN
import ProfiVerif.Lemmas.PhyRx

namespace PV

def streamBytes (rs : List Transmission) : Bytes := (rs.map (·.bytes)).flatten
def arrivedLen (cfg : Cfg) (rs : List Transmission) (a : Int) : Nat := (rs.map fun t => cvis cfg t a).sum
def arrived (cfg : Cfg) (rs : List Transmission) (a : Int) : Bytes :=
  (rs.map fun t => t.bytes.take (cvis cfg t a)).flatten

/-- Chained w.r.t. the character times of `cfg`. -/
def CChained (cfg : Cfg) (l : List Transmission) : Prop :=
  l.Pairwise fun o t => o.start + ((cfg.ce (o.bytes.length - 1) : Nat) : Int) ≤ t.start

theorem streamBytes_cons (t : Transmission) (rs : List Transmission) : streamBytes (t :: rs) = t.bytes ++ streamBytes rs := rfl
theorem arrivedLen_cons (cfg : Cfg) (t : Transmission) (rs : List Transmission) (a : Int) :
    arrivedLen cfg (t :: rs) a = cvis cfg t a + arrivedLen cfg rs a := by simp [arrivedLen]
theorem arrived_cons (cfg : Cfg) (t : Transmission) (rs : List Transmission) (a : Int) :
    arrived cfg (t :: rs) a = t.bytes.take (cvis cfg t a) ++ arrived cfg rs a := rfl

theorem arrivedLen_append (cfg : Cfg) (r1 r2 : List Transmission) (a : Int) :
    arrivedLen cfg (r1 ++ r2) a = arrivedLen cfg r1 a + arrivedLen cfg r2 a := by simp [arrivedLen]
theorem streamBytes_append (r1 r2 : List Transmission) : streamBytes (r1 ++ r2) = streamBytes r1 ++ streamBytes r2 := by
  simp [streamBytes]

theorem arrivedLen_le (cfg : Cfg) : ∀ (rs : List Transmission) (a : Int), arrivedLen cfg rs a ≤ (streamBytes rs).length := by
  intro rs a
  induction rs with
  | nil => simp [arrivedLen, streamBytes]
  | cons t rs ih =>
    rw [arrivedLen_cons, streamBytes_cons, List.length_append]
    have := cvis_le cfg t a
    omega

theorem arrived_zero_behind (cfg : Cfg) (hr : 0 < cfg.rate) (t : Transmission) (rs : List Transmission) (a : Int)
    (hc : CChained cfg (t :: rs)) (hn : 0 < t.bytes.length) (hlt : cvis cfg t a < t.bytes.length) :
    ∀ t' ∈ rs, cvis cfg t' a = 0 := by
  intro t' ht'
  have h1 := cvis_lt_full cfg t a hn hlt
  have h2 := (List.pairwise_cons.1 hc).1 t' ht'
  have h3 := cfg.ce_pos hr 0
  apply cvis_zero
  omega

theorem arrivedLen_zero (cfg : Cfg) (rs : List Transmission) (a : Int) (h : ∀ t ∈ rs, cvis cfg t a = 0) :
    arrivedLen cfg rs a = 0 := by
  induction rs with
  | nil => rfl
  | cons t rs ih =>
    rw [arrivedLen_cons, h t (List.mem_cons_self ..), ih (fun t' ht' => h t' (List.mem_cons_of_mem _ ht'))]

theorem arrived_nil_of_zero (cfg : Cfg) (rs : List Transmission) (a : Int) (h : ∀ t ∈ rs, cvis cfg t a = 0) :
    arrived cfg rs a = [] := by
  induction rs with
  | nil => rfl
  | cons t rs ih =>
    rw [arrived_cons, h t (List.mem_cons_self ..), ih (fun t' ht' => h t' (List.mem_cons_of_mem _ ht'))]
    rfl

theorem arrived_take (cfg : Cfg) (hr : 0 < cfg.rate) : ∀ (rs : List Transmission) (a : Int), CChained cfg rs →
    (∀ t ∈ rs, 0 < t.bytes.length) → arrived cfg rs a = (streamBytes rs).take (arrivedLen cfg rs a) := by
  intro rs a
  induction rs with
  | nil => intro _ _; rfl
  | cons t rs ih =>
    intro hc hpos
    have hn := hpos t (List.mem_cons_self ..)
    rw [arrived_cons, streamBytes_cons, arrivedLen_cons]
    by_cases hfull : cvis cfg t a = t.bytes.length
    · rw [ih (List.pairwise_cons.1 hc).2 (fun t' ht' => hpos t' (List.mem_cons_of_mem _ ht')), hfull]
      rw [List.take_append]
      simp
      exact (List.take_of_length_le (by omega)).symm
    · have hlt : cvis cfg t a < t.bytes.length := by have := cvis_le cfg t a; omega
      have hz := arrived_zero_behind cfg hr t rs a hc hn hlt
      rw [arrived_nil_of_zero cfg rs a hz, arrivedLen_zero cfg rs a hz, List.append_nil, Nat.add_zero,
        List.take_append_of_le_length (by omega)]

theorem arrivedLen_behind (cfg : Cfg) (hr : 0 < cfg.rate) : ∀ (r1 r2 : List Transmission) (a : Int), CChained cfg (r1 ++ r2) →
    (∀ t ∈ r1, 0 < t.bytes.length) → arrivedLen cfg r1 a < (streamBytes r1).length → arrivedLen cfg r2 a = 0 := by
  intro r1
  induction r1 with
  | nil => intro r2 a _ _ h; simp [arrivedLen, streamBytes] at h
  | cons t r1 ih =>
    intro r2 a hc hpos hlt
    have hn := hpos t (List.mem_cons_self ..)
    rw [List.cons_append] at hc
    rw [arrivedLen_cons, streamBytes_cons, List.length_append] at hlt
    by_cases hfull : cvis cfg t a = t.bytes.length
    · exact ih r2 a (List.pairwise_cons.1 hc).2 (fun t' ht' => hpos t' (List.mem_cons_of_mem _ ht')) (by omega)
    · have hlt' : cvis cfg t a < t.bytes.length := by have := cvis_le cfg t a; omega
      have hz := arrived_zero_behind cfg hr t (r1 ++ r2) a hc hn hlt'
      exact arrivedLen_zero cfg r2 a (fun t' ht' => hz t' (List.mem_append_right _ ht'))

theorem arrived_extend (cfg : Cfg) (hr : 0 < cfg.rate) (b : Bus) (hb : b.rate = cfg.rate) (j : Nat) (seen now : Int)
    (hsn : seen ≤ now) : ∀ rs : List Transmission, CChained cfg rs → (∀ t ∈ rs, 0 < t.bytes.length) →
    (∀ t ∈ rs, t.sender ≠ j) →
    arrived cfg rs seen ++ (rs.map (b.seg j seen now)).flatten = arrived cfg rs now := by
  intro rs
  induction rs with
  | nil => intro _ _ _; rfl
  | cons t rs ih =>
    intro hc hpos hs
    have hn := hpos t (List.mem_cons_self ..)
    have ih' := ih (List.pairwise_cons.1 hc).2 (fun t' ht' => hpos t' (List.mem_cons_of_mem _ ht'))
      (fun t' ht' => hs t' (List.mem_cons_of_mem _ ht'))
    simp only [arrived_cons, List.map_cons, List.flatten_cons]
    by_cases hfull : cvis cfg t seen = t.bytes.length
    · rw [seg_nil_of_full cfg b hb j t seen now hsn hfull, List.nil_append, List.append_assoc, ih']
      have h2 : cvis cfg t now = t.bytes.length := by
        have := cvis_mono cfg t seen now hsn
        have := cvis_le cfg t now
        omega
      rw [hfull, h2]
    · have hlt : cvis cfg t seen < t.bytes.length := by have := cvis_le cfg t seen; omega
      have hz := arrived_zero_behind cfg hr t rs seen hc hn hlt
      rw [arrived_nil_of_zero cfg rs seen hz] at ih' ⊢
      rw [List.append_nil, ← List.append_assoc, seg_extend cfg b hb j t (hs t (List.mem_cons_self ..)) seen now hsn]
      rw [List.nil_append] at ih'
      rw [ih']

theorem seg_done (cfg : Cfg) (b : Bus) (hb : b.rate = cfg.rate) (j : Nat) (seen now : Int)
    (hsn : seen ≤ now) (dn : List Transmission)
    (hd : ∀ o ∈ dn, o.sender = j ∨ (0 < o.bytes.length ∧ o.start + ((cfg.ce (o.bytes.length - 1) : Nat) : Int) ≤ seen)) :
    (dn.map (b.seg j seen now)).flatten = [] := by
  induction dn with
  | nil => rfl
  | cons o dn ih =>
    simp only [List.map_cons, List.flatten_cons]
    rw [ih (fun o' ho' => hd o' (List.mem_cons_of_mem _ ho')), List.append_nil]
    rcases hd o (List.mem_cons_self ..) with h | ⟨hn, h⟩
    · unfold Bus.seg; rw [if_pos h]
    · exact seg_nil_of_full cfg b hb j o seen now hsn (cvis_full cfg o seen hn h)

theorem arrivedLen_full (cfg : Cfg) : ∀ (rs : List Transmission) (a : Int),
    arrivedLen cfg rs a = (streamBytes rs).length → ∀ t ∈ rs, cvis cfg t a = t.bytes.length := by
  intro rs a
  induction rs with
  | nil => intro _ t ht; cases ht
  | cons t0 rs ih =>
    intro h t ht
    rw [arrivedLen_cons, streamBytes_cons, List.length_append] at h
    have h1 := cvis_le cfg t0 a
    have h2 := arrivedLen_le cfg rs a
    rcases List.mem_cons.1 ht with rfl | ht
    · omega
    · exact ih (by omega) t ht

theorem streamOf_map (tel : Transmission → Telegram) : ∀ rs : List Transmission, (∀ t ∈ rs, t.bytes = (tel t).wire) →
    streamOf (rs.map tel) = streamBytes rs := by
  intro rs
  induction rs with
  | nil => intro _; rfl
  | cons t rs ih =>
    intro h
    have := ih (fun t' ht' => h t' (List.mem_cons_of_mem _ ht'))
    simp only [streamOf, List.map_cons, List.flatten_cons] at this ⊢
    rw [this, ← h t (List.mem_cons_self ..)]
    rfl

theorem consume (cfg : Cfg) (hr : 0 < cfg.rate) (tel : Transmission → Telegram) (rs : List Transmission) (now : Int)
    (hc : CChained cfg rs)
    (hw : ∀ t ∈ rs, t.bytes = (tel t).wire ∧ (tel t).Valid ∧ 0 < t.bytes.length) :
    ∃ k b' d ret, receiveAll (arrived cfg rs now) = .done b' d ret ∧ k ≤ rs.length ∧
      d.map Prod.fst = (rs.take k).map tel ∧ (∀ x ∈ d.dropLast, x.2 = false) ∧
      (∀ t ∈ rs.take k, cvis cfg t now = t.bytes.length) ∧
      b' = arrived cfg (rs.drop k) now ∧
      (∀ t rest, rs.drop k = t :: rest → cvis cfg t now < t.bytes.length ∧ b' = t.bytes.take (cvis cfg t now) ∧
          ∀ t' ∈ rest, cvis cfg t' now = 0) ∧
      (rs.drop k = [] → b' = []) ∧
      (d ≠ [] → b' = [] → ∃ pre t, d = pre ++ [(t, true)]) ∧ (d = [] → k = 0) := by
  have hpos : ∀ t ∈ rs, 0 < t.bytes.length := fun t ht => (hw t ht).2.2
  have hS : streamOf (rs.map tel) = streamBytes rs := streamOf_map tel rs (fun t ht => (hw t ht).1)
  rw [arrived_take cfg hr rs now hc hpos]
  obtain ⟨d, ts', b', ret, hrec, hts, hb', hhead, -, hret⟩ := receiveAll_stream (rs.map tel)
    ((streamBytes rs).take (arrivedLen cfg rs now)) ((streamBytes rs).drop (arrivedLen cfg rs now))
    (by rw [List.take_append_drop, hS]) (by
      intro t ht
      obtain ⟨t0, ht0, rfl⟩ := List.mem_map.1 ht
      exact (hw t0 ht0).2.1)
  -- `rs = r1 ++ r2`: the transmissions whose telegrams were delivered, and the rest
  obtain ⟨r1, r2, rfl, h1, h2⟩ := List.map_eq_append_iff.1 hts
  have hc2 : CChained cfg r2 := (List.pairwise_append.1 hc).2.1
  have hpos1 : ∀ t ∈ r1, 0 < t.bytes.length := fun t ht => hpos t (List.mem_append_left _ ht)
  have hpos2 : ∀ t ∈ r2, 0 < t.bytes.length := fun t ht => hpos t (List.mem_append_right _ ht)
  have hS2 : streamOf ts' = streamBytes r2 := by
    rw [← h2]; exact streamOf_map tel _ (fun t ht => (hw t (List.mem_append_right _ ht)).1)
  have hle1 := arrivedLen_le cfg r1 now
  have hle2 := arrivedLen_le cfg r2 now
  rw [hS2, streamBytes_append, arrivedLen_append] at hb'
  have hlen := congrArg List.length hb'
  rw [List.length_append, List.length_drop, List.length_append] at hlen
  -- everything of `r1` has arrived, else nothing of `r2` had and a telegram of `r1` would be missing
  have ha1 : arrivedLen cfg r1 now = (streamBytes r1).length := by
    apply Classical.byContradiction
    intro hne
    have := arrivedLen_behind cfg hr _ _ now hc hpos1 (by omega)
    omega
  have ha2 : arrivedLen cfg r2 now = b'.length := by omega
  have hbeq : b' = (streamBytes r2).take (arrivedLen cfg r2 now) := by
    rw [ha1, List.drop_append, List.drop_of_length_le (by omega)] at hb'
    simp only [Nat.add_sub_cancel_left, List.nil_append] at hb'
    rw [← List.take_append_drop (arrivedLen cfg r2 now) (streamBytes r2)] at hb'
    exact (List.append_inj hb' (by rw [List.length_take]; omega)).1
  refine ⟨r1.length, b', d, ret, hrec, by simp, ?_⟩
  rw [List.take_left' rfl, List.drop_left' rfl]
  refine ⟨h1.symm, receiveAll_flags _ _ _ _ hrec, arrivedLen_full cfg _ now ha1, ?_, ?_, ?_, ?_, ?_⟩
  · rw [arrived_take cfg hr _ now hc2 hpos2]; exact hbeq
  · intro t rest hdr
    subst hdr
    have hlt := hhead (tel t) (by rw [← h2]; rfl)
    rw [← (hw t (List.mem_append_right _ (List.mem_cons_self ..))).1] at hlt
    rw [arrivedLen_cons] at ha2
    have hvlt : cvis cfg t now < t.bytes.length := by omega
    have hz := arrived_zero_behind cfg hr t rest now hc2 (hpos2 t (List.mem_cons_self ..)) hvlt
    refine ⟨hvlt, ?_, hz⟩
    rw [hbeq, arrivedLen_cons, arrivedLen_zero cfg rest now hz, Nat.add_zero, streamBytes_cons,
      List.take_append_of_le_length (by omega)]
  · intro hdr
    rw [hdr] at ha2
    exact List.eq_nil_of_length_eq_zero ha2.symm
  · intro hd hbn
    have : ret = true := hret.2 ⟨hd, hbn⟩
    subst this
    exact receiveAll_ret_last _ _ _ hrec
  · intro hd
    rw [hd] at h1
    rw [List.map_eq_nil_iff.1 h1]
    rfl

end PV
