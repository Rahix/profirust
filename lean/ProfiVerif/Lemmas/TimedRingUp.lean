/-
Timed ring: a station that is UP TO DATE (`Up`) — every transmission of the log is its own or has been delivered
to it completely, nothing is buffered or pending, its own transmissions ended by its stamp: `Rcv` with nothing left to
consume, together with the side conditions of the stable ring.  The bus hands such a station nothing and its PHY is
idle once the stamp has passed, so `Net.poll` is `Station.poll` on an empty buffer (`Up.poll`); the station is up to
date again after a poll that transmits nothing (`Up.quiet`) or a fault-free transmission (`Up.send`).  The station
whose turn it is (`NInv`) and the survivor of a crash (`CInv`, `QInv`) are of this kind.
-/
import ProfiVerif.Lemmas.TimedRingN

namespace PV

structure Up (cfg : Cfg) (M : List Nat) (adr : Nat → Nat) (n : Net) (x : Nat) (sx : NetStation) (l : Int) : Prop where
  ring : RingCfg M adr n.stations.length
  xlt : x < n.stations.length
  gx : n.stations[x]? = some sx
  okx : StOkN cfg M sx (adr x)
  log : LogOk cfg M adr n.stations.length n.bus
  done : ∀ o ∈ n.bus.txs, o.sender = x ∨ cEnd cfg o ≤ n.bus.seen.getD x 0
  own : ∀ o ∈ n.bus.txs, o.sender = x → cEnd cfg o ≤ l + 1
  pb : sx.s.pendingBytes = 0
  rx : sx.rx = []
  stamp : sx.s.lastBusActivity = some l

section
variable {cfg : Cfg} {M : List Nat} {adr : Nat → Nat} {n : Net} {x : Nat} {sx : NetStation} {l : Int}

theorem Up.xs (h : Up cfg M adr n x sx l) : x < n.bus.seen.length := by rw [h.log.seen]; exact h.xlt

theorem Up.polled_seen (h : Up cfg M adr n x sx l) (now : Int) (c : Ctx) :
    (n.polled x now sx c).bus.seen.getD x 0 = now := by
  rw [Net.polled_seen, seen_set_self _ _ _ h.xs]

theorem Up.wire (h : Up cfg M adr n x sx l) : Wire cfg n.bus := h.log.wire h.ring

theorem Up.phy (h : Up cfg M adr n x sx l) {now : Int} (hl : l < now) : n.bus.transmitting x now = false :=
  h.wire.phy fun o ho hs => by have := h.own o ho hs; omega

theorem Up.deliver (h : Up cfg M adr n x sx l) (hr : 0 < cfg.rate) {now : Int} (hsn : n.bus.seen.getD x 0 ≤ now) :
    n.bus.deliver x now = ({ n.bus with seen := n.bus.seen.set x now }, []) := by
  obtain ⟨inc, hd, hcat⟩ := h.wire.deliver hr x now n.bus.txs [] (by simp) h.done (fun _ ht => by cases ht) hsn
  rw [hd]
  simp only [arrived, List.map_nil, List.flatten_nil, List.nil_append] at hcat
  rw [hcat]

theorem Up.ends (h : Up cfg M adr n x sx l) {now : Int} (hl : l < now) (hs : n.bus.seen.getD x 0 < now) :
    ∀ o ∈ n.bus.txs, cEnd cfg o ≤ now := by
  intro o ho
  rcases h.done o ho with hx | hx
  · have := h.own o ho hx; omega
  · omega

theorem Up.poll (h : Up cfg M adr n x sx l) (hok : cfg.Ok) {now : Int} {c : Ctx}
    (hp : sx.s.poll sx.apps now (n.bus.transmitting x now) [] = .ok c) :
    n.poll x now = (n.polled x now sx c, [], some (.ok c)) :=
  Net.poll_upToDate n x now sx c (by rw [h.log.rate]; exact hok.rate) h.log.corrupt h.gx h.okx.alive h.okx.online h.rx
    (fun o ho => (h.done o ho).imp id (fun hh => .inr (by rw [h.wire.txEnd]; exact hh))) hp

theorem Up.quiet (h : Up cfg M adr n x sx l) {now : Int} (hown : n.bus.seen.getD x 0 < now) {c : Ctx} {phy : Bool}
    (hp : sx.s.poll sx.apps now phy [] = .ok c) (htx : c.tx = none) (h1 : c.s.p = sx.s.p)
    (h2 : RingView M (adr x) c.s.ring) (h3 : c.s.online = true) (h4 : c.s.pendingBytes = 0) (h5 : c.rx = [])
    (h7 : AnsOk AppP c.apps) {l' : Int} (hl : c.s.lastBusActivity = some l') (hll : l ≤ l') :
    Up cfg M adr (n.polled x now sx c) x (upSt sx c) l' ∧ (n.polled x now sx c).bus.txs = n.bus.txs := by
  have e : (n.polled x now sx c).bus = { n.bus with seen := n.bus.seen.set x now } := by unfold Net.polled; rw [htx]
  refine ⟨⟨by rw [Net.polled_len]; exact h.ring, by rw [Net.polled_len]; exact h.xlt, List.getElem?_set_self h.xlt,
    h.okx.step now _ _ c hp h1 h2 h3 h7, by rw [Net.polled_len, e]; exact h.log.seenSet x now, ?_, ?_, h4, h5, hl⟩, by rw [e]⟩
  · rw [e]
    intro o ho
    simp only
    rw [seen_set_self _ _ _ h.xs]
    exact (h.done o ho).imp id (fun hh => by omega)
  · rw [e]
    intro o ho hs
    have := h.own o ho hs
    omega

theorem Up.send (h : Up cfg M adr n x sx l) (hok : cfg.Ok) {now : Int} {c : Ctx} {phy : Bool}
    (hp : sx.s.poll sx.apps now phy [] = .ok c) {b : Bytes} (htx : c.tx = some b) (h1 : c.s.p = sx.s.p)
    (h2 : RingView M (adr x) c.s.ring) (h3 : c.s.online = true) (h4 : c.s.pendingBytes = 0) (h5 : c.rx = [])
    (h7 : AnsOk AppP c.apps)
    (hkind : TxKind M adr n.stations.length { start := now, sender := x, bytes := b, dropped := false })
    (hends : ∀ o ∈ n.bus.txs, cEnd cfg o ≤ now) {l' : Int} (hl : c.s.lastBusActivity = some l')
    (hl1 : now ≤ l') (hl2 : now + ((cfg.ce (b.length - 1) : Nat) : Int) ≤ l' + 1) :
    Up cfg M adr (n.polled x now sx c) x (upSt sx c) l' ∧
      (n.polled x now sx c).bus.txs = (n.bus.txs.filter fun t => decide (n.bus.txEnd t + 100000 > now)) ++
        [({ start := now, sender := x, bytes := b, dropped := false } : Transmission)] ∧
      (∀ o ∈ (n.polled x now sx c).bus.txs, o ∈ n.bus.txs ∨ o = { start := now, sender := x, bytes := b, dropped := false }) := by
  have e : (n.polled x now sx c).bus = Bus.send { n.bus with seen := n.bus.seen.set x now } x now b := by
    unfold Net.polled; rw [htx]
  obtain ⟨e1, e4, hmem, hlog'⟩ := (h.log.seenSet x now).send h.ring hok.rate x now b hkind hends
  rw [← e] at e1 e4 hmem hlog'
  refine ⟨⟨by rw [Net.polled_len]; exact h.ring, by rw [Net.polled_len]; exact h.xlt, List.getElem?_set_self h.xlt,
    h.okx.step now _ _ c hp h1 h2 h3 h7, by rw [Net.polled_len]; exact hlog', ?_, ?_, h4, h5, hl⟩, e1, hmem⟩
  · intro o ho
    rw [e4]
    simp only
    rw [seen_set_self _ _ _ h.xs]
    rcases hmem o ho with ho | rfl
    · exact .inr (hends o ho)
    · exact .inl rfl
  · intro o ho _
    rcases hmem o ho with ho | rfl
    · have := hends o ho; omega
    · exact hl2

end
end PV
