/-
The LAS of `Model/TokenRing.lean` bit by bit: what one recorded pass does to a bit (`passBit`) and what
`witness_token_pass` is in each phase (what a whole rotation leaves: `Lemmas/LasCover.lean`).  Every
mutating operation is a change of phase or a new LAS followed by `update_next_previous`; properties of
the ring view are proved once for these two steps (`witness_ind`, `op_ind`).
Defined here, used by `Lemmas/RingPass.lean` and `Lemmas/LasCover.lean`: `Asc` (a ring as an ascending list), `rotation S`
(the passes of one rotation), `bitAfter` / `witnessAll` (a list of passes acting on one bit / on a ring view), `LasIs`.

Trap: a goal that mentions `{ r.updateLas sa da with las := l }` or `some (updateNextPrev ..)` must not be
closed by `rfl`, `cases` or `exact` directly: comparing the fields evaluates the NS/PS search of
`update_next_previous` over the 128 addresses.  `generalize r.updateLas sa da = u` first (or use
`injection` + `subst` on an equation between `some`s).
-/
import ProfiVerif.Lemmas.Cyclic

namespace PV
namespace TokenRing

def passBit (sa da a : Nat) (old : Bool) : Bool :=
  if a = sa then true else if inPassGap sa da a then false else old

/-- Token passes of one rotation through the stations `l` (ascending), the last one wrapping to `first`. -/
def rotGo (first : Nat) : List Nat → List (Nat × Nat)
  | [] => []
  | [x] => [(x, first)]
  | x :: y :: t => (x, y) :: rotGo first (y :: t)

/-- One full rotation of the ring `S` (ascending list of member addresses). -/
def rotation (S : List Nat) : List (Nat × Nat) :=
  match S with
  | [] => []
  | s0 :: _ => rotGo s0 S

def bitAfter (ps : List (Nat × Nat)) (a : Nat) (old : Bool) : Bool :=
  ps.foldl (fun b p => passBit p.1 p.2 a b) old

def Asc : List Nat → Prop
  | [] => True
  | [_] => True
  | x :: y :: t => x < y ∧ Asc (y :: t)

theorem asc_tail (x : Nat) (l : List Nat) (h : Asc (x :: l)) : Asc l := by
  cases l with
  | nil => trivial
  | cons y t => exact h.2

theorem asc_lt (x : Nat) (l : List Nat) (h : Asc (x :: l)) : ∀ z ∈ l, x < z := by
  induction l generalizing x with
  | nil => intro z hz; cases hz
  | cons y t ih =>
    intro z hz
    simp at hz
    rcases hz with rfl | hz
    · exact h.1
    · have := ih y h.2 z hz; have := h.1; omega

theorem asc_pairwise (l : List Nat) (h : Asc l) : l.Pairwise (· < ·) := by
  induction l with
  | nil => exact List.Pairwise.nil
  | cons x t ih => exact List.Pairwise.cons (asc_lt x t h) (ih (asc_tail x t h))

theorem asc_getElem_lt (S : List Nat) (h : Asc S) (i j : Nat) (hi : i < S.length) (hj : j < S.length)
    (hij : i < j) : S[i] < S[j] :=
  List.pairwise_iff_getElem.mp (asc_pairwise S h) i j hi hj hij

theorem asc_getElem_le (S : List Nat) (h : Asc S) (i j : Nat) (hi : i < S.length) (hj : j < S.length)
    (hij : i ≤ j) : S[i] ≤ S[j] := by
  by_cases e : i = j
  · subst e; omega
  · have := asc_getElem_lt S h i j hi hj (by omega); omega

theorem passBit_swept (sa da a : Nat) (old : Bool) (hne : a ≠ sa) (hg : inPassGap sa da a = true) :
    passBit sa da a old = false := by
  unfold passBit
  rw [if_neg hne, if_pos hg]

theorem passBit_kept (sa da a : Nat) (old : Bool) (hne : a ≠ sa) (hg : ¬ inPassGap sa da a = true) :
    passBit sa da a old = old := by
  unfold passBit
  rw [if_neg hne, if_neg hg]

theorem isActive_lt (r : TokenRing) (a : Nat) (h : r.isActive a = true) : a < 128 := by
  unfold isActive at h
  split at h
  · assumption
  · cases h

theorem isActive_ofFn (r : TokenRing) (f : Fin 128 → Bool) (a : Nat) :
    isActive { r with active := Vector.ofFn f } a = if h : a < 128 then f ⟨a, h⟩ else false := by
  simp only [isActive, Vector.getElem_ofFn]

theorem updateNextPrev_active (r : TokenRing) (a : Nat) : (updateNextPrev r).isActive a = r.isActive a := rfl

theorem updateNextPrev_las (r : TokenRing) : (updateNextPrev r).las = r.las ∧ (updateNextPrev r).ts = r.ts :=
  ⟨rfl, rfl⟩

theorem updateLas_active (r : TokenRing) (sa da a : Nat) (ha : a < 128) :
    (r.updateLas sa da).isActive a = passBit sa da a (r.isActive a) := by
  unfold updateLas
  rw [updateNextPrev_active]
  simp [isActive, ha, passBit]

theorem updateLas_las (r : TokenRing) (sa da : Nat) : (r.updateLas sa da).las = r.las ∧ (r.updateLas sa da).ts = r.ts := by
  unfold updateLas
  exact updateNextPrev_las _

theorem witness_ignores_invalid (r : TokenRing) (sa da : Nat) (h : sa > 125 ∨ da > 125) : r.witness sa da = r := by
  unfold witness
  by_cases h2 : sa > 125
  · rw [if_pos h2]
  · rw [if_neg h2, if_pos (by omega)]

theorem witness_uninitialized (r : TokenRing) (sa da : Nat) (hl : r.las = .uninitialized) (hsa : sa ≤ 125)
    (hda : da ≤ 125) : r.witness sa da = if da ≤ sa then { r with las := .discovery } else r := by
  unfold witness
  rw [if_neg (by omega), if_neg (by omega), hl]

theorem witness_discovery (r : TokenRing) (sa da : Nat) (hl : r.las = .discovery) (hsa : sa ≤ 125) (hda : da ≤ 125) :
    r.witness sa da = if da ≤ sa then { r.updateLas sa da with las := .verification } else r.updateLas sa da := by
  unfold witness
  rw [if_neg (by omega), if_neg (by omega), hl]

theorem witness_verification (r : TokenRing) (sa da : Nat) (hl : r.las = .verification) (hsa : sa ≤ 125)
    (hda : da ≤ 125) :
    r.witness sa da = if !r.verifyLas sa da then { r.updateLas sa da with las := .discovery }
      else if da ≤ sa then { r with las := .valid } else r := by
  unfold witness
  rw [if_neg (by omega), if_neg (by omega), hl]

theorem witness_valid (r : TokenRing) (sa da : Nat) (hv : r.las = .valid) (hsa : sa ≤ 125) (hda : da ≤ 125) :
    r.witness sa da = r.updateLas sa da := by
  unfold witness
  rw [if_neg (by omega), if_neg (by omega), hv]

/-- Whatever the phase, a witnessed pass either only changes the phase or records the pass
(`update_las_from_token_pass`) and changes the phase. -/
theorem witness_shape (r : TokenRing) (sa da : Nat) :
    ∃ l, r.witness sa da = { r with las := l } ∨ r.witness sa da = { r.updateLas sa da with las := l } := by
  by_cases hg : sa > 125 ∨ da > 125
  · exact ⟨r.las, .inl (witness_ignores_invalid r sa da hg)⟩
  have hsa : sa ≤ 125 := by omega
  have hda : da ≤ 125 := by omega
  cases hl : r.las with
  | uninitialized =>
    rw [witness_uninitialized r sa da hl hsa hda]
    split
    · exact ⟨_, .inl rfl⟩
    · exact ⟨.uninitialized, .inl (by rw [← hl])⟩
  | discovery =>
    rw [witness_discovery r sa da hl hsa hda]
    -- `update_next_previous` stays folded (trap: see the header)
    generalize r.updateLas sa da = u
    split
    · exact ⟨_, .inr rfl⟩
    · exact ⟨u.las, .inr rfl⟩
  | verification =>
    rw [witness_verification r sa da hl hsa hda]
    generalize r.updateLas sa da = u
    split
    · exact ⟨_, .inr rfl⟩
    · split
      · exact ⟨_, .inl rfl⟩
      · exact ⟨.verification, .inl (by rw [← hl])⟩
  | valid =>
    rw [witness_valid r sa da hl hsa hda]
    generalize r.updateLas sa da = u
    exact ⟨u.las, .inr rfl⟩

theorem setNextStation_upd (r r' : TokenRing) (a : Nat) (e : r.setNextStation a = some r') :
    ∃ v, r' = updateNextPrev { r with active := v } := by
  unfold setNextStation at e
  split at e
  · cases e
  · injection e with e
    exact ⟨_, e.symm⟩

theorem removeStation_upd (r r' : TokenRing) (a : Nat) (e : r.removeStation a = some r') :
    ∃ v, r' = updateNextPrev { r with active := v } := by
  unfold removeStation at e
  split at e
  · cases e
  · injection e with e
    exact ⟨_, e.symm⟩

section Ind
variable (P : TokenRing → Prop) (hlas : ∀ r l, P r → P { r with las := l })
  (hupd : ∀ r v, P r → P (updateNextPrev { r with active := v }))
include hlas hupd

theorem witness_ind (r : TokenRing) (sa da : Nat) (h : P r) : P (r.witness sa da) := by
  obtain ⟨l, e | e⟩ := witness_shape r sa da
  · rw [e]; exact hlas r l h
  · rw [e]; exact hlas _ l (hupd r _ h)

omit hlas in
theorem setNextStation_ind (r r' : TokenRing) (a : Nat) (e : r.setNextStation a = some r') (h : P r) : P r' := by
  obtain ⟨v, rfl⟩ := setNextStation_upd r r' a e
  exact hupd r v h

omit hlas in
theorem removeStation_ind (r r' : TokenRing) (a : Nat) (e : r.removeStation a = some r') (h : P r) : P r' := by
  obtain ⟨v, rfl⟩ := removeStation_upd r r' a e
  exact hupd r v h

end Ind

/-- The public mutating operations of `TokenRing`. -/
inductive Op
  | witness (sa da : Nat)
  | claim
  | setNext (a : Nat)
  | remove (a : Nat)

def applyOp (r : TokenRing) : Op → Option TokenRing
  | .witness sa da => some (r.witness sa da)
  | .claim => some r.claimToken
  | .setNext a => r.setNextStation a
  | .remove a => r.removeStation a

/-- Run a sequence of operations (`none` = one of them panicked: bit index ≥ 128). -/
def runOps (r : TokenRing) : List Op → Option TokenRing
  | [] => some r
  | o :: t => match applyOp r o with
    | some r' => runOps r' t
    | none => none

theorem op_ind (P : TokenRing → Prop) (hlas : ∀ r l, P r → P { r with las := l })
    (hupd : ∀ r v, P r → P (updateNextPrev { r with active := v })) (r r' : TokenRing) (o : Op) (h : P r)
    (e : applyOp r o = some r') : P r' := by
  cases o with
  | witness sa da => cases e; exact witness_ind P hlas hupd r sa da h
  | claim => cases e; exact hlas r _ h
  | setNext a => exact setNextStation_ind P hupd r r' a e h
  | remove a => exact removeStation_ind P hupd r r' a e h

theorem setNextStation_active (r r' : TokenRing) (a : Nat) (e : r.setNextStation a = some r') (b : Nat) (hb : b < 128) :
    r'.isActive b = passBit r.ts a b (if b = a then true else r.isActive b) := by
  unfold setNextStation at e
  split at e
  · cases e
  · injection e with e
    subst e
    rw [updateLas_active _ _ _ _ hb, isActive_ofFn, dif_pos hb]
    simp only [isActive, dif_pos hb, Fin.getElem_fin]

theorem setNextStation_lt (r r' : TokenRing) (a : Nat) (e : r.setNextStation a = some r') : a < 128 := by
  unfold setNextStation at e
  split at e
  · cases e
  · omega

theorem setNextStation_isSome (r : TokenRing) (a : Nat) (ha : a < 128) : ∃ r', r.setNextStation a = some r' := by
  unfold setNextStation
  rw [if_neg (by omega)]
  exact ⟨_, rfl⟩

theorem setNextStation_las (r r' : TokenRing) (a : Nat) (e : r.setNextStation a = some r') : r'.las = r.las :=
  setNextStation_ind (fun q => q.las = r.las) (fun _ _ h => h) r r' a e rfl

theorem setNextStation_ts (r r' : TokenRing) (a : Nat) (h : r.setNextStation a = some r') : r'.ts = r.ts :=
  setNextStation_ind (fun q => q.ts = r.ts) (fun _ _ h => h) r r' a h rfl

theorem removeStation_ts (r r' : TokenRing) (a : Nat) (h : r.removeStation a = some r') : r'.ts = r.ts :=
  removeStation_ind (fun q => q.ts = r.ts) (fun _ _ h => h) r r' a h rfl

theorem witness_ts (r : TokenRing) (sa da : Nat) : (r.witness sa da).ts = r.ts :=
  witness_ind (fun q => q.ts = r.ts) (fun _ _ h => h) (fun _ _ h => h) r sa da rfl

theorem removeStation_active (r r' : TokenRing) (a : Nat) (e : r.removeStation a = some r') (b : Nat) :
    r'.isActive b = if b = a then false else r.isActive b := by
  unfold removeStation at e
  split at e
  · cases e
  · injection e with e
    subst e
    rw [updateNextPrev_active, isActive_ofFn]
    unfold isActive
    split <;> simp

def witnessAll (r : TokenRing) (ps : List (Nat × Nat)) : TokenRing :=
  ps.foldl (fun r p => r.witness p.1 p.2) r

theorem witnessAll_ts (ps : List (Nat × Nat)) : ∀ (r : TokenRing), (witnessAll r ps).ts = r.ts := by
  induction ps with
  | nil => intro r; rfl
  | cons p t ih => intro r; exact (ih _).trans (witness_ts r p.1 p.2)

/-- The LAS lists `S`.  Only the 128 bits are spoken of (`isActive` is `false` from 128 on), so `isActive a ↔ a ∈ S`
follows only for an `S` of addresses below 128: hence the side condition `∀ z ∈ S, z ≤ 125` (the valid addresses) of
`lasIs_mem` and of whatever uses it. -/
def LasIs (r : TokenRing) (S : List Nat) : Prop := ∀ a, a < 128 → r.isActive a = decide (a ∈ S)

/-- In `Discovery` and in `Valid` every pass is recorded; only the wrap-around seen in `Discovery`
changes the phase. -/
theorem witness_records (r : TokenRing) (sa da : Nat) (hp : r.las = .discovery ∨ r.las = .valid)
    (hsa : sa ≤ 125) (hda : da ≤ 125) :
    (∀ a, a < 128 → (r.witness sa da).isActive a = passBit sa da a (r.isActive a)) ∧
    (r.witness sa da).las = (if r.las = .discovery ∧ da ≤ sa then .verification else r.las) := by
  -- `update_next_previous` stays folded (trap: see the header)
  have ha := updateLas_active r sa da
  have hu := (updateLas_las r sa da).1
  rcases hp with hl | hl
  · rw [witness_discovery r sa da hl hsa hda]
    generalize r.updateLas sa da = u at ha hu
    by_cases hw : da ≤ sa
    · rw [if_pos hw, if_pos ⟨hl, hw⟩]
      exact ⟨ha, rfl⟩
    · rw [if_neg hw, if_neg (fun c => hw c.2)]
      exact ⟨ha, hu⟩
  · rw [witness_valid r sa da hl hsa hda, if_neg (by rw [hl]; exact fun c => nomatch c.1)]
    exact ⟨ha, hu⟩

theorem lasIs_mem (r : TokenRing) (S : List Nat) (h : LasIs r S) (hb : ∀ z ∈ S, z ≤ 125) (a : Nat) :
    r.isActive a = true ↔ a ∈ S := by
  constructor
  · intro ha
    have := h a (isActive_lt r a ha)
    rw [ha] at this
    simpa using this.symm
  · intro ha
    have := h a (by have := hb a ha; omega)
    simpa [ha] using this

/-- `verify_las_from_token_pass` accepts exactly the passes between two entries of the LAS with no entry
strictly between them: the passes from an entry to its cyclic successor. -/
theorem verifyLas_iff (r : TokenRing) (sa da : Nat) :
    r.verifyLas sa da = true ↔
      r.isActive sa = true ∧ r.isActive da = true ∧ ∀ a, Between sa da a → r.isActive a = false := by
  have key : ∀ (q : Nat → Prop) [DecidablePred q], (∀ a, q a ↔ Between sa da a) →
      ((List.range 128).all (fun a => !(decide (q a) && r.isActive a)) = true ↔ ∀ a, Between sa da a → r.isActive a = false) := by
    intro q _ hq
    rw [List.all_eq_true]
    constructor
    · intro h a hb
      cases hact : r.isActive a with
      | false => rfl
      | true =>
        have := h a (List.mem_range.mpr (isActive_lt r a hact))
        simp [(hq a).mpr hb, hact] at this
    · intro h a _
      by_cases hb : q a
      · simp [h a ((hq a).mp hb)]
      · simp [hb]
  unfold verifyLas
  rw [Bool.and_eq_true, Bool.and_eq_true, and_assoc]
  refine and_congr Iff.rfl (and_congr Iff.rfl ?_)
  by_cases hw : da > sa
  · rw [if_pos hw]; exact key _ fun a => by rw [between_arith]; omega
  · rw [if_neg hw]; exact key _ fun a => by rw [between_arith]; omega

theorem verifyLas_succ (r : TokenRing) (S : List Nat) (hl : LasIs r S) (hb : ∀ z ∈ S, z ≤ 125) (sa : Nat)
    (h1 : sa ∈ S) : r.verifyLas sa (cycSucc sa S) = true := by
  refine (verifyLas_iff r sa _).mpr ⟨(lasIs_mem r S hl hb sa).mpr h1,
    (lasIs_mem r S hl hb _).mpr (cycSucc_mem sa S h1), fun a hbt => ?_⟩
  cases hact : r.isActive a with
  | false => rfl
  | true => exact absurd hbt ((cycSucc_gapless sa S).2 a ((lasIs_mem r S hl hb a).mp hact))

end TokenRing
end PV
