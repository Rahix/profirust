/-
C01 — Bus access respects the PROFIBUS idle times: station-level obligations (every poll, every state), the
two-party handshakes, and whole runs of the stable ring of two and of N stations on the byte-accurate bus.
-/
import ProfiVerif.Lemmas.TimedRing2Step
import ProfiVerif.Lemmas.TimedRingNSys

namespace PV.C01
open PV

/-- `wait_synchronization_pause` lets the caller proceed exactly when more than 33 bit times have
passed since the last registered bus activity (which it initialises to `now` when unknown). -/
theorem sync_pause_spec (s : Station) (now : Int) :
    (waitSyncPause s now).2 = false ↔
      now > (s.lastBusActivity.getD now) + (s.p.bits 33 : Nat) := by
  unfold waitSyncPause getOrInsertLast
  cases s.lastBusActivity <;> simp <;> omega

/-- `tx_not_while_transmitting`: a poll made while the PHY still transmits, or before the predicted
end of the own last transmission, starts no transmission. -/
theorem tx_not_while_transmitting (c : Ctx) (now : Int) (phyTx : Bool) (hon : c.s.online = true)
    (hst : c.s.st ≠ .offline) (hst2 : c.s.st ≠ .passiveIdle) (htx : c.tx = none)
    (hbusy : phyTx = true ∨ ∃ l, c.s.lastBusActivity = some l ∧ now ≤ l) :
    ∃ c', pollInner c now phyTx = .ok c' ∧ c'.tx = none ∧ c'.calls = c.calls :=
  ⟨{ c with s := markBusActivity c.s now },
    by rw [pollInner_started now phyTx hon hst hst2, if_pos ((ongoing_eq_true_iff c now phyTx).2 hbusy)], htx, rfl⟩

/-- The token is passed (or retransmitted) by `do_pass_token` only after the synchronisation pause. -/
theorem pass_token_needs_idle (c : Ctx) (now : Int) (g : Bool) (a : Attempt) (hst : c.s.st = .passToken g a)
    (hw : (waitSyncPause c.s now).2 = true) :
    doPassToken c now = .ok { c with s := (waitSyncPause c.s now).1 } := by
  unfold doPassToken
  rw [hst]
  simp [hw]

/-- `claim_needs_silence`: a listening or idle station enters `ClaimToken` only when the bus has been
silent for its own time-out `Tto = (6 + 2·TS)·Tsl`. -/
theorem claim_needs_silence (c : Ctx) (now : Int) (l : Int) (hl : c.s.lastBusActivity = some l)
    (h : (now - l).natAbs < c.s.p.tokenLostTimeout) :
    (handleLostToken c now).2 = none := by
  unfold handleLostToken getOrInsertLast
  simp only [hl]
  rw [if_neg (by omega)]

theorem div_stagger (a b r : Nat) (hr : 0 < r) : a / r + 2 * (b / r) ≤ (a + 2 * b) / r := by
  rw [Nat.le_div_iff_mul_le hr]
  have ha := Nat.div_mul_le_self a r
  have hb := Nat.div_mul_le_self b r
  calc (a / r + 2 * (b / r)) * r = a / r * r + 2 * (b / r * r) := by rw [Nat.add_mul, Nat.mul_assoc]
    _ ≤ a + 2 * b := by omega

/-- `claim_staggered`: the time-out grows with the address by at least two slot times, so two
listeners that start counting together never claim together. -/
theorem claim_staggered (p : Params) (hr : 0 < p.rate) :
    p.tokenLostTimeout + 2 * p.slotTime ≤
      ({ p with address := p.address + 1 } : Params).tokenLostTimeout := by
  unfold Params.tokenLostTimeout Params.slotTime Params.bits bitsToTime
  simp only
  have h1 : p.slotBits * (6 + 2 * (p.address + 1)) * 1000000 =
      p.slotBits * (6 + 2 * p.address) * 1000000 + 2 * (p.slotBits * 1000000) := by
    simp only [Nat.mul_add, Nat.add_mul, Nat.mul_comm, Nat.mul_left_comm, Nat.mul_assoc]
    omega
  rw [h1]
  exact div_stagger _ _ _ hr

/-- `tx_needs_idle` (every poll, every state, every input): whenever a `poll` call hands a telegram
to the PHY, (1) the PHY was not transmitting, (2) no bus activity was newly registered in this very
poll (the receive buffer holds no more bytes than already accounted for), and (3) more than the
synchronisation pause of 33 bit times has passed since the last bus activity the station had
registered — which, after an own transmission, is the predicted end of that transmission
(`markTx`).  No hypothesis on the state: it holds from every state, reachable or not. -/
theorem tx_needs_idle (s : Station) (apps : Apps) (now : Int) (phyTx : Bool) (rx : Bytes) (c' : Ctx)
    (h : s.poll apps now phyTx rx = .ok c') (ht : c'.tx ≠ none) :
    phyTx = false ∧ rx.length ≤ s.pendingBytes ∧
      ∀ l, s.lastBusActivity = some l → l + (s.p.bits 33 : Nat) < now :=
  pollInner_tx { s := s, apps := apps, rx := rx } now phyTx c' h rfl ht

/-- `who_may_transmit` (every poll, every state, every input): what a `poll` call hands to the PHY
is determined by the FDL state at the start of the call —
* `Offline`/`PassiveIdle`/`ListenToken`/`ActiveIdle` (no token): only the self-addressed claim token, and only when
  the measured silence has reached the station's own time-out, or the FDL status reply to the station
  whose request addressed to this station was registered (`statusReq = some src`), sent to `src`;
* `ClaimToken`: the self-addressed token or a GAP poll (status request from the own address);
* `UseToken`/`AwaitDataResponse` (token holder): a telegram an application handed over in a
  `transmit_telegram` call of this poll or earlier (recorded in `calls`), or — the hold ends in the same
  poll — the token with the own source address or a GAP poll (`HolderKind`);
* `PassToken`: the token with the own source address, or (with GAP maintenance due) a GAP poll;
* `CheckTokenPass`/`AwaitStatusResponse`: only a token with the own source address (the retry of the
  own pass, or the pass after an unanswered GAP poll). -/
theorem who_may_transmit (s : Station) (apps : Apps) (now : Int) (phyTx : Bool) (rx : Bytes) (c' : Ctx)
    (b : Bytes) (h : s.poll apps now phyTx rx = .ok c') (hb : c'.tx = some b) :
    Allowed s now c'.calls b :=
  pollInner_who { s := s, apps := apps, rx := rx } now phyTx c' b h rfl hb

/-- `tx_marks_busy` (every poll, every state, every input): after a `poll` call that handed the telegram
`b` to the PHY, the station's bus-activity stamp is the predicted end of that transmission,
`now + 11·|b|` bit times — whichever handler transmitted.  Together with `tx_needs_idle` and
`tx_not_while_transmitting`: after an own transmission the station does nothing before its predicted end
and initiates nothing within 33 bit times after it. -/
theorem tx_marks_busy (s : Station) (apps : Apps) (now : Int) (phyTx : Bool) (rx : Bytes) (c' : Ctx) (b : Bytes)
    (h : s.poll apps now phyTx rx = .ok c') (hb : c'.tx = some b) :
    c'.s.lastBusActivity = some (now + (c'.s.p.bits (11 * b.length) : Nat)) :=
  pollInner_marks { s := s, apps := apps, rx := rx } now phyTx c' b h rfl hb

/-- A listening station that has registered no request never sends anything but its claim. -/
theorem listener_only_claims (s : Station) (apps : Apps) (now : Int) (phyTx : Bool) (rx : Bytes) (c' : Ctx)
    (b : Bytes) (coll : Nat) (hst : s.st = .listenToken none coll)
    (h : s.poll apps now phyTx rx = .ok c') (hb : c'.tx = some b) :
    SilenceExpired s now ∧ b = selfToken s.p.address := by
  have := who_may_transmit s apps now phyTx rx c' b h hb
  simp only [Allowed, hst] at this
  rcases this with h1 | ⟨src, h1, _⟩
  · exact h1
  · cases h1

/-! Non-vacuity: a concrete station (address 3, alone in its ring, holding the token in `PassToken`,
last activity at 0) does transmit at `now = 1000` — the hypotheses of `tx_needs_idle` and `who_may_transmit` are met. -/
def pEx : Params :=
  { address := 3, rate := 500000, slotBits := 200, ttrBits := 10000, gapWait := 1, hsa := 10, maxRetry := 1, minTsdrBits := 11 }
def sEx : Station :=
  { (Station.new pEx) with online := true, st := .passToken false .first, lastBusActivity := some 0 }
example : ∃ c', sEx.poll [] 1000 false [] = .ok c' ∧ c'.tx = some [0xDC, 3, 3] := ⟨_, rfl, rfl⟩

/-! ## Two-party handshake timing (token hand-over, request/reply)

Theorems about ONE station model each (parts 1, 2, 4) and pure arithmetic about poll times (part 3).
The shared bus enters only through named hypotheses on what a station finds in its receive buffer at
its polls.  Which start states accept a token at all: `ActiveIdle` without pending status request
(from the registered predecessor, or from the pending stranger on its repeated offer) and
`CheckTokenPass` before the slot time of the own pass has expired (from the registered predecessor
only) — `C11.accept_only_from_ps_or_repeat`, `C11.pass_supervision`; a station in `ListenToken` never
accepts (`C11.listener_never_accepts`). -/

/-- **Part 1a, accepting poll** (`ActiveIdle`, any `new_previous_station`, any collision count, no
status request pending).  The station is polled at `p1` (PHY idle, later than its stamp) with a buffer
that decodes to exactly the token addressed to it, from the registered predecessor or from the pending
stranger; the token-lost time-out has not run out (automatic when the last byte of the token is new at
this poll).  Then: nothing is transmitted, no application is called, the buffer is consumed, and the
station is in `UseToken` with `token_time = p1`, bus-activity stamp `p1`, pending count 0. -/
theorem token_accepted_idle (s : Station) (apps : Apps) (p1 : Int) (rx rx' : Bytes) (np : Option Nat) (coll : Nat)
    (da sa : UInt8) (ret : Bool) (hon : s.online = true) (hst : s.st = .activeIdle none np coll)
    (hlate : ∀ l, s.lastBusActivity = some l → l < p1) (hto : 0 < s.p.tokenLostTimeout)
    (hfresh : s.pendingBytes < rx.length ∨ ∃ l, s.lastBusActivity = some l ∧ p1 < l + (s.p.tokenLostTimeout : Nat))
    (hrx : receiveAll rx = .done rx' [(.token da sa, true)] ret)
    (hda : da.toNat = s.p.address) (hsa : sa.toNat ≠ s.p.address) (hsrc : sa.toNat = s.ring.ps ∨ np = some sa.toNat) :
    ∃ c1, s.poll apps p1 false rx = .ok c1 ∧ c1.tx = none ∧ c1.calls = [] ∧ c1.rx = [] ∧ c1.apps = apps ∧
      c1.s.st = .useToken ⟨p1, none⟩ false ∧ c1.s.lastBusActivity = some p1 ∧ c1.s.pendingBytes = 0 ∧
      c1.s.p = s.p ∧ c1.s.online = true := by
  have hrx' : rx' = [] := receiveAll_true_empty rx rx' _ ret hrx ⟨(.token da sa, true), List.mem_singleton.mpr rfl, rfl⟩
  subst hrx'
  exact ⟨_, idle_poll_accepts s apps p1 rx [] np coll da sa ret hon hst hlate hto hfresh hrx hda hsa hsrc,
    rfl, rfl, rfl, rfl, rfl, rfl, rfl, rfl, hon⟩

/-- **Part 1a', accepting poll from `CheckTokenPass`** (own pass still supervised, slot time not expired
— automatic when the last byte of the token is new at this poll): only the registered predecessor's
token is accepted; same result. -/
theorem token_accepted_check (s : Station) (apps : Apps) (p1 : Int) (rx rx' : Bytes) (att : Attempt)
    (da sa : UInt8) (ret : Bool) (hon : s.online = true) (hst : s.st = .checkTokenPass att)
    (hlate : ∀ l, s.lastBusActivity = some l → l < p1)
    (hfresh : s.pendingBytes < rx.length ∨ ∃ l, s.lastBusActivity = some l ∧ p1 ≤ l + (s.p.slotTime : Nat))
    (hrx : receiveAll rx = .done rx' [(.token da sa, true)] ret)
    (hda : da.toNat = s.p.address) (hsa : sa.toNat ≠ s.p.address) (hsrc : sa.toNat = s.ring.ps) :
    ∃ c1, s.poll apps p1 false rx = .ok c1 ∧ c1.tx = none ∧ c1.calls = [] ∧ c1.rx = [] ∧ c1.apps = apps ∧
      c1.s.st = .useToken ⟨p1, none⟩ false ∧ c1.s.lastBusActivity = some p1 ∧ c1.s.pendingBytes = 0 ∧
      c1.s.p = s.p ∧ c1.s.online = true := by
  have hrx' : rx' = [] := receiveAll_true_empty rx rx' _ ret hrx ⟨(.token da sa, true), List.mem_singleton.mpr rfl, rfl⟩
  subst hrx'
  exact ⟨_, check_poll_accepts s apps p1 rx [] att da sa ret hon hst hlate hfresh hrx hda hsa hsrc,
    rfl, rfl, rfl, rfl, rfl, rfl, rfl, rfl, hon⟩

/-- **Part 1b, `holder_starts_after_pause`.**  A token holder in `UseToken` (any `token_time`, any
`first_cycle_done`) with bus-activity stamp `l`, under the station invariant, on a silent bus (PHY
idle, empty receive buffer at every poll): for ANY polls `early` at times `≤ l + 33 bit` (any number,
any order) followed by ANY poll at a time `t > l + 33 bit`, none of the early polls transmits, calls an
application or panics, and the poll at `t` — the FIRST poll later than the synchronisation pause —
transmits: an application telegram, a GAP poll or the token with the own source address, and stamps
its predicted end (`QuietThenTx`).  No second poll is ever needed: `do_use_token` passes the
token in the same poll when the applications decline (`passNow` in the model). -/
theorem holder_starts_after_pause (s : Station) (apps : Apps) (l : Int) (d : UseData) (fcd : Bool)
    (hinv : Inv s apps) (hon : s.online = true) (hst : s.st = .useToken d fcd) (hl : s.lastBusActivity = some l)
    (early : List Int) (t : Int) (hearly : ∀ e ∈ early, e ≤ l + (s.p.bits 33 : Nat)) (ht : l + (s.p.bits 33 : Nat) < t) :
    QuietThenTx s.p.address s apps early t :=
  holder_schedule s.p.address s.p l t d fcd ht early s apps hinv hon hst hl rfl rfl hearly

theorem accepted_then_starts {s : Station} {apps : Apps} {p1 : Int} {rx : Bytes} {c1 : Ctx} (hinv : Inv s apps)
    (h1 : s.poll apps p1 false rx = .ok c1) (hst : c1.s.st = .useToken ⟨p1, none⟩ false)
    (hl : c1.s.lastBusActivity = some p1) (hp : c1.s.p = s.p) (hon : c1.s.online = true) :
    ∀ (early : List Int) (t : Int), (∀ e ∈ early, e ≤ p1 + (s.p.bits 33 : Nat)) → p1 + (s.p.bits 33 : Nat) < t →
      QuietThenTx s.p.address c1.s c1.apps early t := by
  intro early t he ht
  have := holder_starts_after_pause c1.s c1.apps p1 ⟨p1, none⟩ false (poll_ok_inv hinv h1).1 hon hst hl early t
    (by rw [hp]; exact he) (by rw [hp]; exact ht)
  rw [hp] at this
  exact this

/-- **Part 1, `handover_receiver_starts`** (`ActiveIdle` start).  The accepting poll at `p1` followed by
any silent-bus schedule: no poll at a time `≤ p1 + 33 bit` transmits, the first poll at a time
`> p1 + 33 bit` does. -/
theorem handover_receiver_starts (s : Station) (apps : Apps) (p1 : Int) (rx rx' : Bytes) (np : Option Nat) (coll : Nat)
    (da sa : UInt8) (ret : Bool) (hinv : Inv s apps) (hon : s.online = true) (hst : s.st = .activeIdle none np coll)
    (hlate : ∀ l, s.lastBusActivity = some l → l < p1) (hto : 0 < s.p.tokenLostTimeout)
    (hfresh : s.pendingBytes < rx.length ∨ ∃ l, s.lastBusActivity = some l ∧ p1 < l + (s.p.tokenLostTimeout : Nat))
    (hrx : receiveAll rx = .done rx' [(.token da sa, true)] ret)
    (hda : da.toNat = s.p.address) (hsa : sa.toNat ≠ s.p.address) (hsrc : sa.toNat = s.ring.ps ∨ np = some sa.toNat) :
    ∃ c1, s.poll apps p1 false rx = .ok c1 ∧ c1.tx = none ∧ c1.calls = [] ∧ c1.rx = [] ∧
      c1.s.st = .useToken ⟨p1, none⟩ false ∧ c1.s.lastBusActivity = some p1 ∧
      ∀ (early : List Int) (t : Int), (∀ e ∈ early, e ≤ p1 + (s.p.bits 33 : Nat)) → p1 + (s.p.bits 33 : Nat) < t →
        QuietThenTx s.p.address c1.s c1.apps early t := by
  obtain ⟨c1, h1, h2, h3, h4, h5, h6, h7, -, h9, h10⟩ :=
    token_accepted_idle s apps p1 rx rx' np coll da sa ret hon hst hlate hto hfresh hrx hda hsa hsrc
  exact ⟨c1, h1, h2, h3, h4, h6, h7, accepted_then_starts hinv h1 h6 h7 h9 h10⟩

/-- **Part 1, `CheckTokenPass` start** (the station still supervises its own pass when the token comes
back, e.g. in a two-station ring). -/
theorem handover_receiver_starts_check (s : Station) (apps : Apps) (p1 : Int) (rx rx' : Bytes) (att : Attempt)
    (da sa : UInt8) (ret : Bool) (hinv : Inv s apps) (hon : s.online = true) (hst : s.st = .checkTokenPass att)
    (hlate : ∀ l, s.lastBusActivity = some l → l < p1)
    (hfresh : s.pendingBytes < rx.length ∨ ∃ l, s.lastBusActivity = some l ∧ p1 ≤ l + (s.p.slotTime : Nat))
    (hrx : receiveAll rx = .done rx' [(.token da sa, true)] ret)
    (hda : da.toNat = s.p.address) (hsa : sa.toNat ≠ s.p.address) (hsrc : sa.toNat = s.ring.ps) :
    ∃ c1, s.poll apps p1 false rx = .ok c1 ∧ c1.tx = none ∧ c1.calls = [] ∧ c1.rx = [] ∧
      c1.s.st = .useToken ⟨p1, none⟩ false ∧ c1.s.lastBusActivity = some p1 ∧
      ∀ (early : List Int) (t : Int), (∀ e ∈ early, e ≤ p1 + (s.p.bits 33 : Nat)) → p1 + (s.p.bits 33 : Nat) < t →
        QuietThenTx s.p.address c1.s c1.apps early t := by
  obtain ⟨c1, h1, h2, h3, h4, h5, h6, h7, -, h9, h10⟩ :=
    token_accepted_check s apps p1 rx rx' att da sa ret hon hst hlate hfresh hrx hda hsa hsrc
  exact ⟨c1, h1, h2, h3, h4, h6, h7, accepted_then_starts hinv h1 h6 h7 h9 h10⟩

/-- **Part 1, timed form.**  If the token holder (stamp `l`, e.g. `l = p1` after the accepting poll) is
polled at times `t 0, t 1, …` with `t 0 ≤ l + P`, gaps at most `P`, silent bus, and the schedule goes on
beyond `l + 33 bit`, then its first transmission starts at a poll time in
`(l + 33 bit, l + 33 bit + P]`, and no earlier poll transmits. -/
theorem holder_starts_timed (s : Station) (apps : Apps) (l : Int) (d : UseData) (fcd : Bool)
    (hinv : Inv s apps) (hon : s.online = true) (hst : s.st = .useToken d fcd) (hl : s.lastBusActivity = some l)
    (t : Nat → Int) (P : Nat) (h0 : t 0 ≤ l + P) (hgap : ∀ i, t (i + 1) ≤ t i + P)
    (hgo : ∃ k, l + (s.p.bits 33 : Nat) < t k) :
    ∃ n, l + (s.p.bits 33 : Nat) < t n ∧ t n ≤ l + (s.p.bits 33 : Nat) + P ∧
      QuietThenTx s.p.address s apps ((List.range n).map t) (t n) := by
  obtain ⟨k, hk⟩ := hgo
  obtain ⟨n, h1, h2, h3⟩ := first_exceed_timed t l (s.p.bits 33) P h0 hgap k hk
  refine ⟨n, h1, h2, holder_starts_after_pause s apps l d fcd hinv hon hst hl _ _ ?_ h1⟩
  intro e he
  simp only [List.mem_map, List.mem_range] at he
  obtain ⟨i, hi, rfl⟩ := he
  exact h3 i hi

theorem inv_online (p : Params) (h1 : p.address < p.hsa) (h2 : p.hsa ≤ 126) (st : FState) (l : Option Int)
    (r : TokenRing) (hr : TokenRing.RingOk r)
    (hst : (∀ a, st ≠ .awaitStatus a) ∧ (∀ a, st ≠ .claimToken (.scanAwait a)) ∧ (∀ a d, st ≠ .awaitData a d) ∧
      st ≠ .passiveIdle) :
    Inv { (Station.new p) with online := true, st := st, lastBusActivity := l, ring := r } [] := by
  have h := inv_new p [] h1 h2 (by intro s hs; cases hs)
  exact ⟨h.addr, h.hsa, hr, fun ho => (by cases ho), h.gap, fun a ha => absurd ha (hst.1 a),
    fun a ha => absurd ha (hst.2.1 a), h.app, fun a d ha => absurd ha (hst.2.2.1 a d), h.scripts, hst.2.2.2⟩

/-! Non-vacuity of part 1: station 3 (`pEx`), idle, pending stranger 5, stamp 0, polled at 1000 µs with
the token 5→3.  All hypotheses of `handover_receiver_starts` hold; 33 bit times are 66 µs. -/
def sB : Station :=
  { (Station.new pEx) with online := true, st := .activeIdle none (some 5) 0, lastBusActivity := some 0 }

theorem sB_inv : Inv sB [] :=
  inv_online pEx (by decide) (by decide) _ _ _ (TokenRing.new_ok _ (by decide)) (by simp)

example : ∃ c1, sB.poll [] 1000 false (sendToken 3 5) = .ok c1 ∧ c1.tx = none ∧ c1.calls = [] ∧ c1.rx = [] ∧
    c1.s.st = .useToken ⟨1000, none⟩ false ∧ c1.s.lastBusActivity = some 1000 ∧
    ∀ (early : List Int) (t : Int), (∀ e ∈ early, e ≤ 1066) → 1066 < t → QuietThenTx 3 c1.s c1.apps early t :=
  handover_receiver_starts sB [] 1000 (sendToken 3 5) [] (some 5) 0 3 5 true sB_inv rfl rfl
    (by intro l hl; cases hl; decide) (by decide) (.inl (by decide)) (receiveAll_token 3 5) rfl (by decide) (.inr rfl)

/-! ### Part 2 — the sender of the token -/

/-- The stamp after handing a token telegram (3 characters) to the PHY at `now` is its predicted end
`now + 33 bit` (`tx_marks_busy`). -/
theorem token_pass_stamp (s : Station) (apps : Apps) (now : Int) (phyTx : Bool) (rx : Bytes) (c' : Ctx) (da sa : UInt8)
    (h : s.poll apps now phyTx rx = .ok c') (hb : c'.tx = some (sendToken da sa)) :
    c'.s.lastBusActivity = some (now + (c'.s.p.bits 33 : Nat)) := by
  have := tx_marks_busy s apps now phyTx rx c' _ h hb
  rw [this]
  have h3 : (sendToken da sa).length = 3 := rfl
  rw [h3]

/-- One poll of a station that waits on its slot timer with stamp `te` (supervising sender, requester): not later than the
stamp it is a no-op; with the PHY busy nothing can be transmitted (`tx_needs_idle`); `X` is what the FDL state's own lemma
adds for a poll later than the stamp with the PHY idle. -/
theorem slot_waiter_poll (s : Station) (apps : Apps) (now : Int) (phy : Bool) (rx : Bytes) (c' : Ctx) (te : Int)
    (hon : s.online = true) (hno : s.st ≠ .offline) (hnp : s.st ≠ .passiveIdle) (hl : s.lastBusActivity = some te)
    (h : s.poll apps now phy rx = .ok c') {X : Prop}
    (hc : te < now → phy = false → (now ≤ te + (s.p.slotTime : Nat) ∨ s.pendingBytes < rx.length) → c'.tx = none ∧ X) :
    (now ≤ te → c' = { s := s, apps := apps, rx := rx }) ∧
    ((now ≤ te + (s.p.slotTime : Nat) ∨ s.pendingBytes < rx.length) → c'.tx = none) ∧
    (te < now → phy = false → (now ≤ te + (s.p.slotTime : Nat) ∨ s.pendingBytes < rx.length) → X) := by
  have ha : now ≤ te → c' = { s := s, apps := apps, rx := rx } := by
    intro hle
    rw [poll_ongoing s apps now phy rx hon hno hnp te hl hle] at h
    cases h; rfl
  refine ⟨ha, fun hne => ?_, fun hlt hphy hne => (hc hlt hphy hne).2⟩
  by_cases hle : now ≤ te
  · rw [ha hle]
  · cases phy with
    | true =>
      cases htx : c'.tx with
      | none => rfl
      | some b => exact absurd (tx_needs_idle s apps now true rx c' h (by rw [htx]; simp)).1 (by simp)
    | false => exact (hc (by omega) rfl hne).1

/-- **Part 2, `handover_sender_waits`.**  Station A supervises its token pass: `CheckTokenPass att`, stamp
`te` (the predicted end of its token telegram, `token_pass_stamp`).  For ONE poll at ANY time `now`, with
ANY PHY flag and ANY receive buffer, that returns regularly:
(a) at `now ≤ te` (own transmission still on the wire) the poll is a complete no-op — nothing is
    transmitted, nothing consumed, the station is unchanged;
(b) at `now ≤ te + Tslot` nothing is transmitted (the slot has not expired: no retry);
(c) at a poll that finds more bytes in the receive buffer than already accounted for
    (`|rx| > pending_bytes`) nothing is transmitted either — WHATEVER the time — and (PHY idle, `now > te`)
    the stamp moves to `now`;
and in cases (b), (c) with the PHY idle and `now > te`: no application is called, and either no complete
telegram has arrived — then the station is unchanged except for the registered activity
(`check_for_bus_activity`), in particular it is still in `CheckTokenPass att` with the same ring view —
or a telegram was heard: supervision ends, the stamp is `now`. -/
theorem handover_sender_waits (s : Station) (apps : Apps) (now : Int) (phy : Bool) (rx : Bytes) (c' : Ctx)
    (att : Attempt) (te : Int) (hon : s.online = true) (hst : s.st = .checkTokenPass att)
    (hl : s.lastBusActivity = some te) (h : s.poll apps now phy rx = .ok c') :
    (now ≤ te → c' = { s := s, apps := apps, rx := rx }) ∧
    ((now ≤ te + (s.p.slotTime : Nat) ∨ s.pendingBytes < rx.length) → c'.tx = none) ∧
    (te < now → phy = false → (now ≤ te + (s.p.slotTime : Nat) ∨ s.pendingBytes < rx.length) →
      c'.calls = [] ∧ (s.pendingBytes < rx.length → c'.s.lastBusActivity = some now) ∧
      ((c'.s = checkBusActivity s now rx.length ∧ ∃ rx' ret, receiveAll rx = .done rx' [] ret ∧ c'.rx = rx') ∨
       (c'.s.lastBusActivity = some now ∧ (∀ a, c'.s.st ≠ .checkTokenPass a) ∧
          ∃ rx' x rest ret, receiveAll rx = .done rx' (x :: rest) ret))) := by
  refine slot_waiter_poll s apps now phy rx c' te hon (by rw [hst]; simp) (by rw [hst]; simp) hl h fun hlt hphy hne => ?_
  subst hphy
  obtain ⟨h1, h2, -, -, -, h6⟩ := check_poll_waits s apps now rx c' att te hon hst hl hlt hne.symm h
  refine ⟨h1, h2, fun hn => ?_, h6⟩
  rcases h6 with ⟨hs, -⟩ | ⟨hs, -⟩
  · rw [hs, checkBA_last s now rx.length (late_of_some hl hlt), if_pos hn]
  · exact hs

/-- **Part 2, run form (`sender_never_interrupts`).**  Under the station invariant, for ANY sequence of
polls `(time, receive buffer)` (PHY idle) that is `Dense` w.r.t. the slot time — every poll is not later
than the stamp, or finds a new byte pending (stamp := poll time), or is not later than stamp + slot
time — every poll returns regularly, transmits nothing and calls no application, as long as the station
is in `CheckTokenPass att`; it leaves that state only by hearing a complete telegram.  `Dense` is a
condition on the INPUTS only (poll times and buffer lengths, starting from `te` and the pending count);
part 3 derives it from the arrival times of the successor's characters. -/
theorem sender_never_interrupts (s : Station) (apps : Apps) (att : Attempt) (te : Int) (hinv : Inv s apps)
    (hon : s.online = true) (hst : s.st = .checkTokenPass att) (hl : s.lastBusActivity = some te)
    (polls : List (Int × Bytes)) (hd : Dense s.p.slotTime te s.pendingBytes polls) :
    SupervisesQuietly att s apps polls :=
  sender_run att s.p polls s apps te hinv hon hst hl rfl hd

/-! Non-vacuity of part 2: station 5 supervising (stamp 0, `Tslot` = 400 µs); the successor's token
trickles in: nothing at 100 µs, one byte at 300 µs, two at 650 µs (more than a slot time after the
stamp 0, but a new byte is pending), still two at 900 µs (≤ 650 + 400). -/
def pA : Params := { pEx with address := 5 }
def sA : Station :=
  { (Station.new pA) with online := true, st := .checkTokenPass .first, lastBusActivity := some 0 }

theorem sA_inv : Inv sA [] :=
  inv_online pA (by decide) (by decide) _ _ _ (TokenRing.new_ok _ (by decide)) (by simp)

example : SupervisesQuietly .first sA [] [(100, []), (300, [0xDC]), (650, [0xDC, 5]), (900, [0xDC, 5])] :=
  sender_never_interrupts sA [] .first 0 sA_inv rfl rfl rfl _ (by
    show Dense 400 0 0 _
    simp [Dense])

/-! ### Part 3 — arithmetic composition of the two sides

Pure arithmetic about poll times and character arrival times; the station models enter only through
the conclusions of parts 1 and 2.  Named bus hypotheses:
* `tb` — the instant the last character of A's token telegram is on the bus; `tb ≤ te + E` where `te` is
  A's stamp (its *predicted* end, `floor`) and `E` the rounding slack (`E = 1` µs on the bus of DESIGN 5.1,
  where a character ends at `ceil`);
* B's accepting poll `p1` is its first poll that sees the complete token: `tb ≤ p1 ≤ tb + P_B`;
* `C` — the time after the start `q` of B's transmission at which its first character is in A's
  receive buffer (`C = ceil(11 bit) ≤ bits 11 + 1`);
* `Arrivals n arr vis` — characters of B's telegram become visible to A one by one at the times `arr k`,
  consecutive ones at most a slot time apart. -/

/-- **The margin condition**: rounding slack + two poll periods of the receiver + the synchronisation
pause + one character time fit into the sender's slot time. -/
def Margin (slot b33 E PB C : Nat) : Prop := E + 2 * PB + b33 + C ≤ slot

/-- **`handover_first_char`** (arithmetic).  With B's first transmitting poll `q ∈ (p1 + 33 bit,
p1 + 33 bit + P_B]` (part 1, timed form) and `Margin`: B starts later than 33 bit times after the real
end `tb` of A's telegram, and B's first character is complete at `q + C ≤ te + Tslot` — before every
poll of A that could find the slot time expired (`a > te + Tslot`). -/
theorem handover_first_char (slot b33 E PB C : Nat) (te tb p1 q : Int) (hm : Margin slot b33 E PB C)
    (hE : tb ≤ te + E) (hp1 : tb ≤ p1) (hp1' : p1 ≤ tb + PB) (hq : p1 + b33 < q) (hq' : q ≤ p1 + b33 + PB) :
    tb + b33 < q ∧ q + C ≤ te + slot ∧ ∀ a : Int, te + slot < a → q + C < a := by
  unfold Margin at hm
  refine ⟨by omega, by omega, fun a ha => by omega⟩

/-- The margin is also necessary for this argument: if it fails by one microsecond there are poll times
satisfying all hypotheses with B's first character complete only AFTER `te + Tslot` (A polling in between
retransmits). -/
theorem margin_tight (slot b33 E PB C : Nat) (te : Int) (hPB : 0 < PB) (hm : ¬ Margin slot b33 E PB C) :
    ∃ tb p1 q : Int, tb ≤ te + E ∧ tb ≤ p1 ∧ p1 ≤ tb + PB ∧ p1 + b33 < q ∧ q ≤ p1 + b33 + PB ∧
      te + slot < q + C := by
  unfold Margin at hm
  exact ⟨te + E, te + E + PB, te + E + PB + b33 + PB, by omega, by omega, by omega, by omega, by omega, by omega⟩

/-- **`margin_of_quarter_slot`**: for receiver poll periods `P_B ≤ Tslot/4` (DESIGN 5.2) the margin with
`E = 1`, `C = bits 11 + 1` (bus of DESIGN 5.1: characters end at `ceil`) holds whenever
`88·10⁶ + 4·rate ≤ slotBits·10⁶`, i.e. `slotBits ≥ 88 + 4·rate/10⁶` (92 bit up to 1 Mbit/s, 94 at
1.5 Mbit/s, 136 at 12 Mbit/s; the standard slot times 100 … 1000 satisfy it).  The floors of
`bits_to_time` are accounted for: `bits 33 + bits 11 ≤ floor(44·10⁶/rate)`, `2·floor(44·10⁶/rate) ≤
floor(88·10⁶/rate)`, `floor((88·10⁶ + 4·rate)/rate) = floor(88·10⁶/rate) + 4`. -/
theorem margin_of_quarter_slot (p : Params) (PB : Nat) (hr : 0 < p.rate) (hP : PB ≤ p.slotTime / 4)
    (hs : 88 * 1000000 + 4 * p.rate ≤ p.slotBits * 1000000) :
    Margin p.slotTime (p.bits 33) 1 PB (p.bits 11 + 1) := by
  exact Cfg.quarter_margin p.rate p.slotBits PB 1 (p.bits 11 + 1) 2 hr hP
    (by show 1 + (11 * 1000000 / p.rate + 1) ≤ _; omega) hs

/-- The idealised variant without rounding slack (`E = 0`, `C = bits 11`): `slotBits ≥ 88` suffices. -/
theorem margin_of_quarter_slot_ideal (p : Params) (PB : Nat) (hr : 0 < p.rate) (hP : PB ≤ p.slotTime / 4)
    (hs : 88 ≤ p.slotBits) : Margin p.slotTime (p.bits 33) 0 PB (p.bits 11) := by
  exact Cfg.quarter_margin p.rate p.slotBits PB 0 (p.bits 11) 0 hr hP
    (by show 0 + 11 * 1000000 / p.rate ≤ _; omega)
    (by have := Nat.mul_le_mul_right 1000000 hs; omega)

/-- **Part 3, `handover_no_collision`** (two stations, one hand-over).
Station A supervises its pass (`CheckTokenPass att`, stamp `te`, nothing pending).  Station B is idle and
its poll at `p1` is the first that sees A's complete token (`tb ≤ p1 ≤ tb + P_B`, `tb ≤ te + E` the real end
of the token on the bus); afterwards B is polled at `tB 0, tB 1, …` with gaps `≤ P_B` on a silent bus.
Under `Margin Tslot (33 bit) E P_B C`:
1. B accepts at `p1`, transmits at none of its polls up to `p1 + 33 bit`, and transmits (application
   telegram, GAP poll or token) at its first later poll `q = tB n`, where `tb + 33 bit < q` — B does not
   start before the synchronisation pause after the REAL end of A's telegram — and `q + C ≤ te + Tslot`;
2. whatever B's telegram (`nb > 0` characters), if its characters reach A according to an arrival model
   with the first character complete by `q + C` and consecutive characters at most a slot time apart,
   then for EVERY time-ordered sequence of polls of A that see the corresponding prefixes (only the last
   may see the whole telegram): every poll returns regularly, A transmits nothing — it never retransmits
   into B's transmission — until it has heard B's complete telegram. -/
theorem handover_no_collision
    (sA : Station) (appsA : Apps) (att : Attempt) (te : Int) (hinvA : Inv sA appsA) (honA : sA.online = true)
    (hstA : sA.st = .checkTokenPass att) (hlA : sA.lastBusActivity = some te) (hpbA : sA.pendingBytes = 0)
    (sB : Station) (appsB : Apps) (p1 : Int) (rx rx' : Bytes) (np : Option Nat) (coll : Nat)
    (da sa : UInt8) (ret : Bool) (hinv : Inv sB appsB) (hon : sB.online = true) (hst : sB.st = .activeIdle none np coll)
    (hlate : ∀ l, sB.lastBusActivity = some l → l < p1) (hto : 0 < sB.p.tokenLostTimeout)
    (hfresh : sB.pendingBytes < rx.length ∨ ∃ l, sB.lastBusActivity = some l ∧ p1 < l + (sB.p.tokenLostTimeout : Nat))
    (hrx : receiveAll rx = .done rx' [(.token da sa, true)] ret)
    (hda : da.toNat = sB.p.address) (hsa : sa.toNat ≠ sB.p.address) (hsrc : sa.toNat = sB.ring.ps ∨ np = some sa.toNat)
    (tB : Nat → Int) (PB : Nat) (h0 : tB 0 ≤ p1 + PB) (hgap : ∀ i, tB (i + 1) ≤ tB i + PB)
    (hgo : ∃ k, p1 + (sB.p.bits 33 : Nat) < tB k)
    (tb : Int) (E C : Nat) (hE : tb ≤ te + E) (hp1 : tb ≤ p1) (hp1' : p1 ≤ tb + PB)
    (hm : Margin sA.p.slotTime (sB.p.bits 33) E PB C) :
    ∃ c1 n, sB.poll appsB p1 false rx = .ok c1 ∧ c1.tx = none ∧
      QuietThenTx sB.p.address c1.s c1.apps ((List.range n).map tB) (tB n) ∧
      tb + (sB.p.bits 33 : Nat) < tB n ∧ tB n + C ≤ te + (sA.p.slotTime : Nat) ∧
      ∀ (nb : Nat) (arr : Nat → Int) (vis : Int → Nat), 0 < nb → Arrivals nb arr vis → arr 0 ≤ tB n + C →
        (∀ k, k + 1 < nb → arr (k + 1) ≤ arr k + (sA.p.slotTime : Nat)) →
        ∀ polls : List (Int × Bytes), polls.Pairwise (fun x y => x.1 ≤ y.1) →
          (∀ x ∈ polls, x.2.length = vis x.1) → (∀ x ∈ polls, ∀ y ∈ polls, x.1 < y.1 → vis x.1 < nb) →
          SupervisesQuietly att sA appsA polls := by
  obtain ⟨c1, h1, h2, -, -, -, h6, h7, -, h9, h10⟩ :=
    token_accepted_idle sB appsB p1 rx rx' np coll da sa ret hon hst hlate hto hfresh hrx hda hsa hsrc
  obtain ⟨n, hn1, hn2, hq⟩ := holder_starts_timed c1.s c1.apps p1 ⟨p1, none⟩ false (poll_ok_inv hinv h1).1 h10 h6 h7 tB PB h0 hgap
    (by rw [h9]; exact hgo)
  rw [h9] at hn1 hn2 hq
  obtain ⟨f1, f2, -⟩ := handover_first_char sA.p.slotTime (sB.p.bits 33) E PB C te tb p1 (tB n) hm hE hp1 hp1' hn1 hn2
  refine ⟨c1, n, h1, h2, hq, f1, f2, ?_⟩
  intro nb arr vis hnb hA harr0 hgapc polls hpw hlen hinc
  refine sender_never_interrupts sA appsA att te hinvA honA hstA hlA polls ?_
  rw [hpbA]
  exact dense_of_arrivals sA.p.slotTime nb arr vis hA hgapc polls te 0 hpw hlen hinc (fun _ _ _ => Nat.zero_le _)
    (fun _ => by omega) (fun h0 => by omega)

/-! Non-vacuity of part 3: A = station 5 (`sA`: stamp `te = 0`, `Tslot` = 400 µs), B = station 3 (`sB`) whose
first poll seeing the token 5→3 is at 50 µs and which is then polled every 40 µs (`P_B` = 100 µs = `Tslot/4`);
`tb = 1`, `E = 1`, `C = bits 11 + 1 = 23` µs; the margin is `margin_of_quarter_slot`. -/
example : Margin pA.slotTime (pEx.bits 33) 1 100 (pEx.bits 11 + 1) :=
  margin_of_quarter_slot pA 100 (by decide) (by decide) (by decide)

example := handover_no_collision sA [] .first 0 sA_inv rfl rfl rfl rfl
  sB [] 50 (sendToken 3 5) [] (some 5) 0 3 5 true sB_inv rfl rfl
  (by intro l hl; cases hl; decide) (by decide) (.inl (by decide)) (receiveAll_token 3 5) rfl (by decide) (.inr rfl)
  (fun i => 50 + 40 * ((i : Int) + 1)) 100 (by decide) (by intro i; omega) ⟨1, by decide⟩
  1 1 (pEx.bits 11 + 1) (by decide) (by decide) (by decide)
  (margin_of_quarter_slot pA 100 (by decide) (by decide) (by decide))

/-- An arrival model: three characters visible from 1110, 1120, 1130 µs. -/
example : Arrivals 3 (fun k => 1100 + 10 * ((k : Int) + 1))
    (fun a => if a < 1110 then 0 else if a < 1120 then 1 else if a < 1130 then 2 else 3) :=
  ⟨fun a k hk => by
      have : k = 0 ∨ k = 1 ∨ k = 2 := by omega
      rcases this with rfl | rfl | rfl <;> split <;> (try split) <;> (try split) <;> omega,
   fun a => by split <;> (try split) <;> (try split) <;> omega⟩

/-! ### Part 4 — request / reply (FDL status request answered from `ListenToken` / `ActiveIdle`) -/

/-- **Part 4a, registering poll (`ActiveIdle`).**  An idle station without pending request, polled at `r1`
(PHY idle, later than its stamp, token-lost time-out not run out) with a buffer that decodes to exactly
one telegram, an FDL status request addressed to it: nothing is transmitted, no application is called,
the request is registered (`statusReq = some SA`), stamp := `r1`, pending count 0. -/
theorem request_registered_idle (s : Station) (apps : Apps) (r1 : Int) (rx rx' : Bytes) (np : Option Nat) (coll : Nat)
    (h : Header) (pdu : Bytes) (fcb : FrameCountBit) (ret : Bool) (hon : s.online = true)
    (hst : s.st = .activeIdle none np coll)
    (hlate : ∀ l, s.lastBusActivity = some l → l < r1) (hto : 0 < s.p.tokenLostTimeout)
    (hfresh : s.pendingBytes < rx.length ∨ ∃ l, s.lastBusActivity = some l ∧ r1 < l + (s.p.tokenLostTimeout : Nat))
    (hrx : receiveAll rx = .done rx' [(.data h pdu, true)] ret)
    (hfc : h.fc = .request fcb .fdlStatus) (hda : h.da.toNat = s.p.address) :
    ∃ c1, s.poll apps r1 false rx = .ok c1 ∧ c1.tx = none ∧ c1.calls = [] ∧ c1.rx = [] ∧ c1.apps = apps ∧
      Registered c1.s h.sa.toNat ∧ c1.s.st = .activeIdle (some h.sa.toNat) np coll ∧
      c1.s.lastBusActivity = some r1 ∧ c1.s.p = s.p ∧ c1.s.online = true := by
  have hrx' : rx' = [] := receiveAll_true_empty rx rx' _ ret hrx ⟨(.data h pdu, true), List.mem_singleton.mpr rfl, rfl⟩
  subst hrx'
  exact ⟨_, idle_poll_registers s apps r1 rx [] np coll h pdu fcb ret hon hst hlate hto hfresh hrx hfc hda,
    rfl, rfl, rfl, rfl, .inr ⟨np, coll, rfl⟩, rfl, rfl, rfl, hon⟩

/-- **Part 4a, registering poll (`ListenToken`)**: the same for a listening station (the request must come
from another address). -/
theorem request_registered_listen (s : Station) (apps : Apps) (r1 : Int) (rx rx' : Bytes) (coll : Nat)
    (h : Header) (pdu : Bytes) (fcb : FrameCountBit) (ret : Bool) (hon : s.online = true)
    (hst : s.st = .listenToken none coll)
    (hlate : ∀ l, s.lastBusActivity = some l → l < r1) (hto : 0 < s.p.tokenLostTimeout)
    (hfresh : s.pendingBytes < rx.length ∨ ∃ l, s.lastBusActivity = some l ∧ r1 < l + (s.p.tokenLostTimeout : Nat))
    (hrx : receiveAll rx = .done rx' [(.data h pdu, true)] ret)
    (hfc : h.fc = .request fcb .fdlStatus) (hda : h.da.toNat = s.p.address) (hsa : h.sa.toNat ≠ s.p.address) :
    ∃ c1, s.poll apps r1 false rx = .ok c1 ∧ c1.tx = none ∧ c1.calls = [] ∧ c1.rx = [] ∧ c1.apps = apps ∧
      Registered c1.s h.sa.toNat ∧ c1.s.st = .listenToken (some h.sa.toNat) coll ∧
      c1.s.lastBusActivity = some r1 ∧ c1.s.p = s.p ∧ c1.s.online = true := by
  have hrx' : rx' = [] := receiveAll_true_empty rx rx' _ ret hrx ⟨(.data h pdu, true), List.mem_singleton.mpr rfl, rfl⟩
  subst hrx'
  exact ⟨_, listen_poll_registers s apps r1 rx [] coll h pdu fcb ret hon hst hlate hto hfresh hrx hfc hda hsa,
    rfl, rfl, rfl, rfl, .inl ⟨coll, rfl⟩, rfl, rfl, rfl, hon⟩

/-- **Part 4, `reply_handshake_responder`.**  A station with a registered status request from `src`
(`ListenToken (some src)` or `ActiveIdle (some src)`, `Registered`), stamp `r1` (the registering poll),
under the invariant, on a silent bus, with the token-lost time-out longer than the synchronisation
pause: ANY polls at times `≤ r1 + 33 bit` are complete no-ops (nothing transmitted, station unchanged),
and the FIRST poll at a time `t > r1 + 33 bit` hands the FDL status reply addressed to `src` to the PHY,
clears the request (`afterReply`: an idle station stays idle, a listener with a valid LAS joins as
`ActiveIdle`) and stamps the predicted end — provided `t < r1 + Tto` (otherwise `handle_lost_token`
comes first and the station claims the token instead, `C06.claim_progress`). -/
theorem reply_handshake_responder (s : Station) (apps : Apps) (r1 : Int) (src : Nat) (hinv : Inv s apps)
    (hon : s.online = true) (hreg : Registered s src) (hl : s.lastBusActivity = some r1)
    (hto : s.p.bits 33 < s.p.tokenLostTimeout)
    (early : List Int) (t : Int) (hearly : ∀ e ∈ early, e ≤ r1 + (s.p.bits 33 : Nat))
    (ht : r1 + (s.p.bits 33 : Nat) < t) (hq : t < r1 + (s.p.tokenLostTimeout : Nat)) :
    QuietThenReply s.p.address src s apps early t :=
  responder_schedule s apps r1 t src hinv hon hreg hl hto ht hq early hearly

/-- **Part 4, responder, timed form**: polled at `t 0, t 1, …` with `t 0 ≤ r1 + P`, gaps at most `P`,
`33 bit + P < Tto`, the reply starts at a poll time in `(r1 + 33 bit, r1 + 33 bit + P]`. -/
theorem responder_replies_timed (s : Station) (apps : Apps) (r1 : Int) (src : Nat) (hinv : Inv s apps)
    (hon : s.online = true) (hreg : Registered s src) (hl : s.lastBusActivity = some r1)
    (t : Nat → Int) (P : Nat) (hto : s.p.bits 33 + P < s.p.tokenLostTimeout)
    (h0 : t 0 ≤ r1 + P) (hgap : ∀ i, t (i + 1) ≤ t i + P) (hgo : ∃ k, r1 + (s.p.bits 33 : Nat) < t k) :
    ∃ n, r1 + (s.p.bits 33 : Nat) < t n ∧ t n ≤ r1 + (s.p.bits 33 : Nat) + P ∧
      QuietThenReply s.p.address src s apps ((List.range n).map t) (t n) := by
  obtain ⟨k, hk⟩ := hgo
  obtain ⟨n, h1, h2, h3⟩ := first_exceed_timed t r1 (s.p.bits 33) P h0 hgap k hk
  refine ⟨n, h1, h2, reply_handshake_responder s apps r1 src hinv hon hreg hl (by omega) _ _ ?_ h1 (by omega)⟩
  intro e he
  simp only [List.mem_map, List.mem_range] at he
  obtain ⟨i, hi, rfl⟩ := he
  exact h3 i hi

/-- **Part 4, `reply_handshake_requester`.**  A station waiting for a reply — `AwaitStatusResponse`
(GAP poll), `ClaimToken(ScanAwait)` (GAP poll while claiming) or `AwaitDataResponse` (application
request), `Awaiting` — with stamp `te` (predicted end of its request, `tx_marks_busy`).  For ONE poll
at any time, any PHY flag, any receive buffer, that returns regularly:
(a) at `now ≤ te` the poll is a complete no-op;
(b) at `now ≤ te + Tslot`, and (c) at ANY time if more bytes are in the receive buffer than accounted
    for: nothing is transmitted — the station does not give up: no retry, no token pass, and (PHY idle,
    `now > te`) no `timeout` is reported to the application (`NoTimeout`); while no complete telegram has
    arrived the station is unchanged except for the registered activity (still waiting, stamp := `now`
    if a byte is new). -/
theorem reply_handshake_requester (s : Station) (apps : Apps) (now : Int) (phy : Bool) (rx : Bytes) (c' : Ctx)
    (te : Int) (hon : s.online = true) (haw : Awaiting s) (hl : s.lastBusActivity = some te)
    (h : s.poll apps now phy rx = .ok c') :
    (now ≤ te → c' = { s := s, apps := apps, rx := rx }) ∧
    ((now ≤ te + (s.p.slotTime : Nat) ∨ s.pendingBytes < rx.length) → c'.tx = none) ∧
    (te < now → phy = false → (now ≤ te + (s.p.slotTime : Nat) ∨ s.pendingBytes < rx.length) →
      NoTimeout [] c'.calls ∧
      ∀ rx' ret, receiveTelegram rx = .done rx' [] ret →
        c' = { s := checkBusActivity s now rx.length, apps := apps, rx := rx' }) :=
  slot_waiter_poll s apps now phy rx c' te hon haw.awake.1 haw.awake.2 hl h fun hlt hphy hne => by
    subst hphy
    exact requester_poll_waits s apps now rx c' te hon haw hl hlt hne.symm h

/-- **Part 4, requester, run form (`requester_never_gives_up`)**: under the invariant, for any `Dense`
sequence of polls, every poll returns regularly, transmits nothing and reports no time-out, for as long
as the polls find no complete telegram in the buffer (then the reply is handled, `C15.reply_delivery`,
`C12`). -/
theorem requester_never_gives_up (s : Station) (apps : Apps) (te : Int) (hinv : Inv s apps)
    (hon : s.online = true) (haw : Awaiting s) (hl : s.lastBusActivity = some te)
    (polls : List (Int × Bytes)) (hd : Dense s.p.slotTime te s.pendingBytes polls) :
    AwaitsQuietly s apps polls :=
  requester_run s.p polls s apps te hinv hon haw hl rfl hd

/-- **Part 4, `reply_handshake`** (two stations, one request/reply).  Requester A waits (`Awaiting`, stamp
`te`, nothing pending); responder R has registered A's request at its poll `r1`, the first that saw the
complete request (`tb ≤ r1 ≤ tb + P_R`, `tb ≤ te + E` the real end of the request on the bus), and is then
polled at `tR 0, tR 1, …` with gaps `≤ P_R` (`33 bit + P_R < Tto`) on a silent bus.  Under
`Margin Tslot (33 bit) E P_R C`: R replies at its first poll `q = tR n` later than `r1 + 33 bit`, with
`tb + 33 bit < q` (in particular later than the minimum station delay of 11 bit after the request) and
`q + C ≤ te + Tslot`; and if the characters of the reply reach A according to an arrival model with the
first character complete by `q + C` and consecutive ones at most a slot time apart, then for every
time-ordered sequence of polls of A seeing the corresponding prefixes A never gives up: no retry, no
token pass, no `timeout` callback, until the complete reply is in its buffer. -/
theorem reply_handshake
    (sA : Station) (appsA : Apps) (te : Int) (hinvA : Inv sA appsA) (honA : sA.online = true)
    (hawA : Awaiting sA) (hlA : sA.lastBusActivity = some te) (hpbA : sA.pendingBytes = 0)
    (sR : Station) (appsR : Apps) (r1 : Int) (src : Nat) (hinv : Inv sR appsR) (hon : sR.online = true)
    (hreg : Registered sR src) (hl : sR.lastBusActivity = some r1)
    (tR : Nat → Int) (PR : Nat) (hto : sR.p.bits 33 + PR < sR.p.tokenLostTimeout)
    (h0 : tR 0 ≤ r1 + PR) (hgap : ∀ i, tR (i + 1) ≤ tR i + PR) (hgo : ∃ k, r1 + (sR.p.bits 33 : Nat) < tR k)
    (tb : Int) (E C : Nat) (hE : tb ≤ te + E) (hr1 : tb ≤ r1) (hr1' : r1 ≤ tb + PR)
    (hm : Margin sA.p.slotTime (sR.p.bits 33) E PR C) :
    ∃ n, QuietThenReply sR.p.address src sR appsR ((List.range n).map tR) (tR n) ∧
      tb + (sR.p.bits 33 : Nat) < tR n ∧ tR n + C ≤ te + (sA.p.slotTime : Nat) ∧
      ∀ (nb : Nat) (arr : Nat → Int) (vis : Int → Nat), 0 < nb → Arrivals nb arr vis → arr 0 ≤ tR n + C →
        (∀ k, k + 1 < nb → arr (k + 1) ≤ arr k + (sA.p.slotTime : Nat)) →
        ∀ polls : List (Int × Bytes), polls.Pairwise (fun x y => x.1 ≤ y.1) →
          (∀ x ∈ polls, x.2.length = vis x.1) → (∀ x ∈ polls, ∀ y ∈ polls, x.1 < y.1 → vis x.1 < nb) →
          AwaitsQuietly sA appsA polls := by
  obtain ⟨n, hn1, hn2, hq⟩ := responder_replies_timed sR appsR r1 src hinv hon hreg hl tR PR hto h0 hgap hgo
  obtain ⟨f1, f2, -⟩ := handover_first_char sA.p.slotTime (sR.p.bits 33) E PR C te tb r1 (tR n) hm hE hr1 hr1' hn1 hn2
  refine ⟨n, hq, f1, f2, ?_⟩
  intro nb arr vis hnb hA harr0 hgapc polls hpw hlen hinc
  refine requester_never_gives_up sA appsA te hinvA honA hawA hlA polls ?_
  rw [hpbA]
  exact dense_of_arrivals sA.p.slotTime nb arr vis hA hgapc polls te 0 hpw hlen hinc (fun _ _ _ => Nat.zero_le _)
    (fun _ => by omega) (fun h0 => by omega)

/-! Non-vacuity of part 4.  Responder: station 3, idle (`sB` without pending stranger), receives at 1000 µs
the status request 5→3 (`10 03 05 49 51 16`), registers it, and replies at its first poll later than 1066 µs.
Requester: station 5 in `AwaitStatusResponse 3` (stamp 0, `Tslot` = 400 µs) while the reply trickles in. -/
def sR0 : Station :=
  { (Station.new pEx) with online := true, st := .activeIdle none none 0, lastBusActivity := some 0 }

theorem sR0_inv : Inv sR0 [] :=
  inv_online pEx (by decide) (by decide) _ _ _ (TokenRing.new_ok _ (by decide)) (by simp)

example : ∃ c1, sR0.poll [] 1000 false [0x10, 3, 5, 0x49, 0x51, 0x16] = .ok c1 ∧ c1.tx = none ∧ c1.calls = [] ∧
    c1.rx = [] ∧ c1.apps = [] ∧ Registered c1.s 5 ∧ c1.s.st = .activeIdle (some 5) none 0 ∧
    c1.s.lastBusActivity = some 1000 ∧ c1.s.p = pEx ∧ c1.s.online = true :=
  request_registered_idle sR0 [] 1000 [0x10, 3, 5, 0x49, 0x51, 0x16] [] none 0 (fdlStatusRequestHeader 3 5) []
    .inactive true rfl rfl (by intro l hl; cases hl; decide) (by decide) (.inl (by decide)) (by decide) rfl rfl

def sR : Station :=
  { (Station.new pEx) with online := true, st := .activeIdle (some 5) none 0, lastBusActivity := some 1000 }

theorem sR_inv : Inv sR [] :=
  inv_online pEx (by decide) (by decide) _ _ _ (TokenRing.new_ok _ (by decide)) (by simp)

example : QuietThenReply 3 5 sR [] [1010, 1066] 1100 :=
  reply_handshake_responder sR [] 1000 5 sR_inv rfl (.inr ⟨none, 0, rfl⟩) rfl (by decide) [1010, 1066] 1100
    (by intro e he; simp at he; rcases he with rfl | rfl <;> decide) (by decide) (by decide)

def sQ : Station :=
  { (Station.new pA) with online := true, st := .awaitStatus 3, gap := .doPoll 3, lastBusActivity := some 0 }

theorem sQ_inv : Inv sQ [] := by
  have h := inv_new pA [] (by decide) (by decide) (by intro s hs; cases hs)
  exact ⟨h.addr, h.hsa, h.ring, fun ho => by simp [sQ] at ho,
    fun cur hc => by simp [sQ] at hc; subst hc; decide,
    fun a ha => by simp [sQ] at ha; subst ha; exact ⟨rfl, by decide⟩,
    fun a ha => by simp [sQ] at ha, h.app, fun a d ha => by simp [sQ] at ha, h.scripts, by simp [sQ]⟩

example : AwaitsQuietly sQ [] [(100, []), (300, [0x10]), (650, [0x10, 5]), (900, [0x10, 5])] :=
  requester_never_gives_up sQ [] 0 sQ_inv rfl (.inl ⟨3, rfl⟩) rfl _ (by
    show Dense 400 0 0 _
    simp [Dense])

/-! ## Whole runs of a stable two-station ring on the byte-accurate bus of `Model/Net.lean`

Two station models (indices 0 and 1) on the bus that the `net` correspondence ties to the real code: a
transmission of `n` characters started at `t` makes character `k` visible to the other station at
`t + ⌈11·(k+1)·10⁶/rate⌉`; overlapping transmissions would be delivered as zero bytes.  Stable ring: both
stations are members with agreeing, valid LAS (`RingView` over the same member list), nobody joins or
leaves, fault-free bus, no application traffic (`apps = []`); every token hold ends with a GAP request to
an unoccupied address (which times out) or with the token pass, as `gapAdvance` decides.
The invariant `RInv cfg n v` (`Lemmas/TimedRing2.lean`) describes the three phases `hold` / `gap` / `pass`
of the station whose turn it is, what the other station has received so far, the time stamps and the
shape of the transmission log; `cfg.Ok` is the handshake margin `2 + 2·P + bits 33 + ⌈11 bit⌉ ≤ Tslot`;
the schedule `Sched` says: events in time order, each station's own poll times strictly increasing, no
station unpolled for more than `P` at any event. -/

/-- **`two_station_ring_run`** — for EVERY schedule and EVERY length of run from a state satisfying the
invariant: every poll returns regularly (no panic); ONLY the station whose turn it is ever transmits — no
claim, no retry, no reply occurs, so nobody's token-lost or slot time-out ever fires spuriously; every
transmission starts LATER than 33 bit times after the END of the previous transmission on the bus (hence no
two transmissions overlap, and the synchronisation pause is respected); each transmission is a GAP
request to an address other than the other station's (the turn stays) or the token to the other station
(the turn passes on: the token alternates between the two stations).  (`GoodRun`.) -/
theorem two_station_ring_run (cfg : Cfg) (hok : cfg.Ok) (adr : Nat → Nat) (n : Net) (v : View) (h : RInv cfg n v)
    (hadr : ∀ j, j < 2 → v.adr j = adr j) (evs : List (Nat × Int)) (hs : Sched cfg.P n v.tl evs) :
    GoodRun cfg adr n v.nextTx (n.bus.txEnd v.tr) evs :=
  ring2_run hok adr evs n v h hadr hs

/-- The invariant is re-established after every scheduled run (so the statement above applies again). -/
theorem two_station_ring_inv (cfg : Cfg) (hok : cfg.Ok) (n : Net) (v : View) (h : RInv cfg n v)
    (evs : List (Nat × Int)) (hs : Sched cfg.P n v.tl evs) :
    ∃ v', RInv cfg (n.after evs) v' ∧ ∀ j, j < 2 → v'.adr j = v.adr j :=
  ring2_inv_run hok evs n v h hs

/-- One event preserves the invariant (the case analysis behind `two_station_ring_run` and `two_station_ring_inv`). -/
theorem two_station_ring_step (cfg : Cfg) (hok : cfg.Ok) (n : Net) (v : View) (h : RInv cfg n v) (i : Nat) (now : Int)
    (e : EvOk cfg n v i now) : StepOut cfg n v i now :=
  ring2_step h hok i now e

/-- **Silence bound of normal operation**: at every event of a scheduled run the end of the last
transmission lies at most `Tslot + P` back (the longest silence is the unanswered GAP request) — far
below every token-lost time-out `Tto ≥ 6·Tslot`; this is why nobody claims. -/
theorem two_station_ring_silence (cfg : Cfg) (hok : cfg.Ok) (n : Net) (v : View) (h : RInv cfg n v) (i : Nat) (now : Int)
    (e : EvOk cfg n v i now) : now ≤ n.bus.txEnd v.tr + (cfg.slot : Nat) + (cfg.P : Nat) :=
  ring2_silence h hok i now e

/-- The schedule condition is a condition on the poll times alone. -/
theorem schedule_of_times (P : Nat) (evs : List (Nat × Int)) (n : Net) (tl : Int)
    (h : SchedT P n.bus.seen tl evs) : Sched P n tl evs :=
  sched_of_times P evs n tl h

/-- For poll gaps `P ≤ Tslot/4` the margin `cfg.Ok` holds whenever `88·10⁶ + 6·rate ≤ slotBits·10⁶`. -/
theorem ring_margin_of_quarter_slot (cfg : Cfg) (hr : 0 < cfg.rate) (hP : cfg.P ≤ cfg.slot / 4)
    (hs : 88 * 1000000 + 6 * cfg.rate ≤ cfg.slotBits * 1000000) : cfg.Ok :=
  cfg.ok_of_quarter_slot hr hP hs

/-! Non-vacuity: stations 3 (index 0) and 5 (index 1) at 500 kbit/s, `Tslot` = 400 µs, `P` = 100 µs.  Station 5
passed the token at time 0 (on the bus until 66 µs), station 3 accepted it at its poll at 70 µs and holds it;
station 5 supervises.  The invariant holds, and so does the schedule below. -/
def cfg2 : Cfg := { rate := 500000, slotBits := 200, P := 100 }

theorem cfg2_ok : cfg2.Ok := cfg2.ok_of_quarter_slot (by decide) (by decide) (by decide)

open TokenRing in
def ring2 (ts : Nat) : TokenRing :=
  updateNextPrev { active := Vector.ofFn fun i => decide (i.val = 3 ∨ i.val = 5), las := .valid, ts := ts, ns := ts, ps := ts }

open TokenRing in
theorem ring2_view (ts : Nat) (hts : ts ∈ [3, 5]) : RingView [3, 5] ts (ring2 ts) := by
  refine ⟨⟨by simp, ⟨by decide, trivial⟩, by decide⟩, hts, (updateNextPrev_las _).2, (updateNextPrev_las _).1, ?_,
    updateNextPrev_nbr _⟩
  intro a ha
  unfold ring2
  rw [updateNextPrev_active]
  simp [isActive, ha]

theorem ring2_ok (ts : Nat) (hts : ts < 128) : TokenRing.RingOk (ring2 ts) := by
  have := TokenRing.upd_ok { active := Vector.ofFn fun i => decide (i.val = 3 ∨ i.val = 5), las := .valid, ts := ts, ns := ts, ps := ts }
    (Vector.ofFn fun i => decide (i.val = 3 ∨ i.val = 5)) ⟨hts, hts⟩
  exact this.1

def st0 : Station :=
  { (Station.new pEx) with online := true, st := .useToken ⟨70, none⟩ false, lastBusActivity := some 70, ring := ring2 3 }
def st1 : Station :=
  { (Station.new pA) with online := true, st := .checkTokenPass .first, lastBusActivity := some 66, ring := ring2 5 }

theorem st0_inv : Inv st0 [] :=
  inv_online pEx (by decide) (by decide) _ _ _ (ring2_ok 3 (by decide)) (by simp)

theorem st1_inv : Inv st1 [] :=
  inv_online pA (by decide) (by decide) _ _ _ (ring2_ok 5 (by decide)) (by simp)

def tok0 : Transmission := { start := 0, sender := 1, bytes := StationGap.tokenBytes 3 5, dropped := false }
def net0 : Net :=
  { bus := { rate := 500000, txs := [tok0], seen := [70, 0] },
    stations := [{ s := st0, apps := [], online := true }, { s := st1, apps := [], online := true }] }
def view0 : View :=
  { x := 0, sx := { s := st0, apps := [], online := true }, sy := { s := st1, apps := [], online := true },
    ax := 3, ay := 5, old := [], tr := tok0, ph := .hold 70, idle := false, ly := 66, tl := 70 }

theorem stok0 : StOk cfg2 view0.sx 3 5 :=
  ⟨rfl, rfl, rfl, st0_inv, rfl, rfl, rfl, rfl, ⟨[3, 5], ring2_view 3 (by simp), by decide, by decide⟩, by decide,
    by decide, by decide, by decide⟩
theorem stok1 : StOk cfg2 view0.sy 5 3 :=
  ⟨rfl, rfl, rfl, st1_inv, rfl, rfl, rfl, rfl, ⟨[3, 5], ring2_view 5 (by simp), by decide, by decide⟩, by decide,
    by decide, by decide, by decide⟩

theorem rinv0 : RInv cfg2 net0 view0 := by
  refine ⟨by decide, rfl, rfl, rfl, stok0, stok1, ⟨rfl, rfl, rfl, rfl, rfl, rfl, ?_, ?_⟩, by decide, by decide, by decide,
    rfl, rfl, ?_⟩
  · intro o ho; cases ho
  · intro i _ o ho; cases ho
  · unfold PhaseOk
    show _ ∧ _
    refine ⟨rfl, rfl, ⟨_, _, rfl⟩, rfl, rfl, by decide, rfl, rfl, rfl, by decide, by decide, by decide, by decide, by decide⟩

def evs0 : List (Nat × Int) := [(1, 80), (0, 137), (1, 160), (0, 230), (1, 250)]

theorem sched0 : Sched cfg2.P net0 view0.tl evs0 :=
  schedule_of_times _ _ _ _ (by
    show SchedT 100 [70, 0] 70 evs0
    simp [SchedT, evs0]
    decide)

example : GoodRun cfg2 (fun j => if j = 0 then 3 else 5) net0 0 (net0.bus.txEnd tok0) evs0 :=
  two_station_ring_run cfg2 cfg2_ok _ net0 view0 rinv0
    (by intro j hj; have : j = 0 ∨ j = 1 := by omega
        rcases this with rfl | rfl <;> rfl) evs0 sched0

/-! ## Whole runs of a stable ring of N ≥ 2 stations on the byte-accurate bus

N station models on the bus of `Model/Net.lean`; stable ring with member list `M` (`RingCfg`: the stations'
addresses are exactly the members, pairwise different, at least two), every station has a valid LAS equal
to `M` (`RingView`), with or without application traffic.  New with respect to the two-station case is the THIRD PARTY:
a station that is neither sender nor addressee may lag behind by any number of telegrams; at a poll it gets
the rest of the telegram it was in, whole telegrams and possibly a trailing fragment in one batch
(`listener_step`): it witnesses the passes (its LAS stays `M`), answers nothing, and accepts the token only
when it is addressed to it — then it is the last telegram of the batch.  `NInv` is the invariant (the station
whose turn it is with its phase — `hold`/`gap`/`pass`, and `holdT`/`await` inside a hold with application traffic —; for every other station the listener condition `LOk`:
what it has consumed, what is in its buffer, its deadline).  Hypotheses: `cfg.Ok` (the handshake margin
`2 + 2P + bits 33 + ⌈11 bit⌉ ≤ Tslot`), `P ≤ 100 ms` (the bus model forgets transmissions after 100 ms), every
`Tto ≥ Tslot + 2P + bits 33 + ⌈11 bit⌉ + 2` (in `StOkN`), the schedule `SchedN`. -/

/-- **`n_station_ring_run`** — every schedule, every length of run, any N ≥ 2: every poll returns regularly;
only the station whose turn it is transmits (no claim, retry or reply); every transmission starts later than
33 bit times after the end of the previous one (no overlap; synchronisation pause); each transmission is a
GAP request to a non-member address (the turn stays) or the token to the cyclic successor in the ascending
member list (the turn passes to it: `ascending_rotation`).  (`GoodRunN`.) -/
theorem n_station_ring_run (cfg : Cfg) (hok : cfg.Ok) (hP100 : cfg.P ≤ 100000) (M : List Nat) (adr : Nat → Nat)
    (n : Net) (v : NView) (h : NInv cfg M adr n v) (hna : NoApps n) (hpl : v.ph.plain)
    (evs : List (Nat × Int)) (hs : SchedN cfg.P n v.tl evs) :
    GoodRunN cfg M adr n (v.turn M adr) (cEnd cfg v.tr) evs :=
  ringN_run hok hP100 M adr evs n v h hna hpl hs

/-- **`n_station_ring_run_apps`** — the same WITH application traffic: every station has an arbitrary list of
applications with arbitrary scripts whose telegrams satisfy `AppP` (destination and source address below 128,
anything but an FDL status request — requests with or without reply, to member addresses, which do not
answer application requests, or to absent addresses) and the encoder's length limit (`ScriptsOk`, in the
station invariant).  Inside a token hold the holder sends application telegrams (`holdT`: no reply expected,
the hold continues after the synchronisation pause; `await a`: the reply never comes, after the slot time the
application gets its `timeout` and the hold continues in the same poll), then a GAP request or the token, as
the hold-time logic decides.  For every schedule and every length of run: every poll returns regularly, only
the station whose turn it is transmits, every transmission starts at least 33 bit times after the end of the
previous one (strictly later after another station's transmission), the token goes round in ascending
cyclic order, nobody claims, retries or replies (`GoodRunA`). -/
theorem n_station_ring_run_apps (cfg : Cfg) (hok : cfg.Ok) (hP100 : cfg.P ≤ 100000) (M : List Nat) (adr : Nat → Nat)
    (n : Net) (v : NView) (h : NInv cfg M adr n v) (evs : List (Nat × Int)) (hs : SchedN cfg.P n v.tl evs) :
    GoodRunA cfg M adr n (v.turn M adr) (cEnd cfg v.tr) v.tr.sender evs :=
  ringA_run hok hP100 M adr evs n v h hs

/-- The invariant holds again after every scheduled run. -/
theorem n_station_ring_inv (cfg : Cfg) (hok : cfg.Ok) (hP100 : cfg.P ≤ 100000) (M : List Nat) (adr : Nat → Nat)
    (n : Net) (v : NView) (h : NInv cfg M adr n v) (evs : List (Nat × Int)) (hs : SchedN cfg.P n v.tl evs) :
    ∃ v', NInv cfg M adr (n.afterN evs) v' :=
  ringN_inv_run hok hP100 M adr evs n v h hs

/-- One event preserves the invariant. -/
theorem n_station_ring_step (cfg : Cfg) (hok : cfg.Ok) (hP100 : cfg.P ≤ 100000) (M : List Nat) (adr : Nat → Nat)
    (n : Net) (v : NView) (h : NInv cfg M adr n v) (i : Nat) (now : Int) (e : EvOkN cfg n v.tl i now) :
    NStepOut cfg M adr n v i now :=
  ringN_step h hok hP100 i now e

/-- Silence bound: at every event the end of the last transmission lies at most `Tslot + 2P + bits 33` back;
every token-lost time-out is longer, so nobody claims. -/
theorem n_station_ring_silence (cfg : Cfg) (hok : cfg.Ok) (M : List Nat) (adr : Nat → Nat) (n : Net) (v : NView)
    (h : NInv cfg M adr n v) (i : Nat) (now : Int) (e : EvOkN cfg n v.tl i now) :
    now ≤ cEnd cfg v.tr + (cfg.gmax : Nat) :=
  ringN_silence h hok i now e

/-- The token goes round in ascending cyclic order: the station the turn passes to is the next larger
member, or — from the largest — the smallest. -/
theorem ascending_rotation (M : List Nat) (a : Nat) (ha : a ∈ M) :
    TokenRing.cycSucc a M ∈ M ∧
    ((∃ b ∈ M, a < b) → a < TokenRing.cycSucc a M ∧ ∀ b ∈ M, a < b → TokenRing.cycSucc a M ≤ b) ∧
    ((∀ b ∈ M, b ≤ a) → ∀ b ∈ M, TokenRing.cycSucc a M ≤ b) := by
  exact ⟨TokenRing.cycSucc_mem a M ha, fun h => (TokenRing.cycSucc_above h).2, fun h => (TokenRing.cycSucc_wrap h ⟨a, ha⟩).2⟩

/-- The schedule condition is a condition on poll times only. -/
theorem scheduleN_of_times (P : Nat) (evs : List (Nat × Int)) (n : Net) (tl : Int)
    (h : SchedNT P n.stations.length n.bus.seen tl evs) : SchedN P n tl evs :=
  schedN_of_times P evs n tl h

/-! Non-vacuity for N = 3: stations 3, 5, 7 (indices 0, 1, 2) at 500 kbit/s.  Station 3 passed the token at time 0,
station 5 accepted it at 70 µs and holds it; station 3 supervises its pass, station 7 (a third party) has
overheard the pass completely at its poll at 68 µs. -/
def M3 : List Nat := [3, 5, 7]
def adr3 (i : Nat) : Nat := M3.getD i 0

open TokenRing in
def ring3 (ts : Nat) : TokenRing :=
  updateNextPrev { active := Vector.ofFn fun i => decide (i.val ∈ M3), las := .valid, ts := ts, ns := ts, ps := ts }

open TokenRing in
theorem ring3_view (ts : Nat) (hts : ts ∈ M3) : RingView M3 ts (ring3 ts) := by
  refine ⟨⟨by simp [M3], ⟨by decide, by decide, trivial⟩, by decide⟩, hts, (updateNextPrev_las _).2, (updateNextPrev_las _).1, ?_,
    updateNextPrev_nbr _⟩
  intro a ha
  unfold ring3
  rw [updateNextPrev_active]
  simp [isActive, ha]

theorem ring3_ok (ts : Nat) (hts : ts < 128) : TokenRing.RingOk (ring3 ts) := by
  have := TokenRing.upd_ok { active := Vector.ofFn fun i => decide (i.val ∈ M3), las := .valid, ts := ts, ns := ts, ps := ts }
    (Vector.ofFn fun i => decide (i.val ∈ M3)) ⟨hts, hts⟩
  exact this.1

def p7 : Params := { pEx with address := 7 }
def s3a : Station :=
  { (Station.new pEx) with online := true, st := .checkTokenPass .first, lastBusActivity := some 66, ring := ring3 3 }
def s3b : Station :=
  { (Station.new pA) with online := true, st := .useToken ⟨70, none⟩ false, lastBusActivity := some 70, ring := ring3 5 }
def s3c : Station :=
  { (Station.new p7) with online := true, st := .activeIdle none none 0, lastBusActivity := some 68, ring := ring3 7 }

theorem s3a_inv : Inv s3a [] :=
  inv_online pEx (by decide) (by decide) _ _ _ (ring3_ok 3 (by decide)) (by simp)
theorem s3b_inv : Inv s3b [] :=
  inv_online pA (by decide) (by decide) _ _ _ (ring3_ok 5 (by decide)) (by simp)
theorem s3c_inv : Inv s3c [] :=
  inv_online p7 (by decide) (by decide) _ _ _ (ring3_ok 7 (by decide)) (by simp)

def tok3 : Transmission := { start := 0, sender := 0, bytes := StationGap.tokenBytes 5 3, dropped := false }
def ns3a : NetStation := { s := s3a, apps := [], online := true }
def ns3b : NetStation := { s := s3b, apps := [], online := true }
def ns3c : NetStation := { s := s3c, apps := [], online := true }
def net3 : Net := { bus := { rate := 500000, txs := [tok3], seen := [0, 70, 68] }, stations := [ns3a, ns3b, ns3c] }
def view3 : NView := { x := 1, sx := ns3b, pre := [], tr := tok3, ph := .hold 70, H := 236, Lo := 136, tl := 70 }

theorem ringCfg3 : RingCfg M3 adr3 3 :=
  ⟨⟨by simp [M3], ⟨by decide, by decide, trivial⟩, by decide⟩, by decide,
    (by
      intro i j hi hj he
      have hi' : i = 0 ∨ i = 1 ∨ i = 2 := by omega
      have hj' : j = 0 ∨ j = 1 ∨ j = 2 := by omega
      rcases hi' with rfl | rfl | rfl <;> rcases hj' with rfl | rfl | rfl <;> simp [adr3, M3] at he ⊢),
    by decide, by decide⟩

theorem stok3a : StOkN cfg2 M3 ns3a 3 := ⟨rfl, rfl, (fun s hs => by cases hs), s3a_inv, rfl, rfl, rfl, rfl, ring3_view 3 (by decide), by decide⟩
theorem stok3b : StOkN cfg2 M3 ns3b 5 := ⟨rfl, rfl, (fun s hs => by cases hs), s3b_inv, rfl, rfl, rfl, rfl, ring3_view 5 (by decide), by decide⟩
theorem stok3c : StOkN cfg2 M3 ns3c 7 := ⟨rfl, rfl, (fun s hs => by cases hs), s3c_inv, rfl, rfl, rfl, rfl, ring3_view 7 (by decide), by decide⟩

theorem tok3_not (j : Nat) (hj : adr3 j ≠ 5) (hj' : adr3 j < 256) : ∀ a, tok3.bytes ≠ StationGap.tokenBytes (adr3 j) a := by
  intro a hb
  exact hj (tokenBytes_adr_inj 5 3 (adr3 j) a (by decide) hj' hb).symm

theorem ninv3 : NInv cfg2 M3 adr3 net3 view3 := by
  refine ⟨ringCfg3, by decide, rfl, stok3b, ⟨rfl, rfl, rfl, rfl, List.pairwise_singleton _ _, ?_, ?_⟩, rfl, ?_, ?_, ?_, ?_, ?_,
    rfl, rfl, ?_⟩
  · intro t ht; simp only [net3, List.mem_singleton] at ht; subst ht; rfl
  · intro t ht; simp only [net3, List.mem_singleton] at ht; subst ht
    exact ⟨0, by decide, rfl, .inl (by decide)⟩
  · intro o ho; simp only [net3, List.mem_singleton] at ho; subst ho; right; decide
  · intro l hl o ho hs; simp only [net3, List.mem_singleton] at ho; subst ho; cases hs
  · intro j hj hjx
    have : j = 0 ∨ j = 2 := by simp only [net3, view3, List.length_cons, List.length_nil] at hj hjx; omega
    rcases this with rfl | rfl
    · refine ⟨ns3a, rfl, stok3a, [tok3], [], false, 66, rfl, ?_, ?_, rfl, Nat.le_refl _, ?_, ?_, rfl, .inr ⟨?_, by decide⟩, ?_, ?_, ?_⟩
      · intro o ho; simp only [List.mem_singleton] at ho; subst ho; exact .inl rfl
      · intro t ht; cases ht
      · intro o ho hs; simp only [net3, List.mem_singleton] at ho; subst ho; decide
      · intro t rest hrs; cases hrs
      · intro t ht; cases ht
      · intro t ht; cases ht
      · rintro ⟨t, a, hl, hb⟩
        simp only [net3, List.getLast?_singleton, Option.some.injEq] at hl
        subst hl
        exact absurd hb (tok3_not 0 (by decide) (by decide) a)
      · simp only [Bool.false_eq_true, if_false]; exact ⟨rfl, by decide⟩
    · refine ⟨ns3c, rfl, stok3c, [tok3], [], true, 68, rfl, ?_, ?_, rfl, Nat.le_refl _, ?_, ?_, rfl, .inl (by decide), ?_, ?_, ?_⟩
      · intro o ho; simp only [List.mem_singleton] at ho; subst ho; right; decide
      · intro t ht; cases ht
      · intro o ho hs; simp only [net3, List.mem_singleton] at ho; subst ho; cases hs
      · intro t rest hrs; cases hrs
      · intro t ht; cases ht
      · rintro ⟨t, a, hl, hb⟩
        simp only [net3, List.getLast?_singleton, Option.some.injEq] at hl
        subst hl
        exact absurd hb (tok3_not 2 (by decide) (by decide) a)
      · simp only [if_true]; exact ⟨⟨none, 0, rfl⟩, by decide⟩
  · intro j hj
    have : j = 0 ∨ j = 1 ∨ j = 2 := by simp only [net3, List.length_cons, List.length_nil] at hj; omega
    rcases this with rfl | rfl | rfl <;> decide
  · intro t ht; simp only [net3, List.mem_singleton] at ht; subst ht; decide
  · unfold PhaseOkN
    show _ ∧ _
    exact ⟨⟨_, _, rfl⟩, rfl, ⟨3, rfl⟩, by decide, by decide, by decide, by decide, by decide, by decide⟩

def evs3 : List (Nat × Int) := [(0, 80), (2, 110), (1, 137), (0, 150), (2, 170), (1, 200), (0, 230)]

theorem sched3 : SchedN cfg2.P net3 view3.tl evs3 :=
  scheduleN_of_times _ _ _ _ (by
    show SchedNT 100 3 [0, 70, 68] 70 evs3
    simp [SchedNT, evs3]
    decide)

example : GoodRunN cfg2 M3 adr3 net3 5 (cEnd cfg2 tok3) evs3 :=
  n_station_ring_run cfg2 cfg2_ok (by decide) M3 adr3 net3 view3 ninv3
    (by intro st hst; simp only [net3, List.mem_cons, List.mem_nil_iff, or_false] at hst; rcases hst with rfl | rfl | rfl <;> rfl)
    trivial evs3 sched3

/-! Non-vacuity with application traffic: as above, but station 5 (the holder) has one application whose script
sends an SDN telegram to address 9 (no reply expected), then an SRD request to station 3 (a master: not answered,
times out), then declines. -/
def hSDN : Header := { da := 9, sa := 5, dsap := none, ssap := none, fc := .request .inactive .sdnLow }
def hSRD : Header := { da := 3, sa := 5, dsap := none, ssap := none, fc := .request .first .srdLow }
def appsEx : Apps := [[.send hSDN [1, 2], .send hSRD [], .decline]]

theorem appsEx_ok : AnsOk AppP appsEx ∧ ScriptsOk appsEx := by
  constructor
  · intro script hs ans ha h pdu he
    simp only [appsEx, List.mem_singleton] at hs
    subst hs
    simp only [List.mem_cons, List.mem_nil_iff, or_false] at ha
    rcases ha with rfl | rfl | rfl
    · cases he; exact ⟨by decide, by decide, fun fcb hc => by cases hc⟩
    · cases he; exact ⟨by decide, by decide, fun fcb hc => by cases hc⟩
    · cases he
  · intro script hs ans ha h pdu he
    simp only [appsEx, List.mem_singleton] at hs
    subst hs
    simp only [List.mem_cons, List.mem_nil_iff, or_false] at ha
    rcases ha with rfl | rfl | rfl
    · cases he; decide
    · cases he; decide
    · cases he

def ns3b' : NetStation := { s := s3b, apps := appsEx, online := true }
def net3a : Net := { bus := { rate := 500000, txs := [tok3], seen := [0, 70, 68] }, stations := [ns3a, ns3b', ns3c] }
def view3a : NView := { x := 1, sx := ns3b', pre := [], tr := tok3, ph := .hold 70, H := 236, Lo := 136, tl := 70 }

theorem s3b_inv' : Inv s3b appsEx := by
  have h := s3b_inv
  exact ⟨h.addr, h.hsa, h.ring, h.off, h.gap, h.await1, h.await2, fun _ => by decide, fun a d ha => by simp [s3b] at ha,
    appsEx_ok.2, h.noPassive⟩

theorem ninv3a : NInv cfg2 M3 adr3 net3a view3a := by
  have h := ninv3
  exact ⟨h.ring, h.xlt, rfl, ⟨rfl, rfl, appsEx_ok.1, s3b_inv', rfl, rfl, rfl, rfl, ring3_view 5 (by decide), by decide⟩,
    h.log, h.txs, h.doneX, h.ownX, (fun j hj hjx => by
      have : j = 0 ∨ j = 2 := by simp only [net3a, view3a, List.length_cons, List.length_nil] at hj hjx; omega
      rcases this with rfl | rfl
      · obtain ⟨st, hst, hL⟩ := h.lis 0 (by decide) (by decide)
        exact ⟨st, hst, hL⟩
      · obtain ⟨st, hst, hL⟩ := h.lis 2 (by decide) (by decide)
        exact ⟨st, hst, hL⟩), h.tls, h.tlt, rfl, rfl, h.ph⟩

example : GoodRunA cfg2 M3 adr3 net3a 5 (cEnd cfg2 tok3) 0 evs3 :=
  n_station_ring_run_apps cfg2 cfg2_ok (by decide) M3 adr3 net3a view3a ninv3a evs3
    (scheduleN_of_times _ _ _ _ (by
      show SchedNT 100 3 [0, 70, 68] 70 evs3
      simp [SchedNT, evs3]
      decide))

end PV.C01
