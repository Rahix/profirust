/-
C03 — A peripheral enters data exchange only after a complete, correct bring-up.

The property theorems and their example checks, over the histories of `Lemmas/Dp.lean` (callbacks under the FDL contract
C15, with ghost observations).  All statements are about `Model/Dp/{Peripheral,Master}.lean`, tied to
`src/dp/{peripheral,master}.rs` and `src/fdl/parameters.rs` by the `dp` correspondence.

The bring-up is observed by the ghost automaton `s` of a slot (`Lemmas/Dp.lean`: `sgSend`, `sgReply`,
`bringUp`, `sgOffline`), driven only by what is visible on the wire and through `is_live()`:
  S0 --acceptable reply to a diagnostics request--> S1 --SC to Set_Prm--> S2 --SC to Chk_Cfg--> S3
     --acceptable diagnostics reply with none of PRM_FAULT, CFG_FAULT, PRM_REQ, STATION_NOT_READY--> S4;
  back to S0 whenever the peripheral is (considered) offline afterwards — the Offline event, a
  ParameterError / ConfigError — and back to S1 whenever the master sends Set_Prm again (the
  peripheral is asked to be re-parameterised).
`bringUp_step` says these are the only upward moves.  Theorems are stated for every state satisfying
the invariants, which every state reached by a contract history does (`reachable`) — histories may
contain `reset_address()` calls at any point, also while a request is in flight (the reply is then
ignored); the bookkeeping invariants `Inv8` / `Inv3` are established for all histories except those in
which the peripheral in flight is reset to the very address the reply is outstanding from
(`tainted = false` excludes exactly that); `never_panics` holds for all.
-/
import ProfiVerif.Lemmas.Dp03
import ProfiVerif.Driver.DpOracle

namespace PV.C03
open PV PV.Dp

theorem reachable {fp : FdlParams} (hfp : FpOk fp) {slots : List (Option Peripheral)}
    (hinit : InitOk fp slots) (gr : Bool) (ops : List Op) :
    ∀ {g : G}, grun fp (G.init slots gr) ops = .ok g → Inv fp g ∧ (g.tainted = false → Inv8 g ∧ Inv3 g) := by
  intro g h
  refine (grun_ind hfp (P := fun g => g.tainted = false → Inv8 g ∧ Inv3 g) ?_ ops _ (inv_init hinit gr)
    (fun _ => ⟨inv8_init hinit gr, inv3_init hinit gr⟩)).2.2 g h
  intro g g' op hI hP hs hu
  obtain ⟨h8, h3⟩ := hP (tainted_mono op hs hu)
  exact ⟨inv8_step hfp hI h8 op hs hu, inv3_step hfp hI h8 h3 op hs⟩

/-- The four flag tests of the bring-up state machine (`flags.contains(...)` on the decoded 16-bit
word, bit form in the model) are exactly the arithmetic tests on the first two bytes of the reply:
PRM_FAULT = bit 6 of byte 0, CFG_FAULT = bit 2 of byte 0, PRM_REQ = bit 0 of byte 1,
STATION_NOT_READY = bit 1 of byte 0 (removing the permanent bit 10 does not touch any of them). -/
theorem flag_tests_arith (pdu : Bytes) :
    let f := (Diag.infoOf pdu).flags
    let b0 := (pdu.getD 0 0).toNat
    let b1 := (pdu.getD 1 0).toNat
    (f &&& PARAMETER_FAULT = 0 ↔ b0 / 64 % 2 = 0) ∧
    (f &&& CONFIGURATION_FAULT = 0 ↔ b0 / 4 % 2 = 0) ∧
    (f &&& PARAMETER_REQUIRED = 0 ↔ b1 % 2 = 0) ∧
    (f &&& STATION_NOT_READY = 0 ↔ b0 / 2 % 2 = 0) := by
  intro f b0 b1
  have hn : f.toNat = Diag.Spec.flagsNat pdu := Diag.flags_toNat _ _
  have h0 := (pdu.getD 0 0).toNat_lt
  have h1 := (pdu.getD 1 0).toNat_lt
  have e6 : PARAMETER_FAULT = UInt16.ofNat (2 ^ 6) := by decide
  have e2 : CONFIGURATION_FAULT = UInt16.ofNat (2 ^ 2) := by decide
  have e8 : PARAMETER_REQUIRED = UInt16.ofNat (2 ^ 8) := by decide
  have e1 : STATION_NOT_READY = UInt16.ofNat (2 ^ 1) := by decide
  rw [e6, e2, e8, e1, and_pow_zero_iff f 6 (by decide), and_pow_zero_iff f 2 (by decide),
    and_pow_zero_iff f 8 (by decide), and_pow_zero_iff f 1 (by decide), hn]
  simp only [Diag.Spec.flagsNat]
  show (_ ↔ b0 / 64 % 2 = 0) ∧ (_ ↔ b0 / 4 % 2 = 0) ∧ (_ ↔ b1 % 2 = 0) ∧ (_ ↔ b0 / 2 % 2 = 0)
  have hb0 : (pdu.getD 0 0).toNat = b0 := rfl
  have hb1 : (pdu.getD 1 0).toNat = b1 := rfl
  rw [hb0, hb1]
  split <;> refine ⟨?_, ?_, ?_, ?_⟩ <;> omega

/-- The readiness test of the bring-up automaton (`readyFlags`, bit form, used by `bringUp_step` /
`dx_only_when_ready`) IS the test the executable oracle `oracle3` applies to the reply bytes on the
implementation's stream (`Driver.flagsReady`): the oracle judges the real code by the very predicate
the theorems are about. -/
theorem ready_flags_arith (t : Telegram) :
    readyFlags t = PV.Driver.flagsReady (pduOf t) := by
  have h := flag_tests_arith (pduOf t)
  simp only at h
  obtain ⟨h6, h2, h8, h1⟩ := h
  rw [Bool.eq_iff_iff, readyFlags_iff]
  simp only [PV.Driver.flagsReady, flagsOf, Bool.and_eq_true, beq_iff_eq, h6, h2, h8, h1]
  constructor
  · rintro ⟨a, b, c, d⟩; exact ⟨⟨⟨a, b⟩, d⟩, c⟩
  · rintro ⟨⟨⟨a, b⟩, d⟩, c⟩; exact ⟨a, b, c, d⟩

/-- The only upward moves of the bring-up automaton, in order. -/
theorem bringUp_step (k : RKind) (t : Telegram) (s : Nat) :
    bringUp k t s = s ∨
    (bringUp k t s = s + 1 ∧
      ((s = 0 ∧ k = .diag) ∨ (s = 1 ∧ k = .setPrm) ∨ (s = 2 ∧ k = .chkCfg) ∨
       (s = 3 ∧ k = .diag ∧ readyFlags t = true))) := by
  unfold bringUp
  cases k <;> simp only
  · by_cases h0 : s = 0
    · right; subst h0; simp
    · by_cases h3 : s = 3 ∧ readyFlags t = true
      · right; obtain ⟨rfl, hr⟩ := h3; simp [hr]
      · left; simp only [h0, if_false, h3]
  · by_cases h1 : s = 1
    · right; subst h1; simp
    · left; simp [h1]
  · by_cases h2 : s = 2
    · right; subst h2; simp
    · left; simp [h2]
  · left; trivial
  · left; trivial

/-- `dx_only_when_ready`: a cyclic Data_Exchange request (no SAPs, SRD high) goes out to a
peripheral only in S4: since it was last offline or asked to be re-parameterised it answered a
diagnostics request, acknowledged Set_Prm, acknowledged Chk_Cfg, and a later diagnostics reply
confirmed readiness. -/
theorem dx_only_when_ready {fp : FdlParams} (hfp : FpOk fp) {g g' : G} (hI : Inv fp g) (h8 : Inv8 g) (h3 : Inv3 g)
    {now : Int} {hp : Bool} (h : gstep fp g (.tx now hp) = .ok g')
    {i : Nat} {hd : Header} {pdu : Bytes} (ho : g'.o = .sent i hd pdu) (hk : reqKind hd = .dx) :
    (g.sg i).s = 4 := by
  obtain ⟨p, p', p0, hp0, hsame, _, _, hts, _, _⟩ := send_step hfp hI h8 h ho
  have hJ := h3.slot i p0 hp0
  rcases send_kind hts with ⟨hk', _⟩ | ⟨hk', _⟩ | ⟨hk', _⟩ | ⟨_, hst, _, _⟩
  · rw [hk'] at hk; cases hk
  · rw [hk'] at hk; cases hk
  · rw [hk'] at hk; cases hk
  · exact hJ.dx (by rw [hsame] at hst; exact hst)

/-- Set_Prm and Chk_Cfg are only sent in S1 resp. S2 (after the step: Set_Prm leaves the automaton in S1). -/
theorem bringup_requests_in_order {fp : FdlParams} (hfp : FpOk fp) {g g' : G} (hI : Inv fp g) (h8 : Inv8 g) (h3 : Inv3 g)
    {now : Int} {hp : Bool} (h : gstep fp g (.tx now hp) = .ok g')
    {i : Nat} {hd : Header} {pdu : Bytes} (ho : g'.o = .sent i hd pdu) :
    (reqKind hd = .setPrm → 1 ≤ (g.sg i).s ∧ (g'.sg i).s = 1) ∧ (reqKind hd = .chkCfg → (g.sg i).s = 2) := by
  obtain ⟨p, p', p0, hp0, hsame, _, _, hts, hsg, _⟩ := send_step hfp hI h8 h ho
  have hJ := h3.slot i p0 hp0
  have hps : p.state = p0.state := by rw [hsame]
  rcases send_kind hts with ⟨hk', _⟩ | ⟨hk', hst, _⟩ | ⟨hk', hst, _⟩ | ⟨hk', _⟩
  · rw [hk']; exact ⟨(by intro h; cases h), (by intro h; cases h)⟩
  · rw [hk']
    have h1 := hJ.prm (by rw [← hps]; exact hst)
    refine ⟨fun _ => ⟨h1, ?_⟩, (by intro h; cases h)⟩
    rw [hsg]; simp only [sgSend, hk']; simp; omega
  · rw [hk']; exact ⟨(by intro h; cases h), fun _ => hJ.cfg (by rw [← hps]; exact hst)⟩
  · rw [hk']; exact ⟨(by intro h; cases h), (by intro h; cases h)⟩

/-- Every request of the master to a peripheral is exactly the PROFIBUS frame of its header and PDU
(C09 frame layout) and decodes back to them: the statements below about `hd` / `pdu` are statements
about the bytes on the wire.  It is addressed from the master's to the peripheral's address. -/
theorem request_on_wire {fp : FdlParams} (hfp : FpOk fp) {g g' : G} (hI : Inv fp g) (h8 : Inv8 g)
    {now : Int} {hp : Bool} (h : gstep fp g (.tx now hp) = .ok g')
    {i : Nat} {hd : Header} {pdu : Bytes} (ho : g'.o = .sent i hd pdu) :
    ∃ p0, g.m.slots[i]? = some (some p0) ∧ hd.da = p0.address ∧ hd.sa = fp.address ∧
      hd.serialize pdu = .ok (frameSpec hd pdu) ∧
      ∀ rest, deserialize (frameSpec hd pdu ++ rest) = .accept (.data hd pdu) (frameSpec hd pdu).length := by
  obtain ⟨p, p', p0, hp0, hsame, _, hP, hts, _, _⟩ := send_step hfp hI h8 h ho
  obtain ⟨hda, hsa, hl, -⟩ := hts.send_facts (pinv_sendable hfp hP hts.send_retry)
  have hw := fun rest =>
    wire_of_send hd pdu rest (by rw [hda]; exact hP.addr) (by rw [hsa]; exact hfp.addr) hl
  exact ⟨p0, hp0, by rw [hda, hsame], hsa, (hw []).1, fun rest => (hw rest).2⟩

/-- `set_prm_bytes`: a Set_Prm request is `DSAP 61 / SSAP 62 / SRD low`, and its PDU is
`[0x80 + 0x20·sync + 0x10·freeze + 0x08·WD_On, f1, f2, min_tsdr, ident_hi, ident_lo, groups] ++ user_parameters`
with exactly the configured values (the watchdog factors of the FDL parameters, `0, 0` and WD_On
clear when no watchdog is configured). -/
theorem set_prm_bytes {fp : FdlParams} (hfp : FpOk fp) {g g' : G} (hI : Inv fp g) (h8 : Inv8 g)
    {now : Int} {hp : Bool} (h : gstep fp g (.tx now hp) = .ok g')
    {i : Nat} {hd : Header} {pdu : Bytes} (ho : g'.o = .sent i hd pdu) (hk : reqKind hd = .setPrm) :
    ∃ p0 up, g.m.slots[i]? = some (some p0) ∧ p0.opts.userPrm = some up ∧
      hd = { da := p0.address, sa := fp.address, dsap := some 61, ssap := some 62, fc := .request (fcbOf hd) .srdLow } ∧
      pdu = setPrmPdu fp p0.opts up ∧
      (p0.opts.ident < 65536 →
        pdu.length = 7 + up.length ∧ pdu.drop 7 = up ∧
        (pdu.getD 0 0).toNat = 128 + (if p0.opts.sync then 32 else 0) + (if p0.opts.freeze then 16 else 0) +
          (if fp.watchdog.isSome then 8 else 0) ∧
        pdu.getD 1 0 = (match fp.watchdog with | some (f1, _) => f1 | none => 0) ∧
        pdu.getD 2 0 = (match fp.watchdog with | some (_, f2) => f2 | none => 0) ∧
        pdu.getD 3 0 = fp.minTsdr ∧
        (pdu.getD 4 0).toNat * 256 + (pdu.getD 5 0).toNat = p0.opts.ident ∧
        pdu.getD 6 0 = p0.opts.groups) := by
  obtain ⟨p, p', p0, hp0, hsame, _, _, hts, _, _⟩ := send_step hfp hI h8 h ho
  rcases send_kind hts with ⟨hk', _⟩ | ⟨_, _, up, hu, hpdu⟩ | ⟨hk', _⟩ | ⟨hk', _⟩
  · rw [hk'] at hk; cases hk
  · have hop : p.opts = p0.opts := by rw [hsame]
    have hpa : p.address = p0.address := by rw [hsame]
    refine ⟨p0, up, hp0, by rw [← hop]; exact hu, ?_, by rw [hpdu, hop], ?_⟩
    · cases hts <;> first | (rw [reqKind_diag] at hk; cases hk) | (rw [reqKind_chkCfg] at hk; cases hk) | (rw [reqKind_dx] at hk; cases hk) | skip
      simp [Peripheral.setPrmHeader, SAP_SLAVE_SET_PRM, SAP_MASTER_MS0, fcbOf, hpa]
    · intro hid
      rw [hpdu, hop]
      exact setPrmPdu_spec fp p0.opts up hid
  · rw [hk'] at hk; cases hk
  · rw [hk'] at hk; cases hk

/-- `chk_cfg_bytes`: a Chk_Cfg request is `DSAP 62 / SSAP 62 / SRD low` and its PDU is exactly the
configured configuration bytes. -/
theorem chk_cfg_bytes {fp : FdlParams} (hfp : FpOk fp) {g g' : G} (hI : Inv fp g) (h8 : Inv8 g)
    {now : Int} {hp : Bool} (h : gstep fp g (.tx now hp) = .ok g')
    {i : Nat} {hd : Header} {pdu : Bytes} (ho : g'.o = .sent i hd pdu) (hk : reqKind hd = .chkCfg) :
    ∃ p0, g.m.slots[i]? = some (some p0) ∧ p0.opts.config = some pdu ∧
      hd = { da := p0.address, sa := fp.address, dsap := some 62, ssap := some 62, fc := .request (fcbOf hd) .srdLow } := by
  obtain ⟨p, p', p0, hp0, hsame, _, _, hts, _, _⟩ := send_step hfp hI h8 h ho
  rcases send_kind hts with ⟨hk', _⟩ | ⟨hk', _⟩ | ⟨_, _, hu⟩ | ⟨hk', _⟩
  · rw [hk'] at hk; cases hk
  · rw [hk'] at hk; cases hk
  · have hop : p.opts = p0.opts := by rw [hsame]
    have hpa : p.address = p0.address := by rw [hsame]
    refine ⟨p0, hp0, by rw [← hop]; exact hu, ?_⟩
    cases hts <;> first | (rw [reqKind_diag] at hk; cases hk) | (rw [reqKind_setPrm] at hk; cases hk) | (rw [reqKind_dx] at hk; cases hk) | skip
    simp [Peripheral.chkCfgHeader, SAP_SLAVE_CHK_CFG, SAP_MASTER_MS0, fcbOf, hpa]
  · rw [hk'] at hk; cases hk

/-- `diag_request_bytes`: a diagnostics request is `DSAP 60 / SSAP 62 / SRD low` without PDU. -/
theorem diag_request_bytes {fp : FdlParams} (hfp : FpOk fp) {g g' : G} (hI : Inv fp g) (h8 : Inv8 g)
    {now : Int} {hp : Bool} (h : gstep fp g (.tx now hp) = .ok g')
    {i : Nat} {hd : Header} {pdu : Bytes} (ho : g'.o = .sent i hd pdu) (hk : reqKind hd = .diag) :
    ∃ p0, g.m.slots[i]? = some (some p0) ∧ pdu = [] ∧
      hd = { da := p0.address, sa := fp.address, dsap := some 60, ssap := some 62, fc := .request (fcbOf hd) .srdLow } := by
  obtain ⟨p, p', p0, hp0, hsame, _, _, hts, _, _⟩ := send_step hfp hI h8 h ho
  rcases send_kind hts with ⟨_, hpdu, _⟩ | ⟨hk', _⟩ | ⟨hk', _⟩ | ⟨hk', _⟩
  · have hpa : p.address = p0.address := by rw [hsame]
    refine ⟨p0, hp0, hpdu, ?_⟩
    cases hts <;> first | (rw [reqKind_setPrm] at hk; cases hk) | (rw [reqKind_chkCfg] at hk; cases hk) | (rw [reqKind_dx] at hk; cases hk) | skip
    all_goals simp [Peripheral.diagHeader, SAP_SLAVE_DIAGNOSIS, SAP_MASTER_MS0, fcbOf, hpa]
  · rw [hk'] at hk; cases hk
  · rw [hk'] at hk; cases hk
  · rw [hk'] at hk; cases hk

/-- Every request to a peripheral is one of the four standard services (no other SAP pair). -/
theorem standard_saps_only {fp : FdlParams} (hfp : FpOk fp) {g g' : G} (hI : Inv fp g) (h8 : Inv8 g)
    {now : Int} {hp : Bool} (h : gstep fp g (.tx now hp) = .ok g')
    {i : Nat} {hd : Header} {pdu : Bytes} (ho : g'.o = .sent i hd pdu) : reqKind hd ≠ .other := by
  obtain ⟨p, p', p0, _, _, _, _, hts, _, _⟩ := send_step hfp hI h8 h ho
  rcases send_kind hts with ⟨hk', _⟩ | ⟨hk', _⟩ | ⟨hk', _⟩ | ⟨hk', _⟩ <;> (rw [hk']; intro hh; cases hh)

/-- `watchdog_factors_spec`: for every watchdog time-out from 10 ms to 650 s the builder's search
returns factors `1 ≤ f1, f2 ≤ 255` with `f2 = ⌈⌊ms/10⌋ / f1⌉` (so `f1·f2·10 ms` covers the requested
time, floored to 10 ms units) and `f1` the least factor for which that fits a byte; outside that
range the builder refuses (`none` = its assertion). -/
theorem watchdog_factors_spec (ms : Nat) (h1 : 10 ≤ ms) (h2 : ms ≤ 650000) :
    ∃ f1 f2 : Nat, watchdogFactors ms = some (UInt8.ofNat f1, UInt8.ofNat f2) ∧
      1 ≤ f1 ∧ f1 ≤ 255 ∧ 1 ≤ f2 ∧ f2 ≤ 255 ∧ ms / 10 ≤ f1 * f2 ∧ f1 * f2 < ms / 10 + f1 ∧
      (∀ g, 1 ≤ g → g < f1 → 256 ≤ (ms / 10 + g - 1) / g) :=
  Dp.watchdog_factors_spec ms h1 h2

theorem watchdog_factors_none_iff (ms : Nat) : watchdogFactors ms = none ↔ (ms < 10 ∨ 650000 < ms) :=
  Dp.watchdog_factors_none_iff ms

/-- The observation of DESIGN §6: the request is floored to 10 ms units, 15 ms yields 10 ms. -/
example : watchdogFactors 15 = some (1, 1) ∧ watchdogFactors 2550 = some (1, 255) ∧
    watchdogFactors 2560 = some (2, 128) := by decide

theorem never_panics {fp : FdlParams} (hfp : FpOk fp) {slots : List (Option Peripheral)}
    (hinit : InitOk fp slots) (gr : Bool) (ops : List Op) :
    grun fp (G.init slots gr) ops ≠ .panic ∧ grun fp (G.init slots gr) ops ≠ .hang :=
  ⟨(inv_run hfp ops _ (inv_init hinit gr)).1, (inv_run hfp ops _ (inv_init hinit gr)).2.1⟩


/-- On the example history the automaton walks S0..S4 and the first Data_Exchange request goes out in S4;
the Set_Prm frame on the wire is `68 0f 0f 68 87 82 5c 3d 3e 98 01 0a 0b 80 b1 03 01 02 03 c8 16`. -/
def bringUpCheck : Bool :=
  let sAfter := fun (n : Nat) =>
    match grun Ex.fp (G.init Ex.slots false) (Ex.bringUp.take n) with
    | .ok g => (g.sg 1).s
    | _ => 99
  sAfter 4 == 0 && sAfter 6 == 1 && sAfter 12 == 2 && sAfter 18 == 3 && sAfter 24 == 4 &&
  (match grun Ex.fp (G.init Ex.slots false) (Ex.bringUp.take 8) with
   | .ok g =>
     (match gstep Ex.fp g (.tx 4000 false) with
      | .ok g' => (match g'.o with
        | .sent 1 hd pdu => reqKind hd == .setPrm &&
            hd.serialize pdu == .ok [0x68, 0x0f, 0x0f, 0x68, 0x87, 0x82, 0x5c, 0x3d, 0x3e, 0x98, 0x01, 0x0a, 0x0b,
              0x80, 0xb1, 0x03, 0x01, 0x02, 0x03, 0xc8, 0x16]
        | _ => false)
      | _ => false)
   | _ => false) &&
  (match grun Ex.fp (G.init Ex.slots false) Ex.bringUp with
   | .ok g =>
     (match gstep Ex.fp g (.tx 10000 false) with
      | .ok g' => (match g'.o with | .sent 1 hd _ => reqKind hd == .dx && (g.sg 1).s == 4 | _ => false)
      | _ => false)
   | _ => false)

example : bringUpCheck = true := by decide +kernel

end PV.C03
