/-
C03 for the composed system FDL ∘ DP (`Model/Stack.lean`).

The theorems of `Props/C03.lean` are stated for steps from states reached by contract histories
(`Lemmas/Dp.lean`).  In the composed system — the station model with the DP master model as its only
application — the contract is a theorem (`Stack.station_log_is_contract_history`,
`Lemmas/Stack.lean`): every callback the station makes and every user call in between is such a step.
`stack_reachable` transfers all step theorems of `Props/C03.lean`; the headline clause is restated.
(A separate file because importing the station lemmas into `Props/C03.lean` would make the name
`Inv` ambiguous there.)
-/
import ProfiVerif.Props.C03
import ProfiVerif.Lemmas.StackEx

namespace PV.C03
open PV PV.Dp

/-- Every master call `x` of a composed run is a history step from a ghost state satisfying the
invariants the step theorems of `Props/C03.lean` assume. -/
theorem stack_reachable {fp : FdlParams} (hfp : FpOk fp) (p : Params)
    (haddr : fp.address.toNat = p.address) {slots : List (Option Peripheral)} (hinit : InitOk fp slots) (gr : Bool)
    (calls : List Stack.Call) {t0 : Int} (ht0 : -(2:Int)^62 < t0) (ht : Stack.TimesOk t0 calls)
    {k' : Stack.State} {l : List Stack.MCall} (h : Stack.run fp (Stack.init p slots gr) calls = .ok (k', l))
    {pre post : List Stack.MCall} {x : Stack.MCall} (hl : l = pre ++ x :: post) :
    ∃ g g', grun fp (G.init slots gr) (pre.map Stack.toOp) = .ok g ∧ gstep fp g (Stack.toOp x) = .ok g' ∧
      Dp.Inv fp g ∧ (g.tainted = false → Inv8 g ∧ Inv3 g) := by
  obtain ⟨g, g', e1, e2⟩ := Stack.stack_step hfp p haddr hinit gr calls ht0 ht h hl
  obtain ⟨hI, hr⟩ := reachable hfp hinit gr _ e1
  exact ⟨g, g', e1, e2, hI, hr⟩

/-- **`dx_only_when_ready` for the composed stack**: whenever, in any run of station ∘ master from
the initial state, a `transmit_telegram` callback of the station makes the master send a
Data_Exchange request to the peripheral in slot `i`, the bring-up automaton of that slot — driven by
the callbacks the station made before — is in S4.  No assumption about the FDL layer is left. -/
theorem stack_dx_only_when_ready {fp : FdlParams} (hfp : FpOk fp) (p : Params)
    (haddr : fp.address.toNat = p.address) {slots : List (Option Peripheral)} (hinit : InitOk fp slots) (gr : Bool)
    (calls : List Stack.Call) {t0 : Int} (ht0 : -(2:Int)^62 < t0) (ht : Stack.TimesOk t0 calls)
    {k' : Stack.State} {l : List Stack.MCall} (h : Stack.run fp (Stack.init p slots gr) calls = .ok (k', l))
    {pre post : List Stack.MCall} {now : Int} {hp : Bool} (hl : l = pre ++ .tx now hp :: post) :
    ∃ g g', grun fp (G.init slots gr) (pre.map Stack.toOp) = .ok g ∧ gstep fp g (.tx now hp) = .ok g' ∧
      ∀ i hd pdu, g'.o = .sent i hd pdu → reqKind hd = .dx → g.tainted = false → (g.sg i).s = 4 := by
  obtain ⟨g, g', e1, e2, hI, hr⟩ := stack_reachable hfp p haddr hinit gr calls ht0 ht h hl
  refine ⟨g, g', e1, e2, ?_⟩
  intro i hd pdu ho hk hu
  obtain ⟨h8, h3⟩ := hr hu
  exact dx_only_when_ready hfp hI h8 h3 e2 ho hk

/-- … and Set_Prm / Chk_Cfg are only handed to the station in S1 resp. S2. -/
theorem stack_bringup_requests_in_order {fp : FdlParams} (hfp : FpOk fp) (p : Params)
    (haddr : fp.address.toNat = p.address) {slots : List (Option Peripheral)} (hinit : InitOk fp slots) (gr : Bool)
    (calls : List Stack.Call) {t0 : Int} (ht0 : -(2:Int)^62 < t0) (ht : Stack.TimesOk t0 calls)
    {k' : Stack.State} {l : List Stack.MCall} (h : Stack.run fp (Stack.init p slots gr) calls = .ok (k', l))
    {pre post : List Stack.MCall} {now : Int} {hp : Bool} (hl : l = pre ++ .tx now hp :: post) :
    ∃ g g', grun fp (G.init slots gr) (pre.map Stack.toOp) = .ok g ∧ gstep fp g (.tx now hp) = .ok g' ∧
      ∀ i hd pdu, g'.o = .sent i hd pdu → g.tainted = false →
        (reqKind hd = .setPrm → 1 ≤ (g.sg i).s ∧ (g'.sg i).s = 1) ∧ (reqKind hd = .chkCfg → (g.sg i).s = 2) := by
  obtain ⟨g, g', e1, e2, hI, hr⟩ := stack_reachable hfp p haddr hinit gr calls ht0 ht h hl
  refine ⟨g, g', e1, e2, ?_⟩
  intro i hd pdu ho hu
  obtain ⟨h8, h3⟩ := hr hu
  exact bringup_requests_in_order hfp hI h8 h3 e2 ho


/-- In the concrete composed run `Stack.Ex.calls` the station hands a Data_Exchange request of the
master to the wire, in an untainted history, with the bring-up automaton in S4 — the hypotheses of
`stack_dx_only_when_ready` occur. -/
example : Stack.Ex.runHas (fun g _ g' =>
    match g'.o with
    | .sent i hd _ => reqKind hd == .dx && (g.sg i).s == 4 && !g.tainted
    | _ => false) = true := by
  have h := Stack.Ex.run_has
  simp only [Bool.and_eq_true] at h
  -- the predicate above is `Stack.Ex.sendsDxInS4` written out: the first conjunct of `run_has`
  exact h.1.1.1.1.1

example : ∃ k' l, Stack.run Stack.Ex.fp (Stack.init Stack.Ex.params Stack.Ex.slots false) Stack.Ex.calls = .ok (k', l) :=
  Stack.Ex.run_ok

end PV.C03
