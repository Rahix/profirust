/-
C04 — Process images are transferred faithfully and never corrupted.

The property theorems and an example history, over `Op`, `G`, `gstep`, `grun`, `Inv` of `Lemmas/Dp.lean`.  All statements
are about `Model/Dp/{Peripheral,Master}.lean`, which the `dp` correspondence ties to
`src/dp/{peripheral,master,peripheral_set}.rs`.

A *history* is a list of operations `tx now hp | reply a t | timeout a | take | writeQ slot bytes |
diagReq slot | resetAddr slot a` run by `grun` from `G.init slots growable` (a master in Operate whose slots hold freshly
constructed peripherals, `InitOk`).  `grun` has the contract of the FDL station (property C15) built
in: `reply a t` / `timeout a` are only possible while a reply from `a` is outstanding, `t` must be a
short confirmation or a response telegram with SA = `a`, DA = own address, `now` is non-decreasing;
anything else is `refused` (the theorems then say nothing).  User calls (`take_last_events`, writes to
`pi_q`, `request_diagnostics`, `reset_address`) are possible at any point.  Every state reached this way satisfies the
invariant `Inv` (`reachable_inv`); the step theorems below are stated for *every* state satisfying
`Inv`, hence for every point of every history, all image lengths, payloads and reply kinds.
-/
import ProfiVerif.Lemmas.Dp

namespace PV.C04
open PV PV.Dp

/-- Every state a contract history reaches satisfies the invariant the step theorems assume. -/
theorem reachable_inv {fp : FdlParams} (hfp : FpOk fp) {slots : List (Option Peripheral)}
    (hinit : InitOk fp slots) (gr : Bool) (ops : List Op) {g : G}
    (h : grun fp (G.init slots gr) ops = .ok g) : Inv fp g :=
  (inv_run hfp ops _ (inv_init hinit gr)).2.2 g h

/-- No reply shape, loss pattern or user call makes the master panic (or spin). -/
theorem never_panics {fp : FdlParams} (hfp : FpOk fp) {slots : List (Option Peripheral)}
    (hinit : InitOk fp slots) (gr : Bool) (ops : List Op) :
    grun fp (G.init slots gr) ops ≠ .panic ∧ grun fp (G.init slots gr) ops ≠ .hang :=
  ⟨(inv_run hfp ops _ (inv_init hinit gr)).1, (inv_run hfp ops _ (inv_init hinit gr)).2.1⟩

/-- In Operate every Data_Exchange request carries exactly the output image of the addressed
peripheral as it is at the moment of the `transmit_telegram` call, and is addressed to it. -/
theorem dx_request_carries_pi_q {fp : FdlParams} (hfp : FpOk fp) {g g' : G} (hI : Inv fp g)
    {now : Int} {hp : Bool} (h : gstep fp g (.tx now hp) = .ok g')
    {i : Nat} {hd : Header} {pdu : Bytes} (ho : g'.o = .sent i hd pdu) (hk : reqKind hd = .dx) :
    ∃ p, g.m.slots[i]? = some (some p) ∧ pdu = p.piQ ∧ hd.da = p.address ∧ hd.sa = fp.address := by
  obtain ⟨_, p, p', p0, _, _, hp0, hsame, _, hts, _, _⟩ := send_step0 hfp hI h ho
  refine ⟨p0, hp0, ?_, ?_, ?_⟩
  · rcases send_kind hts with ⟨hk', _⟩ | ⟨hk', _⟩ | ⟨hk', _⟩ | ⟨_, _, _, hpdu⟩
    · rw [hk'] at hk; cases hk
    · rw [hk'] at hk; cases hk
    · rw [hk'] at hk; cases hk
    · rw [hpdu, hsame]; simp [dxPdu]
  · rw [(send_header hts).2.2.1, hsame]
  · cases hts <;> rfl

/-- Images of every slot after a poll (`transmit_telegram`) are what they were before. -/
theorem tx_keeps_images {fp : FdlParams} (hfp : FpOk fp) {g g' : G} (hI : Inv fp g)
    {now : Int} {hp : Bool} (h : gstep fp g (.tx now hp) = .ok g') (j : Nat) :
    slotPiI g'.m j = slotPiI g.m j ∧ slotPiQ g'.m j = slotPiQ g.m j := by
  cases tx_form hfp hI h with
  | gc => exact ⟨rfl, rfl⟩
  | idle m' hD => exact slot_of_declined hD j
  | send m1 i p p' hd pdu hD hM1 hc hts =>
    obtain ⟨e1, e2, _⟩ := tx_images hts p' rfl
    have hs := slot_of_set (q := p') (cur_slot hc) { m1 with slots := m1.slots.set i (some p'), lastEvents := {} } rfl j
    have hd' := slot_of_declined hD j
    exact ⟨(hs.1 e1).trans hd'.1, (hs.2.1 e2).trans hd'.2⟩
  | off m1 index i p hD hM1 hcy hc =>
    have hs := slot_of_set (q := { p with state := .offline, fcb := .first, retry := 0 }) (curSlot_spec hc).2.2.1
      (afterDecline m1 index i p { p with state := .offline, fcb := .first, retry := 0 } (some .offline))
      (afterDecline_slots ..) j
    have hd' := slot_of_declined hD j
    exact ⟨(hs.1 rfl).trans hd'.1, (hs.2.1 rfl).trans hd'.2⟩

/-- The one way an input image changes: the data reply to the outstanding Data_Exchange request of slot `j`. -/
def DataDelivered (fp : FdlParams) (g : G) (op : Op) (j : Nat) (g' : G) : Prop :=
  ∃ a hd pdu st ss index p, op = .reply a (.data hd pdu) ∧ g.out = some a ∧
    g.m.cycle = .dx index ∧ curSlot g.m.slots index = some (j, p) ∧ p.address = a ∧
    hd.sa = a ∧ hd.da = fp.address ∧ hd.fc = .response st ss ∧ dataOkStatus ss = true ∧
    hd.dsap = none ∧ hd.ssap = none ∧ pdu.length = p.piI.length ∧
    (p.state = .preDataExchange ∨ p.state = .dataExchange) ∧ p.diagInFlight = false ∧
    slotPiI g'.m j = some pdu

theorem images_step {fp : FdlParams} (hfp : FpOk fp) {g g' : G} (hI : Inv fp g) (op : Op)
    (h : gstep fp g op = .ok g') (j : Nat) :
    (slotPiQ g'.m j = slotPiQ g.m j ∨ ∃ bs, op = .writeQ j bs ∧ slotPiQ g'.m j = some bs) ∧
    (slotPiI g'.m j = slotPiI g.m j ∨ DataDelivered fp g op j g') := by
  cases step_form hfp hI h with
  | tx _ => exact ⟨.inl (tx_keeps_images hfp hI h j).2, .inl (tx_keeps_images hfp hI h j).1⟩
  | @delivered a t _ hdel =>
    obtain ⟨index, i, p, p', ev, ho, hcy, hc, hpa, hal, hspec, rfl⟩ := hdel
    have hs := slot_of_set (q := p') (curSlot_spec hc).2.2.1 (afterReply g.m index i p p' ev) rfl j
    obtain ⟨hq, _, himg⟩ := rx_images hspec
    refine ⟨.inl (hs.2.1 hq), ?_⟩
    rcases himg with hsame | ⟨hd, pdu, st, ss, rfl, hst, hdf, hfc, hok, h1, h2, hlen, hpi⟩
    · exact .inl (hs.1 hsame)
    · by_cases hji : j = i
      · subst hji
        have hal' := hal
        simp only [replyAllowed, Bool.and_eq_true, beq_iff_eq] at hal'
        refine .inr ⟨a, hd, pdu, st, ss, index, p, rfl, ho, hcy, hc, hpa, hal'.1.1, hal'.1.2, hfc, hok, h1, h2, hlen, hst, hdf, ?_⟩
        rw [(hs.2.2.2 rfl).1, hpi]
      · left
        unfold slotPiI
        rw [getD_of_getElem?, getD_of_getElem?, hs.2.2.1 hji]
  | stale hst =>
    obtain ⟨_, _, _, _, _, _, _, rfl⟩ := hst
    exact ⟨.inl rfl, .inl rfl⟩
  | timeout => exact ⟨.inl rfl, .inl rfl⟩
  | take => exact ⟨.inl rfl, .inl rfl⟩
  | user slot p q f t s hj hU =>
    have hss := slot_of_set (q := q) hj { g.m with slots := g.m.slots.set slot (some q) } rfl j
    cases hU with
    | writeQ bs _ =>
      refine ⟨?_, .inl (hss.1 rfl)⟩
      by_cases hjs : j = slot
      · subst hjs; exact .inr ⟨bs, rfl, (hss.2.2.2 rfl).2⟩
      · left
        unfold slotPiQ
        rw [getD_of_getElem?, getD_of_getElem?, hss.2.2.1 hjs]
    | diagReq => exact ⟨.inl (hss.2.1 rfl), .inl (hss.1 rfl)⟩
    | resetAddr a _ => exact ⟨.inl (hss.2.1 rfl), .inl (hss.1 rfl)⟩

/-- The library never writes an output image: `pi_q` of every slot changes only by the user's
`pi_q_mut()` write to that slot. -/
theorem pi_q_never_written {fp : FdlParams} (hfp : FpOk fp) {g g' : G} (hI : Inv fp g) (op : Op)
    (h : gstep fp g op = .ok g') (j : Nat) (hne : slotPiQ g'.m j ≠ slotPiQ g.m j) :
    ∃ bs, op = .writeQ j bs ∧ slotPiQ g'.m j = some bs :=
  (images_step hfp hI op h j).1.resolve_left hne

/-- The input image of a slot changes only when a well-formed Data_Exchange reply of exactly the
configured input length arrives from the peripheral in that slot while its Data_Exchange request is
outstanding — and then it equals the reply's payload byte for byte. -/
theorem pi_i_changes_only {fp : FdlParams} (hfp : FpOk fp) {g g' : G} (hI : Inv fp g) (op : Op)
    (h : gstep fp g op = .ok g') (j : Nat) (hne : slotPiI g'.m j ≠ slotPiI g.m j) :
    ∃ a hd pdu st ss index p, op = .reply a (.data hd pdu) ∧ g.out = some a ∧
      g.m.cycle = .dx index ∧ curSlot g.m.slots index = some (j, p) ∧ p.address = a ∧
      hd.sa = a ∧ hd.da = fp.address ∧ hd.fc = .response st ss ∧ dataOkStatus ss = true ∧
      hd.dsap = none ∧ hd.ssap = none ∧ pdu.length = p.piI.length ∧
      (p.state = .preDataExchange ∨ p.state = .dataExchange) ∧ p.diagInFlight = false ∧
      slotPiI g'.m j = some pdu :=
  (images_step hfp hI op h j).2.resolve_left hne

/-- (For a reply that is delivered — a stale one after `reset_address()` changes nothing.)
A `DataExchanged` event is reported if and only if an acceptable reply to the outstanding
Data_Exchange request arrived: a response without SAPs, status OK / DL / DH, of exactly the
configured input length (the update of `pi_i`), or — for a peripheral without inputs — a short
confirmation.  The event names the slot that was addressed. -/
theorem event_iff {fp : FdlParams} {g g' : G} (hI : Inv fp g) {a : UInt8} {t : Telegram}
    (h : gstep fp g (.reply a t) = .ok g') :
    -- a stale reply (`reset_address()` while the request was in flight, F14) is ignored altogether
    (g'.m = g.m ∧ g'.o = .ignored) ∨
    ∃ index i p, g.m.cycle = .dx index ∧ curSlot g.m.slots index = some (i, p) ∧ p.address = a ∧
      (g'.m.lastEvents.peripheral = some { index := i, address := a, ev := .dataExchanged } ↔
        ((p.state = .preDataExchange ∨ p.state = .dataExchange) ∧ p.diagInFlight = false ∧
          acceptable .dx p.piI.length t = true)) ∧
      (∀ he, g'.m.lastEvents.peripheral = some he → he.index = i ∧ he.address = a) := by
  rcases reply_cases hI h with hdel | ⟨_, _, _, _, _, _, _, rfl⟩
  case inr => exact Or.inl ⟨rfl, rfl⟩
  right
  obtain ⟨index, i, p, p', ev, _, hcy, hc, hpa, _, hspec, rfl⟩ := hdel
  refine ⟨index, i, p, hcy, hc, hpa, ?_, ?_⟩
  · rw [← rx_event_iff hspec]
    simp only [afterReply]
    cases ev with
    | none => simp
    | some e => simp [hpa]
  · intro he hhe
    simp only [afterReply] at hhe
    cases ev with
    | none => simp at hhe
    | some e => simp at hhe; subst hhe; exact ⟨rfl, hpa⟩

/-- Faithful transfer: an acceptable data reply to the outstanding Data_Exchange request leaves
exactly its payload in the input image of the addressed slot. -/
theorem pi_i_equals_payload {fp : FdlParams} {g g' : G} (hI : Inv fp g) {a : UInt8} {hd : Header} {pdu : Bytes}
    (h : gstep fp g (.reply a (.data hd pdu)) = .ok g')
    {index i : Nat} {p : Peripheral} (hcy : g.m.cycle = .dx index) (hc : curSlot g.m.slots index = some (i, p))
    (hadr : p.address = a)
    (hst : p.state = .preDataExchange ∨ p.state = .dataExchange) (hdf : p.diagInFlight = false)
    (hacc : acceptable .dx p.piI.length (.data hd pdu) = true) : slotPiI g'.m i = some pdu := by
  rcases reply_cases hI h with hdel | ⟨index', i', p0, _, hcy', hc', hne, _⟩
  case inr =>
    rw [hcy] at hcy'
    simp only [Cycle.dx.injEq] at hcy'
    subst hcy'
    rw [hc] at hc'
    simp only [Option.some.injEq, Prod.mk.injEq] at hc'
    obtain ⟨rfl, rfl⟩ := hc'
    exact absurd hadr hne
  obtain ⟨index', i', p0, p', ev, _, hcy', hc', _, _, hspec, rfl⟩ := hdel
  rw [hcy] at hcy'
  simp only [Cycle.dx.injEq] at hcy'
  subst hcy'
  rw [hc] at hc'
  simp only [Option.some.injEq, Prod.mk.injEq] at hc'
  obtain ⟨rfl, rfl⟩ := hc'
  have hi := (curSlot_spec hc).2.2.1
  have hs := slot_of_set (q := p') hi (afterReply g.m index i p p' ev) rfl i
  rw [(hs.2.2.2 rfl).1]
  have hev := (rx_event_iff hspec).mpr ⟨hst, hdf, hacc⟩
  subst hev
  -- `dxData` is the only case of `RxSpec` that reports `DataExchanged` for a data telegram
  cases hspec
  rfl

/-- No cross-talk: a reply is applied to the peripheral in the slot the cycle index points at — the
one the outstanding request was addressed to — and to nothing else. -/
theorem no_cross_talk {fp : FdlParams} {g g' : G} (hI : Inv fp g) {a : UInt8} {t : Telegram}
    (h : gstep fp g (.reply a t) = .ok g') :
    ∃ index i p, g.m.cycle = .dx index ∧ curSlot g.m.slots index = some (i, p) ∧
      (p.address = a ∨ g'.m = g.m) ∧ ∀ j, j ≠ i → g'.m.slots[j]? = g.m.slots[j]? := by
  rcases reply_cases hI h with hdel | ⟨index, i, p, _, hcy, hc, _, rfl⟩
  case inr => exact ⟨index, i, p, hcy, hc, Or.inr rfl, fun _ _ => rfl⟩
  obtain ⟨index, i, p, p', ev, _, hcy, hc, hpa, _, hspec, rfl⟩ := hdel
  refine ⟨index, i, p, hcy, hc, Or.inl hpa, ?_⟩
  intro j hj
  have hi := (curSlot_spec hc).2.2.1
  exact (slot_of_set (q := p') hi (afterReply g.m index i p p' ev) rfl j).2.2.1 hj

/-- A poll never reports `DataExchanged`: the only peripheral event of `transmit_telegram` is Offline. -/
theorem tx_event_is_offline {fp : FdlParams} (hfp : FpOk fp) {g g' : G} (hI : Inv fp g)
    {now : Int} {hp : Bool} (h : gstep fp g (.tx now hp) = .ok g') :
    ∀ he, g'.m.lastEvents.peripheral = some he → he.ev = .offline := by
  intro he hhe
  cases tx_form hfp hI h with
  | gc => simp [G.polled] at hhe
  | idle m' _ _ hn => simp only [G.polled] at hhe; rw [hn] at hhe; cases hhe
  | send => simp [G.polled] at hhe
  | off m1 index i p =>
    simp only [G.polled, afterDecline_event, Option.some.injEq] at hhe
    subst hhe; rfl

/-- F14 (/repo 954a153): a reply for an address the peripheral at the cycle index no longer has — its
address was changed by `reset_address()` while the request was in flight — is ignored: master state
(images, cycle index, events) and the event account are untouched; nothing panics (`never_panics`
covers histories with `reset_address()` at arbitrary points). -/
theorem stale_reply_ignored {fp : FdlParams} {g g' : G} (hI : Inv fp g) {a : UInt8} {t : Telegram}
    (h : gstep fp g (.reply a t) = .ok g')
    {index i : Nat} {p : Peripheral} (hcy : g.m.cycle = .dx index) (hc : curSlot g.m.slots index = some (i, p))
    (hne : p.address ≠ a) : g'.m = g.m ∧ g'.produced = g.produced ∧ g'.o = .ignored ∧ g'.out = none := by
  rcases reply_cases hI h with ⟨index', i', p0, _, _, _, hcy', hc', hpa, _⟩ | ⟨_, _, _, _, _, _, _, rfl⟩
  · rw [hcy] at hcy'
    simp only [Cycle.dx.injEq] at hcy'
    subst hcy'
    rw [hc] at hc'
    simp only [Option.some.injEq, Prod.mk.injEq] at hc'
    obtain ⟨rfl, rfl⟩ := hc'
    exact absurd hpa hne
  · exact ⟨rfl, rfl, rfl, rfl⟩

/-- `reset_address()` keeps both process images of the slot (and touches no other slot's). -/
theorem reset_keeps_images {fp : FdlParams} (hfp : FpOk fp) {g g' : G} (hI : Inv fp g) {slot : Nat} {a : UInt8}
    (h : gstep fp g (.resetAddr slot a) = .ok g') (j : Nat) :
    slotPiI g'.m j = slotPiI g.m j ∧ slotPiQ g'.m j = slotPiQ g.m j := by
  obtain ⟨hq, hi⟩ := images_step hfp hI _ h j
  constructor
  · rcases hi with hi | ⟨_, _, _, _, _, _, _, hop, _⟩
    · exact hi
    · cases hop
  · rcases hq with hq | ⟨_, hop, _⟩
    · exact hq
    · cases hop


def exFp : FdlParams := { address := 2, slotUs := 5208, maxRetry := 1, minTsdr := 11, watchdog := some (1, 10) }
def exOpts : Options := { ident := 0x80b1, sync := false, freeze := true, groups := 3, userPrm := some [1, 2, 3], config := some [0x11, 0x21] }
def exP : Peripheral := Peripheral.new 7 exOpts [0] [0, 0] 16
def exSlots : List (Option Peripheral) := [none, some exP]

theorem exFp_ok : FpOk exFp := Ex.fp_ok

theorem exInit : InitOk exFp exSlots := Ex.init_ok

/-- Bring-up of the example peripheral, one data exchange with a user write in between. -/
def exHistory : List Op :=
  [.tx 1000 false, .tx 2000 false,
   .reply 7 (.data ⟨2, 7, some 62, some 60, .response .slave .dataLow⟩ [0x02, 0x05, 0, 2, 0x80, 0xb1]), .take,
   .tx 3000 false, .tx 4000 false, .reply 7 .sc, .tx 5000 false, .tx 6000 false, .reply 7 .sc,
   .tx 7000 false, .tx 8000 false,
   .reply 7 (.data ⟨2, 7, some 62, some 60, .response .slave .dataLow⟩ [0x00, 0x04, 0, 2, 0x80, 0xb1]), .take,
   .tx 9000 false, .writeQ 1 [0xde, 0xad], .tx 10000 false,
   .reply 7 (.data ⟨2, 7, none, none, .response .slave .dataLow⟩ [0xa5])]

/-- The history is inside the contract, ends with `pi_i = [a5]` and a pending `DataExchanged`, and
its last request carried the freshly written `pi_q = [de, ad]`. -/
def exCheck : Bool :=
  match grun exFp (G.init exSlots false) exHistory with
  | .ok g => slotPiI g.m 1 == some [0xa5] && slotPiQ g.m 1 == some [0xde, 0xad] &&
      g.m.lastEvents.peripheral == some { index := 1, address := 7, ev := .dataExchanged } &&
      (match g.o with | .replied 1 (some .dataExchanged) => true | _ => false)
  | _ => false

example : exCheck = true := by decide +kernel

/-- The F14 witness (corpus/dp/07): the address is changed while the Data_Exchange request is in flight;
the reply of the old address is ignored (`pi_i` stays, no event), the history is inside the contract and
— the new address being another one than the outstanding — not `tainted`. -/
def f14Check : Bool :=
  match grun exFp (G.init exSlots false) (exHistory.dropLast ++ [.resetAddr 1 9]) with
  | .ok g =>
    (match gstep exFp g (.reply 7 (.data ⟨2, 7, none, none, .response .slave .dataLow⟩ [0xa5])) with
     | .ok g' => g'.o == .ignored && slotPiI g'.m 1 == some [0] && g'.m.lastEvents == g.m.lastEvents && !g.tainted
     | _ => false)
  | _ => false

example : f14Check = true := by decide +kernel

end PV.C04
