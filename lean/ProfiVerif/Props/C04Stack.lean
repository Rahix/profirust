/-
C04 for the composed system FDL ∘ DP (`Model/Stack.lean`).  As in `Props/C03Stack.lean` (see there, also for why this is
a separate file): every master call of a composed run is a step from a state reached by a contract history
(`Stack.station_log_is_contract_history`), so `stack_reachable` transfers all step theorems of `Props/C04.lean`; the
headline clauses are restated.
-/
import ProfiVerif.Props.C04
import ProfiVerif.Lemmas.StackEx

namespace PV.C04
open PV PV.Dp

theorem stack_reachable {fp : FdlParams} (hfp : FpOk fp) (p : Params)
    (haddr : fp.address.toNat = p.address) {slots : List (Option Peripheral)} (hinit : InitOk fp slots) (gr : Bool)
    (calls : List Stack.Call) {t0 : Int} (ht0 : -(2:Int)^62 < t0) (ht : Stack.TimesOk t0 calls)
    {k' : Stack.State} {l : List Stack.MCall} (h : Stack.run fp (Stack.init p slots gr) calls = .ok (k', l))
    {pre post : List Stack.MCall} {x : Stack.MCall} (hl : l = pre ++ x :: post) :
    ∃ g g', grun fp (G.init slots gr) (pre.map Stack.toOp) = .ok g ∧ gstep fp g (Stack.toOp x) = .ok g' ∧ Dp.Inv fp g := by
  obtain ⟨g, g', e1, e2⟩ := Stack.stack_step hfp p haddr hinit gr calls ht0 ht h hl
  exact ⟨g, g', e1, e2, reachable_inv hfp hinit gr _ e1⟩

/-- **`pi_i_changes_only` for the composed stack**: in any run of station ∘ master from the initial
state, the input image of slot `j` differs before and after a master call only if that call is the
`receive_reply` callback for a well-formed Data_Exchange response of exactly the input length from
the peripheral in slot `j`, whose Data_Exchange request is outstanding — and then the image equals the
payload.  No assumption about the FDL layer is left. -/
theorem stack_pi_i_changes_only {fp : FdlParams} (hfp : FpOk fp) (p : Params)
    (haddr : fp.address.toNat = p.address) {slots : List (Option Peripheral)} (hinit : InitOk fp slots) (gr : Bool)
    (calls : List Stack.Call) {t0 : Int} (ht0 : -(2:Int)^62 < t0) (ht : Stack.TimesOk t0 calls)
    {k' : Stack.State} {l : List Stack.MCall} (h : Stack.run fp (Stack.init p slots gr) calls = .ok (k', l))
    {pre post : List Stack.MCall} {x : Stack.MCall} (hl : l = pre ++ x :: post) :
    ∃ g g', grun fp (G.init slots gr) (pre.map Stack.toOp) = .ok g ∧ gstep fp g (Stack.toOp x) = .ok g' ∧
      ∀ j, slotPiI g'.m j ≠ slotPiI g.m j →
        ∃ a hd pdu st ss index q, Stack.toOp x = .reply a (.data hd pdu) ∧ g.out = some a ∧
          g.m.cycle = .dx index ∧ curSlot g.m.slots index = some (j, q) ∧ q.address = a ∧
          hd.sa = a ∧ hd.da = fp.address ∧ hd.fc = .response st ss ∧ dataOkStatus ss = true ∧
          hd.dsap = none ∧ hd.ssap = none ∧ pdu.length = q.piI.length ∧
          (q.state = .preDataExchange ∨ q.state = .dataExchange) ∧ q.diagInFlight = false ∧
          slotPiI g'.m j = some pdu := by
  obtain ⟨g, g', e1, e2, hI⟩ := stack_reachable hfp p haddr hinit gr calls ht0 ht h hl
  exact ⟨g, g', e1, e2, fun j hne => pi_i_changes_only hfp hI _ e2 j hne⟩

/-- **`dx_request_carries_pi_q` for the composed stack**: every Data_Exchange request the master hands
to the station carries exactly the output image of the addressed peripheral as it is at that callback. -/
theorem stack_dx_request_carries_pi_q {fp : FdlParams} (hfp : FpOk fp) (p : Params)
    (haddr : fp.address.toNat = p.address) {slots : List (Option Peripheral)} (hinit : InitOk fp slots) (gr : Bool)
    (calls : List Stack.Call) {t0 : Int} (ht0 : -(2:Int)^62 < t0) (ht : Stack.TimesOk t0 calls)
    {k' : Stack.State} {l : List Stack.MCall} (h : Stack.run fp (Stack.init p slots gr) calls = .ok (k', l))
    {pre post : List Stack.MCall} {now : Int} {hp : Bool} (hl : l = pre ++ .tx now hp :: post) :
    ∃ g g', grun fp (G.init slots gr) (pre.map Stack.toOp) = .ok g ∧ gstep fp g (.tx now hp) = .ok g' ∧
      ∀ i hd pdu, g'.o = .sent i hd pdu → reqKind hd = .dx →
        ∃ q, g.m.slots[i]? = some (some q) ∧ pdu = q.piQ ∧ hd.da = q.address ∧ hd.sa = fp.address := by
  obtain ⟨g, g', e1, e2, hI⟩ := stack_reachable hfp p haddr hinit gr calls ht0 ht h hl
  exact ⟨g, g', e1, e2, fun i hd pdu ho hk => dx_request_carries_pi_q hfp hI e2 ho hk⟩


/-- In the concrete composed run `Stack.Ex.calls` a `receive_reply` callback of the station changes the
input image of slot 1 to the payload of the Data_Exchange response, and a Data_Exchange request
carries the output image the user wrote between two polls. -/
example : Stack.Ex.runHas (fun g op g' =>
    match op with
    | .reply _ (.data _ pdu) => slotPiI g'.m 1 != slotPiI g.m 1 && slotPiI g'.m 1 == some pdu
    | _ => false) = true := by
  have h := Stack.Ex.run_has
  simp only [Bool.and_eq_true] at h
  -- the predicate above is `Stack.Ex.replySetsInputs` written out: the second conjunct of `run_has`
  exact h.1.1.1.1.2

example : Stack.Ex.runHas (fun g _ g' =>
    match g'.o with
    | .sent i hd pdu => reqKind hd == .dx && slotPiQ g.m i == some pdu && pdu == [5, 6]
    | _ => false) = true := by
  have h := Stack.Ex.run_has
  simp only [Bool.and_eq_true] at h
  -- `Stack.Ex.dxCarriesOutputs`, the third conjunct
  exact h.1.1.1.2

end PV.C04
