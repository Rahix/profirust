/-
C05 — poll() is total (station level).
What is proved here for every input: the poll of an offline station is a no-op; a poll during an
ongoing transmission touches nothing but the activity time stamp; three of the transitions
(`transition_active_idle`, `transition_use_token`, `transition_pass_token`) are defined exactly on the
source states their `debug_assert_state!` lists; the receive helpers `poll` relies on terminate without
panicking on any buffer (C16); the GAP arithmetic never overflows under the station invariant (C12);
and — the headline — `poll_never_panics`: from `new`, under ANY sequence of poll / set_online /
set_offline calls with ANY arriving bytes, times and PHY flags, and ANY applications that build
encodable telegrams, no call panics (`Lemmas/StationInv.lean`: invariant `Inv`, preserved by every
handler).
-/
import ProfiVerif.Lemmas.StationInv
-- C10 and C16 are imported for the check of C05 alone: it audits theorems of both (props/C05.json) through
-- `Props/C05Stack`, the module it imports, which imports this one.
import ProfiVerif.Props.C10
import ProfiVerif.Props.C16

namespace PV.C05
open PV

/-- An offline station does nothing when polled: no transmission, no callback, no state change,
nothing consumed. -/
theorem offline_poll_noop (s : Station) (apps : Apps) (now : Int) (phyTx : Bool) (rx : Bytes)
    (hoff : s.online = false) (hst : s.st = .offline) :
    s.poll apps now phyTx rx = .ok { s := s, apps := apps, rx := rx } :=
  pollInner_offline (c := { s := s, apps := apps, rx := rx }) now phyTx hoff hst

/-- `set_offline` always yields such a station, whatever state it was in. -/
theorem set_offline_resets (s : Station) : s.setOffline.online = false ∧ s.setOffline.st = .offline ∧
    s.setOffline.lastBusActivity = none ∧ s.setOffline.pendingBytes = 0 := by
  simp [Station.setOffline, Station.new]

/-- While the PHY reports that it is still transmitting a poll neither receives nor transmits nor calls
anybody. -/
theorem busy_poll_noop (c : Ctx) (now : Int) (hon : c.s.online = true)
    (hst : c.s.st ≠ .offline) (hst2 : c.s.st ≠ .passiveIdle) :
    pollInner c now true = .ok (upd c fun s => markBusActivity s now) := by
  rw [pollInner_started now true hon hst hst2, if_pos ((ongoing_eq_true_iff c now true).2 (.inl rfl))]
  rfl

/-- The two receive helpers used by the handlers are total on every buffer. -/
theorem rx_helpers_total (rx : Bytes) :
    (∃ b calls ret, receiveAll rx = .done b calls ret) ∧ (∃ b calls ret, receiveTelegram rx = .done b calls ret) :=
  ⟨let ⟨calls, b, ret, _, h⟩ := receiveAll_drain rx; ⟨b, calls, ret, h⟩, receiveTelegram_total rx⟩

/-- Transitions are defined exactly on the states their `debug_assert_state!` lists. -/
theorem toActiveIdle_defined (s : Station) :
    (toActiveIdle s).isSome ↔ (match s.st with
      | .activeIdle .. | .listenToken .. | .useToken .. | .awaitData .. | .checkTokenPass ..
      | .awaitStatus .. | .claimToken .. => True
      | _ => False) := by
  unfold toActiveIdle; cases s.st <;> simp

theorem toUseToken_defined (s : Station) (d : UseData) :
    (toUseToken s d).isSome ↔ (match s.st with
      | .useToken .. | .claimToken .. | .passToken .. | .awaitData .. | .activeIdle .. => True
      | _ => False) := by
  unfold toUseToken; cases s.st <;> simp

theorem toPassToken_defined (s : Station) (g : Bool) (a : Attempt) :
    (toPassToken s g a).isSome ↔ (match s.st with
      | .passToken .. | .useToken .. | .claimToken .. | .checkTokenPass .. | .awaitStatus .. => True
      | _ => False) := by
  unfold toPassToken; cases s.st <;> simp

/-- The GAP arithmetic inside `poll` cannot overflow for a station with a valid HSA whose sweep position
lies below HSA. -/
theorem nextGap_defined (s : Station) (cur : Nat) (h1 : 0 < s.p.hsa) (h2 : s.p.hsa ≤ 126) (hc : cur < s.p.hsa) :
    (nextGap s cur).isSome := by
  unfold nextGap
  have := nextGapPoll_no_panic s.p.address s.ring.ns s.p.hsa cur h1 h2 hc
  cases h : nextGapPoll s.p.address s.ring.ns s.p.hsa cur <;> simp_all

/-- The API calls the documentation allows on a station (`set_passive` is `todo!()` in the source). -/
inductive ApiCall
  | poll (now : Int) (phyTransmitting : Bool) (arrived : Bytes)   -- bytes that reached the PHY since the last poll
  | setOnline
  | setOffline

/-- Station + application scripts + PHY receive buffer. -/
structure World where
  s : Station
  apps : Apps
  rx : Bytes

/-- One API call; `none` = the call panicked. -/
def World.step (w : World) : ApiCall → Option World
  | .poll now phyTx arrived =>
    match w.s.poll w.apps now phyTx (w.rx ++ arrived) with
    | .ok c => some { s := c.s, apps := c.apps, rx := c.rx }
    | .panic _ => none
  | .setOnline => some { w with s := w.s.setOnline }
  | .setOffline => some { w with s := w.s.setOffline }

def World.run (w : World) : List ApiCall → Option World
  | [] => some w
  | a :: rest => match w.step a with
    | some w' => w'.run rest
    | none => none

/-- The invariant holds initially for every parameter set `ParametersBuilder` can produce
(address < HSA ≤ 126) and every set of applications that build valid telegrams. -/
theorem inv_init (p : Params) (apps : Apps) (h1 : p.address < p.hsa) (h2 : p.hsa ≤ 126) (hs : ScriptsOk apps) :
    Inv (Station.new p) apps := inv_new p apps h1 h2 hs

/-- Every API call preserves the invariant and does not panic. -/
theorem inv_step (w : World) (a : ApiCall) (h : Inv w.s w.apps) :
    ∃ w', w.step a = some w' ∧ Inv w'.s w'.apps ∧ w'.apps.length = w.apps.length := by
  cases a with
  | poll now phyTx arrived =>
    obtain ⟨c, hc, hi, hl⟩ := pollInner_good { s := w.s, apps := w.apps, rx := w.rx ++ arrived } now phyTx h rfl
    refine ⟨{ s := c.s, apps := c.apps, rx := c.rx }, ?_, hi, hl⟩
    simp only [World.step, Station.poll]
    rw [hc]
  | setOnline => exact ⟨_, rfl, inv_setOnline h, rfl⟩
  | setOffline =>
    exact ⟨_, rfl, inv_new _ _ h.addr h.hsa h.scripts, rfl⟩

/-- **`poll_never_panics`**: for every valid parameter set, every set of applications (any number,
including none, with arbitrary send/decline behaviour as long as they build encodable telegrams) and
**every** sequence of `poll` / `set_online` / `set_offline` calls — whatever bytes arrive between
polls (valid telegrams, garbage, collisions), at whatever times, with whatever the PHY reports about
its transmitter — no call reaches any of the panics of `active.rs` (state-transition assertions,
`unreachable!()` accessors, the GAP self-poll assertion, indices, `unwrap`s, arithmetic overflow), and
the receive loop terminates.  Time does not even have to be monotone. -/
theorem poll_never_panics (p : Params) (apps : Apps) (h1 : p.address < p.hsa) (h2 : p.hsa ≤ 126)
    (hs : ScriptsOk apps) (calls : List ApiCall) :
    ∃ w, (World.run { s := Station.new p, apps := apps, rx := [] } calls) = some w ∧ Inv w.s w.apps := by
  suffices H : ∀ (calls : List ApiCall) (w : World), Inv w.s w.apps → ∃ w', w.run calls = some w' ∧ Inv w'.s w'.apps from
    H calls _ (inv_init p apps h1 h2 hs)
  intro calls
  induction calls with
  | nil => intro w hw; exact ⟨w, rfl, hw⟩
  | cons a rest ih =>
    intro w hw
    obtain ⟨w1, h1', hi1, -⟩ := inv_step w a hw
    obtain ⟨w2, h2', hi2⟩ := ih w1 hi1
    exact ⟨w2, by simp only [World.run, h1', h2'], hi2⟩

/-- A concrete station (TS 7, HSA 126) with one application, to instantiate `poll_never_panics`. -/
def demoParams : Params :=
  { address := 7, rate := 500000, slotBits := 200, ttrBits := 20000, gapWait := 10, hsa := 126, maxRetry := 1,
    minTsdrBits := 11 }

example : ∃ w, World.run { s := Station.new demoParams, apps := [[.decline]], rx := [] }
    [.setOnline, .poll 100 false [0xDC, 7, 3], .poll 100000 false [], .setOffline] = some w ∧ Inv w.s w.apps :=
  poll_never_panics _ _ (by decide) (by decide) scriptsOk_decline _

end PV.C05
