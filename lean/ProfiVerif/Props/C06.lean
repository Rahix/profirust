/-
C06 — The token ring recovers from lost stations, lost tokens and corrupted traffic.
Station level: the three recovery mechanisms and liveness of a single station on a silent bus.  Ring level, on the
byte-accurate bus: a dead successor and a dead token holder in the timed ring, agreement along runs of the stable ring, and
the cold start of one and of two stations up to the adoption of the second and the token pass to it.  The timed recovery
of an N-station ring and the rest of the two-station cold start are not proved (DESIGN 5.5).
-/
-- C11 and C16 are imported for the check of C06, which audits theorems of both through this module (props/C06.json).
import ProfiVerif.Props.C11
import ProfiVerif.Props.C16
import ProfiVerif.Props.C15
import ProfiVerif.Props.C02
import ProfiVerif.Props.C13
import ProfiVerif.Lemmas.TimedRingCrash
import ProfiVerif.Lemmas.TimedRingAgree
import ProfiVerif.Lemmas.ColdStartChain
import ProfiVerif.Lemmas.ColdStartPass

namespace PV.C06
open PV

/-- `claim_on_silence`: for a listening or idle station whose bus has been silent for its time-out,
`handle_lost_token` ends the poll with `do_claim_token` run in state `ClaimToken` — the station claims in that very
poll (`2` is the fuel of the model's `doClaimToken`, which calls itself at most once; what it transmits is
`claim_progress`). -/
theorem claim_on_silence (c : Ctx) (now : Int) (l : Int) (hl : c.s.lastBusActivity = some l)
    (hsil : (now - l).natAbs ≥ c.s.p.tokenLostTimeout) (s' : Station) (hs : toClaimToken c.s = some s') :
    (handleLostToken c now).2 = some (doClaimToken { c with s := s' } now 2) := by
  unfold handleLostToken getOrInsertLast
  simp only [hl]
  rw [if_pos hsil]
  simp [hs]

/-- The claim is possible from both waiting states. -/
theorem claim_from_listen_or_idle (s : Station) :
    (∃ a b, s.st = .listenToken a b) ∨ (∃ a b d, s.st = .activeIdle a b d) → (toClaimToken s).isSome := by
  rintro (⟨a, b, h⟩ | ⟨a, b, d, h⟩) <;> simp [toClaimToken, h]

/-- `garbage_dropped`: undecodable data is discarded completely and delivers nothing — so an idle
station's FDL state is untouched by it (only the activity time stamp moves). -/
theorem garbage_dropped (c : Ctx) (now : Int) (np : Option Nat) (coll : Nat)
    (hst : c.s.st = .activeIdle none np coll) (hg : deserialize c.rx = .reject)
    (hq : (handleLostToken c now).2 = none) (hsame : (handleLostToken c now).1.s.st = c.s.st)
    (hrx : (handleLostToken c now).1.rx = c.rx) :
    doActiveIdle c now = .ok { (handleLostToken c now).1 with rx := [] } := by
  have := receiveAll_of_reject hg
  cases hh : handleLostToken c now with
  | mk c1 r =>
    rw [hh] at hq hsame hrx
    simp only at hq hsame hrx
    subst hq
    rw [doActiveIdle_recv hst hh (hsame.trans hst), hrx, this]
    rfl

/-- `backoff`: a telegram that is not a valid reply, arriving while a data reply is awaited, sends the
station to `ActiveIdle` without any transmission or callback (`C15.reply_delivery`, invalid branch). -/
theorem backoff_data (c : Ctx) (now : Int) (addr : Nat) (d : UseData) (hst : c.s.st = .awaitData addr d)
    (happ : c.s.nextApp < c.apps.length)
    (rx' : Bytes) (t : Telegram) (flag : Bool) (rest : List (Telegram × Bool)) (ret : Bool)
    (hrx : receiveTelegram c.rx = .done rx' ((t, flag) :: rest) ret)
    (hinv : C15.ValidReply c.s.p.address addr t = false) :
    doAwaitDataResponse c now =
      .ok { c with rx := rx', s := { (markRx c.s now) with st := .activeIdle none none 0 } } := by
  rw [C15.reply_delivery c now addr d hst happ rx' t flag rest ret hrx]
  simp [hinv]

/-- `restart_clean`: `set_offline` followed by `set_online` is indistinguishable from a fresh station. -/
theorem restart_clean (s : Station) : s.setOffline.setOnline = (Station.new s.p).setOnline := rfl

/-! ## Liveness on a silent bus: a single online station never stays silent

Setting of all theorems below: a station context satisfying the C05 invariant `Inv`, online, nothing
handed to the PHY yet in this poll, **empty receive buffer**, a known bus-activity stamp `l`, PHY idle
(`phyTransmitting = false`).  `T := Params.silence = max tokenLostTimeout (max slotTime (bits 33))` is
the longest timer the station ever waits on; a poll at `now` with `l + T < now` is called *late*
(`Late p l now`).  `pollsToTx s ∈ {1, 2, 3}` is the number of late polls the state needs:
3 for `ClaimToken(Scan | ScanAwait)` standing at the last GAP address, 2 for `ClaimToken(Scan)` with the
sweep finished, 1 for every other state. -/

/-- **`silent_bus_progress`**: a late poll on a silent bus returns regularly, keeps the invariant,
parameters and connectivity, and EITHER hands a telegram to the PHY OR ends — receive buffer still
empty, stamp still `l`, so the same time bound keeps holding — in a state related to the start state
by `Deferred`, i.e. exactly one of
* `ClaimToken(Scan)`, GAP state `Waiting` → `PassToken(no gap, first)`;
* `ClaimToken(Scan)` or `ClaimToken(ScanAwait a)` whose sweep position `cur` is the last GAP address
  (`nextGapPoll TS NS HSA cur = waiting`) → `ClaimToken(Scan)` with GAP state `Waiting 0`;
and then the bound `pollsToTx` has strictly decreased.  (`UseToken` and `AwaitDataResponse` after its
time-out pass the token in the same poll — repair of finding K3 — and therefore always transmit.) -/
theorem silent_bus_progress (c : Ctx) (now l : Int) (hinv : Inv c.s c.apps) (hon : c.s.online = true)
    (htx : c.tx = none) (hrx : c.rx = []) (hl : c.s.lastBusActivity = some l)
    (hlate : l + (c.s.p.silence : Nat) < now) :
    ∃ c', pollInner c now false = .ok c' ∧ Inv c'.s c'.apps ∧ c'.apps.length = c.apps.length ∧
      c'.s.online = true ∧ c'.s.p = c.s.p ∧
      (c'.tx ≠ none ∨
        (c'.tx = none ∧ c'.rx = [] ∧ c'.s.lastBusActivity = some l ∧ Deferred c.s c'.s ∧
          pollsToTx c'.s < pollsToTx c.s)) := by
  obtain ⟨c', h, hi, hlen, ho, hp, hd⟩ := silent_step c now l hinv ⟨hon, htx, hrx, hl⟩
  refine ⟨c', h, hi, hlen, ho, hp, hd.imp id ?_⟩
  rintro ⟨hs', hdef⟩
  exact ⟨hs'.tx, hs'.rx, hs'.last, hdef hlate, deferred_lt (hdef hlate)⟩

/-- **Exact characterisation of the first late poll**: it transmits if and only if the start state's
bound is 1 — i.e. every state except `ClaimToken(Scan)` with the sweep finished and
`ClaimToken(Scan | ScanAwait)` at the last GAP address. -/
theorem silent_poll_transmits_iff (c : Ctx) (now l : Int) (hinv : Inv c.s c.apps) (hon : c.s.online = true)
    (htx : c.tx = none) (hrx : c.rx = []) (hl : c.s.lastBusActivity = some l)
    (hlate : l + (c.s.p.silence : Nat) < now) (c' : Ctx) (h : pollInner c now false = .ok c') :
    c'.tx ≠ none ↔ pollsToTx c.s = 1 := by
  have hs : Sil c l := ⟨hon, htx, hrx, hl⟩
  constructor
  · intro ht
    by_cases hb : 2 ≤ pollsToTx c.s
    · exact absurd (late_noTx_of_bound c now l hs hinv hlate hb c' h) ht
    · have := (pollsToTx_le c.s).1; omega
  · intro h1
    obtain ⟨c'', h', -, -, -, -, hd⟩ := silent_bus_progress c now l hinv hon htx hrx hl hlate
    rw [h] at h'
    cases h'
    rcases hd with hd | ⟨-, -, -, -, hlt⟩
    · exact hd
    · have := (pollsToTx_le c'.s).1; omega

/-- The poll that follows a deferred one: from `PassToken` the next late poll transmits. -/
theorem pass_token_transmits (c : Ctx) (now l : Int) (hinv : Inv c.s c.apps) (hon : c.s.online = true)
    (htx : c.tx = none) (hrx : c.rx = []) (hl : c.s.lastBusActivity = some l)
    (hlate : l + (c.s.p.silence : Nat) < now) (g : Bool) (att : Attempt) (hst : c.s.st = .passToken g att) :
    ∃ c', pollInner c now false = .ok c' ∧ Inv c'.s c'.apps ∧ c'.tx ≠ none := by
  obtain ⟨c', h, hi, -, -, -, hd⟩ := silent_bus_progress c now l hinv hon htx hrx hl hlate
  refine ⟨c', h, hi, ?_⟩
  exact (silent_poll_transmits_iff c now l hinv hon htx hrx hl hlate c' h).2 (by simp [pollsToTx, hst])

/-- **`silent_bus_polls`**: `pollsToTx s` late polls (at any later times, in any order) on a silent bus
contain a transmission; all polls up to it return regularly. -/
theorem silent_bus_polls (s : Station) (apps : Apps) (l : Int) (hinv : Inv s apps) (hon : s.online = true)
    (hl : s.lastBusActivity = some l) (late : List Int) (hlate : ∀ t ∈ late, l + (s.p.silence : Nat) < t)
    (hn : pollsToTx s ≤ late.length) : TransmitsWithin s apps [] late :=
  late_polls_transmit s.p l late.length late s apps hinv hon hl rfl hlate hn (Nat.le_refl _)

/-- **`silent_bus_two_polls`**: for every start state except `ClaimToken(Scan | ScanAwait)` standing at
the last GAP address, the first late poll transmits or the second one does. -/
theorem silent_bus_two_polls (s : Station) (apps : Apps) (l now now2 : Int) (hinv : Inv s apps) (hon : s.online = true)
    (hl : s.lastBusActivity = some l) (h1 : l + (s.p.silence : Nat) < now) (h2 : now ≤ now2)
    (hb : pollsToTx s ≤ 2) : TransmitsWithin s apps [] [now, now2] :=
  silent_bus_polls s apps l hinv hon hl [now, now2]
    (by intro t ht; simp at ht; rcases ht with rfl | rfl <;> omega) hb

/-- **`silent_bus_three_polls`**: from EVERY state, among three late polls one transmits. -/
theorem silent_bus_three_polls (s : Station) (apps : Apps) (l now now2 now3 : Int) (hinv : Inv s apps)
    (hon : s.online = true) (hl : s.lastBusActivity = some l) (h1 : l + (s.p.silence : Nat) < now)
    (h2 : now ≤ now2) (h3 : now2 ≤ now3) : TransmitsWithin s apps [] [now, now2, now3] :=
  silent_bus_polls s apps l hinv hon hl [now, now2, now3]
    (by intro t ht; simp at ht; rcases ht with rfl | rfl | rfl <;> omega) (pollsToTx_le s).2

/-- **`never_permanently_silent`** (schedule form): on a silent bus, whatever polls precede (`pre`, at
arbitrary times — they either transmit or leave stamp and silence untouched), the transmission comes
no later than the third poll whose time exceeds `l + T`. -/
theorem never_permanently_silent (s : Station) (apps : Apps) (l : Int) (hinv : Inv s apps) (hon : s.online = true)
    (hl : s.lastBusActivity = some l) (pre late : List Int) (hlate : ∀ t ∈ late, l + (s.p.silence : Nat) < t)
    (h3 : 3 ≤ late.length) : TransmitsWithin s apps [] (pre ++ late) :=
  pre_polls s.p l late pre s apps hinv hon hl rfl (fun s' apps' hi' ho' hl' hp' =>
    late_polls_transmit s.p l late.length late s' apps' hi' ho' hl' hp' hlate
      (by have := (pollsToTx_le s').2; omega) (Nat.le_refl _))

/-- **`never_permanently_silent_timed`**: for an infinite poll schedule `t 0 ≤ t 1 ≤ …` with poll period
at most `P` that does not stop before `l + T`, a transmission occurs at a poll no later than
`l + T + 3·P` after the last registered bus activity `l`. -/
theorem never_permanently_silent_timed (s : Station) (apps : Apps) (l : Int) (hinv : Inv s apps) (hon : s.online = true)
    (hl : s.lastBusActivity = some l) (t : Nat → Int) (P : Nat)
    (hmono : ∀ i, t i ≤ t (i + 1)) (hgap : ∀ i, t (i + 1) ≤ t i + P)
    (h0 : t 0 ≤ l + (s.p.silence : Nat) + P) (hgo : ∃ k, l + (s.p.silence : Nat) < t k) :
    ∃ n, t n ≤ l + (s.p.silence : Nat) + 3 * P ∧ TransmitsWithin s apps [] ((List.range (n + 1)).map t) := by
  obtain ⟨k, hk⟩ := hgo
  have first : ∀ k, l + (s.p.silence : Nat) < t k → ∃ j, l + (s.p.silence : Nat) < t j ∧ t j ≤ l + (s.p.silence : Nat) + P := by
    intro k
    induction k with
    | zero => intro h; exact ⟨0, h, h0⟩
    | succ k ih =>
      intro h
      by_cases hk' : l + (s.p.silence : Nat) < t k
      · exact ih hk'
      · exact ⟨k + 1, h, by have := hgap k; omega⟩
  obtain ⟨j, hj1, hj2⟩ := first k hk
  have hg2 : t (j + 2) ≤ t (j + 1) + P := hgap (j + 1)
  have hm2 : t (j + 1) ≤ t (j + 2) := hmono (j + 1)
  refine ⟨j + 2, by have := hgap j; omega, ?_⟩
  have hsplit : (List.range (j + 2 + 1)).map t = (List.range j).map t ++ [t j, t (j + 1), t (j + 2)] := by
    rw [show j + 2 + 1 = j + 3 from rfl, List.range_add]
    simp [List.range_succ]
  rw [hsplit]
  exact never_permanently_silent s apps l hinv hon hl _ _
    (by intro x hx; simp at hx; have := hmono j; rcases hx with rfl | rfl | rfl <;> omega)
    (by simp)

/-- **`never_permanently_silent_any`**: no assumption on the stamp.  From EVERY online state satisfying
the invariant — with a registered bus activity `l` or without any (then the first poll `t0` starts the
clock: `l := t0`) — a silent-bus schedule `t0 :: pre ++ late` whose last three or more polls are later
than `l + T` contains a transmission. -/
theorem never_permanently_silent_any (s : Station) (apps : Apps) (hinv : Inv s apps) (hon : s.online = true)
    (t0 : Int) (pre late : List Int)
    (hlate : ∀ t ∈ late, s.lastBusActivity.getD t0 + (s.p.silence : Nat) < t) (h3 : 3 ≤ late.length) :
    TransmitsWithin s apps [] (t0 :: (pre ++ late)) := by
  cases hl : s.lastBusActivity with
  | some l =>
    rw [hl] at hlate
    exact never_permanently_silent s apps l hinv hon hl (t0 :: pre) late hlate h3
  | none =>
    rw [hl] at hlate
    exact fresh_polls s apps t0 (pre ++ late) hinv hon hl (fun s' apps' hi' ho' hl' hp' =>
      never_permanently_silent s' apps' t0 hi' ho' hl' pre late (by rw [hp']; exact hlate) h3)

/-- **`cold_start_transmits`**: a station that is switched online on a dead bus (valid parameters, any
applications that build encodable telegrams) transmits no later than the third poll that comes more than `T`
after its first poll (that the transmission is the claim token is `claim_progress`, not part of this statement). -/
theorem cold_start_transmits (p : Params) (apps : Apps) (h1 : p.address < p.hsa) (h2 : p.hsa ≤ 126) (hs : ScriptsOk apps)
    (t0 : Int) (pre late : List Int) (hlate : ∀ t ∈ late, t0 + (p.silence : Nat) < t) (h3 : 3 ≤ late.length) :
    TransmitsWithin (Station.new p).setOnline apps [] (t0 :: (pre ++ late)) := by
  have hinv : Inv (Station.new p).setOnline apps := by
    have h := inv_new p apps h1 h2 hs
    exact ⟨h.addr, h.hsa, h.ring, fun ho => by simp [Station.setOnline] at ho, h.gap, h.await1, h.await2, h.app, h.appWait,
      h.scripts, h.noPassive⟩
  exact never_permanently_silent_any _ apps hinv rfl t0 pre late hlate h3

/-! ## The three recovery mechanisms at whole-poll level -/

/-- **`claim_progress`** (lost token): a station in `ListenToken` or `ActiveIdle` — with or without a
pending status request, `handle_lost_token` comes first — whose bus has been silent for its token-lost
time-out (and for the 33-bit synchronisation pause, which is shorter for all sensible parameters)
transmits the self-addressed token in this very poll and ends in `ClaimToken(SecondToken)` with a
valid LAS view and the GAP sweep reset to its own address. -/
theorem claim_progress (c : Ctx) (now l : Int) (hinv : Inv c.s c.apps) (hon : c.s.online = true)
    (htx : c.tx = none) (hrx : c.rx = []) (hl : c.s.lastBusActivity = some l)
    (hidle : (∃ sr coll, c.s.st = .listenToken sr coll) ∨ (∃ sr np coll, c.s.st = .activeIdle sr np coll))
    (hsil : (now - l).natAbs ≥ c.s.p.tokenLostTimeout) (hsync : l + (c.s.p.bits 33 : Nat) < now) :
    ∃ c', pollInner c now false = .ok c' ∧ Inv c'.s c'.apps ∧
      c'.tx = some (selfToken c.s.p.address) ∧ c'.s.st = .claimToken .secondToken ∧
      c'.s.gap = .doPoll c.s.p.address ∧ c'.s.ring = c.s.ring.claimToken ∧ c'.calls = c.calls := by
  have hs : Sil c l := ⟨hon, htx, hrx, hl⟩
  have hidle' : IdleLike c.s.st := by
    rcases hidle with ⟨a, b, h⟩ | ⟨a, b, d, h⟩
    · exact Or.inr ⟨a, b, h⟩
    · exact Or.inl ⟨a, b, d, h⟩
  have hno : c.s.st ≠ .offline := by
    rcases hidle with ⟨a, b, h⟩ | ⟨a, b, d, h⟩ <;> rw [h] <;> simp
  obtain ⟨c', h, hi, -⟩ := pollInner_good c now false hinv htx
  have h0 := h
  rw [pollInner_dispatch c now l hs hinv hno (by omega), idle_claim_exact c now l hs hidle' hsil hsync] at h
  cases h
  exact ⟨_, h0, hi, rfl, rfl, rfl, rfl, rfl⟩

/-- **`supervision_progress`** (lost successor): in `CheckTokenPass att` with the slot time expired,
nothing received (and the synchronisation pause over), the poll retransmits: after the first and
second expiry the same token goes to the same NS, the ring view only records the own pass; after the
third expiry NS is removed from the LAS and the token goes to the new NS — or, when the station is
now alone, it keeps the token (`UseToken`). -/
theorem supervision_progress (c : Ctx) (now l : Int) (hinv : Inv c.s c.apps) (hon : c.s.online = true)
    (htx : c.tx = none) (hrx : c.rx = []) (hl : c.s.lastBusActivity = some l)
    (att : Attempt) (hst : c.s.st = .checkTokenPass att)
    (hslot : l + (c.s.p.slotTime : Nat) < now) (hsync : l + (c.s.p.bits 33 : Nat) < now) :
    ∃ c', pollInner c now false = .ok c' ∧ Inv c'.s c'.apps ∧ c'.calls = c.calls ∧
      ∃ r next, (match att with
          | .first => r = c.s.ring ∧ next = Attempt.second
          | .second => r = c.s.ring ∧ next = Attempt.third
          | .third => c.s.ring.removeStation c.s.ring.ns = some r ∧ r.isActive c.s.ring.ns = false ∧ next = Attempt.first) ∧
        c'.tx = some (sendToken (UInt8.ofNat r.ns) (UInt8.ofNat c.s.p.address)) ∧
        c'.s.ring = r.witness c.s.p.address r.ns ∧
        c'.s.st = (if c'.s.ring.ns = c.s.p.address then .useToken ⟨now, none⟩ false else .checkTokenPass next) := by
  obtain ⟨c', h, hi, -⟩ := pollInner_good c now false hinv htx
  refine ⟨c', h, hi, ?_⟩
  rw [pollInner_dispatch c now l ⟨hon, htx, hrx, hl⟩ hinv (by rw [hst]; simp) (by omega), dispatch_checkTokenPass now hst] at h
  cases h ▸ doCheckTokenPass_step now hst with
  | @retry att' r0 _ hex hr hp =>
    -- the pass is repeated in the same poll, in the ring view `r0`, as attempt `att'`
    rw [StationGap.stamped_of_last hl] at hp
    obtain ⟨-, -, hcalls, -, -, -, hout⟩ := doPassToken_exact { c with s := { c.s with ring := r0, st := .passToken false att' } }
      c' now l false att' rfl hl hsync hp
    obtain ⟨-, -, hf, -⟩ | ⟨b1, b2, b3, -⟩ := hout
    · cases hf
    · refine ⟨hcalls, r0, att', ?_, b1, b2, by rw [b2]; exact b3⟩
      rcases hr with ⟨rfl, rfl, rfl⟩ | ⟨rfl, rfl, rfl⟩ | ⟨rfl, rfl, hrm⟩
      · exact ⟨rfl, rfl⟩
      · exact ⟨rfl, rfl⟩
      · exact ⟨hrm, removeStation_inactive _ _ _ hrm, rfl⟩
  | quiet hn | heard hn => exact absurd ((slotExpired_some hl).2 hslot) hn

/-- **`reply_timeout_progress`** (lost reply): in `AwaitDataResponse` with the slot time expired and
nothing received, exactly one `timeout` record for the requesting application is appended, and the
poll continues as token holder — it *is* the `UseToken` poll (first cycle done) on the resulting
context; whatever that records afterwards are `transmit_telegram` calls only. -/
theorem reply_timeout_progress (c : Ctx) (now l : Int) (hinv : Inv c.s c.apps) (hon : c.s.online = true)
    (htx : c.tx = none) (hrx : c.rx = []) (hl : c.s.lastBusActivity = some l)
    (addr : Nat) (d : UseData) (hst : c.s.st = .awaitData addr d) (hslot : l + (c.s.p.slotTime : Nat) < now) :
    ∃ c' extra, pollInner c now false = .ok c' ∧ Inv c'.s c'.apps ∧
      pollInner c now false =
        doUseToken { c with calls := c.calls ++ [.timeout c.s.nextApp addr], s := { c.s with st := .useToken d true } } now ∧
      c'.calls = c.calls ++ [.timeout c.s.nextApp addr] ++ extra ∧ OnlyTransmitCalls extra := by
  have hs : Sil c l := ⟨hon, htx, hrx, hl⟩
  have hno : c.s.st ≠ .offline := by rw [hst]; simp
  obtain ⟨c', h, hi, -⟩ := pollInner_good c now false hinv htx
  have heq : pollInner c now false =
      doUseToken { c with calls := c.calls ++ [.timeout c.s.nextApp addr], s := { c.s with st := .useToken d true } } now := by
    rw [pollInner_dispatch c now l hs hinv hno (by omega)]
    unfold dispatch
    rw [hst]
    simp only
    exact awaitData_timeout c now l addr d hs hst (hinv.appWait addr d hst) (by omega)
  rw [heq] at h
  obtain ⟨extra, he, ho⟩ := doUseToken_calls _ now c' h
  exact ⟨c', extra, heq.trans h, hi, heq, he, ho⟩

/-- And when the poll is also past the synchronisation pause, the time-out poll transmits (an
application telegram, a GAP poll or the token): the station does not fall silent after a lost reply. -/
theorem reply_timeout_transmits (c : Ctx) (now l : Int) (hinv : Inv c.s c.apps) (hon : c.s.online = true)
    (htx : c.tx = none) (hrx : c.rx = []) (hl : c.s.lastBusActivity = some l)
    (addr : Nat) (d : UseData) (hst : c.s.st = .awaitData addr d) (hlate : l + (c.s.p.silence : Nat) < now) :
    ∃ c', pollInner c now false = .ok c' ∧ c'.tx ≠ none := by
  obtain ⟨c', h, -, -, -, -, -⟩ := silent_bus_progress c now l hinv hon htx hrx hl hlate
  exact ⟨c', h, (silent_poll_transmits_iff c now l hinv hon htx hrx hl hlate c' h).2 (by simp [pollsToTx, hst])⟩

/-- States that do not wait for a reply: the station invariant asks nothing of them beyond the ring view. -/
def plainSt : FState → Bool
  | .awaitStatus _ | .claimToken (.scanAwait _) | .awaitData .. | .passiveIdle => false
  | _ => true

/-- The records of the examples below: `Station.new p` switched online, with state, stamp and ring view set. -/
theorem inv_of_new_with (p : Params) (st : FState) (l : Option Int) (r : TokenRing) (h1 : p.address < p.hsa)
    (h2 : p.hsa ≤ 126) (hr : TokenRing.RingOk r) (hst : plainSt st = true) :
    Inv { (Station.new p) with online := true, st := st, lastBusActivity := l, ring := r } [] :=
  C01.inv_online p h1 h2 st l r hr
    ⟨fun a ha => (by rw [ha] at hst; cases hst), fun a ha => (by rw [ha] at hst; cases hst),
      fun a d ha => (by rw [ha] at hst; cases hst), fun ha => (by rw [ha] at hst; cases hst)⟩

/-! ## Non-vacuity and tightness

A concrete station (TS 1, HSA 2, alone on the bus) that has claimed the token and waits for the reply
of the only GAP address 0.  It satisfies all hypotheses of the theorems above, needs the full three
late polls (`pollsToTx = 3`): the first two late polls transmit nothing (`ClaimToken(Scan)` with the
sweep finished, then `PassToken`), the third passes the token to itself.  The same history on the real
code: `corpus/station/C06_three_polls.ops`. -/

def demoParams : Params :=
  { address := 1, rate := 500000, slotBits := 100, ttrBits := 20000, gapWait := 1, hsa := 2, maxRetry := 1,
    minTsdrBits := 11 }

def demo : Station :=
  { (Station.new demoParams) with
      online := true, st := .claimToken (.scanAwait 0), gap := .doPoll 0, lastBusActivity := some 300066,
      ring := (TokenRing.new 1).claimToken }

theorem demo_inv : Inv demo [] := by
  refine ⟨by decide, by decide, TokenRing.new_ok 1 (by decide), by simp [demo], ?_, ?_, ?_, by simp, ?_, ?_, by simp [demo]⟩
  · intro cur h; simp [demo] at h; subst h; decide
  · intro a h; simp [demo] at h
  · intro a h; simp [demo] at h; subst h; exact ⟨rfl, by decide⟩
  · intro a d h; simp [demo] at h
  · intro sc h; cases h

example : pollsToTx demo = 3 := by decide

example : demoParams.silence = 1600 := by decide

/-- The hypotheses of `silent_bus_three_polls` / `never_permanently_silent` hold for `demo`. -/
example : TransmitsWithin demo [] [] [400000, 500000, 600000] :=
  silent_bus_three_polls demo [] 300066 400000 500000 600000 demo_inv rfl rfl (by decide) (by decide) (by decide)

/-- Two late polls are not enough in general: `demo` stays silent in both, ends in `PassToken`. -/
example : (match demo.poll [] 400000 false [] with
    | .ok c1 => (match c1.s.poll c1.apps 500000 false c1.rx with
      | .ok c2 => (c1.tx, c1.s.st, c1.s.gap, c2.tx, c2.s.st)
      | .panic _ => (none, .offline, .waiting 9, none, .offline))
    | .panic _ => (none, .offline, .waiting 9, none, .offline)) =
    (none, .claimToken .scan, .waiting 0, none, .passToken false .first) := by decide

/-- **Tightness**: from every state with bound 3 (claim scan standing at the last GAP address) the first
TWO late polls transmit nothing — the unrestricted two-poll statement is false, three polls are needed. -/
theorem two_polls_silent_of_bound3 (s : Station) (apps : Apps) (l now now2 : Int) (hinv : Inv s apps)
    (hon : s.online = true) (hl : s.lastBusActivity = some l) (h1 : l + (s.p.silence : Nat) < now) (h2 : now ≤ now2)
    (hb : pollsToTx s = 3) : ¬ TransmitsWithin s apps [] [now, now2] := by
  rintro ⟨c1, hc1, h⟩
  have hc1' : pollInner { s := s, apps := apps, rx := [] } now false = .ok c1 := hc1
  have hs : Sil { s := s, apps := apps, rx := [] } l := ⟨hon, rfl, rfl, hl⟩
  have ht1 := late_noTx_of_bound _ now l hs hinv h1 (by show 2 ≤ pollsToTx s; omega) c1 hc1'
  obtain ⟨c', hc', hi1, -, ho1, hp1, hd⟩ := silent_bus_progress { s := s, apps := apps, rx := [] } now l hinv hon rfl rfl hl h1
  rw [hc1'] at hc'
  cases hc'
  rcases hd with hd | ⟨-, hrx1, hl1, hdef, -⟩
  · exact hd ht1
  · rcases h with h | ⟨c2, hc2, h⟩
    · exact h ht1
    · have hb1 : pollsToTx c1.s = 2 := by
        rcases hdef with ⟨hst, ⟨r, hr⟩, -⟩ | ⟨-, cur, -, -, hst', hg'⟩
        · have hst0 : s.st = .claimToken .scan := hst
          have hr0 : s.gap = .waiting r := hr
          simp [pollsToTx, hst0, hr0] at hb
        · simp [pollsToTx, hst', hg']
      have hs1 : Sil { s := c1.s, apps := c1.apps, rx := c1.rx } l := ⟨ho1, rfl, hrx1, hl1⟩
      have hlate2 : Late c1.s.p l now2 := by
        show l + (c1.s.p.silence : Nat) < now2
        rw [hp1]; show l + (s.p.silence : Nat) < now2; omega
      have ht2 := late_noTx_of_bound _ now2 l hs1 hi1 hlate2 (by show 2 ≤ pollsToTx c1.s; omega) c2 hc2
      rcases h with h | h
      · exact h ht2
      · exact h

/-- The unrestricted two-poll claim fails on the concrete station `demo`. -/
theorem two_polls_not_enough : ∃ (s : Station) (apps : Apps) (l now now2 : Int), Inv s apps ∧ s.online = true ∧
    s.lastBusActivity = some l ∧ l + (s.p.silence : Nat) < now ∧ now ≤ now2 ∧ ¬ TransmitsWithin s apps [] [now, now2] :=
  ⟨demo, [], 300066, 400000, 500000, demo_inv, rfl, rfl, by decide, by decide,
    two_polls_silent_of_bound3 demo [] 300066 400000 500000 demo_inv rfl rfl (by decide) (by decide) (by decide)⟩

def listenDemo : Station :=
  { (Station.new demoParams) with online := true, st := .listenToken none 0, lastBusActivity := some 0 }

/-- Non-vacuity of `claim_progress`: a listening station (TS 1) after 1600 µs (800 bit at 500 kbit/s) of silence. -/
example : ∃ c', pollInner { s := listenDemo, apps := [], rx := [] } 1600 false = .ok c' ∧ c'.tx = some (selfToken 1) := by
  have hinv : Inv listenDemo [] :=
    inv_of_new_with demoParams _ _ _ (by decide) (by decide) (TokenRing.new_ok 1 (by decide)) rfl
  obtain ⟨c', h, -, htx, -⟩ := claim_progress { s := listenDemo, apps := [], rx := [] }
    1600 0 hinv rfl rfl rfl rfl (Or.inl ⟨none, 0, rfl⟩) (by decide) (by decide)
  exact ⟨c', h, htx⟩

/-! ## Ring level: the successor stops for good in the timed two-station ring -/

/-- The ring invariant of C01 in phase `pass` (station `x` has just passed the token) gives the crash invariant
`CInv` for `x`, provided `x` was last polled before its slot time ran out. -/
theorem crash_invariant_of_ring (cfg : Cfg) (M : List Nat) (adr : Nat → Nat) (n : Net) (v : NView)
    (h : NInv cfg M adr n v) (hph : v.ph = .pass)
    (hseen : n.bus.seen.getD v.x 0 ≤ v.tr.start + (cfg.b33 : Nat) + (cfg.slot : Nat)) :
    CInv cfg M adr n v.x v.sx .first v.tr.start :=
  CInv.ofNInv h hph hseen

/-- **Recovery from a dead successor in the timed two-station ring** (ring-level clause of C06, clean crash).
Two station models on the byte-accurate bus of `Model/Net.lean`; station `x` has passed the token to the other
station at `s0` (ring invariant `NInv` of C01 in phase `pass`); from then on the other station is never polled
again — it does not accept the token and stays silent — and `x` is polled at increasing times with gaps at most
`P` (`2 + 2P + bits 33 + ⌈11 bit⌉ ≤ Tslot`).  Then (`CrashRun`): every poll of `x` returns regularly and
receives nothing; `x` transmits exactly at the first poll after each slot-time expiry — the same token to the
dead station a second and a third time, the `k`-th transmission no later than `s0 + (k−1)·(bits 33 + Tslot + P)`
— and at the first poll after the third expiry, no later than `s0 + 3·(bits 33 + Tslot + P)`, it removes the
dead station from its LAS, sends the token to itself and is in `UseToken`, alone in its ring view
(`RingView [adr x]`: LAS = {own address}, NS = PS = TS); every later poll returns regularly. -/
theorem successor_crash_recovery (cfg : Cfg) (hok : cfg.Ok) (M : List Nat) (adr : Nat → Nat) (n : Net) (v : NView)
    (h : NInv cfg M adr n v) (hph : v.ph = .pass) (hN : n.stations.length = 2)
    (hseen : n.bus.seen.getD v.x 0 ≤ v.tr.start + (cfg.b33 : Nat) + (cfg.slot : Nat))
    (evs : List Int) (hs : SchedXT cfg.P (n.bus.seen.getD v.x 0) evs) :
    CrashRun cfg M adr v.x v.tr.start 1 n evs :=
  crash_run hok M adr v.x v.tr.start evs n v.sx .first v.tr.start (CInv.ofNInv h hph hseen) hN (by simp [Attempt.num]) hs

/-- The three kinds of poll of the survivor, one at a time (`CInv` is kept until recovery). -/
theorem successor_crash_wait (cfg : Cfg) (hok : cfg.Ok) (M : List Nat) (adr : Nat → Nat) (n : Net) (x : Nat) (sx : NetStation)
    (att : Attempt) (s : Int) (h : CInv cfg M adr n x sx att s) (now : Int) (hown : n.bus.seen.getD x 0 < now)
    (hw : now ≤ s + (cfg.b33 : Nat) + (cfg.slot : Nat)) :
    ∃ n' c, n.poll x now = (n', [], some (.ok c)) ∧ c.tx = none ∧ CInv cfg M adr n' x sx att s :=
  crash_wait h hok now hown hw

theorem successor_crash_resend (cfg : Cfg) (hok : cfg.Ok) (M : List Nat) (adr : Nat → Nat) (n : Net) (x : Nat) (sx : NetStation)
    (att : Attempt) (s : Int) (h : CInv cfg M adr n x sx att s) (hatt : att ≠ .third) (now : Int)
    (hown : n.bus.seen.getD x 0 < now) (hexp : s + (cfg.b33 : Nat) + (cfg.slot : Nat) < now) :
    ∃ n' c next, n.poll x now = (n', [], some (.ok c)) ∧
      c.tx = some (StationGap.tokenBytes (TokenRing.cycSucc (adr x) M) (adr x)) ∧
      ((att = .first ∧ next = .second) ∨ (att = .second ∧ next = .third)) ∧
      CInv cfg M adr n' x (upSt sx c) next now :=
  crash_resend h hok hatt now hown hexp

theorem successor_crash_removed (cfg : Cfg) (hok : cfg.Ok) (M : List Nat) (adr : Nat → Nat) (n : Net) (x : Nat) (sx : NetStation)
    (s : Int) (h : CInv cfg M adr n x sx .third s) (hN : n.stations.length = 2) (now : Int)
    (hown : n.bus.seen.getD x 0 < now) (hexp : s + (cfg.b33 : Nat) + (cfg.slot : Nat) < now) :
    ∃ n' c, n.poll x now = (n', [], some (.ok c)) ∧ c.tx = some (StationGap.tokenBytes (adr x) (adr x)) ∧
      c.s.st = .useToken ⟨now, none⟩ false ∧ RingView [adr x] (adr x) c.s.ring ∧ Inv c.s c.apps ∧
      n'.stations[x]? = some (upSt sx c) :=
  crash_final h hok hN now hexp

/-! Non-vacuity: stations 3 and 5 (indices 0, 1) at 500 kbit/s, `Tslot` = 400 µs, `P` = 100 µs (parameters and ring
views of the C13 example).  Station 5 passed the token to station 3 at time 0 (its poll at 0) and supervises;
station 3, last polled at −30 µs, has not seen anything of the token yet — and is never polled again.  Station 5
is polled every 90 µs: it repeats the token at 540 and 1080 µs, removes station 3 at 1620 µs ≤ 3·566 µs. -/
open PV.C13 in
def sC5 : Station :=
  { (Station.new pR5) with online := true, st := .checkTokenPass .first, lastBusActivity := some 66, ring := ringR 5 }
open PV.C13 in
def sC3 : Station :=
  { (Station.new pR3) with online := true, st := .activeIdle none none 0, lastBusActivity := some (-40), ring := ringR 3 }

open PV.C13 in
theorem sC5_inv : Inv sC5 [] :=
  inv_of_new_with pR5 _ _ _ (by decide) (by decide) (ringR_ok 5 (by decide)) rfl
open PV.C13 in
theorem sC3_inv : Inv sC3 [] :=
  inv_of_new_with pR3 _ _ _ (by decide) (by decide) (ringR_ok 3 (by decide)) rfl

def tokC : Transmission := { start := 0, sender := 1, bytes := StationGap.tokenBytes 3 5, dropped := false }
def nsC3 : NetStation := { s := sC3, apps := [], online := true }
def nsC5 : NetStation := { s := sC5, apps := [], online := true }
def netC : Net := { bus := { rate := 500000, txs := [tokC], seen := [-30, 0] }, stations := [nsC3, nsC5] }
def viewC : NView := { x := 1, sx := nsC5, pre := [], tr := tokC, ph := .pass, H := 332, Lo := 132, tl := 0 }

open PV.C13 in
theorem stokC3 : StOkN cfgR MR nsC3 3 :=
  ⟨rfl, rfl, (fun s hs => by cases hs), sC3_inv, rfl, rfl, rfl, rfl, ringR_view 3 (by decide), by decide⟩
open PV.C13 in
theorem stokC5 : StOkN cfgR MR nsC5 5 :=
  ⟨rfl, rfl, (fun s hs => by cases hs), sC5_inv, rfl, rfl, rfl, rfl, ringR_view 5 (by decide), by decide⟩

open PV.C13 in
theorem ninvC : NInv cfgR MR adrR netC viewC := by
  refine ⟨ringCfgR, by decide, rfl, stokC5, ⟨rfl, rfl, rfl, rfl, List.pairwise_singleton _ _, ?_, ?_⟩, rfl, ?_, ?_, ?_, ?_, ?_,
    rfl, rfl, ?_⟩
  · intro t ht; simp only [netC, List.mem_singleton] at ht; subst ht; rfl
  · intro t ht; simp only [netC, List.mem_singleton] at ht; subst ht
    exact ⟨1, by decide, rfl, .inl (by decide)⟩
  · intro o ho; simp only [netC, List.mem_singleton] at ho; subst ho; exact .inl rfl
  · intro l hl o ho hs; simp only [netC, List.mem_singleton] at ho; subst ho
    have : l = 66 := by
      have : viewC.sx.s.lastBusActivity = some 66 := rfl
      rw [this] at hl; exact (Option.some.inj hl).symm
    subst this; decide
  · intro j hj hjx
    have : j = 0 := by simp only [netC, viewC, List.length_cons, List.length_nil] at hj hjx; omega
    subst this
    refine ⟨nsC3, rfl, stokC3, [], [tokC], true, -40, rfl, ?_, ?_, by decide, by decide, ?_, ?_, rfl, .inl (by decide), ?_, ?_, ?_⟩
    · intro o ho; cases ho
    · intro t ht; simp only [List.mem_singleton] at ht; subst ht; decide
    · intro o ho hs; simp only [netC, List.mem_singleton] at ho; subst ho; cases hs
    · intro t rest hrs; cases hrs; decide
    · intro t ht; cases ht
    · intro _; simp
    · simp only [if_true]; exact ⟨⟨none, 0, rfl⟩, by decide⟩
  · intro j hj
    have : j = 0 ∨ j = 1 := by simp only [netC, List.length_cons, List.length_nil] at hj; omega
    rcases this with rfl | rfl <;> decide
  · intro t ht; simp only [netC, List.mem_singleton] at ht; subst ht; decide
  · unfold PhaseOkN
    show _ ∧ _
    refine ⟨rfl, by decide, rfl, rfl, by decide, by decide, by decide, ?_⟩
    intro s hs hsa
    have : s = 0 ∨ s = 1 := by simp only [netC, List.length_cons, List.length_nil] at hs; omega
    rcases this with rfl | rfl
    · decide
    · exact absurd hsa (by decide)

def evsC : List Int :=
  [90, 180, 270, 360, 450, 540, 630, 720, 810, 900, 990, 1080, 1170, 1260, 1350, 1440, 1530, 1620, 1710, 1800]

open PV.C13 in
example : CrashRun cfgR MR adrR 1 0 1 netC evsC :=
  successor_crash_recovery cfgR cfgR_ok MR adrR netC viewC ninvC rfl rfl (by decide) evsC (by
    show SchedXT 100 0 evsC
    simp [SchedXT, evsC])

/-! ## Ring level (timed): never two token holders, agreement is kept -/

/-- **Token uniqueness and LAS agreement are kept along every run of the stable timed ring** (any `N ≥ 2`
station models on the byte-accurate bus of `Model/Net.lean`, with or without unanswered application traffic;
hypotheses as in `PV.C01.n_station_ring_run_apps`: the ring invariant `NInv` at the start, every station polled
at least every `P` µs).  Before every event and at the end of the run (`AgreeRun`): at most one station is in a
token-holding state (`UseToken`, `AwaitDataResponse`, `AwaitStatusResponse`, `PassToken`, `ClaimToken`), and
every station's ring view is the member list `M` — LAS = `M`, valid, NS and PS the cyclic neighbours of its own
address (the "agreement is never lost again" half of C02 for the timed system; reaching the agreement from a
cold start is not proved). -/
theorem stable_ring_agreement (cfg : Cfg) (hok : cfg.Ok) (hP100 : cfg.P ≤ 100000) (M : List Nat) (adr : Nat → Nat)
    (n : Net) (v : NView) (h : NInv cfg M adr n v) (evs : List (Nat × Int)) (hs : SchedN cfg.P n v.tl evs) :
    AgreeRun M adr n evs :=
  ringN_agree_run hok hP100 M adr evs n v h hs

/-- One state: the ring invariant gives agreement and token uniqueness. -/
theorem ring_invariant_agrees (cfg : Cfg) (M : List Nat) (adr : Nat → Nat) (n : Net) (v : NView)
    (h : NInv cfg M adr n v) : Agree M adr n := h.agree

/-! Non-vacuity: the three-station example of C01 with application traffic. -/
example : AgreeRun PV.C01.M3 PV.C01.adr3 PV.C01.net3a PV.C01.evs3 :=
  stable_ring_agreement PV.C01.cfg2 PV.C01.cfg2_ok (by decide) PV.C01.M3 PV.C01.adr3 PV.C01.net3a PV.C01.view3a
    PV.C01.ninv3a PV.C01.evs3
    (schedN_of_times _ _ _ _ (by
      show SchedNT 100 3 [0, 70, 68] 70 PV.C01.evs3
      simp [SchedNT, PV.C01.evs3]
      decide))

/-! ## Ring level (timed): the token holder stops for good — the survivor generates a new token -/

/-- A listener of the stable ring that is idle, has been polled after the end of every transmission and whose
stamp is not in the future satisfies the quiet-survivor invariant `QInv`. -/
theorem quiet_invariant_of_ring (cfg : Cfg) (hok : cfg.Ok) (M : List Nat) (adr : Nat → Nat) (n : Net) (v : NView)
    (h : NInv cfg M adr n v) (j : Nat) (hj : j < n.stations.length) (hjx : j ≠ v.x) (st : NetStation)
    (hst : n.stations[j]? = some st) (hidle : ∃ np coll, st.s.st = .activeIdle none np coll)
    (hall : ∀ t ∈ n.bus.txs, cEnd cfg t ≤ n.bus.seen.getD j 0)
    (hstamp : ∀ l, st.s.lastBusActivity = some l → l ≤ n.bus.seen.getD j 0) :
    ∃ l, QInv cfg M adr n j st l :=
  QInv.ofNInv h j hj hjx st hst hidle hall hstamp

/-- The poll at which the quiet survivor's token-lost time-out has run out: it claims the token. -/
theorem holder_crash_claim_step (cfg : Cfg) (hok : cfg.Ok) (M : List Nat) (adr : Nat → Nat) (n : Net) (j : Nat)
    (st : NetStation) (l : Int) (h : QInv cfg M adr n j st l) (now : Int) (hown : n.bus.seen.getD j 0 < now)
    (hexp : l + (st.s.p.tokenLostTimeout : Nat) ≤ now) :
    ∃ n' c, n.poll j now = (n', [], some (.ok c)) ∧ c.tx = some (selfToken (adr j)) ∧
      c.s.st = .claimToken .secondToken ∧ c.s.ring = st.s.ring.claimToken ∧ Inv c.s c.apps ∧
      n'.stations[j]? = some (upSt st c) := by
  obtain ⟨np, coll, hst⟩ := h.idle
  have htto := h.okj.tto
  have hb33 := h.okj.b33
  have hgm : cfg.b33 ≤ cfg.gmax := by unfold Cfg.gmax; omega
  obtain ⟨c, hc, hinv, htx, hcs, -, hring, -⟩ := claim_progress { s := st.s, apps := st.apps, rx := [] } now l h.okj.inv
    h.okj.son rfl rfl h.stamp (.inr ⟨none, np, coll, hst⟩) (by show (now - l).natAbs ≥ st.s.p.tokenLostTimeout; omega)
    (by show l + (st.s.p.bits 33 : Nat) < now; rw [hb33]; omega)
  have hp : st.s.poll st.apps now (n.bus.transmitting j now) [] = .ok c := by
    rw [h.up.phy (by have := h.lseen; omega)]; exact hc
  exact ⟨_, c, h.up.poll hok hp, by rw [htx]; show _ = some (selfToken (adr j)); rw [← h.okj.addr], hcs, hring, hinv,
    List.getElem?_set_self h.jlt⟩

/-- Run of the quiet survivor (`T` = stamp + token-lost time-out, `lim` = latest time of the claim): every poll
returns regularly and receives nothing; before `T` nothing is transmitted; the first poll at or after `T` — no
later than `lim` — transmits the token addressed to the station itself (`ClaimToken`); afterwards every poll
returns regularly. -/
def ClaimRun (j aj : Nat) (lim T : Int) : Net → List Int → Prop
  | _, [] => True
  | n, now :: rest =>
    ∃ n' c, n.poll j now = (n', [], some (.ok c)) ∧ now ≤ lim ∧
      ((c.tx = none ∧ now < T ∧ ClaimRun j aj lim T n' rest) ∨
       (T ≤ now ∧ c.tx = some (selfToken aj) ∧ c.s.st = .claimToken .secondToken ∧ SoloRun j n' rest))

/-- **The token holder stops for good: the survivor generates a new token** (ring-level clause of C06, lost
token).  Station models on the byte-accurate bus of `Model/Net.lean`; the survivor `j` is idle, up to date and
has stamp `l` (`QInv`, e.g. a listener of the stable ring after the end of the holder's last transmission:
`quiet_invariant_of_ring`); from now on only `j` is polled, at increasing times with gaps at most `P`.  Then
(`ClaimRun`): every poll returns regularly and receives nothing; nothing is transmitted before
`l + Tto` (its token-lost time-out `Tsl·(6 + 2·TS)`); the first poll at or after `l + Tto` — no later than
`max(last poll, l + Tto) + P` — transmits the self-addressed token, the station is in `ClaimToken`; all later
polls return regularly. -/
theorem holder_crash_claim (cfg : Cfg) (hok : cfg.Ok) (M : List Nat) (adr : Nat → Nat) (j : Nat) (st : NetStation) (l : Int)
    (S : Int) : ∀ (evs : List Int) (n : Net), QInv cfg M adr n j st l → n.bus.seen.getD j 0 ≤ S →
    l + (st.s.p.tokenLostTimeout : Nat) ≤ S → SchedXT cfg.P (n.bus.seen.getD j 0) evs →
    ClaimRun j (adr j) (S + (cfg.P : Nat)) (l + (st.s.p.tokenLostTimeout : Nat)) n evs := by
  intro evs
  induction evs with
  | nil => intro _ _ _ _ _; trivial
  | cons now rest ih =>
    intro n h hS hT hsch
    obtain ⟨hlt, hle, hrest⟩ := hsch
    have hjs : j < n.bus.seen.length := by rw [h.log.seen]; exact h.jlt
    have hseen' : ∀ {n' inc r}, n.poll j now = (n', inc, r) → n'.bus.seen.getD j 0 = now := fun hp => by
      rw [Net.poll_seen_of hp, seen_set_self _ _ _ hjs]
    by_cases hw : now < l + (st.s.p.tokenLostTimeout : Nat)
    · obtain ⟨n', c, hp, htx, hinv'⟩ := quiet_wait h hok now hlt hw
      refine ⟨n', c, hp, by omega, .inl ⟨htx, hw, ?_⟩⟩
      exact ih n' hinv' (by rw [hseen' hp]; omega) hT (by rw [hseen' hp]; exact hrest)
    · obtain ⟨n', c, hp, htx, hcs, -, hinvc, hgj'⟩ := holder_crash_claim_step cfg hok M adr n j st l h now hlt (by omega)
      refine ⟨n', c, hp, by omega, .inr ⟨by omega, htx, hcs, ?_⟩⟩
      exact solo_regular j rest n' (upSt st c) hgj' h.okj.alive h.okj.online hinvc

/-! Non-vacuity: in the three-station example of C01 (`net3a`: station 5 holds the token since 70 µs) station 7
(index 2) is idle, was polled at 68 µs after the end (66 µs) of the only transmission and has stamp 68.  If from
now on only station 7 is polled (every 90 µs), it claims the token at the first poll at or after 68 + 8000 µs. -/
example : ∃ l : Int, QInv PV.C01.cfg2 PV.C01.M3 PV.C01.adr3 PV.C01.net3a 2 PV.C01.ns3c l :=
  quiet_invariant_of_ring PV.C01.cfg2 PV.C01.cfg2_ok PV.C01.M3 PV.C01.adr3 PV.C01.net3a PV.C01.view3a PV.C01.ninv3a 2
    (by decide) (by decide) PV.C01.ns3c rfl ⟨none, 0, rfl⟩
    (by intro t ht; simp only [PV.C01.net3a, List.mem_singleton] at ht; subst ht; decide)
    (by intro l hl; have : PV.C01.ns3c.s.lastBusActivity = some 68 := rfl; rw [this] at hl; cases hl; decide)

/-- Equidistant poll times `a + d, a + 2d, …` (`k` of them). -/
def apList (d : Int) : Int → Nat → List Int
  | _, 0 => []
  | a, k + 1 => (a + d) :: apList d (a + d) k

theorem schedXT_ap (P : Nat) (d : Int) (hd : 0 < d) (hdP : d ≤ (P : Int)) : ∀ (k : Nat) (a : Int), SchedXT P a (apList d a k) := by
  intro k
  induction k with
  | zero => intro a; trivial
  | succ k ih => intro a; exact ⟨by omega, by omega, ih (a + d)⟩

def evsQ : List Int := apList 90 68 95

example (l : Int) (hq : QInv PV.C01.cfg2 PV.C01.M3 PV.C01.adr3 PV.C01.net3a 2 PV.C01.ns3c l) :
    ClaimRun 2 7 (max 68 (l + 8000) + 100) (l + 8000) PV.C01.net3a evsQ :=
  holder_crash_claim PV.C01.cfg2 PV.C01.cfg2_ok PV.C01.M3 PV.C01.adr3 2 PV.C01.ns3c l (max 68 (l + 8000)) evsQ PV.C01.net3a hq
    (by show (68 : Int) ≤ max 68 (l + 8000); omega) (by show l + 8000 ≤ max 68 (l + 8000); omega)
    (schedXT_ap 100 90 (by decide) (by decide) 95 68)

/-! ## Ring level (timed): cold start, phase (a1) — the first claim (C02 "the ring forms") -/

/-- The poll at which the first time-out of the silent cold start has run out: that station claims the token. -/
theorem cold_start_claim_step (n : Net) (lst : Nat → Int) (h : CS0 n lst) (j : Nat) (hj : j < n.stations.length) (now : Int)
    (hown : n.bus.seen.getD j 0 < now) (st : NetStation) (hst : n.stations[j]? = some st)
    (hexp : lst j + (st.s.p.tokenLostTimeout : Nat) ≤ now) (hsync : st.s.p.bits 33 < st.s.p.tokenLostTimeout) :
    ∃ n' c, n.poll j now = (n', [], some (.ok c)) ∧ c.tx = some (selfToken st.s.p.address) ∧
      c.s.st = .claimToken .secondToken ∧ Inv c.s c.apps ∧ n'.stations = n.stations.set j (upSt st c) := by
  obtain ⟨st', hst', hL, hls⟩ := h.st j hj
  rw [hst] at hst'
  cases hst'
  obtain ⟨coll, hs⟩ := hL.lis
  obtain ⟨c, hc, hinv, htx, hcs, -, -, -⟩ := claim_progress { s := st.s, apps := st.apps, rx := [] } now (lst j) hL.inv
    hL.son rfl rfl hL.stamp (.inl ⟨none, coll, hs⟩) (by show (now - lst j).natAbs ≥ st.s.p.tokenLostTimeout; omega)
    (by show lst j + (st.s.p.bits 33 : Nat) < now; omega)
  have hp' : st.s.poll st.apps now (Bus.transmitting { n.bus with seen := n.bus.seen.set j now } j now)
      (st.rx ++ []) = .ok c := by
    rw [transmitting_seen, hL.rx, Bus.transmitting_nil _ _ _ h.txs]; exact hc
  have hpe := Net.poll_eq n j now st _ [] c hst hL.alive hL.online (Bus.deliver_nil n.bus j now h.txs) hp'
  exact ⟨_, c, hpe, htx, hcs, hinv, rfl⟩

/-- Run of the silent cold start up to the first claim (`L` = the station whose time-out runs out first,
`T` = that instant, `lim` = latest time of the claim): every poll returns regularly and receives nothing; nobody
transmits before `L`'s first poll at or after `T`, which happens no later than `lim` and transmits the token
addressed to `L` itself (`ClaimToken`); all other station records are still untouched. -/
def FirstClaimRun (L aL : Nat) (T lim : Int) : Net → List (Nat × Int) → Prop
  | _, [] => True
  | n, (i, now) :: rest =>
    ∃ n' c, n.poll i now = (n', [], some (.ok c)) ∧
      ((c.tx = none ∧ (i = L → now < T) ∧ n'.stations = n.stations ∧ FirstClaimRun L aL T lim n' rest) ∨
       (i = L ∧ T ≤ now ∧ now ≤ lim ∧ c.tx = some (selfToken aL) ∧ c.s.st = .claimToken .secondToken ∧
          ∀ j, j ≠ L → n'.stations[j]? = n.stations[j]?))

/-- **Cold start, phase (a1): the first claim** (C02 "the ring forms", first step; any number of stations).
All stations are online and listen on a bus on which nothing has been transmitted (`CS0`: `ListenToken`, empty
buffers, stamps `lst j` not later than their last polls).  Station `L` is the one whose token-lost time-out runs
out first, with a stagger: `T = lst L + Tto_L`, `T + P < lst j + Tto_j` for every other station `j`
(`claim_staggered`: the time-outs of stations that started counting together differ by at least two slot times
per address), and `L` was last polled before `T`.  Every station is polled at least every `P` µs.  Then
(`FirstClaimRun`): every poll returns regularly; nobody transmits before `L`'s first poll at or after `T`, and
that poll — no later than `T + P` — transmits the self-addressed token and leaves `L` in
`ClaimToken(SecondToken)`; all other stations are still listening, untouched. -/
theorem cold_start_first_claim (P : Nat) (lst : Nat → Int) (L : Nat) (stL : NetStation) :
    ∀ (evs : List (Nat × Int)) (n : Net) (tl : Int), CS0 n lst → n.stations[L]? = some stL →
    stL.s.p.bits 33 < stL.s.p.tokenLostTimeout →
    n.bus.seen.getD L 0 < lst L + (stL.s.p.tokenLostTimeout : Nat) →
    (∀ j st, j ≠ L → n.stations[j]? = some st →
      lst L + (stL.s.p.tokenLostTimeout : Nat) + (P : Nat) < lst j + (st.s.p.tokenLostTimeout : Nat)) →
    SchedN P n tl evs →
    FirstClaimRun L stL.s.p.address (lst L + (stL.s.p.tokenLostTimeout : Nat))
      (lst L + (stL.s.p.tokenLostTimeout : Nat) + (P : Nat)) n evs := by
  intro evs
  induction evs with
  | nil => intro _ _ _ _ _ _ _ _; trivial
  | cons ev rest ih =>
    intro n tl h hL hsync hseenL hstag hs
    obtain ⟨i, now⟩ := ev
    obtain ⟨hi, htl, hown, hgap, hrest⟩ := hs
    have hLl : L < n.stations.length := by
      rcases Nat.lt_or_ge L n.stations.length with h' | h'
      · exact h'
      · rw [List.getElem?_eq_none_iff.2 h'] at hL; cases hL
    have hgL := hgap L hLl
    obtain ⟨sti, hsti, hLi, hlsi⟩ := h.st i hi
    by_cases hiL : i = L
    · subst hiL
      rw [hL] at hsti; cases hsti
      by_cases hw : now < lst i + (stL.s.p.tokenLostTimeout : Nat)
      · obtain ⟨n', c, hp, htx, h', hsame⟩ := cs0_wait h i hi now hown stL hL hw
        refine ⟨n', c, hp, .inl ⟨htx, fun _ => hw, hsame, ?_⟩⟩
        have hseen' : n'.bus.seen.getD i 0 = now := by
          rw [Net.poll_seen_of hp, seen_set_self _ _ _ (by rw [h.seenlen]; exact hi)]
        exact ih n' now h' (by rw [hsame]; exact hL) hsync (by rw [hseen']; exact hw)
          (fun j st hj hst => hstag j st hj (by rw [← hsame]; exact hst)) (hrest.of_poll hp)
      · obtain ⟨n', c, hp, htx, hcs, -, hset⟩ := cold_start_claim_step n lst h i hi now hown stL hL (by omega) hsync
        refine ⟨n', c, hp, .inr ⟨rfl, by omega, by omega, htx, hcs, ?_⟩⟩
        intro j hj
        rw [hset, List.getElem?_set_ne (Ne.symm hj)]
    · have hw : now < lst i + (sti.s.p.tokenLostTimeout : Nat) := by
        have := hstag i sti hiL hsti
        omega
      obtain ⟨n', c, hp, htx, h', hsame⟩ := cs0_wait h i hi now hown sti hsti hw
      refine ⟨n', c, hp, .inl ⟨htx, fun e => absurd e hiL, hsame, ?_⟩⟩
      have hseen' : n'.bus.seen.getD L 0 = n.bus.seen.getD L 0 := by
        rw [Net.poll_seen_of hp, seen_set_other _ _ _ _ hiL]
      exact ih n' now h' (by rw [hsame]; exact hL) hsync (by rw [hseen']; exact hseenL)
        (fun j st hj hst => hstag j st hj (by rw [← hsame]; exact hst)) (hrest.of_poll hp)

/-! Non-vacuity of phase (a1): stations 3 and 5 (parameters of the C13 example, `Tslot` = 400 µs) listen since
their first polls at 0 and 50 µs; token-lost time-outs 4800 µs and 6400 µs; both polled every 100 µs.  Station 3
claims at its poll at 4800 µs. -/
open PV.C13 in
def sL3 : Station := { (Station.new pR3) with online := true, st := .listenToken none 0, lastBusActivity := some 0 }
open PV.C13 in
def sL5 : Station := { (Station.new pR5) with online := true, st := .listenToken none 0, lastBusActivity := some 50 }
def netL : Net :=
  { bus := { rate := 500000, txs := [], seen := [0, 50] },
    stations := [{ s := sL3, apps := [], online := true }, { s := sL5, apps := [], online := true }] }
def lstL (j : Nat) : Int := if j = 0 then 0 else 50

open PV.C13 in
theorem cs0L : CS0 netL lstL := by
  refine ⟨rfl, rfl, ?_⟩
  intro j hj
  have : j = 0 ∨ j = 1 := by simp only [netL, List.length_cons, List.length_nil] at hj; omega
  have hinv3 : Inv sL3 [] := inv_of_new_with pR3 _ _ _ (by decide) (by decide) (TokenRing.new_ok 3 (by decide)) rfl
  have hinv5 : Inv sL5 [] := inv_of_new_with pR5 _ _ _ (by decide) (by decide) (TokenRing.new_ok 5 (by decide)) rfl
  rcases this with rfl | rfl
  · exact ⟨_, rfl, ⟨rfl, rfl, hinv3, rfl, rfl, ⟨0, rfl⟩, rfl⟩, by decide⟩
  · exact ⟨_, rfl, ⟨rfl, rfl, hinv5, rfl, rfl, ⟨0, rfl⟩, rfl⟩, by decide⟩

def evsL : List (Nat × Int) := [(0, 100), (1, 150), (0, 200), (1, 250), (0, 300), (1, 350), (0, 400), (1, 450), (0, 500), (1, 550), (0, 600), (1, 650), (0, 700), (1, 750), (0, 800), (1, 850), (0, 900), (1, 950), (0, 1000), (1, 1050), (0, 1100), (1, 1150), (0, 1200), (1, 1250), (0, 1300), (1, 1350), (0, 1400), (1, 1450), (0, 1500), (1, 1550), (0, 1600), (1, 1650), (0, 1700), (1, 1750), (0, 1800), (1, 1850), (0, 1900), (1, 1950), (0, 2000), (1, 2050), (0, 2100), (1, 2150), (0, 2200), (1, 2250), (0, 2300), (1, 2350), (0, 2400), (1, 2450), (0, 2500), (1, 2550), (0, 2600), (1, 2650), (0, 2700), (1, 2750), (0, 2800), (1, 2850), (0, 2900), (1, 2950), (0, 3000), (1, 3050), (0, 3100), (1, 3150), (0, 3200), (1, 3250), (0, 3300), (1, 3350), (0, 3400), (1, 3450), (0, 3500), (1, 3550), (0, 3600), (1, 3650), (0, 3700), (1, 3750), (0, 3800), (1, 3850), (0, 3900), (1, 3950), (0, 4000), (1, 4050), (0, 4100), (1, 4150), (0, 4200), (1, 4250), (0, 4300), (1, 4350), (0, 4400), (1, 4450), (0, 4500), (1, 4550), (0, 4600), (1, 4650), (0, 4700), (1, 4750), (0, 4800), (1, 4850), (0, 4900), (1, 4950)]

example : FirstClaimRun 0 3 4800 4900 netL evsL :=
  cold_start_first_claim 100 lstL 0 { s := sL3, apps := [], online := true } evsL netL 50 cs0L rfl (by decide) (by decide)
    (by
      intro j st hj hst
      have : j = 1 ∨ 2 ≤ j := by omega
      rcases this with rfl | h2
      · cases hst; decide
      · simp [netL, h2] at hst)
    (schedN_of_times _ _ _ _ (schedNT_of_b 100 2 evsL [0, 50] 50 (by decide)))

/-! ## Ring level (timed): cold start of a station that is alone — the one-station ring forms -/

/-- The formation budget in the configuration constants: two synchronisation pauses after the first claim token,
the second token, one sweep step (`P + bits 66 + Tslot`) per address of the GAP (`HSA − 1` addresses), and three
more polls (end of the sweep, `PassToken`, the token to itself). -/
theorem formTime_value (cfg : Cfg) (hsa : Nat) :
    cfg.formTime hsa = 2 * cfg.b33 + (cfg.P + 2 * cfg.b33 + (hsa - 1) * (cfg.P + cfg.b66 + cfg.slot) + 3 * cfg.P) := rfl

/-- One poll of the lone claimant in any stage of the formation (`form_step`). -/
theorem one_station_ring_step (cfg : Cfg) (hok : cfg.Ok) (n : Net) (x : Nat) (st : NetStation) (l : Int)
    (h : Solo cfg n x st l) (stage : SStage) (hs : stage.ok st.s)
    (hv : RingView [st.s.p.address] st.s.p.address st.s.ring) (B : Int) (now : Int)
    (hown : n.bus.seen.getD x 0 < now) (hP : now ≤ n.bus.seen.getD x 0 + (cfg.P : Nat))
    (hB : max (n.bus.seen.getD x 0) (l + ((stage.wait cfg : Nat) : Int)) +
      ((stage.rest cfg st.s.p.address st.s.p.hsa : Nat) : Int) ≤ B) :
    ∃ n' c, n.poll x now = (n', [], some (.ok c)) ∧ n'.bus.seen.getD x 0 = now ∧
      now ≤ max (n.bus.seen.getD x 0) (l + ((stage.wait cfg : Nat) : Int)) + (cfg.P : Nat) ∧
      FormOut cfg x st.s.p.address B st n' c now l
        (max (n.bus.seen.getD x 0) (l + ((stage.wait cfg : Nat) : Int)) + ((stage.slack cfg : Nat) : Int)) :=
  let ⟨c, hp, hnow, hout⟩ := form_step h hok stage hs hv B now hown hP hB
  ⟨_, c, hp, h.polled_seen now c, hnow, hout⟩

/-- **Cold start of a station that is alone on the bus: the one-station ring forms** (C02 "the ring forms" for
one station; phases (a1)–(a4) of the cold start without a second station).  A station model on the byte-accurate
bus of `Model/Net.lean`, online in `ListenToken` with stamp `l`, empty buffer, every logged transmission its own
or completely delivered to it (`Solo`; e.g. nothing transmitted yet), knowing only itself (`RingView [TS]` once its LAS is declared
valid), polled at increasing times with gaps at most `P` (`2 + 2P + bits 33 + ⌈11 bit⌉ ≤ Tslot`,
`bits 33 < Tto`), nothing else on the bus.  Then (`LoneRun`, `FormRun`): every poll returns regularly and
receives nothing; nothing is transmitted before `T = l + Tto`; the first poll at or after `T`, no later than
`max(last poll, T) + P`, transmits the first claim token; then only self-addressed tokens and status requests to
other addresses (`FormRun` records no more; poll by poll, `one_station_ring_step`: the second claim token, one request
to every other address below HSA in the order of the GAP sweep, each after the slot time of the previous one has run
out), and finally the token to the station itself: at that poll the station is in `UseToken` and its ring view is
that of the one-member ring (LAS = {TS}, NS = PS = TS).  Every poll up to and including that one happens no later than
`formTime` after the first claim (`formTime_value`) and leaves the station in `ClaimToken` / `PassToken` until then; all
later polls return regularly. -/
theorem one_station_ring_forms (cfg : Cfg) (hok : cfg.Ok) (x : Nat) (st : NetStation) (l : Int) (coll : Nat) (S : Int)
    (evs : List Int) (n : Net) (h : Solo cfg n x st l) (hst : st.s.st = .listenToken none coll)
    (hsync : cfg.b33 < st.s.p.tokenLostTimeout)
    (hv : RingView [st.s.p.address] st.s.p.address st.s.ring.claimToken)
    (hS : n.bus.seen.getD x 0 ≤ S) (hT : l + (st.s.p.tokenLostTimeout : Nat) ≤ S)
    (hs : SchedXT cfg.P (n.bus.seen.getD x 0) evs) :
    LoneRun x st.s.p.address (l + (st.s.p.tokenLostTimeout : Nat)) (S + (cfg.P : Nat)) (cfg.formTime st.s.p.hsa) n evs :=
  lone_cold_start hok x st l coll S evs n h hst hsync hv hS hT hs

/-! Non-vacuity: station 3 alone (parameters of the C13 example: HSA 10, `Tslot` = 400 µs, `Tto` = 4800 µs), listening
since 0, polled every 90 µs: first claim at 4860 µs, the ring of one stands no later than 4860 + 6352 µs. -/
open PV.C13 in
def netOne : Net := { bus := { rate := 500000, txs := [], seen := [0] }, stations := [{ s := sL3, apps := [], online := true }] }

open PV.C13 in
theorem soloOne : Solo cfgR netOne 0 { s := sL3, apps := [], online := true } 0 := by
  have hinv3 : Inv sL3 [] := inv_of_new_with pR3 _ _ _ (by decide) (by decide) (TokenRing.new_ok 3 (by decide)) rfl
  exact ⟨rfl, rfl, rfl, List.Pairwise.nil, (fun o ho => by cases ho), (fun o ho => by cases ho), (fun o ho => by cases ho),
    (fun o ho => by cases ho), by decide, by decide, rfl, rfl, rfl, hinv3, rfl, rfl, rfl, rfl, rfl⟩

theorem viewOne : RingView [3] 3 (TokenRing.new 3).claimToken := by
  refine ⟨⟨by simp, trivial, by decide⟩, by simp, rfl, rfl, ?_, TokenRing.new_nbr 3⟩
  intro a ha
  unfold TokenRing.claimToken TokenRing.new TokenRing.isActive
  simp [ha]

open PV.C13 in
example : LoneRun 0 3 4800 4900 (cfgR.formTime 10) netOne (apList 90 0 140) :=
  one_station_ring_forms cfgR cfgR_ok 0 { s := sL3, apps := [], online := true } 0 0 4800 (apList 90 0 140) netOne soloOne rfl
    (by decide) viewOne (by decide) (by decide) (schedXT_ap 100 90 (by decide) (by decide) 140 0)

open PV.C13 in
example : cfgR.formTime 10 = 6352 := by decide

/-! ## Cold start / late joiner, phase (b) at station level: the listener learns the ring of the lone holder -/

/-- Three or more witnessed passes `aL → aL` give a fresh station a valid LAS that is exactly `{aL}`. -/
theorem witnessK_ready (aL me : Nat) (haL : aL ≤ 125) : ∀ k, 3 ≤ k →
    (witnessK aL k (TokenRing.new me)).las = .valid ∧ TokenRing.LasIs (witnessK aL k (TokenRing.new me)) [aL] := by
  have hring : C02.Ring [aL] := ⟨by simp, trivial, by intro z hz; simp only [List.mem_singleton] at hz; omega⟩
  have h3 := C02.las_learns me [aL] hring aL aL haL haL (Nat.le_refl _)
  have key : ∀ j, (witnessK aL j (witnessK aL 3 (TokenRing.new me))).las = .valid ∧
      TokenRing.LasIs (witnessK aL j (witnessK aL 3 (TokenRing.new me))) [aL] := by
    intro j
    have gen : ∀ (j : Nat) (r : TokenRing), r.las = .valid → TokenRing.LasIs r [aL] →
        (witnessK aL j r).las = .valid ∧ TokenRing.LasIs (witnessK aL j r) [aL] := by
      intro j
      induction j with
      | zero => intro r h1 h2; exact ⟨h1, h2⟩
      | succ j ih =>
        intro r h1 h2
        unfold witnessK
        apply ih
        · rw [TokenRing.witness_valid r aL aL h1 haL haL]; exact (TokenRing.updateLas_las r _ _).1.trans h1
        · rw [TokenRing.witness_valid r aL aL h1 haL haL]
          have := TokenRing.updateLas_succ_stable r [aL] aL h2 (by simp)
          rw [cycSucc_single] at this
          exact this
    exact gen j _ h3.1 h3.2
  have hadd : ∀ (a b : Nat) (r : TokenRing), witnessK aL (a + b) r = witnessK aL b (witnessK aL a r) := by
    intro a
    induction a with
    | zero => intro b r; simp [witnessK]
    | succ a ih =>
      intro b r
      rw [Nat.succ_add]
      show witnessK aL (a + b) (r.witness aL aL) = witnessK aL b (witnessK aL a (r.witness aL aL))
      exact ih b _
  intro k hk
  have : k = 3 + (k - 3) := by omega
  rw [this, hadd]
  exact key (k - 3)

/-- **Phase (b): LAS learning of a listener under arbitrary chunking** (station level).  A freshly started station
(`TokenRing.new`, `ListenToken`, empty buffer) overhears the traffic of a lone token holder `aL` — self-addressed
tokens and GAP requests to addresses other than its own — delivered in arbitrary chunks at arbitrary poll times,
never `Tto` after the last poll that brought new bytes (`FeedOk`).  Every poll returns regularly and transmits
nothing; at the end the station is still in `ListenToken` with an empty buffer, and if the stream contained at
least three tokens its LAS is valid and equals `{aL}` (`readyForRing`).  To answer a GAP request of `aL` with "ready"
(`PV.C12.listen_reply`, `listenReport`) its previous station must also be `aL`; the conclusion says nothing of PS. -/
theorem listener_learns_lone_ring (apps : Apps) (aL coll : Nat) (haL : aL ≤ 125) (ins : List (Int × Bytes)) (s : Station)
    (rem : List Telegram) (l tp : Int) (hon : s.online = true) (hst : s.st = .listenToken none coll)
    (hl : s.lastBusActivity = some l) (hltp : l ≤ tp) (hpb : s.pendingBytes = 0) (hne : aL ≠ s.p.address)
    (hto : 0 < s.p.tokenLostTimeout) (hring : s.ring = TokenRing.new s.p.address)
    (hstream : (ins.map Prod.snd).flatten = streamOf rem) (hlone : ∀ t ∈ rem, LoneTel aL s.p.address t)
    (h3 : 3 ≤ countTok rem) (hfeed : FeedOk s.p.tokenLostTimeout l tp ins) :
    ∃ s', listenRun apps s [] ins = some (s', []) ∧ s'.st = .listenToken none coll ∧ s'.online = true ∧ s'.p = s.p ∧
      s'.ring = hearAll aL rem s.ring ∧ s'.ring.readyForRing = true ∧ TokenRing.LasIs s'.ring [aL] := by
  obtain ⟨s', hrun, a1, a2, a3, a4⟩ := listen_learns apps aL coll (by omega) ins s [] rem l l tp hon hst hl (Int.le_refl _) hltp
    (by rw [hpb]; exact Nat.zero_le _) hne hto (by simpa using hstream) hlone
    (fun t ht => by
      have : t ∈ rem := by cases rem with
        | nil => cases ht
        | cons a r => simp only [List.head?_cons, Option.some.injEq] at ht; subst ht; exact List.mem_cons_self ..
      simpa using (hlone t this).wire_pos) hfeed
  have hr := witnessK_ready aL s.p.address haL (countTok rem) h3
  rw [← hearAll_count, ← hring, ← a4] at hr
  refine ⟨s', hrun, a1, a2, a3, a4, ?_, hr.2⟩
  unfold TokenRing.readyForRing
  rw [hr.1]; rfl

/-! Non-vacuity of phase (b): station 5 (fresh, listening since 50 µs) overhears three tokens of station 3 and a GAP
request to address 4, cut into three chunks in the middle of telegrams. -/
def remB : List Telegram :=
  [.token 3 3, .token 3 3, reqTel 4 3, .token 3 3]
def insB : List (Int × Bytes) :=
  [(100, [0xDC, 3]), (200, [3, 0xDC, 3, 3, 0x10, 4]), (300, [3, 0x49, 0x50, 0x16, 0xDC, 3, 3])]

example : ∃ s', listenRun [] sL5 [] insB = some (s', []) ∧ s'.st = .listenToken none 0 ∧ s'.online = true ∧ s'.p = sL5.p ∧
    s'.ring = hearAll 3 remB sL5.ring ∧ s'.ring.readyForRing = true ∧ TokenRing.LasIs s'.ring [3] :=
  listener_learns_lone_ring [] 3 0 (by decide) insB sL5 remB 50 50 rfl rfl rfl (Int.le_refl _) rfl (by decide) (by decide) rfl
    (by decide)
    (by
      intro t ht
      simp only [remB, List.mem_cons, List.mem_nil_iff, or_false] at ht
      rcases ht with rfl | rfl | rfl | rfl
      · exact .inl rfl
      · exact .inl rfl
      · exact .inr ⟨4, by decide, by decide, rfl⟩
      · exact .inl rfl)
    (by decide)
    ⟨by decide, by decide, by decide, by decide, by decide, by decide, trivial⟩

/-! ## Phase (b) on the bus: one poll of a listener that overhears a lone transmitter with arbitrary lag -/

/-- **One poll of a `ListenToken` station on the byte-accurate bus while a lone transmitter is active** (the
Net-level building block of phases (b)/(c)).  The log (`LoneLog`) is fault-free and non-overlapping and holds only
transmissions of station `x` (address `aL`): self-addressed tokens and GAP requests to addresses other than the
listener's.  The listener `j` satisfies the listener condition `LLOk` — arbitrary lag: its buffer holds exactly what
has arrived of the not yet consumed transmissions, the head of which is incomplete; its ring view is what the
telegrams `hd` consumed so far made of `r0`; the next character arrives before its token-lost time-out, given that
the transmitter is never silent for more than `G` (`G + ⌈11 bit⌉ + 2 ≤ Tto`).  Then a poll at any time `now` up to the
horizon `H ≤ end of the last transmission + G` returns regularly, transmits nothing, and `LLOk` holds again for some
list `hd'` of consumed telegrams (in the proof, `llisten_stepR`: `hd` with the telegrams consumed in this poll appended, so
the ring view follows the overheard tokens; the statement leaves `hd'` open). -/
theorem listener_poll_on_bus (cfg : Cfg) (G aL x : Nat) (b : Bus) (H : Int) (j : Nat) (st : NetStation) (r0 : TokenRing)
    (hd : List Telegram) (hL : LLOk cfg G aL b H j st r0 hd) (hlog : LoneLog cfg aL st.s.p.address x b) (hr : 0 < cfg.rate)
    (haL : aL < 126) (hjx : j ≠ x) (hjl : j < b.seen.length) (now : Int) (hsn : b.seen.getD j 0 < now) (hnowH : now ≤ H)
    (hstart : ∀ t ∈ b.txs, t.start ≤ now)
    (hH : ∀ t, b.txs.getLast? = some t → H ≤ cEnd cfg t + (G : Nat)) :
    ∃ inc c hd', b.deliver j now = ({ b with seen := b.seen.set j now }, inc) ∧
      st.s.poll st.apps now (b.transmitting j now) (st.rx ++ inc) = .ok c ∧ c.tx = none ∧ c.s.p = st.s.p ∧
      LLOk cfg G aL { b with seen := b.seen.set j now } H j (upSt st c) r0 hd' :=
  llisten_step hL hlog hr haL hjx hjl now hsn hnowH hstart hH

/-! Non-vacuity: station 3 (index 0) sent a self-addressed token at time 0; station 5 (index 1), listening, last polled
at 20 µs (nothing of the token has arrived yet), is polled at 100 µs. -/
def tokS : Transmission := { start := 0, sender := 0, bytes := StationGap.tokenBytes 3 3, dropped := false }
def busS : Bus := { rate := 500000, txs := [tokS], seen := [0, 20] }
open PV.C13 in
def sL5' : Station := { (Station.new pR5) with online := true, st := .listenToken none 0, lastBusActivity := some 10 }
def nsL5' : NetStation := { s := sL5', apps := [], online := true }

open PV.C13 in
theorem loneLogS : LoneLog cfgR 3 5 0 busS :=
  ⟨rfl, rfl, List.pairwise_singleton _ _, (fun t ht => by simp only [busS, List.mem_singleton] at ht; subst ht; rfl),
    (fun t ht => by simp only [busS, List.mem_singleton] at ht; subst ht; rfl),
    (fun t ht => by simp only [busS, List.mem_singleton] at ht; subst ht; exact .inl rfl)⟩

open PV.C13 in
theorem llokS : LLOk cfgR 1000 3 busS 1066 1 nsL5' (TokenRing.new 5) [] := by
  have hinv5 : Inv sL5' [] := inv_of_new_with pR5 _ _ _ (by decide) (by decide) (TokenRing.new_ok 5 (by decide)) rfl
  refine ⟨rfl, rfl, hinv5, rfl, by decide, by decide, rfl, [], [tokS], 10, 0, rfl, (fun o ho => by cases ho), by decide,
    by decide, ?_, rfl, by decide, rfl, by decide⟩
  intro t rest hrs
  cases hrs
  decide

open PV.C13 in
example := listener_poll_on_bus cfgR 1000 3 0 busS 1066 1 nsL5' (TokenRing.new 5) [] llokS loneLogS (by decide) (by decide)
  (by decide) (by decide) 100 (by decide) (by decide)
  (fun t ht => by simp only [busS, List.mem_singleton] at ht; subst ht; decide)
  (fun t ht => by simp only [busS, List.getLast?_singleton, Option.some.injEq] at ht; subst ht; decide)

/-! ## Cold start of TWO stations on the bus, up to the poll of the listener's address -/

/-- One poll of the listener / of the claimant while the claimant forms its ring and the listener overhears it with
arbitrary lag (`Duo`). -/
theorem cold_start_listener_poll (cfg : Cfg) (hok : cfg.Ok) (G : Nat) (n : Net) (x y : Nat) (stx sty : NetStation) (l : Int)
    (stage : SStage) (r0 : TokenRing) (hd : List Telegram) (tl : Int) (d : Duo cfg G n x y stx sty l stage r0 hd tl)
    (now : Int) (htl : tl ≤ now) (hown : n.bus.seen.getD y 0 < now) (hgx : now ≤ n.bus.seen.getD x 0 + (cfg.P : Nat)) :
    ∃ n' inc c sty' hd', n.poll y now = (n', inc, some (.ok c)) ∧ c.tx = none ∧
      Duo cfg G n' x y stx sty' l stage r0 hd' now :=
  let ⟨n', inc, c, hd', h⟩ := duo_listen d hok now htl hown hgx
  ⟨n', inc, c, upSt sty c, hd', h⟩

theorem cold_start_claimant_poll (cfg : Cfg) (hok : cfg.Ok) (hP100 : cfg.P ≤ 100000) (G : Nat) (hG : cfg.slot + 3 * cfg.P ≤ G)
    (n : Net) (x y : Nat) (stx sty : NetStation) (l : Int) (stage : SStage) (r0 : TokenRing) (hd : List Telegram) (tl : Int)
    (d : Duo cfg G n x y stx sty l stage r0 hd tl) (B : Int)
    (hB : max (n.bus.seen.getD x 0) (l + ((stage.wait cfg : Nat) : Int)) +
      ((stage.rest cfg stx.s.p.address stx.s.p.hsa : Nat) : Int) ≤ B)
    (now : Int) (htl : tl ≤ now) (hown : n.bus.seen.getD x 0 < now) (hgx : now ≤ n.bus.seen.getD x 0 + (cfg.P : Nat))
    (hgy : now ≤ n.bus.seen.getD y 0 + (cfg.P : Nat)) :
    ∃ n' c, n.poll x now = (n', [], some (.ok c)) ∧ now ≤ B ∧ DuoOut cfg G x y stx sty r0 hd B n' c now :=
  duo_claimant d hok hP100 hG B hB now htl hown hgx hgy

/-- **Cold start of two stations on the bus, phases (a1)–(a3) up to the poll of the listener's address** (C02 "the
ring forms", two stations).  Two station models on the byte-accurate bus of `Model/Net.lean`, both online in
`ListenToken` on a bus on which nothing has been transmitted (`CS2`), stamps `lx`, `ly`; station `x`'s token-lost
time-out runs out first, with the stagger `lx + Tto_x + P + ⌈11 bit⌉ < ly + Tto_y` (two slot times per address by
`claim_staggered`); both polled at least every `P` µs (`2 + 2P + bits 33 + ⌈11 bit⌉ ≤ Tslot`, `P ≤ 100 ms`); the
listener's time-out exceeds the longest silence of the claimant, `Tslot + 3P ≤ G`, `G + ⌈11 bit⌉ + 2 ≤ Tto_y`.
Then (`TwoRun`, `DuoRun`): every poll returns regularly; nobody transmits before `T = lx + Tto_x`; `x` claims at its
first poll at or after `T` (≤ `T + P`); from then on the listener `y` NEVER transmits — it neither claims nor
answers — whatever its lag behind the bus, while `x` transmits only its second claim token and GAP requests to
third addresses, each of its polls no later than `formTime` after the claim, until it sends the GAP request to the
listener's address (or, if that address is not below HSA, completes its one-station ring).  The listener's ring
view follows the overheard tokens (`Duo` / `LLOkX`: `hearAll`).  The listener's reply to that request is
`two_station_cold_start_first_poll_answered`, the reply of a ready listener and its adoption `gap_request_answered_ready`,
the token pass to it `adopted_station_gets_token`; the rest of the sweep and the rotations in between are not proved. -/
theorem two_station_cold_start_until_polled (cfg : Cfg) (hok : cfg.Ok) (hP100 : cfg.P ≤ 100000) (G : Nat)
    (hG : cfg.slot + 3 * cfg.P ≤ G) (x y : Nat) (stx sty : NetStation) (lx ly : Int)
    (hGy : G + cfg.ce 0 + 2 ≤ sty.s.p.tokenLostTimeout) (hne : stx.s.p.address ≠ sty.s.p.address)
    (hsync : cfg.b33 < stx.s.p.tokenLostTimeout)
    (hv : RingView [stx.s.p.address] stx.s.p.address stx.s.ring.claimToken)
    (hstag : lx + (stx.s.p.tokenLostTimeout : Nat) + (cfg.P : Nat) + ((cfg.ce 0 : Nat) : Int) < ly + (sty.s.p.tokenLostTimeout : Nat))
    (evs : List (Nat × Int)) (n : Net) (tl : Int) (h : CS2 cfg n x y stx sty lx ly) (hN : n.stations.length = 2)
    (hsx : n.bus.seen.getD x 0 < lx + (stx.s.p.tokenLostTimeout : Nat)) (hsy : n.bus.seen.getD y 0 ≤ tl)
    (hs : SchedN cfg.P n tl evs) :
    TwoRun x y stx.s.p.address sty.s.p.address (lx + (stx.s.p.tokenLostTimeout : Nat))
      (lx + (stx.s.p.tokenLostTimeout : Nat) + (cfg.P : Nat)) (cfg.formTime stx.s.p.hsa) n evs :=
  two_cold_start hok hP100 G hG x y stx sty lx ly hGy hne hsync hv hstag evs n tl h hN hsx hsy hs

/-! Non-vacuity: the two listening stations of `netL` (3 and 5, stamps 0 and 50 µs), both polled every 100 µs until
5950 µs: station 3 claims at 4800 µs, sends its second token and the request to address 4, then polls address 5. -/
open PV.C13 in
theorem cs2L : CS2 cfgR netL 0 1 { s := sL3, apps := [], online := true } { s := sL5, apps := [], online := true } 0 50 := by
  have hinv3 : Inv sL3 [] := inv_of_new_with pR3 _ _ _ (by decide) (by decide) (TokenRing.new_ok 3 (by decide)) rfl
  have hinv5 : Inv sL5 [] := inv_of_new_with pR5 _ _ _ (by decide) (by decide) (TokenRing.new_ok 5 (by decide)) rfl
  exact ⟨⟨rfl, rfl, rfl, List.Pairwise.nil, (fun o ho => by cases ho), (fun o ho => by cases ho), (fun o ho => by cases ho),
      (fun o ho => by cases ho), by decide, by decide, rfl, rfl, rfl, hinv3, rfl, rfl, rfl, rfl, rfl⟩, ⟨0, rfl⟩, rfl, rfl, rfl, by decide, by decide, by decide, ⟨rfl, rfl, hinv5, rfl, rfl, ⟨0, rfl⟩, rfl⟩,
    by decide, rfl, ⟨rfl, rfl⟩, rfl⟩

def evsT : List (Nat × Int) := [(0, 100), (1, 150), (0, 200), (1, 250), (0, 300), (1, 350), (0, 400), (1, 450), (0, 500), (1, 550), (0, 600), (1, 650), (0, 700), (1, 750), (0, 800), (1, 850), (0, 900), (1, 950), (0, 1000), (1, 1050), (0, 1100), (1, 1150), (0, 1200), (1, 1250), (0, 1300), (1, 1350), (0, 1400), (1, 1450), (0, 1500), (1, 1550), (0, 1600), (1, 1650), (0, 1700), (1, 1750), (0, 1800), (1, 1850), (0, 1900), (1, 1950), (0, 2000), (1, 2050), (0, 2100), (1, 2150), (0, 2200), (1, 2250), (0, 2300), (1, 2350), (0, 2400), (1, 2450), (0, 2500), (1, 2550), (0, 2600), (1, 2650), (0, 2700), (1, 2750), (0, 2800), (1, 2850), (0, 2900), (1, 2950), (0, 3000), (1, 3050), (0, 3100), (1, 3150), (0, 3200), (1, 3250), (0, 3300), (1, 3350), (0, 3400), (1, 3450), (0, 3500), (1, 3550), (0, 3600), (1, 3650), (0, 3700), (1, 3750), (0, 3800), (1, 3850), (0, 3900), (1, 3950), (0, 4000), (1, 4050), (0, 4100), (1, 4150), (0, 4200), (1, 4250), (0, 4300), (1, 4350), (0, 4400), (1, 4450), (0, 4500), (1, 4550), (0, 4600), (1, 4650), (0, 4700), (1, 4750), (0, 4800), (1, 4850), (0, 4900), (1, 4950), (0, 5000), (1, 5050), (0, 5100), (1, 5150), (0, 5200), (1, 5250), (0, 5300), (1, 5350), (0, 5400), (1, 5450), (0, 5500), (1, 5550), (0, 5600), (1, 5650), (0, 5700), (1, 5750), (0, 5800), (1, 5850), (0, 5900), (1, 5950)]

theorem schedT : SchedN 100 netL 50 evsT :=
  schedN_of_times _ _ _ _ (schedNT_of_b 100 2 evsT [0, 50] 50 (by decide))

open PV.C13 in
example : TwoRun 0 1 3 5 4800 4900 (cfgR.formTime 10) netL evsT :=
  two_station_cold_start_until_polled cfgR cfgR_ok (by decide) 1000 (by decide) 0 1 { s := sL3, apps := [], online := true }
    { s := sL5, apps := [], online := true } 0 50 (by decide) (by decide) (by decide) viewOne (by decide) evsT netL 50 cs2L rfl
    (by decide) (by decide) schedT

/-! ## The first answered GAP request (cold start of two stations, phase (b'): request – pause – reply – reception) -/

/-- **A GAP request to a listening station is answered "not ready" and the reply is received** (C02 / C12 on the
bus, any lag).  Two station models on the byte-accurate bus.  Start (`HQ`, first alternative `HQ0`): the requester `x`
(address `aL`; in `ClaimToken`, scanning, or the token holder in `AwaitStatusResponse`; its view the one-station ring) has just put the GAP request to the address `aH` of the listener `y` on the
bus at `r` and awaits the reply; the log is the lone transmitter's; `y` is in `ListenToken`, satisfies the listener
condition `LLOkX` with the request among the transmissions it has not consumed yet (arbitrary lag), and will not be
ready when it has heard everything up to the request (`hnr`; ready needs two complete rotations).  Every station is
polled at least every `P` (`SchedN`; `2 + 2P + bits 33 + ⌈11 bit⌉ ≤ Tslot`), `Tslot + 3P ≤ G`,
`G + ⌈11 bit⌉ + 2 ≤ Tto_y` (part of `LLOkX`).  Then (`RplRun`) every poll returns regularly; `x` transmits nothing (no
retry, no further request); `y` transmits nothing but the reply "not ready"; and a poll of `x` after which it has
consumed the reply, has not admitted the station and goes on with its GAP scan (`HQ3`: both stations up to date with
the log, whose last entry is the reply) happens no later than `2 · ⌈66 bit⌉ + bits 33 + 3 P` after the start of the
request.  `RplRun` puts this deadline on that poll only; that the earlier polls of `x` keep it too, so that a schedule
reaching beyond it contains that poll, is `reply_runD` (`RplRunD`).  How the run goes (`hq0_…`, `hq1_…`, `hq2_…` in
`Lemmas/ColdStartReply.lean`; not recorded by `RplRun`): the listener registers the request at its first poll after the
last character, waits for the synchronisation pause (33 bit), sends the reply in its next poll and goes back to
listening; the requester's slot time never runs out (no false "nobody there": its slot timer restarts with every
character), it receives the reply in whatever pieces it arrives and consumes it exactly when it is complete. -/
theorem gap_request_answered_not_ready (cfg : Cfg) (hok : cfg.Ok) (G : Nat) (hG : cfg.slot + 3 * cfg.P ≤ G) (x y : Nat)
    (r : Int) (r0 : TokenRing) (T : List Telegram) (aL aH : Nat) (hnr : (hearAll aL T r0).readyForRing = false)
    (evs : List (Nat × Int)) (n : Net) (stx sty : NetStation) (coll : Nat) (tl : Int)
    (hq : HQ cfg G n x y stx sty r r0 T .masterNotReady coll tl) (hN : n.stations.length = 2) (haL : stx.s.p.address = aL)
    (haH : sty.s.p.address = aH) (hs : SchedN cfg.P n tl evs) :
    RplRun cfg x y aL aH .masterNotReady (r + 2 * ((cfg.ce 5 : Nat) : Int) + (cfg.b33 : Nat) + 3 * (cfg.P : Nat)) n evs :=
  reply_run hok G hG x y r r0 T aL aH .masterNotReady (fun s hs' => listenReport_notReady s _ (by rw [hs']; exact hnr))
    evs n stx sty coll tl hq hN haL haH hs

/-- **A GAP request to a listening station that is READY is answered "master without token" and the station is
adopted as next station** (C02 / C12 on the bus, any lag; the admission of a late joiner or of the second station of
a cold start).  As `gap_request_answered_not_ready`, with the requester `x` either in `ClaimToken` (claim sweep) or —
the regular case — the token holder in `AwaitStatusResponse` (`AwaitSt`), and the listener ready with the requester
as its previous station when it has heard everything up to the request (`hrdy`).  Then (`RplRun` with report
`masterWithoutToken`): `x` transmits nothing, `y` nothing but the reply "master without token", and a poll of `x` after
which it has consumed the reply (`HQ3`) happens no later than `r + 2·⌈66 bit⌉ + bits 33 + 3P` (the deadline is on that
poll only, see `gap_request_answered_not_ready`); at that poll `x` has ADOPTED the station: in its ring view the polled
address is active and is the next station, and — the requester's view having been the one-station ring (`HQ0.view`) —
its view is now the ring view of the TWO-station ring (`RingView M' aL` for the ascending list `M'` of the two
addresses; `HQ3.last`, via `AbstractRing.viewOk_setNext`); its state is `PassToken` (token holder: it will pass the
token to the new station after the synchronisation pause) resp. `ClaimToken(Scan)`.  The listener is then idle
(`ActiveIdle`, nothing pending), ready, with the requester as its previous station (`HQ3.ymw`) — the precondition of
`adopted_station_gets_token`, which proves the token pass; its first visit is not proved.  The phases are those of
`gap_request_answered_not_ready`; after its reply the listener goes to `ActiveIdle`, where it stays quiet. -/
theorem gap_request_answered_ready (cfg : Cfg) (hok : cfg.Ok) (G : Nat) (hG : cfg.slot + 3 * cfg.P ≤ G) (x y : Nat)
    (r : Int) (r0 : TokenRing) (T : List Telegram) (aL aH : Nat)
    (hrdy : (hearAll aL T r0).readyForRing = true ∧ (hearAll aL T r0).ps = aL)
    (evs : List (Nat × Int)) (n : Net) (stx sty : NetStation) (coll : Nat) (tl : Int)
    (hq : HQ cfg G n x y stx sty r r0 T .masterWithoutToken coll tl) (hN : n.stations.length = 2)
    (haL : stx.s.p.address = aL) (haH : sty.s.p.address = aH) (hs : SchedN cfg.P n tl evs) :
    RplRun cfg x y aL aH .masterWithoutToken (r + 2 * ((cfg.ce 5 : Nat) : Int) + (cfg.b33 : Nat) + 3 * (cfg.P : Nat)) n evs :=
  reply_run hok G hG x y r r0 T aL aH .masterWithoutToken
    (fun s hs' => by unfold StationGap.listenReport; rw [hs', hrdy.1, hrdy.2]; simp)
    evs n stx sty coll tl hq hN haL haH hs

/-! Non-vacuity: the request of station 3 to address 5 started at 1000 µs and has been registered by the listener at
1150 µs (phase `HQ1`); both polled every 100 µs; the reply is sent at 1250 µs and consumed at 1400 µs. -/
open PV.C13 in
def sQ3 : Station := { (Station.new pR3) with online := true, st := .claimToken (.scanAwait 5), gap := .doPoll 5, lastBusActivity := some 1132, ring := (TokenRing.new 3).claimToken }
open PV.C13 in
def sQ5 : Station := { (Station.new pR5) with online := true, st := .listenToken (some 3) 0, lastBusActivity := some 1150 }
def nsQ3 : NetStation := { s := sQ3, apps := [], online := true }
def nsQ5 : NetStation := { s := sQ5, apps := [], online := true }
def netQ : Net := { bus := { rate := 500000, txs := [rqTx 0 3 5 1000], seen := [1140, 1150] }, stations := [nsQ3, nsQ5] }

open PV.C13 in
theorem hq1Q : HQ1 cfgR netQ 0 1 nsQ3 nsQ5 1000 1150 0 1150 := by
  have hinv3 : Inv sQ3 [] := by
    have h := inv_new pR3 [] (by decide) (by decide) (by intro s hs; cases hs)
    exact ⟨h.addr, h.hsa, TokenRing.new_ok 3 (by decide), fun ho => by simp [sQ3] at ho, fun cur hc => by simp [sQ3] at hc; subst hc; decide,
      fun a ha => by simp [sQ3] at ha, fun a ha => by simp [sQ3] at ha; subst ha; exact ⟨rfl, by decide⟩, h.app,
      fun a d ha => by simp [sQ3] at ha, h.scripts, by simp [sQ3]⟩
  have hinv5 : Inv sQ5 [] := inv_of_new_with pR5 _ _ _ (by decide) (by decide) (TokenRing.new_ok 5 (by decide)) rfl
  have hce : cEnd cfgR (rqTx 0 3 5 1000) = 1132 := by rw [cEnd_rq]; decide
  have hpos : 0 < (rqTx 0 3 5 1000).bytes.length := by
    show 0 < (StationGap.statusRequestBytes 5 3).length; rw [StationGap.statusRequestBytes_length]; decide
  refine ⟨?_, .inl rfl, rfl, ?_, rfl, by decide, by decide, by decide, by decide, ?_, rfl, ?_, by decide, viewOne⟩
  · exact ⟨rfl, rfl, rfl, List.pairwise_singleton _ _,
      (fun o ho => by simp only [netQ, List.mem_singleton] at ho; subst ho; rfl),
      (fun o ho => by simp only [netQ, List.mem_singleton] at ho; subst ho; exact hpos),
      (fun o ho => by simp only [netQ, List.mem_singleton] at ho; subst ho; exact .inl rfl),
      (fun o ho _ => by simp only [netQ, List.mem_singleton] at ho; subst ho; rw [hce]; decide),
      by decide, by decide, rfl, rfl, rfl, hinv3, rfl, rfl, rfl, rfl, rfl⟩
  · exact ⟨rfl, rfl, rfl, List.pairwise_singleton _ _,
      (fun o ho => by simp only [netQ, List.mem_singleton] at ho; subst ho; rfl),
      (fun o ho => by simp only [netQ, List.mem_singleton] at ho; subst ho; exact hpos),
      (fun o ho => by simp only [netQ, List.mem_singleton] at ho; subst ho; right; rw [hce]; decide),
      (fun o ho hs => by simp only [netQ, List.mem_singleton] at ho; subst ho; cases hs),
      by decide, by decide, rfl, rfl, rfl, hinv5, rfl, rfl, rfl, rfl, rfl⟩
  · intro t ht; simp only [netQ, List.mem_singleton] at ht; subst ht; rfl
  · intro t ht; simp only [netQ, List.mem_singleton] at ht; subst ht; decide

def evsRp : List (Nat × Int) := [(0, 1200), (1, 1250), (0, 1300), (1, 1350), (0, 1400), (1, 1450), (0, 1500), (1, 1550)]

open PV.C13 in
example : RplRun cfgR 0 1 3 5 .masterNotReady 1630 netQ evsRp :=
  gap_request_answered_not_ready cfgR cfgR_ok 1000 (by decide) 0 1 1000 (TokenRing.new 5) [] 3 5 (by decide) evsRp netQ nsQ3 nsQ5
    0 1150 (.inr (.inl ⟨1150, hq1Q, by decide⟩)) rfl rfl rfl
    (schedN_of_times _ _ _ _ (schedNT_of_b 100 2 evsRp [1140, 1150] 1150 (by decide)))

/-! Non-vacuity of the ready variant: station 3 holds the token alone and awaits the status reply of address 5
(`AwaitStatusResponse`, request started at 1000 µs); station 5 has witnessed three tokens of station 3 (ready, previous
station 3) and registered the request at 1150 µs. -/
def rdy5 : TokenRing := witnessK 3 3 (TokenRing.new 5)
open PV.C13 in
def sA3 : Station := { (Station.new pR3) with online := true, st := .awaitStatus 5, gap := .doPoll 5, lastBusActivity := some 1132, ring := (TokenRing.new 3).claimToken }
open PV.C13 in
def sR5 : Station := { (Station.new pR5) with online := true, st := .listenToken (some 3) 0, lastBusActivity := some 1150, ring := rdy5 }
def nsA3 : NetStation := { s := sA3, apps := [], online := true }
def nsR5 : NetStation := { s := sR5, apps := [], online := true }
def netA : Net := { bus := { rate := 500000, txs := [rqTx 0 3 5 1000], seen := [1140, 1150] }, stations := [nsA3, nsR5] }

open PV.C13 in
theorem hq1A : HQ1 cfgR netA 0 1 nsA3 nsR5 1000 1150 0 1150 := by
  have hinv3 : Inv sA3 [] := by
    have h := inv_new pR3 [] (by decide) (by decide) (by intro s hs; cases hs)
    exact ⟨h.addr, h.hsa, TokenRing.new_ok 3 (by decide), fun ho => by simp [sA3] at ho, fun cur hc => by simp [sA3] at hc; subst hc; decide,
      fun a ha => by simp [sA3] at ha; subst ha; exact ⟨rfl, by decide⟩, fun a ha => by simp [sA3] at ha, h.app,
      fun a d ha => by simp [sA3] at ha, h.scripts, by simp [sA3]⟩
  have hinv5 : Inv sR5 [] := inv_of_new_with pR5 _ _ _ (by decide) (by decide)
    (TokenRing.witness_ok _ 3 3 (TokenRing.witness_ok _ 3 3 (TokenRing.witness_ok _ 3 3 (TokenRing.new_ok 5 (by decide))).1).1).1 rfl
  have hce : cEnd cfgR (rqTx 0 3 5 1000) = 1132 := by rw [cEnd_rq]; decide
  have hpos : 0 < (rqTx 0 3 5 1000).bytes.length := by
    show 0 < (StationGap.statusRequestBytes 5 3).length; rw [StationGap.statusRequestBytes_length]; decide
  refine ⟨?_, .inr rfl, rfl, ?_, rfl, by decide, by decide, by decide, by decide, ?_, rfl, ?_, by decide, viewOne⟩
  · exact ⟨rfl, rfl, rfl, List.pairwise_singleton _ _,
      (fun o ho => by simp only [netA, List.mem_singleton] at ho; subst ho; rfl),
      (fun o ho => by simp only [netA, List.mem_singleton] at ho; subst ho; exact hpos),
      (fun o ho => by simp only [netA, List.mem_singleton] at ho; subst ho; exact .inl rfl),
      (fun o ho _ => by simp only [netA, List.mem_singleton] at ho; subst ho; rw [hce]; decide),
      by decide, by decide, rfl, rfl, rfl, hinv3, rfl, rfl, rfl, rfl, rfl⟩
  · exact ⟨rfl, rfl, rfl, List.pairwise_singleton _ _,
      (fun o ho => by simp only [netA, List.mem_singleton] at ho; subst ho; rfl),
      (fun o ho => by simp only [netA, List.mem_singleton] at ho; subst ho; exact hpos),
      (fun o ho => by simp only [netA, List.mem_singleton] at ho; subst ho; right; rw [hce]; decide),
      (fun o ho hs => by simp only [netA, List.mem_singleton] at ho; subst ho; cases hs),
      by decide, by decide, rfl, rfl, rfl, hinv5, rfl, rfl, rfl, rfl, rfl⟩
  · intro t ht; simp only [netA, List.mem_singleton] at ht; subst ht; rfl
  · intro t ht; simp only [netA, List.mem_singleton] at ht; subst ht; decide

open PV.C13 in
example : RplRun cfgR 0 1 3 5 .masterWithoutToken 1630 netA evsRp :=
  gap_request_answered_ready cfgR cfgR_ok 1000 (by decide) 0 1 1000 rdy5 [] 3 5 (by decide) evsRp netA nsA3 nsR5
    0 1150 (.inr (.inl ⟨1150, hq1A, by decide⟩)) rfl rfl rfl
    (schedN_of_times _ _ _ _ (schedNT_of_b 100 2 evsRp [1140, 1150] 1150 (by decide)))

/-! ## Cold start of two stations up to the first answered GAP request (one theorem) -/

/-- A fresh ring view (LAS uninitialised) is not ready before the third witnessed token of the lone holder. -/
theorem fresh_listener_not_ready (aL : Nat) (haL : aL ≤ 125) (r : TokenRing) (hr : r.las = .uninitialized) (k : Nat)
    (hk : k ≤ 2) : (witnessK aL k r).readyForRing = false :=
  witnessK_notReady aL haL r hr k hk

/-- **Cold start of two stations from silence to the first answered GAP poll** (C02 "the ring forms", phases
(a1)–(a3) and the first request/reply handshake of (b), chained).  Hypotheses as in
`two_station_cold_start_until_polled` (two station models on the byte-accurate bus, both online in `ListenToken`
on a bus on which nothing has been transmitted, `CS2` — which also states that the listener runs at the
configured rate and that the claimant's pending-byte counter is 0 —, stagger
`lx + Tto_x + P + ⌈11 bit⌉ < ly + Tto_y`, both polled at least every `P`, `Tslot + 3P ≤ G`,
`G + ⌈11 bit⌉ + 2 ≤ Tto_y`, `P ≤ 100 ms`), plus: the listener's LAS is uninitialised (a fresh station).  Then
(`TwoRun2`, `DuoRun2`, `RplRun`): every poll returns regularly; nobody transmits before `T = lx + Tto_x`; `x` claims
at its first poll at or after `T` (≤ `T + P`); the listener never transmits while `x` sends its second token and the
GAP requests to third addresses (each poll of `x` within `formTime` of the claim); when `x` sends the GAP request to
the listener's address (at `r`), the listener — which has heard at most two tokens and is therefore NOT ready
(`fresh_listener_not_ready`) — answers "not ready" and the run goes on as the `RplRun` of
`gap_request_answered_not_ready`: `x` transmits nothing, and a poll after which it has consumed the reply, has not
admitted the listener and goes on with its GAP scan, both stations up to date with the log (`HQ3`), is no later than
`r + 2·⌈66 bit⌉ + bits 33 + 3P`.  What follows — the rest of the sweep, the rotations of `x` alone — is not proved; the
"ready" reply and the admission are proved from their own start condition (`gap_request_answered_ready`), not chained
to this run. -/
theorem two_station_cold_start_first_poll_answered (cfg : Cfg) (hok : cfg.Ok) (hP100 : cfg.P ≤ 100000) (G : Nat)
    (hG : cfg.slot + 3 * cfg.P ≤ G) (x y : Nat) (stx sty : NetStation) (lx ly : Int)
    (hGy : G + cfg.ce 0 + 2 ≤ sty.s.p.tokenLostTimeout) (hne : stx.s.p.address ≠ sty.s.p.address)
    (hsync : cfg.b33 < stx.s.p.tokenLostTimeout) (hr0 : sty.s.ring.las = .uninitialized)
    (hv : RingView [stx.s.p.address] stx.s.p.address stx.s.ring.claimToken)
    (hstag : lx + (stx.s.p.tokenLostTimeout : Nat) + (cfg.P : Nat) + ((cfg.ce 0 : Nat) : Int) < ly + (sty.s.p.tokenLostTimeout : Nat))
    (evs : List (Nat × Int)) (n : Net) (tl : Int) (h : CS2 cfg n x y stx sty lx ly) (hN : n.stations.length = 2)
    (hsx : n.bus.seen.getD x 0 < lx + (stx.s.p.tokenLostTimeout : Nat)) (hsy : n.bus.seen.getD y 0 ≤ tl)
    (hs : SchedN cfg.P n tl evs) :
    TwoRun2 cfg x y stx.s.p.address sty.s.p.address (lx + (stx.s.p.tokenLostTimeout : Nat))
      (lx + (stx.s.p.tokenLostTimeout : Nat) + (cfg.P : Nat)) (cfg.formTime stx.s.p.hsa) n evs :=
  two_cold_start2 hok hP100 G hG x y stx sty lx ly hGy hne hsync hr0 hv hstag evs n tl h hN hsx hsy hs

open PV.C13 in
example : TwoRun2 cfgR 0 1 3 5 4800 4900 (cfgR.formTime 10) netL evsT :=
  two_station_cold_start_first_poll_answered cfgR cfgR_ok (by decide) 1000 (by decide) 0 1 { s := sL3, apps := [], online := true }
    { s := sL5, apps := [], online := true } 0 50 (by decide) (by decide) (by decide) rfl viewOne (by decide) evsT netL 50 cs2L rfl
    (by decide) (by decide) schedT

/-! ## The token pass to the adopted station -/

/-- **The adopted station gets the token** (C02, admission of the second station, on the bus with arbitrary lag).
Two station models on the byte-accurate bus.  Start (`TPass`, first alternative `TP0`): the holder `x` (address `aL`,
stamp `lx`) is in `PassToken` — as after `gap_request_answered_ready` in `AwaitStatusResponse` —, its view is the ring
`M` in which the adopted station is its successor; the adopted station `y` (address `aH`) idles (`ActiveIdle`, nothing
pending) with `x` as its previous station and an empty pending-byte counter; both are up to date with the log (`Solo`);
`x` has not been polled after the end of its synchronisation pause; `2·bits 33 + 4P + 4 ≤ Tto_y`.  Both polled at least
every `P` (`SchedN`, `2 + 2P + bits 33 + ⌈11 bit⌉ ≤ Tslot`).  Then (`PassRun`): every poll returns regularly; `x`
transmits nothing but the token to `aH`; `y` transmits nothing, and a poll of `y` that leaves it holding the token
(`UseToken`) happens no later than `lx + 2·bits 33 + 2P + 1`.  `PassRun` puts this deadline on that poll only; that the
earlier polls of `y` keep it too, so that a schedule reaching beyond it contains that poll, is `pass_runD` (`PassRunD`).
How the run goes (`tp0_…`, `tp1_…` in `Lemmas/ColdStartPass.lean`; not recorded by `PassRun`): `x` transmits nothing within
its synchronisation pause, passes the token at its first poll after it (one token telegram; ring view still `M`, state
`CheckTokenPass`) and then waits without its slot time running out; `y` keeps the incomplete token in its buffer and
accepts it — coming from its previous station — at its first poll after the last character.  What the new holder does
with the token (its first visit, its GAP poll, the pass back) is not part of this theorem. -/
theorem adopted_station_gets_token (cfg : Cfg) (hok : cfg.Ok) (x y : Nat) (lx : Int) (M : List Nat) (aL aH : Nat)
    (evs : List (Nat × Int)) (n : Net) (stx sty : NetStation) (tl : Int) (h : TPass cfg n x y stx sty lx M tl)
    (hN : n.stations.length = 2) (haL : stx.s.p.address = aL) (haH : sty.s.p.address = aH) (hs : SchedN cfg.P n tl evs) :
    PassRun x y aL aH (lx + 2 * (cfg.b33 : Nat) + 2 * (cfg.P : Nat) + 1) n evs :=
  pass_run hok x y lx M aL aH evs n stx sty tl h hN haL haH hs

/-! Non-vacuity: station 3 (view {3, 5}) about to pass the token at 2000 µs, station 5 idle with previous station 3; both
polled every 100 µs: the token is sent at 2150 µs and accepted at 2300 µs (bound 2333 µs). -/
open PV.C13 in
def sP3 : Station := { (Station.new pR3) with online := true, st := .passToken false .first, lastBusActivity := some 2000, ring := ringR 3 }
open PV.C13 in
def sI5 : Station := { (Station.new pR5) with online := true, st := .activeIdle none none 0, lastBusActivity := some 2000, ring := ringR 5 }
def nsP3 : NetStation := { s := sP3, apps := [], online := true }
def nsI5 : NetStation := { s := sI5, apps := [], online := true }
def netP : Net := { bus := { rate := 500000, txs := [], seen := [2000, 2000] }, stations := [nsP3, nsI5] }

open PV.C13 in
theorem tp0P : TP0 cfgR netP 0 1 nsP3 nsI5 2000 2000 MR 2000 := by
  have hinv3 : Inv sP3 [] := inv_of_new_with pR3 _ _ _ (by decide) (by decide) (ringR_ok 3 (by decide)) rfl
  have hinv5 : Inv sI5 [] := inv_of_new_with pR5 _ _ _ (by decide) (by decide) (ringR_ok 5 (by decide)) rfl
  have hv3 : RingView MR 3 (ringR 3) := ringR_view 3 (by decide)
  have hv5 : RingView MR 5 (ringR 5) := ringR_view 5 (by decide)
  refine ⟨?_, ?_, rfl, hv3, by decide, by decide, rfl, ?_, rfl, by decide, by decide, by decide, by decide, by decide⟩
  · exact ⟨rfl, rfl, rfl, List.Pairwise.nil, (fun o ho => by cases ho), (fun o ho => by cases ho), (fun o ho => by cases ho),
      (fun o ho => by cases ho), by decide, by decide, rfl, rfl, rfl, hinv3, rfl, rfl, rfl, rfl, rfl⟩
  · exact ⟨rfl, rfl, rfl, List.Pairwise.nil, (fun o ho => by cases ho), (fun o ho => by cases ho), (fun o ho => by cases ho),
      (fun o ho => by cases ho), by decide, by decide, rfl, rfl, rfl, hinv5, rfl, rfl, rfl, rfl, rfl⟩
  · show (ringR 5).ps = 3
    rw [hv5.ns.2]; decide

def evsP : List (Nat × Int) := [(0, 2050), (1, 2100), (0, 2150), (1, 2200), (0, 2250), (1, 2300), (0, 2350), (1, 2400)]

open PV.C13 in
example : PassRun 0 1 3 5 2333 netP evsP :=
  adopted_station_gets_token cfgR cfgR_ok 0 1 2000 MR 3 5 evsP netP nsP3 nsI5 2000 (.inl ⟨2000, tp0P⟩) rfl rfl rfl
    (schedN_of_times _ _ _ _ (schedNT_of_b 100 2 evsP [2000, 2000] 2000 (by decide)))

end PV.C06
