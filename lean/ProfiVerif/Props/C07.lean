/-
C07 — The DP master always brings a healthy peripheral back into data exchange.

The property theorems, the definitions their statements need (`K`, `KM`, `KN`, `JInv`, `Initial`, `MInitial`,
`NStart`, the witness) and evaluated examples.  Models: the master side is `Model/Dp/{Peripheral,Master}.lean` as
they are (tied to `src/dp/*.rs` by the `dp` and `dplive` correspondences), the slave side is the reference
DP-V0 slave `Model/Dp/Slave.lean` (environment; the same machine in Rust in the harness), composed in
`Model/Dp/Live.lean` (`PJ`: one peripheral and the slave, one step = one visit of the peripheral; `Joint`: the
whole master and the slave, one step = one `transmit_telegram` turn) and `Model/Dp/LiveN.lean` (`JointN`: the
master with several peripherals, one slave each).
Environment alphabet `PEnv`: a visit with delivery `ok / lossReq / lossRep / sub t` (request lost,
reply lost or corrupted, reply replaced by any well-formed telegram `t`), optionally with a
`request_diagnostics()` call between request and reply; slave power cycle; device fault report with
any extended-diagnostics bytes; `request_diagnostics()`; new outputs; new inputs.

Definitions used in the statements (`Lemmas/DpLive*.lean`):
* `ctl : PJ → Ctl` — the finite control state: peripheral state, frame count bit, `diag_needed`,
  `diag_in_flight`; slave state, the slave's retransmission memory *relative to the master's frame count
  bit*, the slave's pending-report bit; and the retry counter.  Static parameters: the retry limit and
  "the slave has no inputs".
* `cstep` — the control machine; `jinv` — the joint invariant on control.
* `Good j` — master-side invariant `PInv` (C05/C08), matching configuration (`Matched`: same address,
  ident, parameter length, configuration bytes, image lengths), well-formed slave memory.
-/
import ProfiVerif.Lemmas.DpLiveEvents
import ProfiVerif.Lemmas.DpLiveMasterRun
import ProfiVerif.Lemmas.DpLiveNRun
import ProfiVerif.Lemmas.DpLiveMismatch2
import ProfiVerif.Lemmas.DpLiveNSilent

namespace PV.C07
open PV PV.Dp PV.Live

/-- The bound: `max_retry_limit + 8` visits. -/
def K (fp : FdlParams) : Nat := fp.maxRetry + 8

def JInv (j : PJ) : Prop := jinv j.fp.maxRetry (j.s.cfg.inLen == 0) (ctl j) = true

/-- A fresh master (`Peripheral::new`: offline, retry 0, `FrameCountBit::First`) and a slave after
power-on. -/
structure Initial (j : PJ) : Prop where
  state : j.p.state = .offline
  retry : j.p.retry = 0
  fcb : j.p.fcb = .first
  slave : j.s.state = .waitPrm
  stored : j.s.stored = none

/-- **control_abstraction.**  For *every* environment step — every delivery fault, every substituted
reply telegram, every payload — from every good joint state: the real model does not panic, stays
good, and its control state and the peripheral event are those of the finite control machine on the
abstraction of the step (`absEnv` keeps of a step only: visit or not, the delivery kind, and of a
substituted reply its `viewOf`). -/
theorem control_abstraction {j : PJ} (hg : Good j) {e : PEnv} (he : e.WellFormed) :
    ∃ j' ev, j.step e = some (j', ev) ∧ Good j' ∧ j'.fp = j.fp ∧ j'.op = j.op ∧ j'.s.cfg = j.s.cfg ∧
      ctl j' = (cstep j.fp.maxRetry (j.s.cfg.inLen == 0) (ctl j) (absEnv j.s.cfg.inLen e)).1 ∧
      ev = (cstep j.fp.maxRetry (j.s.cfg.inLen == 0) (ctl j) (absEnv j.s.cfg.inLen e)).2 := by
  obtain ⟨j', ev, h1, h2, h3, h4, h5, h6⟩ := step_sim hg he
  rw [Prod.ext_iff] at h6
  exact ⟨j', ev, h1, h2, h3, h4, h5, h6.1, h6.2⟩

/-- **Payload bytes never influence control**: two good joint states with the same control state and the
same static parameters (retry limit; whether there are inputs), under steps with the same abstraction —
whatever their process images, parameter / configuration / diagnostics bytes, addresses, and whatever
bytes the steps carry — reach the same control state and raise the same event. -/
theorem payload_irrelevant {j1 j2 : PJ} (h1 : Good j1) (h2 : Good j2) (hc : ctl j1 = ctl j2)
    (hmr : j1.fp.maxRetry = j2.fp.maxRetry) (hz : (j1.s.cfg.inLen == 0) = (j2.s.cfg.inLen == 0))
    {e1 e2 : PEnv} (w1 : e1.WellFormed) (w2 : e2.WellFormed)
    (he : absEnv j1.s.cfg.inLen e1 = absEnv j2.s.cfg.inLen e2) :
    ∃ a ev1 b ev2, j1.step e1 = some (a, ev1) ∧ j2.step e2 = some (b, ev2) ∧ ctl a = ctl b ∧ ev1 = ev2 := by
  obtain ⟨a, ev1, ha, _, _, _, _, ca, ea⟩ := control_abstraction h1 w1
  obtain ⟨b, ev2, hb, _, _, _, _, cb, eb⟩ := control_abstraction h2 w2
  refine ⟨a, ev1, b, ev2, ha, hb, ?_, ?_⟩
  · rw [ca, cb, hc, hmr, hz, he]
  · rw [ea, eb, hc, hmr, hz, he]

/-- The process images in particular: writing outputs or changing inputs is invisible on control. -/
theorem images_irrelevant {j : PJ} (hg : Good j) (bs : Bytes) :
    (∃ j', j.step (.piq bs) = some (j', none) ∧ ctl j' = ctl j) ∧
    (∃ j', j.step (.inputs bs) = some (j', none) ∧ ctl j' = ctl j) := by
  constructor
  · obtain ⟨j', ev, h1, _, _, _, _, h6, h7⟩ := control_abstraction hg (e := .piq bs) trivial
    have : ev = none := by rw [h7]; rfl
    subst this
    exact ⟨j', h1, by rw [h6]; rfl⟩
  · obtain ⟨j', ev, h1, _, _, _, _, h6, h7⟩ := control_abstraction hg (e := .inputs bs) trivial
    have : ev = none := by rw [h7]; rfl
    subst this
    exact ⟨j', h1, by rw [h6]; rfl⟩

theorem jinv_initial {j : PJ} (hi : Initial j) : JInv j := by
  have hr : rcls j.fp.maxRetry 0 = .zero := rcls_zero
  unfold JInv jinv ctl coreOf
  simp only [hi.state, hi.retry, hi.fcb, hi.slave, memOf_first, hr]
  simp [jinvCore]

/-- Every state reached from a fresh master and a powered-on slave by *any* history of the environment
alphabet satisfies the joint invariant (and is good; the run never panics). -/
theorem jinv_reachable {j0 : PJ} (hg : Good j0) (hi : Initial j0) (es : List PEnv)
    (hw : ∀ e ∈ es, e.WellFormed) :
    ∃ j evs, j0.run es = some (j, evs) ∧ Good j ∧ JInv j ∧ j.fp = j0.fp := by
  obtain ⟨j, evs, h1, h2, h3, _, _, h6⟩ := run_jinv es hg (jinv_initial hi) hw
  exact ⟨j, evs, h1, h2, h6, h3⟩

theorem jinv_inductive {j : PJ} (hg : Good j) (hj : JInv j) {e : PEnv} (he : e.WellFormed) :
    ∃ j' ev, j.step e = some (j', ev) ∧ Good j' ∧ JInv j' := by
  obtain ⟨j', ev, h1, h2, _, _, _, h6⟩ := step_jinv hg hj he
  exact ⟨j', ev, h1, h2, h6⟩

/-- `live_from_everywhere` read as a fact about the state a given fault-free run ends in. -/
theorem running_of_quiet {j j' : PJ} {evs : List PEvent} (hg : Good j) (hj : JInv j) {n : Nat} (hn : K j.fp ≤ n)
    (h : j.quiet n = some (j', evs)) : j'.p.isRunning = true := by
  obtain ⟨j1, evs1, h1, _, _, _, _, h6⟩ := quiet_sim n hg
  rw [h] at h1
  simp only [Option.some.injEq, Prod.mk.injEq] at h1
  obtain ⟨rfl, rfl⟩ := h1
  have := live_ctl hg.fp.retry_lo hj hn
  rw [← h6] at this
  exact this

/-- **live_from_everywhere.**  From *every* good joint state whose control projection satisfies the
joint invariant — a superset of the reachable states (`jinv_reachable`), so no history is needed —
with matching configuration (part of `Good`), for every retry limit and every retry count: after any
number `n ≥ max_retry_limit + 8` of fault-free visits the peripheral is in `DataExchange`
(`is_running()`), i.e. it gets there within the bound and stays. -/
theorem live_from_everywhere {j : PJ} (hg : Good j) (hj : JInv j) {n : Nat} (hn : K j.fp ≤ n) :
    ∃ j' evs, j.quiet n = some (j', evs) ∧ j'.p.isRunning = true := by
  obtain ⟨j', evs, h1, _⟩ := quiet_sim n hg
  exact ⟨j', evs, h1, running_of_quiet hg hj hn h1⟩

/-- The property as stated: after *any* history (losses, corruption, power cycles, fault reports, user
calls) from start-up, the fault-free continuation has the peripheral in data exchange from visit
`max_retry_limit + 8` on. -/
theorem live_after_any_history {j0 : PJ} (hg : Good j0) (hi : Initial j0) (es : List PEnv)
    (hw : ∀ e ∈ es, e.WellFormed) {n : Nat} (hn : K j0.fp ≤ n) :
    ∃ j evs j' evs', j0.run es = some (j, evs) ∧ j.quiet n = some (j', evs') ∧ j'.p.isRunning = true := by
  obtain ⟨j, evs, h1, h2, h3, h4⟩ := jinv_reachable hg hi es hw
  obtain ⟨j', evs', h5, h6⟩ := live_from_everywhere h2 h3 (n := n) (by unfold K at *; rw [h4]; exact hn)
  exact ⟨j, evs, j', evs', h1, h5, h6⟩

/-! ## The product of the two side invariants is *not* enough

`live_from_everywhere_full` asks for liveness from every good state (master-side invariant, matching
configuration, well-formed slave), without the joint invariant.  It is false: a master that believes
the configuration was accepted (`ValidateConfig`) facing a slave that still waits for it (`Wait_Cfg`)
polls diagnostics forever — the slave keeps answering "station not ready", which the master takes as
"wait".  No history reaches this state (`jinv_reachable`: a slave in `Wait_Cfg` is never believed to
be configured), which is why the theorem above needs the joint invariant. -/

def live_from_everywhere_full : Prop :=
  ∀ j : PJ, Good j → ∃ N, ∀ n, N ≤ n → ∃ j' evs, j.quiet n = some (j', evs) ∧ j'.p.isRunning = true

namespace Witness
/-- Master #2, peripheral #7 in `ValidateConfig`; the slave in `Wait_Cfg`. -/
def cfg : SlaveCfg := { address := 7, ident := 0x80b1, prmLen := 3, config := [0x11, 0x21], inLen := 1, outLen := 2 }
def j : PJ :=
  { fp := Dp.Ex.fp, op := .operate,
    p := { Dp.Ex.p7 with state := .validateConfig, fcb := .low },
    s := { Slave.init cfg [0] with state := .waitCfg, master := 2 } }

theorem good : Good j where
  fp := Dp.Ex.fp_ok
  op := by decide
  pinv := by
    have h := (Dp.Ex.init_ok.fresh 1 Dp.Ex.p7 rfl).1
    exact ⟨by decide, (by intro h; cases h), by decide, h.ext, h.prm, h.cfg, h.piq, h.addr⟩
  m := ⟨rfl, ⟨[1, 2, 3], rfl, rfl⟩, rfl, by decide, rfl, rfl, rfl⟩
  s := ⟨rfl, rfl, rfl, by decide⟩

/-- The control states the witness cycles through. -/
def stuck (c : Ctl) : Prop :=
  c.core.st = .validateConfig ∧ c.core.ss = .waitCfg ∧ c.core.mem = none ∧ c.retry = 0 ∧
  (c.core.fcb = .low ∨ c.core.fcb = .high)

theorem stuck_step {mr : Nat} {iz : Bool} {c : Ctl} (h : stuck c) : stuck (cquiet mr iz c) := by
  obtain ⟨⟨st, fcb, dn, fl, ss, mem, dp⟩, r⟩ := c
  obtain ⟨h1, h2, h3, h4, h5⟩ := h
  simp only at h1 h2 h3 h4 h5
  subst h1 h2 h3 h4
  have hr : rcls mr 0 = .zero := rcls_zero
  -- the slave in `Wait_Cfg` answers "not ready": the master stays in `ValidateConfig`, clears the counter and cycles
  -- the bit (low ↔ high), so the reply the slave stored is never asked for again (`mem = none`)
  rcases h5 with rfl | rfl <;> cases dp <;>
    simp [stuck, cquiet, cstep, cstepCore, hr, cvisit, reqOf, sreact, sserve, AD.deliver, RK.view, mrx,
      FrameCountBit.fcv, cycA, RAct.apply]

theorem stuck_run {mr : Nat} {iz : Bool} : ∀ (n : Nat) (c : Ctl), stuck c → stuck (iterQ mr iz n c) := by
  intro n
  induction n with
  | zero => intro c h; exact h
  | succ n ih => intro c h; exact ih _ (stuck_step h)
end Witness

/-- The full-strength form is refuted by the witness: it is never running. -/
theorem live_from_everywhere_full_false : ¬ live_from_everywhere_full := by
  intro h
  obtain ⟨N, hN⟩ := h Witness.j Witness.good
  obtain ⟨j', evs, h1, h2⟩ := hN N (Nat.le_refl N)
  obtain ⟨j'', evs', h1', _, _, _, _, h6⟩ := quiet_sim N Witness.good
  rw [h1] at h1'
  simp only [Option.some.injEq, Prod.mk.injEq] at h1'
  obtain ⟨rfl, rfl⟩ := h1'
  have hs : Witness.stuck (ctl Witness.j) := by
    refine ⟨rfl, rfl, ?_, rfl, Or.inl rfl⟩
    simp [ctl, coreOf, memOf, isRetransmission, Witness.j, Slave.init]
  have := Witness.stuck_run (mr := Witness.j.fp.maxRetry) (iz := (Witness.j.s.cfg.inLen == 0)) N _ hs
  rw [← h6] at this
  have hst : j'.p.state = .validateConfig := this.1
  simp [Peripheral.isRunning, hst] at h2

/-- **A peripheral that stops answering is reported Offline — exactly once.**  From every good state
with a live peripheral (retry count `r`), if from now on every request is lost: the visits
`1 … max_retry_limit + 1 - r` retransmit without any event, visit `max_retry_limit + 2 - r` raises
`Offline`, and no later visit raises any event; `is_live()` is false exactly from that visit on. -/
theorem offline_reported_once {j : PJ} (hg : Good j) (hl : j.p.isLive = true) (n : Nat) :
    ∃ j' evs, j.run (List.replicate n (.visit false .lossReq)) = some (j', evs) ∧
      evs = (if j.fp.maxRetry + 2 - j.p.retry ≤ n then [.offline] else []) ∧
      (j'.p.isLive = false ↔ j.fp.maxRetry + 2 - j.p.retry ≤ n) := by
  obtain ⟨j', evs, h1, _, _, _, _, h5⟩ := replicate_sim n hg (e := .visit false .lossReq) trivial
  change _ = crunN _ _ lostVisit n _ at h5
  have hs : (ctl j).core.st ≠ .offline := by
    simpa [Peripheral.isLive, ctl, coreOf] using hl
  obtain ⟨c', h6, h7⟩ := lost_run hg.fp.retry_lo (iz := (j.s.cfg.inLen == 0)) hs hg.pinv.retry_le n
  rw [h6, Prod.mk.injEq] at h5
  refine ⟨j', evs, h1, h5.2, ?_⟩
  have h7' : c'.core.st = .offline ↔ j.fp.maxRetry + 2 - j.p.retry ≤ n := h7
  rw [← h7', ← h5.1]
  simp [Peripheral.isLive, ctl, coreOf]

/-- **A peripheral that answers again is reported Online and Configured again.**  From every good
state satisfying the joint invariant with an offline peripheral, the events of `n ≥ 8` fault-free visits
are `Online`, `Configured`, and then only `DataExchanged` / `Diagnostics`. -/
theorem online_configured_again {j : PJ} (hg : Good j) (hj : JInv j) (ho : j.p.isLive = false)
    {n : Nat} (hn : 8 ≤ n) :
    ∃ j' rest, j.quiet n = some (j', .online :: .configured :: rest) ∧
      ∀ e ∈ rest, e = .dataExchanged ∨ e = .diagnostics := by
  obtain ⟨j', evs, h1, _, _, _, _, h5⟩ := quiet_run_sim n hg
  have hs : (ctl j).core.st = .offline := by
    simpa [Peripheral.isLive, ctl, coreOf] using ho
  obtain ⟨rest, h6, h7, _⟩ := back_online hg.fp.retry_lo hj hs hn
  rw [Prod.ext_iff] at h5
  have h5' : evs = (crunN j.fp.maxRetry (j.s.cfg.inLen == 0) (.visit false .ok) n (ctl j)).2 := h5.2
  refine ⟨j', rest, by rw [h1, h5', h6], ?_⟩
  intro e he
  have := h7 e he
  cases e <;> simp_all [isDxEvent]

/-- **offline_online.**  Along any history from start-up: if the peripheral is live and then stops
answering for `s ≥ max_retry_limit + 2 - retry` visits, exactly one `Offline` event is raised; when it
answers again, `Online` and `Configured` follow within 8 visits (then only data-exchange events), and
it is running from visit `max_retry_limit + 8` on. -/
theorem offline_online {j0 : PJ} (hg0 : Good j0) (hi : Initial j0) (es : List PEnv)
    (hw : ∀ e ∈ es, e.WellFormed) :
    ∃ j evs0, j0.run es = some (j, evs0) ∧
      (j.p.isLive = true → ∀ s, j.fp.maxRetry + 2 - j.p.retry ≤ s →
        ∃ j1, j.run (List.replicate s (.visit false .lossReq)) = some (j1, [.offline]) ∧ j1.p.isLive = false ∧
          ∀ n, 8 ≤ n → ∃ j2 rest, j1.quiet n = some (j2, .online :: .configured :: rest) ∧
            (∀ e ∈ rest, e = .dataExchanged ∨ e = .diagnostics) ∧ (K j0.fp ≤ n → j2.p.isRunning = true)) := by
  obtain ⟨j, evs0, h1, hg, hj, hfp⟩ := jinv_reachable hg0 hi es hw
  refine ⟨j, evs0, h1, ?_⟩
  intro hl s hs
  obtain ⟨j1, evs, h2, h3, h4⟩ := offline_reported_once hg hl s
  rw [if_pos hs] at h3
  subst h3
  -- the state after the silent period is invariant again
  obtain ⟨ja, ea, ha1, ha2, ha3, _, _, hj1⟩ := run_jinv (List.replicate s (.visit false .lossReq)) hg hj
    (fun e he => by rw [List.eq_of_mem_replicate he]; trivial)
  rw [h2] at ha1
  simp only [Option.some.injEq, Prod.mk.injEq] at ha1
  obtain ⟨rfl, _⟩ := ha1
  refine ⟨j1, h2, h4.mpr hs, ?_⟩
  intro n hn
  obtain ⟨j2, rest, h5, h6⟩ := online_configured_again ha2 hj1 (h4.mpr hs) hn
  refine ⟨j2, rest, h5, h6, ?_⟩
  intro hk
  exact running_of_quiet ha2 hj1 (by unfold K at *; rw [ha3, hfp]; exact hk) h5

/-! ## The master level

The theorems above are about visits of the peripheral (`PJ`).  The correspondence engine `dplive`
drives the whole `DpMaster` (`Joint.turn`: one `transmit_telegram` call of the `FdlApplication`, global
control, cycle bookkeeping, `take_last_events`).  For a master holding one peripheral the two levels are
related turn by turn. -/

/-- **master_turn.**  One `transmit_telegram(now, …)` of a master in Operate whose only peripheral sits in
slot 0, against the slave, under any delivery: it never panics or hangs (for times within ±2^62 µs), and
it is (`TurnKind`) a global-control broadcast the slave ignores, or a turn that only closes the DP cycle,
or exactly one visit `PJ.visit` of the peripheral with that delivery whose event is the one
`take_last_events` reports; after a visit the cycle is closed by the reply (`completed`) or still points
at the peripheral.  Hence at most one cycle-closing turn lies between two visits:
`2 (max_retry_limit + 8) + 1` turns that are not broadcasts contain `max_retry_limit + 8` visits (`KM`,
`quietTurns_visits`).  The `C07` oracle (`Driver/DpLive.lean`) applies `2 (max_retry_limit + 8) + 2` to the real
`DpMaster`: one turn more than this bound. -/
theorem master_turn {J : Joint} {p : Peripheral} (hS : Single J.m p) (hslot : J.slot = 0)
    (hg : Good ⟨J.fp, J.m.op, p, J.s⟩) (ha : J.s.cfg.address ≠ 127) {now : Int} (hnow : timeB now)
    (hgc : ∀ t, J.m.lastGc = some t → timeB t) (mid : Bool) {d : Delivery} (hd : ∀ t, d = .sub t → RxOk t) :
    ∃ J' o, J.turn now mid d = .ok J' o ∧ TurnKind J p now mid d J' o :=
  turn_single hS hslot hg ha hnow hgc mid hd

/-- The bound in master turns: `2 (max_retry_limit + 8) + 1` turns that are not global-control
broadcasts, i.e. `max_retry_limit + 8` DP cycles (one visit and one cycle-closing turn each) and one
turn for a cycle that was just completed. -/
def KM (fp : FdlParams) : Nat := 2 * K fp + 1

/-- **master_live_from_everywhere.**  A `DpMaster` in Operate with one peripheral (slot 0) and the
reference slave, in *any* state in which the pair is good and satisfies the joint invariant (`MGood`,
`JInv`): for every sequence of fault-free `transmit_telegram` turns — at arbitrary times within ±2^62 µs,
so global-control broadcasts may fall anywhere — the run does not panic or hang, and as soon as the
sequence contains `2 (max_retry_limit + 8) + 1` turns that are not broadcasts the peripheral
`is_running()`; since this holds for every such sequence, it stays so. -/
theorem master_live_from_everywhere {J : Joint} {p : Peripheral} (hM : MGood J p) (hj : JInv (J.pj p))
    (nows : List Int) (ht : ∀ t ∈ nows, timeB t) :
    ∃ J' os p', J.quietTurns nows = some (J', os) ∧ os.length = nows.length ∧ Single J'.m p' ∧
      (KM J.fp ≤ nonBroadcast os → p'.isRunning = true) := by
  obtain ⟨J', os, p', v, evs, h1, hM', _, hlen, hq, hcount⟩ := quietTurns_visits nows ht hM
  refine ⟨J', os, p', h1, hlen, hM'.single, ?_⟩
  intro hk
  have hcl : J.closing ≤ 1 := by unfold Joint.closing; split <;> omega
  have hv : K (J.pj p).fp ≤ v := by
    unfold KM K at hk; unfold K; simp only [Joint.pj]; omega
  exact running_of_quiet hM.good hj hv hq

/-- Start-up at master level: a well-formed single-peripheral master (`MGood`) whose peripheral is fresh
and whose slave was just powered on. -/
structure MInitial (J : Joint) (p : Peripheral) : Prop where
  good : MGood J p
  init : Initial (J.pj p)

/-- **master_live_after_any_history.**  From start-up, after *any* master-level history — turns with any
delivery fault (request lost, reply lost, reply replaced by any well-formed telegram) and optional
`request_diagnostics()` between request and reply, at any in-range times; slave power cycles; device fault
reports; user calls — the run has not panicked, and in every fault-free continuation the peripheral
`is_running()` once `2 (max_retry_limit + 8) + 1` non-broadcast turns have passed, and stays so. -/
theorem master_live_after_any_history {J0 : Joint} {p0 : Peripheral} (h0 : MInitial J0 p0) (es : List JEnv)
    (hw : ∀ e ∈ es, e.WellFormed) :
    ∃ J p, J0.mrun es = some J ∧ Single J.m p ∧
      ∀ (nows : List Int), (∀ t ∈ nows, timeB t) →
        ∃ J' os p', J.quietTurns nows = some (J', os) ∧ Single J'.m p' ∧
          (KM J0.fp ≤ nonBroadcast os → p'.isRunning = true) := by
  obtain ⟨J, p, h1, hM, hfp, hj⟩ := mrun_good es hw h0.good (jinv_initial h0.init)
  refine ⟨J, p, h1, hM.single, ?_⟩
  intro nows ht
  obtain ⟨J', os, p', h2, _, h3, h4⟩ := master_live_from_everywhere hM hj nows ht
  exact ⟨J', os, p', h2, h3, by rw [← hfp]; exact h4⟩

/-! ## Several peripherals

`JointN` (`Model/Dp/LiveN.lean`): the `DpMaster` with peripherals in slots `0 … n-1` (what `add` produces),
one reference slave per peripheral on the same bus (every slave hears every telegram, only the addressed
one reacts).  `NGood J ps k`: dense storage, Operate, distinct slave addresses (none of them 127), cycle
index within range, and every slot's pair is good and satisfies the joint invariant (`SlotOk`). -/

/-- The bound for `n` peripherals in master turns: `(max_retry_limit + 8) (n + 1) + n` turns that are not
global-control broadcasts — `max_retry_limit + 8` DP cycles of at most `n` visiting turns and one
cycle-closing turn each, plus the remainder of the cycle in progress. -/
def KN (fp : FdlParams) (n : Nat) : Nat := K fp * (n + 1) + n

/-- **multi_turn.**  One fault-free `transmit_telegram` of a master with `n` peripherals: a broadcast the
slaves ignore; or the closing of a completed cycle; or fault-free visits (`PJ.visit` of the slot's own
pair, every other slot untouched) of the consecutive slots `i … j` starting at the cycle index — the
slots before `j` declined silently in the same call — after which the index stands at `j + 1`, or the
cycle is completed / wrapped when `j` is the last slot.  Round-robin: one visit per cycle each. -/
theorem multi_turn {J : JointN} {ps : List Peripheral} {k : Nat} (hN : NGood J ps k) {now : Int} (hnow : timeB now) :
    ∃ J' o ps', J.turn now none .ok = .ok J' o ∧ NGood J' ps' k ∧ J'.fp = J.fp ∧
      ((o.isBroadcast = true ∧ ps' = ps ∧ J'.ss = J.ss ∧ J'.m.cycle = J.m.cycle) ∨
       (o.isBroadcast = false ∧ J.m.cycle = .completed ∧ J'.m.cycle = .dx 0 ∧ ps' = ps ∧ J'.ss = J.ss) ∨
       (o.isBroadcast = false ∧ ∃ i j, J.m.cycle = .dx i ∧ i ≤ j ∧ j < ps.length ∧
          VisitedRange J.fp ps J.ss ps' J'.ss i (j + 1) ∧
          ((j + 1 < ps.length ∧ J'.m.cycle = .dx (j + 1)) ∨
           (j + 1 = ps.length ∧ (J'.m.cycle = .completed ∨ J'.m.cycle = .dx 0))))) :=
  turnN_quiet hN hnow

/-- **multi_live_from_everywhere.**  Liveness composes: a master with `n` peripherals, each facing its own
healthy reference slave with matching configuration, in *any* state in which every pair is good and
satisfies the joint invariant: every sequence of fault-free turns (arbitrary in-range times) runs without
panic, and once it contains `(max_retry_limit + 8) (n + 1) + n` non-broadcast turns **every** peripheral
`is_running()` — and stays so, the statement holding for every longer sequence. -/
theorem multi_live_from_everywhere {J : JointN} {ps : List Peripheral} {k : Nat} (hN : NGood J ps k)
    (nows : List Int) (ht : ∀ t ∈ nows, timeB t) :
    ∃ J' os ps', J.quietTurns nows = some (J', os) ∧ NGood J' ps' k ∧ os.length = nows.length ∧
      (KN J.fp ps.length ≤ nonBroadcast os →
        ∀ l, l < ps.length → (ps'.getD l default).isRunning = true) := by
  obtain ⟨J', os, ps', hq, hN', hlen, hvis⟩ := quietTurnsN_visits nows ht hN
  refine ⟨J', os, ps', hq, hN', hlen, fun hk l hl => ?_⟩
  obtain ⟨v, evs, hKv, hquiet⟩ := hvis (K J.fp) hk l hl
  exact running_of_quiet (hN.ok l hl).1 (hN.ok l hl).2 hKv hquiet

/-- **multi_turn_any.**  One `transmit_telegram` of a master with `n` peripherals under ANY delivery fault
(request lost, reply lost, reply replaced by any well-formed telegram) and an optional
`request_diagnostics()` on any slot between request and reply: no panic, the master stays well-formed
(`NGood`), and slot by slot the turn is a run of at most two environment steps of that slot's OWN pair
(`StepShape`): no visit, or `visit false lossReq` (so a slot the loop passed is recorded: a visit that declines
does not look at the delivery), or — only for the slot whose address the reply is expected from — the visit
with the turn's delivery; then a `diagReq`, only if the user call aims at the slot.  Which slots the loop
passed, and that they declined (so that the recorded step is no lost request), is not part of this statement:
`Live.turnN_form` (`TurnForm`, `Passed.dec`) says it. -/
theorem multi_turn_any {J : JointN} {ps : List Peripheral} {k : Nat} (hN : NGood J ps k) {now : Int} (hnow : timeB now)
    (mid : Option Nat) {d : Delivery} (hd : ∀ t, d = .sub t → RxOk t) :
    ∃ J' o ps', J.turn now mid d = .ok J' o ∧ NGood J' ps' k ∧ J'.fp = J.fp ∧ ps'.length = ps.length ∧
      ∀ l, l < ps.length → ∃ es, SlotRun J.fp ps J.ss ps' J'.ss l es ∧ StepShape ps mid d o l es :=
  turnN_any hN hnow mid hd

/-- **multi_projection.**  Any master-level history — turns with any delivery and mid-request user call at
any in-range times, power cycles / fault reports / `request_diagnostics()` / output and input changes on any
slots, interleaved arbitrarily — runs without panic, keeps the master well-formed with every pair good and
within the joint invariant, and projects, for every slot, to a run of that slot's own pair (`PJ.run` of
well-formed `PEnv` steps), so every per-pair theorem of this file applies to every slot. -/
theorem multi_projection {J : JointN} {ps : List Peripheral} {k : Nat} (hN : NGood J ps k) (H : List NEnv)
    (hw : ∀ e ∈ H, e.WellFormed) :
    ∃ J' ps', J.mrun H = some J' ∧ NGood J' ps' k ∧ J'.fp = J.fp ∧ ps'.length = ps.length ∧
      ∀ l, l < ps.length → ∃ es evs, (∀ e ∈ es, e.WellFormed) ∧
        (pjAt J.fp ps J.ss l).run es = some (pjAt J.fp ps' J'.ss l, evs) := by
  obtain ⟨J', ps', h1, h2, h3, h4, h5⟩ := mrunN_project H hw hN
  refine ⟨J', ps', h1, h2, h3, h4, ?_⟩
  intro l hl
  obtain ⟨es, hwf, evs, hr⟩ := h5 l hl
  exact ⟨es, evs, hwf, hr⟩

/-- Start-up of a master with `n` peripherals: `NGood` with every pair fresh (`Initial`) in place of the joint
invariant, the cycle index at slot 0 and no global control sent yet. -/
structure NStart (J : JointN) (ps : List Peripheral) (k : Nat) : Prop where
  slots : J.m.slots = denseSlots ps k
  op : J.m.op = .operate
  len : J.ss.length = ps.length
  n256 : ps.length ≤ 256
  pos : 0 < ps.length
  fpok : FpOk J.fp
  cycle : J.m.cycle = .dx 0
  good : ∀ l, l < ps.length → Good (pjAt J.fp ps J.ss l) ∧ Initial (pjAt J.fp ps J.ss l)
  addr : ∀ l, l < ps.length → (J.ss.getD l default).cfg.address ≠ 127
  distinct : ∀ l l', l < ps.length → l' < ps.length → l ≠ l' →
    (J.ss.getD l default).cfg.address ≠ (J.ss.getD l' default).cfg.address
  gc : J.m.lastGc = none

theorem NStart.ngood {J : JointN} {ps : List Peripheral} {k : Nat} (h : NStart J ps k) : NGood J ps k :=
  ⟨h.slots, h.op, h.len, h.n256, h.pos, h.fpok, Or.inr ⟨0, h.cycle, h.pos⟩,
   fun l hl => ⟨(h.good l hl).1, jinv_initial (h.good l hl).2⟩, h.addr, h.distinct,
   by intro t ht; rw [h.gc] at ht; cases ht⟩

/-- **multi_live_after_any_history.**  A master with `n` peripherals (slots `0 … n-1`), each with its own
healthy reference slave and matching configuration: from start-up, after ANY master-level history (faults
and user calls interleaved arbitrarily across the peripherals, broadcasts anywhere), every fault-free
continuation has ALL peripherals `is_running()` once it contains `(max_retry_limit + 8)(n + 1) + n`
turns that are not broadcasts — and they stay so. -/
theorem multi_live_after_any_history {J0 : JointN} {ps0 : List Peripheral} {k : Nat} (h0 : NStart J0 ps0 k)
    (H : List NEnv) (hw : ∀ e ∈ H, e.WellFormed) :
    ∃ J ps, J0.mrun H = some J ∧ NGood J ps k ∧
      ∀ (nows : List Int), (∀ t ∈ nows, timeB t) →
        ∃ J' os, ∃ ps' : List Peripheral, J.quietTurns nows = some (J', os) ∧ NGood J' ps' k ∧
          (KN J0.fp ps0.length ≤ nonBroadcast os → ∀ l, l < ps0.length → (ps'.getD l default).isRunning = true) := by
  obtain ⟨J, ps, h1, hN, hfp, hlen, _⟩ := mrunN_project H hw h0.ngood
  refine ⟨J, ps, h1, hN, ?_⟩
  intro nows ht
  obtain ⟨J', os, ps', h2, hN', _, h3⟩ := multi_live_from_everywhere hN nows ht
  refine ⟨J', os, ps', h2, hN', ?_⟩
  intro hk l hl
  exact h3 (by rw [hfp, hlen]; exact hk) l (by rw [hlen]; exact hl)

/-- In a fault-free continuation with `KN` non-broadcast turns every slot's pair has had at least
`max_retry_limit + 8` fault-free visits (and nothing else). -/
theorem multi_visit_count {J : JointN} {ps : List Peripheral} {k : Nat} (hN : NGood J ps k)
    (nows : List Int) (ht : ∀ t ∈ nows, timeB t) :
    ∃ J' os, ∃ ps' : List Peripheral, J.quietTurns nows = some (J', os) ∧ NGood J' ps' k ∧
      (KN J.fp ps.length ≤ nonBroadcast os → ∀ l, l < ps.length →
        ∃ v evs, K J.fp ≤ v ∧ (pjAt J.fp ps J.ss l).quiet v = some (pjAt J.fp ps' J'.ss l, evs)) := by
  obtain ⟨J', os, ps', hq, hN', _, hvis⟩ := quietTurnsN_visits nows ht hN
  exact ⟨J', os, ps', hq, hN', hvis (K J.fp)⟩

/-- **multi_offline_once** (the second half of C07 for several peripherals).  Turns under a fault plan by
address (`runF`: what happens to an exchange depends on the station addressed; the other slots may be
served, lose telegrams or get substituted replies in any way).  If every exchange addressed to slave `l`
is lost — slave `l` is silent — then, whatever the other slots do, the pair of slot `l` sees exactly `v`
lost requests and nothing else (independence), hence: no event while `v ≤ max_retry_limit + 1 - retry`,
then exactly one `Offline` event and never another one, `is_live()` false from then on (the offline
peripheral is re-probed every other visit, `Live.lost_offline`). -/
theorem multi_offline_once {J : JointN} {ps : List Peripheral} {k : Nat} (hN : NGood J ps k) {l : Nat}
    (hl : l < ps.length) (hlive : (ps.getD l default).isLive = true) (F : List (Int × (UInt8 → Delivery)))
    (hok : PlanOk F) (hsil : ∀ x ∈ F, x.2 (J.ss.getD l default).cfg.address = .lossReq) :
    ∃ J' v evs, ∃ ps' : List Peripheral, J.runF F = some J' ∧ NGood J' ps' k ∧
      (pjAt J.fp ps J.ss l).run (List.replicate v (.visit false .lossReq)) = some (pjAt J.fp ps' J'.ss l, evs) ∧
      evs = (if J.fp.maxRetry + 2 - (ps.getD l default).retry ≤ v then [.offline] else []) ∧
      ((ps'.getD l default).isLive = false ↔ J.fp.maxRetry + 2 - (ps.getD l default).retry ≤ v) := by
  obtain ⟨J', ps', v, h1, hN', _, _, _, evs0, hr⟩ := silent_slot F hok hN hl hsil
  obtain ⟨j', evs, h2, h3, h4⟩ := offline_reported_once (hN.ok l hl).1 hlive v
  rw [hr] at h2
  simp only [Option.some.injEq, Prod.mk.injEq] at h2
  obtain ⟨rfl, rfl⟩ := h2
  exact ⟨J', v, evs0, ps', h1, hN', hr, h3, h4⟩

/-- **multi_online_again.**  When the slave of an offline peripheral answers again (fault-free
continuation for all slots), the events of that slot's pair are `Online`, `Configured`, then only
`DataExchanged` / `Diagnostics`, and it is running — within `KN` non-broadcast turns like every other slot. -/
theorem multi_online_again {J : JointN} {ps : List Peripheral} {k : Nat} (hN : NGood J ps k) {l : Nat}
    (hl : l < ps.length) (hoff : (ps.getD l default).isLive = false) (nows : List Int) (ht : ∀ t ∈ nows, timeB t) :
    ∃ J' os, ∃ ps' : List Peripheral, J.quietTurns nows = some (J', os) ∧ NGood J' ps' k ∧
      (KN J.fp ps.length ≤ nonBroadcast os →
        ∃ v rest, (pjAt J.fp ps J.ss l).quiet v = some (pjAt J.fp ps' J'.ss l, .online :: .configured :: rest) ∧
          (∀ e ∈ rest, e = .dataExchanged ∨ e = .diagnostics) ∧ (ps'.getD l default).isRunning = true) := by
  obtain ⟨J', os, ps', hq, hN', hcount⟩ := multi_visit_count hN nows ht
  refine ⟨J', os, ps', hq, hN', ?_⟩
  intro hk
  obtain ⟨v, evs, hv, hquiet⟩ := hcount hk l hl
  have hv8 : 8 ≤ v := by unfold K at hv; omega
  obtain ⟨j', rest, h1, h2⟩ := online_configured_again (hN.ok l hl).1 (hN.ok l hl).2 hoff hv8
  rw [hquiet] at h1
  simp only [Option.some.injEq, Prod.mk.injEq] at h1
  exact ⟨v, rest, by rw [hquiet, h1.2], h2, running_of_quiet (hN.ok l hl).1 (hN.ok l hl).2 hv hquiet⟩

/-! ## Outside the scope: a configuration that does not match

`CfgMismatch j`: address, ident number and parameter length agree, the configuration bytes of the
master's `PeripheralOptions::config` differ from the slave's.  `Probing j`: the peripheral is offline
with retry count 0 and the slave will take the probe for a new request (true at start-up and after every
round). -/

/-- **mismatch_cycle.**  With other configuration bytes than the slave accepts, the fault-free run is an
endless repetition of one round of exactly four visits — probe (the diagnostics reply is accepted:
`Online`), `Set_Prm` (accepted, SC), `Chk_Cfg` (acknowledged by SC, but the slave sets `Cfg_Fault` and
returns to `Wait_Prm`), diagnostics (the master sees `Cfg_Fault`: `ConfigError`, peripheral offline again,
retry count 0) — so after `4 r` visits the events are `r` times `Online, ConfigError`, the master is
probing again (no livelock inside a round, no panic, no retry exhaustion, no `Offline` event), and the
peripheral is never in data exchange. -/
theorem mismatch_cycle {j : PJ} (hm : CfgMismatch j) (hp : Probing j) :
    (∀ r, ∃ j', j.quiet (4 * r) = some (j', (List.replicate r [PEvent.online, PEvent.configError]).flatten) ∧
        CfgMismatch j' ∧ Probing j') ∧
    (∀ n, ∃ j' evs, j.quiet n = some (j', evs) ∧ j'.p.isRunning = false) := by
  refine ⟨fun r => cfgm_rounds r hm hp, fun n => ?_⟩
  obtain ⟨j', evs, h1, _, _, h4⟩ := cfgm_never_running n hm (Or.inl hp)
  exact ⟨j', evs, h1, h4⟩

/-- The four visits of a round, one by one (states of the master: `Offline → WaitForParam → WaitForConfig →
ValidateConfig → Offline`; of the slave: any `→` same `→ Wait_Cfg / Data_Exch → Wait_Prm + Cfg_Fault →` same). -/
theorem mismatch_round {j : PJ} (hm : CfgMismatch j) (hp : Probing j) :
    ∃ j1 j2 j3 j4,
      j.visit false .ok = some (j1, some .online) ∧ j1.p.state = .waitForParam ∧
      j1.visit false .ok = some (j2, none) ∧ j2.p.state = .waitForConfig ∧ j2.s.state ≠ .waitPrm ∧
      j2.visit false .ok = some (j3, none) ∧ j3.p.state = .validateConfig ∧ j3.s.state = .waitPrm ∧ j3.s.cfgFault = true ∧
      j3.visit false .ok = some (j4, some .configError) ∧ CfgMismatch j4 ∧ Probing j4 := by
  obtain ⟨j1, v1, m1, _, a1, b1, c1⟩ := cfgm_probe hm hp
  obtain ⟨j2, v2, m2, _, a2, b2, c2, d2⟩ := cfgm_setprm m1 a1 b1 c1
  obtain ⟨j3, v3, m3, _, a3, b3, c3, d3, e3⟩ := cfgm_chkcfg m2 a2 b2 c2 d2
  obtain ⟨j4, v4, m4, _, p4⟩ := cfgm_validate m3 a3 b3 c3 e3
  exact ⟨j1, j2, j3, j4, v1, a1, v2, a2, d2, v3, a3, d3, e3, v4, m4, p4⟩

/-- **mismatch_cycle_ident.**  With an ident number or a parameter length the slave does not accept
(`PrmMismatch`), the fault-free run repeats one round of `max_retry_limit + 4` visits for ever: probe
(`Online`); `Set_Prm` — rejected by the slave (`Prm_Fault`, it stays in `Wait_Prm`) yet acknowledged by SC,
so the master goes on; `Chk_Cfg` and its `max_retry_limit` retransmissions, each answered "SAP not
enabled", which the master ignores; the visit that declares the peripheral `Offline` (frame count bit
reset, so the next probe is a new request for the slave).  Events per round: `Online, Offline`;
`ParameterError` is never raised — the master looks at diagnostics only after `Chk_Cfg` was acknowledged. -/
theorem mismatch_cycle_ident {j : PJ} (hm : PrmMismatch j) (hp : Probing j) :
    ∃ j', j.quiet (j.fp.maxRetry + 4) = some (j', [.online, .offline]) ∧ PrmMismatch j' ∧ Probing j' ∧
      j'.fp = j.fp :=
  prmm_round hm hp

/-- A fresh master with peripheral #7 (`Ex.p7`) and the matching slave after power-on. -/
def Ex.j0 : PJ :=
  { fp := Dp.Ex.fp, op := .operate, p := Dp.Ex.p7, s := Slave.init Witness.cfg [0xc0] }

theorem Ex.good : Good Ex.j0 where
  fp := Dp.Ex.fp_ok
  op := by decide
  pinv := (Dp.Ex.init_ok.fresh 1 Dp.Ex.p7 rfl).1
  m := ⟨rfl, ⟨[1, 2, 3], rfl, rfl⟩, rfl, by decide, rfl, rfl, rfl⟩
  s := ⟨rfl, rfl, rfl, by decide⟩

theorem Ex.initial : Initial Ex.j0 := ⟨rfl, rfl, rfl, rfl, rfl⟩

/-- The hypotheses of the theorems are satisfiable; the bring-up of the example really ends in data
exchange (evaluated: 5 visits), also after a history with two losses and a power cycle. -/
example : Good Ex.j0 ∧ Initial Ex.j0 ∧ JInv Ex.j0 := ⟨Ex.good, Ex.initial, jinv_initial Ex.initial⟩
example : (Ex.j0.quiet 5).map (fun r => (r.1.p.isRunning, r.2)) =
    some (true, [.online, .configured, .dataExchanged]) := by decide +kernel
example : ((Ex.j0.run [.visit false .ok, .visit false .ok, .visit false .lossRep, .power, .visit true .lossReq]).bind
      fun r => (r.1.quiet 9).map fun r' => r'.1.p.isRunning) = some true := by decide +kernel

/-- The same at master level: `DpMaster::new` over two slots, `add`, `enter_operate`. -/
def Ex.J0 : Joint :=
  match (Master.new 2 false).add Dp.Ex.p7 with
  | .ok (m, i) => { fp := Dp.Ex.fp, m := m.enterOperate, s := Slave.init Witness.cfg [0xc0], slot := i }
  | .panic => default

theorem Ex.minitial : MInitial Ex.J0 Dp.Ex.p7 where
  good :=
    { single := ⟨⟨1, rfl⟩, rfl, Or.inl rfl⟩
      slot := rfl
      good := Ex.good
      addr := by decide
      gc := by intro t h; cases h }
  init := Ex.initial

/-- 16 fault-free master turns, 3 ms apart (the first is the global-control broadcast): the peripheral is
running at the end. -/
example : ((Ex.J0.quietTurns ((List.range 16).map fun (i : Nat) => ((1000 + 3000 * i : Nat) : Int))).map fun r =>
    (((r.1.m.peripheral? 0).map Peripheral.isRunning), nonBroadcast r.2)) = some (some true, 15) := by
  decide +kernel

/-- Two peripherals (#7 with one input byte, #9 with none) and their slaves on one master. -/
def Ex.p9 : Peripheral :=
  Peripheral.new 9 { ident := 0x1234, sync := true, freeze := false, groups := 0, userPrm := some [], config := some [0x55] }
    [] [0] 0
def Ex.cfg9 : SlaveCfg := { address := 9, ident := 0x1234, prmLen := 0, config := [0x55], inLen := 0, outLen := 1 }

def Ex.J2 : JointN :=
  { fp := Dp.Ex.fp,
    m := { slots := denseSlots [Dp.Ex.p7, Ex.p9] 1, growable := false, op := .operate, lastGc := none,
           cycle := .dx 0, lastEvents := {} },
    ss := [Slave.init Witness.cfg [0xc0], Slave.init Ex.cfg9 []] }

theorem Ex.good9 : Good ⟨Dp.Ex.fp, .operate, Ex.p9, Slave.init Ex.cfg9 []⟩ where
  fp := Dp.Ex.fp_ok
  op := by decide
  pinv := pinv_new Dp.Ex.fp 9 _ [] [0] 0
      (by intro up h; simp at h; subst h; decide)
      (by intro c h; simp at h; subst h; decide) (by decide) (by decide)
  m := ⟨rfl, ⟨[], rfl, rfl⟩, rfl, by decide, rfl, rfl, rfl⟩
  s := ⟨rfl, rfl, rfl, by decide⟩

/-- The two-peripheral bring-up, evaluated: 20 fault-free turns, both running. -/
example : ((Ex.J2.quietTurns ((List.range 20).map fun (i : Nat) => ((1000 + 3000 * i : Nat) : Int))).map fun r =>
    ((List.range 2).map fun l => (r.1.m.peripheral? l).map Peripheral.isRunning)) = some [some true, some true] := by
  decide +kernel

/-- A slave that expects other configuration bytes than the master sends: hypotheses satisfiable, and the
first two rounds evaluated. -/
def Ex.jBad : PJ :=
  { fp := Dp.Ex.fp, op := .operate, p := Dp.Ex.p7, s := Slave.init { Witness.cfg with config := [0x11, 0x22] } [0xc0] }

example : CfgMismatch Ex.jBad ∧ Probing Ex.jBad :=
  ⟨⟨Dp.Ex.fp_ok, by decide, Ex.good.pinv, rfl, ⟨[1, 2, 3], rfl, rfl⟩, rfl, by decide,
    ⟨[0x11, 0x21], rfl, by decide⟩, rfl⟩, ⟨rfl, rfl, rfl⟩⟩

example : (Ex.jBad.quiet 8).map (fun r => (r.1.p.isRunning, r.2)) =
    some (false, [.online, .configError, .online, .configError]) := by decide +kernel

/-- A slave with another ident number: hypotheses satisfiable, two rounds evaluated (retry limit 1: five
visits each). -/
def Ex.jId : PJ :=
  { fp := Dp.Ex.fp, op := .operate, p := Dp.Ex.p7, s := Slave.init { Witness.cfg with ident := 0x1111 } [0xc0] }

example : PrmMismatch Ex.jId ∧ Probing Ex.jId :=
  ⟨⟨Dp.Ex.fp_ok, by decide, Ex.good.pinv, rfl, by decide, ⟨[1, 2, 3], rfl, Or.inr (by decide)⟩, ⟨[0x11, 0x21], rfl⟩⟩,
   ⟨rfl, rfl, rfl⟩⟩

example : (Ex.jId.quiet 10).map (fun r => (r.1.p.isRunning, r.2)) =
    some (false, [.online, .offline, .online, .offline]) := by decide +kernel

/-- The two-peripheral example is a start-up state (`NStart`), and a history with faults on both slots, a
power cycle, a fault report and user calls is well-formed: the hypotheses of `multi_live_after_any_history`
are satisfiable; evaluated, the history followed by 40 fault-free turns has both peripherals running. -/
theorem Ex.nstart2 : NStart Ex.J2 [Dp.Ex.p7, Ex.p9] 1 where
  slots := rfl
  op := rfl
  len := rfl
  n256 := by decide
  pos := by decide
  fpok := Dp.Ex.fp_ok
  cycle := rfl
  good := by
    intro l hl
    match l, hl with
    | 0, _ => exact ⟨Ex.good, Ex.initial⟩
    | 1, _ => exact ⟨Ex.good9, ⟨rfl, rfl, rfl, rfl, rfl⟩⟩
  addr := by
    intro l hl
    match l, hl with
    | 0, _ => decide
    | 1, _ => decide
  distinct := by
    intro l l' hl hl' hne
    match l, l', hl, hl', hne with
    | 0, 1, _, _, _ => decide
    | 1, 0, _, _, _ => decide
    | 0, 0, _, _, h => exact absurd rfl h
    | 1, 1, _, _, h => exact absurd rfl h
  gc := rfl

def Ex.hist2 : List NEnv :=
  [.turn 1000 none .ok, .turn 4000 none .ok, .turn 7000 none .lossRep, .turn 10000 (some 1) .lossReq, .power 0,
   .fault 1 [0x42, 0x01], .diagReq 0, .turn 13000 none .ok, .turn 16000 (some 0) .lossRep, .inputs 0 [0x77]]

example : ∀ e ∈ Ex.hist2, e.WellFormed := by
  intro e he
  simp only [Ex.hist2, List.mem_cons, List.mem_nil_iff, or_false] at he
  rcases he with rfl | rfl | rfl | rfl | rfl | rfl | rfl | rfl | rfl | rfl <;>
    first
    | trivial
    | exact ⟨by unfold timeB; constructor <;> decide, by intro t h; cases h⟩

example : ((Ex.J2.mrun Ex.hist2).bind fun J =>
      (J.quietTurns ((List.range 40).map fun (i : Nat) => ((20000 + 3000 * i : Nat) : Int))).map fun r =>
        ((List.range 2).map fun l => (r.1.m.peripheral? l).map Peripheral.isRunning)) = some [some true, some true] := by
  decide +kernel

/-- A silent slave #9 next to a healthy #7 (`runF`, retry limit 1): evaluated, after 16 turns slot 1 is
offline, slot 0 running. -/
example : ((Ex.J2.runF ((List.range 16).map fun (i : Nat) =>
      (((1000 + 3000 * i : Nat) : Int), fun (a : UInt8) => if a = 9 then Delivery.lossReq else Delivery.ok))).map fun J =>
      (List.range 2).map fun l => (J.m.peripheral? l).map fun p => (p.isLive, p.isRunning)) =
    some [some (true, true), some (false, false)] := by decide +kernel

end PV.C07
