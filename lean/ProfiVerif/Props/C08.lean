/-
C08 — Requests follow the frame-count-bit and retry discipline on the wire.

The property theorems, a regression witness and example checks, over the histories of `Lemmas/Dp.lean` (`Op` / `gstep` /
`grun` with the FDL contract C15 built in, ghost observations `SG` per slot) and the ghost invariant `J8` / `Await` of
`Lemmas/Dp08.lean`.  All statements are about `Model/Dp/{Peripheral,Master}.lean`, tied to
`src/dp/{peripheral,master,peripheral_set}.rs` by the `dp` correspondence.

The per-destination sequence of requests is observed through the ghost fields of the slot
(`Lemmas/Dp.lean`, `sgSend` / `sgReply` / `sgOffline`):
* `last`        — service (`reqKind`: SAP pair + function) and frame count bit of the last request,
* `accepted`    — an *acceptable* reply to it arrived (`acceptable`: well-formed diagnostics response /
                  short confirmation / Data_Exchange response of the configured length),
* `anyReply`    — any reply arrived, `count` — transmissions of it in a row without any reply,
* `expectFirst` — no request went out yet since start-up or since the peripheral was declared offline,
* `diagReq`     — the user called `request_diagnostics()` since the last request (an observation only:
                  no statement depends on it; `witnessCheck` reads it).
Every theorem is stated for an arbitrary state satisfying the invariants `Inv` and `Inv8`, which every
state reached by a contract history does (`reachable`), for all `max_retry_limit` 1..15, any number of
peripherals in any slots, all reply kinds and user calls at every point.
-/
import ProfiVerif.Lemmas.Dp08

namespace PV.C08
open PV PV.Dp

/-- Every state a contract history reaches satisfies the invariants the step theorems assume. -/
theorem reachable {fp : FdlParams} (hfp : FpOk fp) {slots : List (Option Peripheral)}
    (hinit : InitOk fp slots) (gr : Bool) (ops : List Op) :
    ∀ {g : G}, grun fp (G.init slots gr) ops = .ok g → Inv fp g ∧ (g.tainted = false → Inv8 g) := by
  intro g h
  exact (grun_ind hfp (P := fun g => g.tainted = false → Inv8 g)
    (fun op hI hP hs hu => inv8_step hfp hI (hP (tainted_mono op hs hu)) op hs hu)
    ops _ (inv_init hinit gr) (fun _ => inv8_init hinit gr)).2.2 g h

/-- What is known when a request goes out to slot `i` (see `Dp.send_step`). -/
theorem send_step {fp : FdlParams} (hfp : FpOk fp) {g g' : G} (hI : Inv fp g) (h8 : Inv8 g)
    {now : Int} {hp : Bool} (h : gstep fp g (.tx now hp) = .ok g')
    {i : Nat} {hd : Header} {pdu : Bytes} (ho : g'.o = .sent i hd pdu) :
    ∃ p p' p0, g.m.slots[i]? = some (some p0) ∧ p = { p0 with retry := p.retry } ∧
      J8 (g.sg i) p ∧ PInv fp p ∧ TxSpec fp .operate p (.send p' hd pdu) ∧
      g'.sg i = sgSend hd p' (g.sg i) ∧ g'.out = some p0.address :=
  Dp.send_step hfp hI h8 h ho

/-- `first_is_first`: the first request to a peripheral after start-up, and the first after it was
declared offline, carries FCV = 0 / FCB = 1. -/
theorem first_is_first {fp : FdlParams} (hfp : FpOk fp) {g g' : G} (hI : Inv fp g) (h8 : Inv8 g)
    {now : Int} {hp : Bool} (h : gstep fp g (.tx now hp) = .ok g')
    {i : Nat} {hd : Header} {pdu : Bytes} (ho : g'.o = .sent i hd pdu)
    (hfirst : (g.sg i).expectFirst = true) :
    fcbOf hd = .first ∧ (fcbOf hd).fcv = false ∧ (fcbOf hd).fcb = true := by
  obtain ⟨p, p', p0, _, _, hJ, _, hts, _, _⟩ := send_step hfp hI h8 h ho
  have : fcbOf hd = .first := by rw [(send_header hts).2.2.2.1]; exact hJ.first hfirst
  rw [this]; exact ⟨rfl, rfl, rfl⟩

/-- `toggle_after_accept`: a request that follows an accepted reply carries FCV = 1 and the opposite
frame count bit. -/
theorem toggle_after_accept {fp : FdlParams} (hfp : FpOk fp) {g g' : G} (hI : Inv fp g) (h8 : Inv8 g)
    {now : Int} {hp : Bool} (h : gstep fp g (.tx now hp) = .ok g')
    {i : Nat} {hd : Header} {pdu : Bytes} (ho : g'.o = .sent i hd pdu)
    (hnf : (g.sg i).expectFirst = false) (hacc : (g.sg i).accepted = true)
    {k : RKind} {f0 : FrameCountBit} (hl : (g.sg i).last = some (k, f0)) :
    (fcbOf hd).fcv = true ∧ (fcbOf hd).fcb = !f0.fcb := by
  obtain ⟨p, p', p0, _, _, hJ, _, hts, _, _⟩ := send_step hfp hI h8 h ho
  rw [(send_header hts).2.2.2.1, hJ.toggled hnf hacc k f0 hl]
  exact cyc_bits (hJ.kind k f0 hl).2

/-- `same_fcb_only_retransmit`: if a request carries the same frame count bit as the previous
request to that peripheral, then no acceptable reply arrived in between, it is a request of the same
service (same SAP pair and function) to the same slot — i.e. it is a retransmission.  (Full strength since /repo c18fdc1; before that
repair `request_diagnostics()` between an unanswered Data_Exchange request and its retransmission
produced a diagnostics request with the same bit — finding K_C08_diagreq_retry, corpus/dp/06.) -/
theorem same_fcb_only_retransmit {fp : FdlParams} (hfp : FpOk fp) {g g' : G} (hI : Inv fp g) (h8 : Inv8 g)
    {now : Int} {hp : Bool} (h : gstep fp g (.tx now hp) = .ok g')
    {i : Nat} {hd : Header} {pdu : Bytes} (ho : g'.o = .sent i hd pdu)
    (hnf : (g.sg i).expectFirst = false)
    {k : RKind} {f0 : FrameCountBit} (hl : (g.sg i).last = some (k, f0)) (hsame : fcbOf hd = f0) :
    (g.sg i).accepted = false ∧ reqKind hd = k := by
  obtain ⟨p, p', p0, _, _, hJ, hP, hts, _, _⟩ := send_step hfp hI h8 h ho
  have hf : p.fcb = f0 := by rw [← (send_header hts).2.2.2.1]; exact hsame
  have hk := (hJ.kind k f0 hl)
  constructor
  · cases hacc : (g.sg i).accepted with
    | false => rfl
    | true =>
      have := hJ.toggled hnf hacc k f0 hl
      rw [hf] at this
      exact absurd this.symm (cyc_ne_self hk.2)
  · obtain ⟨hst, hdx⟩ := hJ.snap hnf k f0 hl hf
    have hkind := (send_kind_snap hts).1
    rw [hkind, hk.1, ← hst]
    by_cases hd' : p.state = .preDataExchange ∨ p.state = .dataExchange
    · obtain ⟨hin, hre⟩ := hdx hd'
      have : p.serviceIsDiag = (g.sg i).snapDiag := by
        unfold Peripheral.serviceIsDiag
        rw [if_neg (by omega), hin]
      rw [this]
    · cases hps : p.state with
      | preDataExchange => exact absurd (Or.inl hps) hd'
      | dataExchange => exact absurd (Or.inr hps) hd'
      | offline => rfl
      | waitForParam => rfl
      | waitForConfig => rfl
      | validateConfig => rfl

/-- `same_fcb_only_retransmit` over whole histories: the form in which the witness below refutes it on the code
before /repo c18fdc1 (finding K_C08_diagreq_retry). -/
def same_fcb_only_retransmit_full : Prop :=
  ∀ (fp : FdlParams), FpOk fp → ∀ (slots : List (Option Peripheral)), InitOk fp slots →
  ∀ (gr : Bool) (ops : List Op) (g g' : G) (now : Int) (hp : Bool) (i : Nat) (hd : Header) (pdu : Bytes)
    (k : RKind) (f0 : FrameCountBit),
    grun fp (G.init slots gr) ops = .ok g → g.tainted = false → gstep fp g (.tx now hp) = .ok g' →
    g'.o = .sent i hd pdu →
    (g.sg i).expectFirst = false → (g.sg i).last = some (k, f0) → fcbOf hd = f0 → reqKind hd = k

theorem same_fcb_only_retransmit_full_holds : same_fcb_only_retransmit_full := by
  intro fp hfp slots hinit gr ops g g' now hp i hd pdu k f0 hrun hu hstep ho hnf hl hsame
  obtain ⟨hI, h8⟩ := reachable hfp hinit gr ops hrun
  exact (same_fcb_only_retransmit hfp hI (h8 hu) hstep ho hnf hl hsame).2

/-- `retry_bound`: towards a live peripheral a request is transmitted at most `1 + max_retry_limit`
times in a row without any reply. -/
theorem retry_bound {fp : FdlParams} (hfp : FpOk fp) {g g' : G} (hI : Inv fp g) (h8 : Inv8 g)
    {now : Int} {hp : Bool} (h : gstep fp g (.tx now hp) = .ok g')
    {i : Nat} {hd : Header} {pdu : Bytes} (ho : g'.o = .sent i hd pdu)
    {p0 : Peripheral} (hp0 : g.m.slots[i]? = some (some p0)) (hlive : p0.state ≠ .offline) :
    (g'.sg i).count ≤ 1 + fp.maxRetry := by
  obtain ⟨p, p', q0, hq0, hsame, hJ, hP, hts, hsg, _⟩ := send_step hfp hI h8 h ho
  rw [hp0] at hq0
  simp only [Option.some.injEq] at hq0
  subst hq0
  obtain ⟨_, hst, _, _, hre, _, hrl, hprm, hcfg, _⟩ := send_kind_snap hts
  have hps : p.state = p0.state := by rw [hsame]
  rw [hsg]
  simp only [sgSend]
  split
  · rename_i hc
    have := hJ.count (by rw [hps]; exact hlive) hprm hcfg hc.2
    omega
  · omega

/-- After `1 + max_retry_limit` unanswered transmissions the next turn of the (live) peripheral does
not transmit again: it is declared offline — `transmit_telegram` of the peripheral answers with the
Offline event, the state `Offline` and the frame count bit reset to First. -/
theorem exhausted_goes_offline {fp : FdlParams} {x : SG} {p : Peripheral} (op : OpState) (hop : op ≠ .stop)
    (hJ : J8 x p) (hlive : p.state ≠ .offline)
    (hprm : p.state = .waitForParam → p.opts.userPrm ≠ none) (hcfg : p.state = .waitForConfig → p.opts.config ≠ none)
    (hno : x.anyReply = false) (hcount : x.count = 1 + fp.maxRetry) :
    p.transmit fp op = .decline { p with state := .offline, fcb := .first, retry := 0 } (some .offline) := by
  have := hJ.count hlive hprm hcfg hno
  exact transmit_retry_exceeded fp op p hop (by omega)

/-- Exactly one Offline event: it is raised only for a peripheral that is live, leaves it offline
(so it cannot be raised again before the peripheral answered a probe), ends the master's turn
without a telegram, and arms `first_is_first` for the next probe. -/
theorem offline_event_once {fp : FdlParams} (hfp : FpOk fp) {g g' : G} (hI : Inv fp g)
    {now : Int} {hp : Bool} (h : gstep fp g (.tx now hp) = .ok g')
    {he : HEvent} (hev : g'.m.lastEvents.peripheral = some he) :
    he.ev = .offline ∧ g'.o = .idle ∧ g'.out = none ∧ (g'.sg he.index).expectFirst = true ∧
    ∃ p0 p', g.m.slots[he.index]? = some (some p0) ∧ p0.state ≠ .offline ∧ he.address = p0.address ∧
      g'.m.slots[he.index]? = some (some p') ∧ p'.state = .offline ∧ p'.fcb = .first := by
  cases tx_form hfp hI h with
  | gc => simp [G.polled] at hev
  | idle m' _ _ hn _ => simp only [G.polled] at hev; rw [hn] at hev; cases hev
  | send => simp [G.polled] at hev
  | off m1 index i p hD hM1 hcy hc hret _ =>
    have hev' := afterDecline_event m1 index i p { p with state := .offline, fcb := .first, retry := 0 } .offline
    simp only [G.polled, hev', Option.some.injEq] at hev
    subst hev
    have hi := (curSlot_spec hc).2.2.1
    obtain ⟨p0, hp0, hsame⟩ := declined_back hD hi
    have hP := hM1.pinv i p hi
    have hlive : p.state ≠ .offline := by
      intro hs
      have := hP.off_retry hs
      have := hfp.retry_lo
      omega
    have hs := afterDecline_slots m1 index i p { p with state := .offline, fcb := .first, retry := 0 } (some .offline)
    refine ⟨rfl, rfl, rfl, by simp [G.upd, sgOffline], p0, { p with state := .offline, fcb := .first, retry := 0 },
      hp0, by rw [hsame] at hlive; exact hlive, by rw [hsame], ?_, rfl, rfl⟩
    simp only [G.polled, hs, List.getElem?_set, (curSlot_spec hc).2.1, if_true]

/-- Until it answers, an offline peripheral is only probed with diagnostics requests (DSAP 60,
SSAP 62, no PDU). -/
theorem offline_only_probed {fp : FdlParams} (hfp : FpOk fp) {g g' : G} (hI : Inv fp g) (h8 : Inv8 g)
    {now : Int} {hp : Bool} (h : gstep fp g (.tx now hp) = .ok g')
    {i : Nat} {hd : Header} {pdu : Bytes} (ho : g'.o = .sent i hd pdu)
    {p0 : Peripheral} (hp0 : g.m.slots[i]? = some (some p0)) (hoff : p0.state = .offline) :
    reqKind hd = .diag ∧ pdu = [] ∧ hd.dsap = some 60 ∧ hd.ssap = some 62 := by
  obtain ⟨p, p', q0, hq0, hsame, _, _, hts, _, _⟩ := send_step hfp hI h8 h ho
  rw [hp0] at hq0
  simp only [Option.some.injEq] at hq0
  subst hq0
  have hps : p.state = .offline := by rw [hsame]; exact hoff
  rcases send_kind hts with ⟨hk, hpdu, _⟩ | ⟨_, hst, _⟩ | ⟨_, hst, _⟩ | ⟨_, hst, _⟩
  · have := reqKind_diag_saps hk
    exact ⟨hk, hpdu, this.1, this.2⟩
  · rw [hps] at hst; cases hst
  · rw [hps] at hst; cases hst
  · rcases hst with hst | hst <;> (rw [hps] at hst; cases hst)

/-- `fcb_never_inactive`: every request to a peripheral carries a frame count bit (First, High or
Low), so `FrameCountBit::cycle` never meets `Inactive` — together with `never_panics`. -/
theorem fcb_never_inactive {fp : FdlParams} (hfp : FpOk fp) {g g' : G} (hI : Inv fp g) (h8 : Inv8 g)
    {now : Int} {hp : Bool} (h : gstep fp g (.tx now hp) = .ok g')
    {i : Nat} {hd : Header} {pdu : Bytes} (ho : g'.o = .sent i hd pdu) :
    fcbOf hd ≠ .inactive := by
  obtain ⟨p, p', p0, _, _, _, hP, hts, _, _⟩ := send_step hfp hI h8 h ho
  rw [(send_header hts).2.2.2.1]; exact hP.fcb

theorem never_panics {fp : FdlParams} (hfp : FpOk fp) {slots : List (Option Peripheral)}
    (hinit : InitOk fp slots) (gr : Bool) (ops : List Op) :
    grun fp (G.init slots gr) ops ≠ .panic ∧ grun fp (G.init slots gr) ops ≠ .hang :=
  ⟨(inv_run hfp ops _ (inv_init hinit gr)).1, (inv_run hfp ops _ (inv_init hinit gr)).2.1⟩

/-! ### Regression: the witness of the former finding K_C08_diagreq_retry -/

/-- corpus/dp/06_K_C08_diagreq_retry.ops: bring-up, one data exchange, a Data_Exchange request that
times out, `request_diagnostics()`, next poll. -/
def witness : List Op :=
  Ex.bringUp ++ [.tx 10000 false, .take, .reply 7 (Ex.dxReply [0xa5]), .take, .tx 11000 false, .take,
    .tx 12000 false, .take, .timeout 7, .take, .diagReq 1]

/-- On the repaired code the next poll *retransmits the Data_Exchange request* (same service, same
bit: `0x5d` again); the diagnostics request follows once that request is answered, with the toggled
bit (`0x7c`). -/
def witnessCheck : Bool :=
  match grun Ex.fp (G.init Ex.slots false) witness with
  | .ok g =>
    match gstep Ex.fp g (.tx 13000 false) with
    | .ok g' =>
      (match g'.o, (g.sg 1).last with
       | .sent 1 hd _, some (k, f0) =>
         (g.sg 1).expectFirst == false && fcbOf hd == f0 && k == .dx && reqKind hd == .dx &&
         (g.sg 1).diagReq && hd.fc.toByte == 0x5d
       | _, _ => false) &&
      (match grun Ex.fp g' [.take, .reply 7 (Ex.dxReply [0xa6]), .take, .tx 14000 false, .take, .tx 15000 false] with
       | .ok g2 => (match g2.o with | .sent 1 hd _ => reqKind hd == .diag && hd.fc.toByte == 0x7c | _ => false)
       | _ => false)
    | _ => false
  | _ => false

example : witnessCheck = true := by decide +kernel

/-! ### Non-vacuity of the step theorems: states of a real history meet their hypotheses -/

/-- After start-up the first request is due with `expectFirst`; after the bring-up the slot's last
request was accepted (hypotheses of `first_is_first` / `toggle_after_accept` / `retry_bound`). -/
def hypothesesCheck : Bool :=
  (match grun Ex.fp (G.init Ex.slots false) [.tx 1000 false] with
   | .ok g => (g.sg 1).expectFirst &&
       (match gstep Ex.fp g (.tx 2000 false) with
        | .ok g' => (match g'.o with | .sent 1 hd _ => fcbOf hd == .first && hd.fc.toByte == 0x6c | _ => false)
        | _ => false)
   | _ => false) &&
  (match grun Ex.fp (G.init Ex.slots false) Ex.bringUp with
   | .ok g => !(g.sg 1).expectFirst && (g.sg 1).accepted && (g.sg 1).last == some (.diag, .low) &&
       (match gstep Ex.fp g (.tx 10000 false) with
        | .ok g' => (match g'.o with | .sent 1 hd _ => fcbOf hd == .high && reqKind hd == .dx && (g'.sg 1).count == 1 | _ => false)
        | _ => false)
   | _ => false)

example : hypothesesCheck = true := by decide +kernel

/-- `reset_address()` while a request is in flight: to ANOTHER address the history stays untainted — the
reply of the old address is ignored and the first request to the new address carries FCB First, as
`first_is_first` (whose hypotheses `reachable` provides) says; to the very address the reply is
outstanding from, the history is tainted (the reply would be delivered to the fresh incarnation). -/
def resetCheck : Bool :=
  (match grun Ex.fp (G.init Ex.slots false)
      [.tx 1000 false, .tx 2000 false, .resetAddr 1 9, .reply 7 (Ex.diagReply 0x02 0x05), .tx 3000 false] with
   | .ok g => !g.tainted && (g.sg 1).count == 1 &&
       (match g.o with | .sent 1 hd _ => hd.da == 9 && fcbOf hd == .first | _ => false)
   | _ => false) &&
  (match grun Ex.fp (G.init Ex.slots false) [.tx 1000 false, .tx 2000 false, .resetAddr 1 7] with
   | .ok g => g.tainted
   | _ => false) &&
  (match grun Ex.fp (G.init Ex.slots false) [.tx 1000 false, .tx 2000 false, .timeout 7, .resetAddr 1 7] with
   | .ok g => !g.tainted
   | _ => false)

example : resetCheck = true := by decide +kernel

end PV.C08
