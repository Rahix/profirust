/-
C08 for the composed system FDL ∘ DP (`Model/Stack.lean`).  As in `Props/C03Stack.lean` (see there, also for why this is
a separate file): every master call of a composed run is a step from a state reached by a contract history
(`Stack.station_log_is_contract_history`), so `stack_reachable` transfers all step theorems of `Props/C08.lean`; the
headline clause is restated.
-/
import ProfiVerif.Props.C08
import ProfiVerif.Lemmas.StackEx

namespace PV.C08
open PV PV.Dp

theorem stack_reachable {fp : FdlParams} (hfp : FpOk fp) (p : Params)
    (haddr : fp.address.toNat = p.address) {slots : List (Option Peripheral)} (hinit : InitOk fp slots) (gr : Bool)
    (calls : List Stack.Call) {t0 : Int} (ht0 : -(2:Int)^62 < t0) (ht : Stack.TimesOk t0 calls)
    {k' : Stack.State} {l : List Stack.MCall} (h : Stack.run fp (Stack.init p slots gr) calls = .ok (k', l))
    {pre post : List Stack.MCall} {x : Stack.MCall} (hl : l = pre ++ x :: post) :
    ∃ g g', grun fp (G.init slots gr) (pre.map Stack.toOp) = .ok g ∧ gstep fp g (Stack.toOp x) = .ok g' ∧
      Dp.Inv fp g ∧ (g.tainted = false → Inv8 g) := by
  obtain ⟨g, g', e1, e2⟩ := Stack.stack_step hfp p haddr hinit gr calls ht0 ht h hl
  obtain ⟨hI, hr⟩ := reachable hfp hinit gr _ e1
  exact ⟨g, g', e1, e2, hI, hr⟩

/-- **`first_is_first` for the composed stack**: in any run of station ∘ master from the initial
state, the first request the master hands to the station for a peripheral after start-up, after it was
declared offline, or after `reset_address()`, carries FCV = 0 / FCB = 1. -/
theorem stack_first_is_first {fp : FdlParams} (hfp : FpOk fp) (p : Params)
    (haddr : fp.address.toNat = p.address) {slots : List (Option Peripheral)} (hinit : InitOk fp slots) (gr : Bool)
    (calls : List Stack.Call) {t0 : Int} (ht0 : -(2:Int)^62 < t0) (ht : Stack.TimesOk t0 calls)
    {k' : Stack.State} {l : List Stack.MCall} (h : Stack.run fp (Stack.init p slots gr) calls = .ok (k', l))
    {pre post : List Stack.MCall} {now : Int} {hp : Bool} (hl : l = pre ++ .tx now hp :: post) :
    ∃ g g', grun fp (G.init slots gr) (pre.map Stack.toOp) = .ok g ∧ gstep fp g (.tx now hp) = .ok g' ∧
      ∀ i hd pdu, g'.o = .sent i hd pdu → (g.sg i).expectFirst = true → g.tainted = false →
        fcbOf hd = .first ∧ (fcbOf hd).fcv = false ∧ (fcbOf hd).fcb = true := by
  obtain ⟨g, g', e1, e2, hI, hr⟩ := stack_reachable hfp p haddr hinit gr calls ht0 ht h hl
  exact ⟨g, g', e1, e2, fun i hd pdu ho hf hu => first_is_first hfp hI (hr hu) e2 ho hf⟩


/-- In the concrete composed run `Stack.Ex.calls` the first request for the peripheral goes out with
`expectFirst` set, in an untainted history (and carries FCB First). -/
example : Stack.Ex.runHas (fun g _ g' =>
    match g'.o with
    | .sent i hd _ => (g.sg i).expectFirst && !g.tainted && fcbOf hd == .first
    | _ => false) = true := by
  have h := Stack.Ex.run_has
  simp only [Bool.and_eq_true] at h
  -- the predicate above is `Stack.Ex.firstRequestIsFirst` written out: the fourth conjunct of `run_has`
  exact h.1.1.2

end PV.C08
