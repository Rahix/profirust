/-
C09 — Telegram encoding and decoding are mutually inverse.

The property theorems (and `fcByteOk`, the per-byte test that `fc_bytes` sweeps); helper lemmas are in `Lemmas/Codec.lean`.
All statements are about `Model/Telegram.lean`, which the `codec` correspondence ties to
`src/fdl/telegram.rs`.
-/
import ProfiVerif.Lemmas.Codec

namespace PV.C09
open PV

/-- Every data telegram the stack can build (addresses 0..127, any SAPs, any function code, length
byte ≤ 249) serialises without panic to exactly the PROFIBUS layout `frameSpec`, reports
`telegram_len` bytes, and decodes back to the identical telegram consuming exactly those bytes —
whatever follows in the buffer. -/
theorem decode_encode_data (h : Header) (pdu rest : Bytes)
    (hda : h.da < 128) (hsa : h.sa < 128) (hl : h.lengthByte pdu.length ≤ 249) :
    h.serialize pdu = .ok (frameSpec h pdu) ∧
    (frameSpec h pdu).length = h.telegramLen pdu.length ∧
    deserialize (frameSpec h pdu ++ rest) = .accept (.data h pdu) (frameSpec h pdu).length :=
  ⟨serialize_ok h pdu hl, frame_length h pdu, decode_frame h pdu rest hda hsa hl⟩

/-- Token telegrams: `SD4 DA SA`, three bytes, decoded back for every pair of bytes. -/
theorem decode_encode_token (da sa : UInt8) (rest : Bytes) :
    sendToken da sa = [SD4, da, sa] ∧
    deserialize (sendToken da sa ++ rest) = .accept (.token da sa) (sendToken da sa).length :=
  ⟨rfl, decode_token da sa rest⟩

/-- Short confirmation: the single byte `SC`. -/
theorem decode_encode_sc (rest : Bytes) :
    sendSc = [SC] ∧ deserialize (sendSc ++ rest) = .accept .sc sendSc.length :=
  ⟨rfl, decode_sc rest⟩

/-- Function codes round-trip for every request/response combination (84 values). -/
theorem fc_roundtrip (fc : FunctionCode) : FunctionCode.fromByte fc.toByte = .ok fc :=
  PV.fc_roundtrip fc

/-- What the decoder does with each of the 256 function-code bytes: a request byte (bit 6 set) that
is accepted re-encodes to itself; a response byte re-encodes to itself with bit 7 cleared (the
decoder ignores bit 7 of a response byte). -/
def fcByteOk (b : UInt8) : Bool :=
  match FunctionCode.fromByte b with
  | .ok fc => fc.toByte == (if b &&& 0x40 ≠ 0 then b else b &&& 0x7F)
  | .error _ => true

theorem fc_bytes (b : UInt8) : fcByteOk b = true :=
  forall_u8 fcByteOk (by decide +kernel) b

/-- Exactly which bytes are valid function codes: 48 request + 2·36 response bytes = 120. -/
theorem fc_valid_count :
    ((List.range 256).filter fun n =>
      match FunctionCode.fromByte (UInt8.ofNat n) with | .ok _ => true | .error _ => false).length = 120 := by
  decide +kernel

/-- The only panic of the encoder (on the 256-byte `TelegramTx` buffer) is the
`assert!(length_byte <= 249)`. -/
theorem serialize_panics_iff (h : Header) (pdu : Bytes) :
    h.serialize pdu = .panic ↔ h.lengthByte pdu.length > 249 := by
  constructor
  · intro hp
    by_cases hl : h.lengthByte pdu.length ≤ 249
    · rw [serialize_ok h pdu hl] at hp; cases hp
    · omega
  · intro hl
    unfold Header.serialize
    simp only [Header.lengthByte] at hl ⊢
    have e1 : ¬ (pdu.length + h.saps + 3 = 3) := by omega
    have e2 : ¬ (pdu.length + h.saps + 3 = 11) := by omega
    simp only [e1, e2, if_false]
    simp [hl]

/-- `expects_reply`: a request of an acknowledged/answered service expects a reply from its DA. -/
theorem expects_reply_spec (h : Header) :
    expectsReplyOf h =
      match h.fc with
      | .request _ req =>
        if req = .sdnLow ∨ req = .sdnHigh ∨ req = .clockValue ∨ req = .timeEvent then none else some h.da
      | .response _ _ => none := by
  unfold expectsReplyOf
  cases h.fc with
  | request fcb req => cases req <;> simp [RequestType.expectsReply]
  | response _ _ => rfl

/-! ### Non-vacuity: the hypotheses are met by SD1, SD3 and SD2 frames incl. the largest one. -/

example : (fdlStatusRequestHeader 34 2).serialize [] = .ok [0x10, 0x22, 0x02, 0x49, 0x6D, 0x16] := by decide
example : let h : Header := ⟨3, 4, some 61, some 62, .request .first .srdLow⟩
    h.da < 128 ∧ h.sa < 128 ∧ h.lengthByte (List.replicate 244 (0 : UInt8)).length ≤ 249 := by decide +kernel
example : let h : Header := ⟨13, 14, none, none, .request .inactive .srdLow⟩
    (frameSpec h (List.replicate 8 42)).head? = some SD3 := by decide
example : (⟨0, 0, none, none, .response .slave .ok⟩ : Header).serialize (List.replicate 247 0) = .panic := by
  decide +kernel

end PV.C09
