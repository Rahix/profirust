/-
C10 — The decoder is total, prefix-consistent and never mis-accepts damaged frames.

The property theorems; they are read off the normal form of the decoder, `decode_normal` in `Lemmas/Frame.lean`
(announce, wait, judge).
-/
import ProfiVerif.Lemmas.Codec

namespace PV.C10
open PV

/-- The decoder never panics: every index and slice of `Telegram::deserialize` is in range for every
byte string. -/
theorem decode_total (bs : Bytes) : deserialize bs ≠ .panic := by
  intro h
  rcases decode_cases bs with c | c | ⟨t, n, c⟩
  · rw [c] at h; cases h
  · rw [c] at h; cases h
  · rw [c] at h; cases h

theorem decode_verdicts (bs : Bytes) :
    deserialize bs = .needMore ∨ deserialize bs = .reject ∨ ∃ t n, deserialize bs = .accept t n :=
  decode_cases bs

/-- The decoder asks for more data exactly when the input is shorter than the frame it announces
(`announced`, `Model/TelegramSpec.lean`). -/
theorem needMore_iff (bs : Bytes) :
    deserialize bs = .needMore ↔ ∃ n, announced bs = some n ∧ bs.length < n := by
  cases ha : announced bs with
  | none =>
    rw [decode_none ha]
    exact ⟨fun h => (by cases h), fun ⟨n, hn, _⟩ => (by cases hn)⟩
  | some n =>
    rw [decode_some ha]
    constructor
    · intro h
      rcases verdict_cases bs n with c | c | ⟨t, c⟩
      · exact ⟨n, rfl, c.2⟩
      · rw [c.1] at h; cases h
      · rw [c.1] at h; cases h
    · rintro ⟨m, hm, hl⟩
      cases hm
      unfold verdict
      rw [if_pos hl]

/-- A verdict other than "need more" is final: it is the verdict on every extension of the input. -/
theorem verdict_stable (bs ext : Bytes) (h : deserialize bs ≠ .needMore) :
    deserialize (bs ++ ext) = deserialize bs :=
  decode_append bs ext h

theorem accept_stable (bs ext : Bytes) (t : Telegram) (n : Nat) (h : deserialize bs = .accept t n) :
    deserialize (bs ++ ext) = .accept t n := by
  rw [verdict_stable bs ext (by rw [h]; simp), h]

theorem reject_stable (bs ext : Bytes) (h : deserialize bs = .reject) :
    deserialize (bs ++ ext) = .reject := by
  rw [verdict_stable bs ext (by rw [h]; simp), h]

/-! When more data is asked for, per start code (`SC`: never — a buffer that starts with it is accepted at once). -/

theorem needMore_nil : deserialize [] = .needMore := decode_nil

theorem needMore_sc (bs : Bytes) (h0 : bs.length ≠ 0) (h : bs.getD 0 0 = SC) : deserialize bs = .accept .sc 1 := by
  rw [decode_some (announced_sc h0 h), verdict, if_neg (by omega), telegram?_sc _ h]

theorem needMore_sd4 (bs : Bytes) (h0 : bs.length ≠ 0) (h : bs.getD 0 0 = SD4) :
    deserialize bs = .needMore ↔ bs.length < 3 := by
  rw [needMore_iff, announced_sd4 h0 h]
  exact ⟨fun ⟨n, hn, hl⟩ => (by cases hn; exact hl), fun hl => ⟨3, rfl, hl⟩⟩

theorem decode_data (bs : Bytes) (h0 : bs.length ≠ 0)
    (h : bs.getD 0 0 = SD1 ∨ bs.getD 0 0 = SD2 ∨ bs.getD 0 0 = SD3) : deserialize bs = dataSpec bs := by
  rw [decode_eq_spec]; unfold decodeSpec
  rw [if_neg h0]
  rcases h with s | s | s
  · simp only [s, start_ne, true_or, if_true, if_false]
  · simp only [s, start_ne, true_or, or_true, if_true, if_false]
  · simp only [s, start_ne, or_true, if_true, if_false]

theorem needMore_sd1 (bs : Bytes) (h0 : bs.length ≠ 0) (h : bs.getD 0 0 = SD1) :
    deserialize bs = .needMore ↔ bs.length < 6 := by
  rw [needMore_iff, announced_sd1 h0 h]
  exact ⟨fun ⟨n, hn, hl⟩ => (by cases hn; exact hl), fun hl => ⟨6, rfl, hl⟩⟩

theorem needMore_sd3 (bs : Bytes) (h0 : bs.length ≠ 0) (h : bs.getD 0 0 = SD3) :
    deserialize bs = .needMore ↔ bs.length < 14 := by
  rw [needMore_iff, announced_sd3 h0 h]
  exact ⟨fun ⟨n, hn, hl⟩ => (by cases hn; exact hl), fun hl => ⟨14, rfl, hl⟩⟩

/-- SD2: more data is requested while fewer than 6 bytes are there, or when the header is valid
(LE = LEr ≥ 3, repeated SD2) and fewer than LE + 6 bytes are there — never on an invalid header. -/
theorem needMore_sd2 (bs : Bytes) (h0 : bs.length ≠ 0) (h : bs.getD 0 0 = SD2) :
    deserialize bs = .needMore ↔
      bs.length < 6 ∨ (bs.getD 1 0 = bs.getD 2 0 ∧ ¬ (bs.getD 1 0 < 3) ∧ bs.getD 3 0 = SD2 ∧
        bs.length < (bs.getD 1 0).toNat + 6) := by
  rw [needMore_iff, announced_sd2 h0 h]
  by_cases h6 : bs.length < 6
  · rw [if_pos h6]
    exact ⟨fun _ => .inl h6, fun _ => ⟨6, rfl, h6⟩⟩
  rw [if_neg h6]
  by_cases hh : Sd2Ok bs
  · rw [if_pos hh]
    constructor
    · rintro ⟨n, hn, hl⟩; cases hn; exact .inr ⟨hh.1, hh.2.1, hh.2.2, hl⟩
    · rintro (hl | ⟨-, -, -, hl⟩)
      · exact absurd hl h6
      · exact ⟨_, rfl, hl⟩
  · rw [if_neg hh]
    constructor
    · rintro ⟨n, hn, -⟩; cases hn
    · rintro (hl | ⟨a, b, c, -⟩)
      · exact absurd hl h6
      · exact absurd ⟨a, b, c⟩ hh

/-- Any other first byte is rejected at once. -/
theorem reject_other (bs : Bytes) (h0 : bs.length ≠ 0) (h : NotStartCode (bs.getD 0 0)) :
    deserialize bs = .reject := decode_none (announced_other h0 h)

theorem accept_cases (bs : Bytes) (t : Telegram) (n : Nat) (h : deserialize bs = .accept t n) :
    (t = .sc ∧ n = 1 ∧ 1 ≤ bs.length ∧ bs.getD 0 0 = SC) ∨
    (t = .token (bs.getD 1 0) (bs.getD 2 0) ∧ n = 3 ∧ 3 ≤ bs.length ∧ bs.getD 0 0 = SD4) ∨
    ((bs.getD 0 0 = SD1 ∨ bs.getD 0 0 = SD2 ∨ bs.getD 0 0 = SD3) ∧ dataSpec bs = .accept t n) := by
  obtain ⟨ha, hn, ht⟩ := (decode_accept_iff bs t n).mp h
  have h0 := length_ne_zero_of_complete ha hn
  have hdata : ∀ hd : bs.getD 0 0 = SD1 ∨ bs.getD 0 0 = SD2 ∨ bs.getD 0 0 = SD3, dataSpec bs = .accept t n :=
    fun hd => (decode_data bs h0 hd).symm.trans h
  rcases start_cases (bs.getD 0 0) with s | s | s | s | s | s
  · rw [announced_sc h0 s] at ha; rw [telegram?_sc _ s] at ht
    cases ha; cases ht
    exact .inl ⟨rfl, rfl, hn, s⟩
  · rw [announced_sd4 h0 s] at ha; rw [telegram?_sd4 _ s] at ht
    cases ha; cases ht
    exact .inr (.inl ⟨rfl, rfl, hn, s⟩)
  · exact .inr (.inr ⟨.inl s, hdata (.inl s)⟩)
  · exact .inr (.inr ⟨.inr (.inl s), hdata (.inr (.inl s))⟩)
  · exact .inr (.inr ⟨.inr (.inr s), hdata (.inr (.inr s))⟩)
  · rw [announced_other h0 s] at ha; cases ha

theorem accept_inside (bs : Bytes) (t : Telegram) (n : Nat) (h : deserialize bs = .accept t n) :
    1 ≤ n ∧ n ≤ bs.length :=
  decode_accept_inside h

/-- A data telegram is accepted only from a well-formed frame: start delimiter SD1/SD3, or SD2 with
LE = LEr ≥ 3 and the repeated SD2; reported length = the announced frame length, inside the input;
the checksum byte equals the byte sum of DA..PDU; the end delimiter is ED; the function-code byte is
valid; and the returned payload is the corresponding slice of the input. -/
theorem accept_only_if_wellformed (bs : Bytes) (h : Header) (pdu : Bytes) (n : Nat)
    (hacc : deserialize bs = .accept (.data h pdu) n) :
    ∃ off len, Shape bs off len ∧ n = off + len + 6 ∧ n ≤ bs.length ∧
      bs.getD (off + len + 4) 0 = checksum ((bs.drop (off + 1)).take (len + 3)) ∧
      bs.getD (off + len + 5) 0 = ED ∧
      FunctionCode.fromByte (bs.getD (off + 3) 0) = .ok h.fc ∧
      h = headerOf (bs.drop off) h.fc ∧
      pdu = ((bs.drop off).drop (4 + sapCount (bs.drop off))).take (len - sapCount (bs.drop off)) := by
  rcases accept_cases bs _ n hacc with ⟨ht, -⟩ | ⟨ht, -⟩ | ⟨hd, -⟩
  · cases ht
  · cases ht
  · obtain ⟨off, len, hsh, hn, hl, hf⟩ := decode_accept_data hacc hd
    obtain ⟨hcs, hed, fc, hfc, ht⟩ := frame?_drop hf
    simp only [Telegram.data.injEq] at ht
    have hfc' : h.fc = fc := by rw [ht.1]; rfl
    exact ⟨off, len, hsh, hn, hl, hcs, hed, by rw [hfc']; exact hfc, by rw [hfc']; exact ht.1, ht.2⟩

theorem frameSpec_first (h : Header) (pdu : Bytes) :
    (frameSpec h pdu).getD 0 0 = SD1 ∨ (frameSpec h pdu).getD 0 0 = SD2 ∨ (frameSpec h pdu).getD 0 0 = SD3 := by
  unfold frameSpec
  simp only
  split
  · left; rfl
  · split
    · right; right; rfl
    · right; left; rfl

/-- **Single-byte corruption.** Take any valid data frame (C09's domain). Replace any one byte by any
different value — except replacing the *first* byte by another start code (finding K1, below) —
and append anything: the decoder never accepts *any* telegram from it. -/
theorem single_byte_error_safe (h : Header) (pdu ext : Bytes)
    (hda : h.da < 128) (hsa : h.sa < 128) (hl : h.lengthByte pdu.length ≤ 249)
    (i : Nat) (v : UInt8) (hi : i < (frameSpec h pdu).length) (hv : v ≠ (frameSpec h pdu).getD i 0)
    (hK : i = 0 → NotStartCode v) (t' : Telegram) (n' : Nat) :
    deserialize ((frameSpec h pdu).set i v ++ ext) ≠ .accept t' n' := by
  have hdec := PV.decode_frame h pdu [] hda hsa hl
  rw [List.append_nil] at hdec
  exact PV.data_single_byte _ ext _ hdec (frameSpec_first h pdu) i v hi hv hK t' n'

/-- The same for a short confirmation: a corrupted SC byte that is not another start code is rejected. -/
theorem sc_single_byte_error_safe (v : UInt8) (ext : Bytes) (hK : NotStartCode v) :
    deserialize (sendSc.set 0 v ++ ext) = .reject := by
  apply reject_other
  · simp [sendSc]
  · simpa [sendSc] using hK

/-- Flipping one bit of a start delimiter or of SC never yields another start code (Hamming
distance 4), so *every* single-bit error is covered by the two theorems above. -/
theorem bitflip_not_start_code :
    ∀ sd ∈ [SD1, SD2, SD3, SC], ∀ k ∈ bits, NotStartCode (sd ^^^ (1 <<< k)) := by
  decide

theorem bitflip_ne (b : UInt8) : ∀ k ∈ bits, (b ^^^ (1 <<< k)) ≠ b := by
  have := forall_u8 (fun b => bits.all (fun k => (b ^^^ (1 <<< k)) != b)) (by decide +kernel) b
  simpa using this

/-- **Single-bit errors** in a valid data frame are never accepted as anything. -/
theorem single_bit_error_safe (h : Header) (pdu ext : Bytes)
    (hda : h.da < 128) (hsa : h.sa < 128) (hl : h.lengthByte pdu.length ≤ 249)
    (i : Nat) (k : UInt8) (hk : k ∈ bits) (hi : i < (frameSpec h pdu).length)
    (t' : Telegram) (n' : Nat) :
    deserialize ((frameSpec h pdu).set i ((frameSpec h pdu).getD i 0 ^^^ (1 <<< k)) ++ ext)
      ≠ .accept t' n' := by
  apply single_byte_error_safe h pdu ext hda hsa hl i _ hi (bitflip_ne _ k hk)
  intro hi0
  subst hi0
  rcases frameSpec_first h pdu with e | e | e <;> rw [e] <;> exact bitflip_not_start_code _ (by simp) k hk

/-! ### Finding K1 (inherent to the frame format): the excluded case is real -/

/-- Replacing the first byte of a valid SD1 frame by SD4 decodes as a *token*: the literal
counterexample to "any corruption confined to a single byte is never decoded as a different
telegram".  `10 03 04 6c 73 16` → `dc 03 04 …` = token 4 → 3. -/
theorem misaccept_witness_sd1_sd4 :
    let f := frameSpec ⟨3, 4, none, none, .request .first .srdLow⟩ []
    deserialize f = .accept (.data ⟨3, 4, none, none, .request .first .srdLow⟩ []) 6 ∧
    deserialize (f.set 0 SD4) = .accept (.token 3 4) 3 := by
  decide

/-- … and by SC as a short confirmation. -/
theorem misaccept_witness_sd2_sc :
    let f := frameSpec ⟨3, 4, some 1, none, .request .first .srdLow⟩ [7]
    deserialize (f.set 0 SC) = .accept .sc 1 := by
  decide

end PV.C10
