/-
C11 — Token hand-over follows the acceptance, supervision and retry rules (station level).
First the rules as theorems about single handlers of `Model/Station.lean`, for every input; then, and for the larger
part, about whole polls (`Station.poll` from any state) and about every history of API calls from a fresh station (the
lift rests on the C05 invariant development); last the counting form of pass supervision over runs of polls.
-/
import ProfiVerif.Lemmas.StationTrace
import ProfiVerif.Lemmas.PassCountNs

namespace PV.C11
open PV

/-- `accept_from_ps`: `handle_telegram` moves an idle station into `UseToken` only on a token
addressed to it that is the last telegram of its batch and comes from the registered predecessor, or
from the station whose earlier offer was declined (`new_previous_station`). -/
theorem accept_from_ps (c c' : Ctx) (now : Int) (t : Telegram) (isLast : Bool)
    (sr np : Option Nat) (coll : Nat) (hst : c.s.st = .activeIdle sr np coll)
    (h : handleTelegram c now t isLast = .ok c') (d : UseData) (fcd : Bool) (hu : c'.s.st = .useToken d fcd) :
    ∃ da sa, t = .token da sa ∧ da.toNat = c.s.p.address ∧ isLast = true ∧ sa.toNat ≠ c.s.p.address ∧
      (sa.toNat = c.s.ring.ps ∨ np = some sa.toNat) ∧ d = ⟨now, none⟩ ∧ fcd = false := by
  have hs := handleTelegram_step now t isLast hst
  rw [h] at hs
  cases hs with
  | accept hsa hda hl hps => cases hu; exact ⟨_, _, rfl, hda, hl, hsa, .inl hps, rfl, rfl⟩
  | acceptNew hsa hda hl _ hnp => cases hu; exact ⟨_, _, rfl, hda, hl, hsa, .inr hnp, rfl, rfl⟩
  | collision _ _ => cases hu
  | backOff _ _ => cases hu
  | heard _ _ => cases hu
  | stranger _ _ _ _ _ => cases hu
  | request _ => cases hu
  | ignore _ => rw [hst] at hu; cases hu
  | sc => rw [hst] at hu; cases hu

/-- `first_offer_declined`: a token for us from a stranger (neither PS nor the pending new PS) changes
nothing but the pending address (and resets the collision counter). -/
theorem first_offer_declined (c : Ctx) (now : Int) (da sa : UInt8) (sr np : Option Nat) (coll : Nat)
    (hst : c.s.st = .activeIdle sr np coll) (hda : da.toNat = c.s.p.address) (hsa : sa.toNat ≠ c.s.p.address)
    (hps : sa.toNat ≠ c.s.ring.ps) (hnp : np ≠ some sa.toNat) :
    handleTelegram c now (.token da sa) true =
      .ok (upd c fun s => { s with st := .activeIdle sr (some sa.toNat) 0 }) :=
  (handleTelegram_step now _ true hst).unique (.stranger hsa hda rfl hps hnp)

/-- Property `listener_never_accepts` at function level: while listening, `handle_telegram` ignores everything. -/
theorem listener_ignores (c : Ctx) (now : Int) (t : Telegram) (isLast : Bool) (sr : Option Nat) (coll : Nat)
    (hst : c.s.st = .listenToken sr coll) : handleTelegram c now t isLast = .ok c :=
  handleTelegram_listening now t isLast hst

/-- Collision rule in the ring: a second token carrying our own source address sends the station back
to `ListenToken`; the first one only counts. -/
theorem collision_rule (c : Ctx) (now : Int) (da sa : UInt8) (isLast : Bool) (sr np : Option Nat) (coll : Nat)
    (hst : c.s.st = .activeIdle sr np coll) (hsa : sa.toNat = c.s.p.address) :
    handleTelegram c now (.token da sa) isLast =
      if coll + 1 = 1 then .ok (upd c fun s => { s with st := .activeIdle sr np (coll + 1) })
      else .ok (upd c fun s => { s with st := .listenToken none 0 }) := by
  by_cases h0 : coll = 0
  · rw [if_pos (by omega)]; exact (handleTelegram_step now _ isLast hst).unique (.collision hsa h0)
  · rw [if_neg (by omega)]; exact (handleTelegram_step now _ isLast hst).unique (.backOff hsa h0)

/-- Property `pass_supervision`, the waiting case at function level: in `CheckTokenPass` nothing is retransmitted before the slot time has expired
and nothing was received: the poll changes only the lazily initialised activity time-stamp. -/
theorem supervision_waits (c : Ctx) (now : Int) (att : Attempt) (hst : c.s.st = .checkTokenPass att)
    (hrx : c.rx = []) (hne : (checkSlotExpired c.s now).2 = false) :
    doCheckTokenPass c now = .ok { c with s := (checkSlotExpired c.s now).1 } := by
  rw [StationGap.slot_stamped]
  exact (doCheckTokenPass_step now hst).unique
    (.quiet (by simp [StationGap.SlotExpired, hne]) (show receiveAll c.rx = .done c.rx [] false by rw [hrx]; exact receiveAll_nil))

/-- After the third silent attempt exactly the successor is removed from the LAS before the token is
passed on (to the new successor, or kept if the station is alone). -/
theorem third_expiry_removes_successor (c : Ctx) (now : Int) (hst : c.s.st = .checkTokenPass .third)
    (hex : (checkSlotExpired c.s now).2 = true) (r : TokenRing)
    (hr : (checkSlotExpired c.s now).1.ring.removeStation (checkSlotExpired c.s now).1.ring.ns = some r) :
    doCheckTokenPass c now =
      doPassToken { c with s := { (checkSlotExpired c.s now).1 with ring := r, st := .passToken false .first } } now := by
  rw [StationGap.slot_stamped] at hr ⊢
  exact doCheckTokenPass_expired now hst hex (.inr (.inr ⟨rfl, rfl, hr⟩))

/-- A first or second expiry only retransmits: the ring view is untouched. -/
theorem earlier_expiry_keeps_ring (c : Ctx) (now : Int) (att : Attempt) (hatt : att ≠ .third)
    (hst : c.s.st = .checkTokenPass att) (hex : (checkSlotExpired c.s now).2 = true) :
    doCheckTokenPass c now =
      doPassToken { c with s := { (checkSlotExpired c.s now).1 with
        st := .passToken false (if att = .first then .second else .third) } } now := by
  rw [StationGap.slot_stamped]
  cases att with
  | first => exact doCheckTokenPass_expired now hst hex (.inl ⟨rfl, rfl, rfl⟩)
  | second => exact doCheckTokenPass_expired now hst hex (.inr (.inl ⟨rfl, rfl, rfl⟩))
  | third => exact absurd rfl hatt

/-- Non-vacuity: a concrete idle station (TS = 7, PS = 3) accepts the token from 3 at once and declines
the first offer from 9. -/
def demo : Ctx :=
  { s := { (Station.new { address := 7, rate := 500000, slotBits := 200, ttrBits := 20000, gapWait := 10,
                           hsa := 126, maxRetry := 1, minTsdrBits := 11 }) with
            online := true, st := .activeIdle none none 0,
            ring := { (TokenRing.new 7) with ps := 3, ns := 9, las := .valid } },
    apps := [], rx := [] }

example : (match handleTelegram demo 1000 (.token 7 3) true with
    | .ok c => c.s.st | .panic _ => .offline) = .useToken ⟨1000, none⟩ false := by decide
example : (match handleTelegram demo 1000 (.token 7 9) true with
    | .ok c => c.s.st | .panic _ => .offline) = .activeIdle none (some 9) 0 := by decide


/-! ## Lift to whole polls (`Station.poll`, any start state, any arriving bytes, any time, any
application scripts) and to arbitrary API-call sequences

The theorems about one poll are conditional on the poll returning regularly (`.ok c'`) and need no
hypothesis on the start state; that it does return regularly from every state satisfying the station
invariant is C05.  The `_trace` forms speak about every step of every API-call sequence from a fresh
station. -/

open C05 TokenRing

/-- **`listener_never_accepts`** (one whole poll, through the whole `do_listen_token` fold over all
received telegrams).  A poll that starts in `ListenToken` — or in `Offline`, from which the first
online poll enters `ListenToken` — ends, whatever bytes arrive and whatever the time is, in
`ListenToken`, in `Offline` (second collision with the own address: the station takes itself off the
bus), in `ClaimToken` (token-lost time-out; first or second claim token), or in `ActiveIdle` — the
latter only by answering a pending FDL status request (start state `ListenToken` with a recorded
requester, a response is transmitted in this poll), never because of a token.  No application is
called.  In particular it never ends holding or passing a token. -/
theorem listener_never_accepts (s : Station) (apps : Apps) (now : Int) (phy : Bool) (rx : Bytes) (c' : Ctx)
    (h : s.poll apps now phy rx = .ok c') (hst : (∃ sr coll, s.st = .listenToken sr coll) ∨ s.st = .offline) :
    c'.calls = [] ∧
    ((∃ a b, c'.s.st = .listenToken a b) ∨ c'.s.st = .offline ∨
     (c'.s.st = .activeIdle none none 0 ∧ (∃ src coll, s.st = .listenToken (some src) coll) ∧ c'.tx.isSome = true) ∨
     c'.s.st = .claimToken .firstToken ∨ c'.s.st = .claimToken .secondToken) := by
  -- after `pollStart` the station listens: as before, or for the first time (then no requester is remembered)
  obtain ⟨sr, coll, hw, hsr⟩ : ∃ sr coll, s.wake.st = .listenToken sr coll ∧ (sr = none ∨ s.st = .listenToken sr coll) := by
    rcases hst with ⟨sr, coll, hs⟩ | hs
    · exact ⟨sr, coll, by rw [wake_of_awake s (by rw [hs]; simp) (by rw [hs]; simp)]; exact hs, .inr hs⟩
    · exact ⟨none, 0, by unfold Station.wake; rw [hs], .inl rfl⟩
  rcases poll_cases s apps now phy rx c' h with ⟨hoff, hst0, rfl⟩ | ⟨hon, rfl⟩ | ⟨hon, hd⟩
  · exact ⟨rfl, .inr (.inl hst0)⟩
  · exact ⟨rfl, .inl ⟨sr, coll, hw⟩⟩
  · obtain ⟨hq, -, hs⟩ := hd.listen sr coll (by rw [checkBusActivity_eq]; exact hw)
    refine ⟨hq.calls, ?_⟩
    rcases hs with ⟨-, h'⟩ | ⟨-, h'⟩ | ⟨-, h', ⟨src, hsrc⟩, htx⟩ | ⟨-, h' | h'⟩
    · exact .inl h'
    · exact .inr (.inl h')
    · refine .inr (.inr (.inl ⟨h', ?_, htx⟩))
      rcases hsr with hn | hs
      · rw [hn] at hsrc; cases hsrc
      · exact ⟨src, coll, by rw [← hsrc]; exact hs⟩
    · exact .inr (.inr (.inr (.inl h')))
    · exact .inr (.inr (.inr (.inr h')))

/-- … so a listener never ends a poll holding, using, passing or supervising a token. -/
theorem listener_never_holds_token (s : Station) (apps : Apps) (now : Int) (phy : Bool) (rx : Bytes) (c' : Ctx)
    (h : s.poll apps now phy rx = .ok c') (hst : (∃ sr coll, s.st = .listenToken sr coll) ∨ s.st = .offline) :
    (∀ d f, c'.s.st ≠ .useToken d f) ∧ (∀ a d, c'.s.st ≠ .awaitData a d) ∧ (∀ g att, c'.s.st ≠ .passToken g att) ∧
    (∀ att, c'.s.st ≠ .checkTokenPass att) ∧ (∀ a, c'.s.st ≠ .awaitStatus a) := by
  obtain ⟨-, hs⟩ := listener_never_accepts s apps now phy rx c' h hst
  refine ⟨?_, ?_, ?_, ?_, ?_⟩ <;> intros <;> intro hc <;>
    rcases hs with ⟨_, _, h'⟩ | h' | ⟨h', -⟩ | h' | h' <;> rw [h'] at hc <;> cases hc

/-- **`accept_only_from_ps_or_repeat`** (one whole poll).  A poll that starts in `ActiveIdle` (with
pending stranger `np`, the station whose token offer was declined before) and ends in `UseToken` has
received, as the LAST telegram of the batch it read in this poll, a token addressed to this station
from another station that is the registered predecessor at that moment (the acceptance itself does not
touch the ring view, so this is `PS` of the resulting state) or is exactly the pending stranger `np`.
No status request was pending, and the token visit starts fresh (`token_time = now`). -/
theorem accept_only_from_ps_or_repeat (s : Station) (apps : Apps) (now : Int) (phy : Bool) (rx : Bytes) (c' : Ctx)
    (h : s.poll apps now phy rx = .ok c') (sr np : Option Nat) (coll : Nat) (hst : s.st = .activeIdle sr np coll)
    (d : UseData) (fcd : Bool) (hu : c'.s.st = .useToken d fcd) :
    s.online = true ∧ sr = none ∧ d = ⟨now, none⟩ ∧ fcd = false ∧
    ∃ rx' pre da sa ret, receiveAll rx = .done rx' (pre ++ [(Telegram.token da sa, true)]) ret ∧
      da.toNat = s.p.address ∧ sa.toNat ≠ s.p.address ∧ (sa.toNat = c'.s.ring.ps ∨ np = some sa.toNat) := by
  have hw := wake_of_awake s (by rw [hst]; simp) (by rw [hst]; simp)
  rcases poll_cases s apps now phy rx c' h with ⟨hoff, hst0, rfl⟩ | ⟨hon, rfl⟩ | ⟨hon, hd⟩
  · rw [hst0] at hst; cases hst
  · rw [hw] at hu
    have : s.st = .useToken d fcd := hu
    rw [hst] at this; cases this
  · -- `check_for_bus_activity` moves the stamp and the pending-byte count only
    rw [hw, checkBusActivity_eq] at hd
    obtain ⟨-, -, -, hs⟩ := hd.idle sr np coll hst
    rcases hs with ⟨_, _, _, h'⟩ | ⟨_, _, h'⟩ | (h' | h') | ⟨hsr, rx', pre, da, sa, ret, hrx, hda, hsa, hsrc, h'⟩
    · rw [h'] at hu; cases hu
    · rw [h'] at hu; cases hu
    · rw [h'] at hu; cases hu
    · rw [h'] at hu; cases hu
    · rw [h'] at hu; cases hu
      exact ⟨hon, hsr, rfl, rfl, rx', pre, da, sa, ret, hrx, hda, hsa, hsrc⟩

/-- **`pass_supervision`** (one whole poll starting in `CheckTokenPass`): exactly three things can
happen.  (1) Nothing: the own transmission is still on the wire, or the slot time has not expired and
no complete telegram has arrived — state, ring view unchanged, nothing transmitted.  (2) The slot time
expired in silence (`SlotExpired`, see `slotExpired_silent`): on the first and second expiry the token
is retransmitted with the ring view untouched, on the third expiry exactly NS is removed first
(`RetryStep`); then either the synchronisation pause is still awaited (`PassToken`), or the token goes
out to the (new) NS, the own pass is witnessed, and the station supervises again — or keeps the token if
it is now alone.  (3) A complete telegram was heard before the slot time expired: the station goes to
`ActiveIdle` handling (it may end in `ActiveIdle`, in `ListenToken` after a second collision, or accept
a token from its registered predecessor as last telegram), the ring view changes ONLY by witnessing
token telegrams of the received batch — no station is removed by supervision — and nothing is
retransmitted.  No application is ever called. -/
theorem pass_supervision (s : Station) (apps : Apps) (now : Int) (phy : Bool) (rx : Bytes) (c' : Ctx)
    (h : s.poll apps now phy rx = .ok c') (att : Attempt) (hst : s.st = .checkTokenPass att) :
    c'.calls = [] ∧
    ((c'.s.st = .checkTokenPass att ∧ c'.s.ring = s.ring ∧ c'.tx = none) ∨
     (SlotExpired s now rx ∧ ∃ r0 att', RetryStep s.ring att att' r0 ∧
        ((c'.s.st = .passToken false att' ∧ c'.s.ring = r0 ∧ c'.tx = none) ∨
         (c'.s.ring = r0.witness s.p.address r0.ns ∧
            (c'.s.st = .useToken ⟨now, none⟩ false ∨ c'.s.st = .checkTokenPass att') ∧
            c'.tx = some (sendToken (UInt8.ofNat r0.ns) (UInt8.ofNat s.p.address))))) ∨
     (¬ SlotExpired s now rx ∧ ∃ rx' calls ret, receiveAll rx = .done rx' calls ret ∧ calls ≠ [] ∧
        HeardEvo calls s.ring c'.s.ring ∧ c'.tx = none ∧
        ((∃ sr' np' coll', c'.s.st = .activeIdle sr' np' coll') ∨ (∃ a b, c'.s.st = .listenToken a b) ∨
         (∃ pre da sa, calls = pre ++ [(Telegram.token da sa, true)] ∧ da.toNat = s.p.address ∧
            sa.toNat ≠ s.p.address ∧ sa.toNat = c'.s.ring.ps ∧ c'.s.st = .useToken ⟨now, none⟩ false)))) :=
  check_supervision s apps now phy rx c' h att hst


/-- Registered bus activity blocks the expiry: if a new byte has become pending since the last poll,
the slot time is not expired in this poll — nothing is retransmitted, nobody is removed. -/
theorem activity_blocks_expiry (s : Station) (now : Int) (rx : Bytes) (h : rx.length > s.pendingBytes) :
    ¬ SlotExpired s now rx := by
  intro he
  have := (slotExpired_silent s now rx he).1
  omega

/-- **`never_remove_heard`** (one whole poll, ANY start state).  Across a poll the ring view evolves
without any `remove_station` — only by witnessed token passes (heard or own), a successor entered
after a positive GAP reply, the claim, or the reset when the station takes itself offline (`RingEvo`)
— except in a poll that starts online in `CheckTokenPass` on the THIRD attempt with the slot time
expired in silence: no new byte pending since the last poll and the last registered bus activity more
than a slot time ago.  Then exactly NS is removed (followed, if the synchronisation pause is over, by
the witnessed pass to the new NS).  A successor from which any activity was registered within the slot
time is therefore never removed by supervision. -/
theorem never_remove_heard (s : Station) (apps : Apps) (now : Int) (phy : Bool) (rx : Bytes) (c' : Ctx)
    (h : s.poll apps now phy rx = .ok c') :
    RingEvo s.p.address s.ring c'.s.ring ∨
    (s.online = true ∧ s.st = .checkTokenPass .third ∧
      (rx.length ≤ s.pendingBytes ∧ ∃ l, s.lastBusActivity = some l ∧ l + (s.p.slotTime : Nat) < now) ∧
      ∃ r0, s.ring.removeStation s.ring.ns = some r0 ∧
        (c'.s.ring = r0 ∨ c'.s.ring = r0.witness s.p.address r0.ns)) := by
  rcases poll_ring s apps now phy rx c' h with hr | ⟨hon, hst, hex, hrm⟩
  · exact .inl hr
  · exact .inr ⟨hon, hst, slotExpired_silent s now rx hex, hrm⟩

/-- **Trace form** of the hand-over rules: after ANY sequence `pre` of `poll` / `set_online` /
`set_offline` calls from a fresh station, the next call `a` does not panic, and if it is a poll then,
with respect to the state `w` the station is in at that moment: a listener does not accept
(`listener_never_accepts`), an idle station accepts only from PS or the pending stranger
(`accept_only_from_ps_or_repeat`), and the ring view loses a station by supervision only on a silent
third expiry (`never_remove_heard`); `set_online` leaves the ring view alone and `set_offline` resets
it. -/
theorem handover_trace (p : Params) (apps : Apps) (h1 : p.address < p.hsa) (h2 : p.hsa ≤ 126)
    (hs : ScriptsOk apps) (pre : List ApiCall) (a : ApiCall) :
    ∃ w w' l, World.run { s := Station.new p, apps := apps, rx := [] } pre = some w ∧ w.stepLog a = some (w', l) ∧
      -- ring view
      (RingEvo w.s.p.address w.s.ring w'.s.ring ∨
        (∃ now phy arrived, a = .poll now phy arrived ∧ w.s.online = true ∧ w.s.st = .checkTokenPass .third ∧
          ((w.rx ++ arrived).length ≤ w.s.pendingBytes ∧
            ∃ l0, w.s.lastBusActivity = some l0 ∧ l0 + (w.s.p.slotTime : Nat) < now) ∧
          ∃ r0, w.s.ring.removeStation w.s.ring.ns = some r0 ∧
            (w'.s.ring = r0 ∨ w'.s.ring = r0.witness w.s.p.address r0.ns))) ∧
      -- listeners
      (((∃ sr coll, w.s.st = .listenToken sr coll) ∨ w.s.st = .offline) →
        (∀ d f, w'.s.st ≠ .useToken d f) ∧ (∀ x d, w'.s.st ≠ .awaitData x d) ∧ (∀ g att, w'.s.st ≠ .passToken g att) ∧
        (∀ att, w'.s.st ≠ .checkTokenPass att) ∧ (∀ x, w'.s.st ≠ .awaitStatus x)) ∧
      -- acceptance
      (∀ sr np coll d fcd, w.s.st = .activeIdle sr np coll → w'.s.st = .useToken d fcd →
        ∃ now phy arrived rx' pre' da sa ret, a = .poll now phy arrived ∧
          receiveAll (w.rx ++ arrived) = .done rx' (pre' ++ [(Telegram.token da sa, true)]) ret ∧
          da.toNat = w.s.p.address ∧ sa.toNat ≠ w.s.p.address ∧ (sa.toNat = w'.s.ring.ps ∨ np = some sa.toNat)) := by
  obtain ⟨w, w', l, hw, -, hl⟩ := reach_step p apps h1 h2 hs pre a
  refine ⟨w, w', l, hw, hl, ?_⟩
  cases a with
  | poll now phy arrived =>
    obtain ⟨c, hc, rfl, rfl⟩ := stepLog_poll hl
    refine ⟨?_, ?_, ?_⟩
    · rcases never_remove_heard _ _ _ _ _ _ hc with hr | ⟨e1, e2, e3, e4⟩
      · exact .inl hr
      · exact .inr ⟨now, phy, arrived, rfl, e1, e2, e3, e4⟩
    · intro hst
      exact listener_never_holds_token _ _ _ _ _ _ hc hst
    · intro sr np coll d fcd hst hu
      obtain ⟨-, -, -, -, rx', pre', da, sa, ret, e1, e2, e3, e4⟩ :=
        accept_only_from_ps_or_repeat _ _ _ _ _ _ hc sr np coll hst d fcd hu
      exact ⟨now, phy, arrived, rx', pre', da, sa, ret, rfl, e1, e2, e3, e4⟩
  | setOnline =>
    cases hl
    refine ⟨.inl (.refl _), ?_, ?_⟩
    · intro hst
      have hsame : (w.s.setOnline).st = w.s.st := rfl
      refine ⟨?_, ?_, ?_, ?_, ?_⟩ <;> intros <;> intro hc <;> rw [hsame] at hc <;>
        rcases hst with ⟨_, _, h'⟩ | h' <;> rw [h'] at hc <;> cases hc
    · intro sr np coll d fcd hst hu
      have hsame : (w.s.setOnline).st = w.s.st := rfl
      rw [hsame, hst] at hu; cases hu
  | setOffline =>
    cases hl
    obtain ⟨f1, f2, f3, f4⟩ := setOffline_fields w.s
    refine ⟨.inl ?_, ?_, ?_⟩
    · show RingEvo w.s.p.address w.s.ring w.s.setOffline.ring
      rw [f4]; exact .reset _
    · intro _
      refine ⟨?_, ?_, ?_, ?_, ?_⟩ <;> intros <;> intro hc <;>
        (have hc' : w.s.setOffline.st = _ := hc) <;> rw [f3] at hc' <;> cases hc'
    · intro sr np coll d fcd _ hu
      have hu' : w.s.setOffline.st = _ := hu
      rw [f3] at hu'; cases hu'

/-- An idle station (TS 7, PS 3) polled with the bytes of a token 3→7: the poll accepts it — the
hypotheses of `accept_only_from_ps_or_repeat` are satisfiable. -/
def idleStation : Station := { demo.s with lastBusActivity := some 0 }

set_option maxRecDepth 100000 in
example : (match idleStation.poll [] 1000 false [0xDC, 7, 3] with
    | .ok c => c.s.st | .panic _ => .offline) = .useToken ⟨1000, none⟩ false := by decide +kernel

/-- A supervising station on its third attempt, silent for more than a slot time (400 µs): the poll
removes NS = 9 — the exceptional case of `never_remove_heard` does occur. -/
def supervisingStation : Station := { demo.s with st := .checkTokenPass .third, lastBusActivity := some 0 }

set_option maxRecDepth 100000 in
example : (match supervisingStation.poll [] 1000 false [] with
    | .ok c => (c.s.st, c.s.ring.ns, c.s.ring.isActive 9) | .panic _ => (.offline, 0, true)) =
    (.useToken ⟨1000, none⟩ false, 7, false) := by decide +kernel

/-- … and with a byte newly pending it does not (`activity_blocks_expiry`): nothing changes. -/
example : ¬ SlotExpired supervisingStation 1000 [0xDC] := activity_blocks_expiry _ _ _ (by decide)

/-- The trace theorem instantiated on a concrete history. -/
example := handover_trace demoParams [[.decline]] (by decide) (by decide) scriptsOk_decline
    [.setOnline, .poll 100 false [0xDC, 7, 3], .poll 100000 false []] (.poll 100500 false [])

/-! ## Counting form of pass supervision ("repeats the token at most twice, then removes NS")

`sent st` is the STAGE of a pass read off the FDL state, `SameRun w ins txs w'` a run of consecutive polls inside one
pass with what they handed to the PHY (`Lemmas/PassCount.lean`).

The property in full (proved below in the pieces `pass_count_step`, `pass_count_run`, `removal_needs_three`,
`pass_counting`, `removed_after_three`, `repetitions_identical`, `first_transmission_enters`; one qualification
is stated at `pass_counting`):
in a maximal run of polls supervising one pass, entered by the poll that transmitted the token to NS
and went to `CheckTokenPass(first)`: (1) the token to that NS is transmitted at most three times, each
repetition the identical telegram, attempts advancing first → second → third; (2) NS is removed only by
the poll following the third transmission and a silent slot; (3) registered bus activity in the run
excludes a removal in the run — (3) is FALSE of the model (and of the code) in this form, see
`activity_only_delays_removal`; its true forms are `activity_blocks_expiry` (per poll) and the `heard`
exit of `pass_counting` (a complete telegram heard ends the pass without removal). -/

/-- **`pass_count_step`** (one whole poll from ANY state with a pass under supervision, any bytes, any
time): the counter invariant step.  Either nothing is transmitted and stage and ring view are
unchanged (`wait`); or the stage was < 3 and the token telegram TS → NS is transmitted once more and
the stage grows by exactly one — or the station finds itself alone and keeps the token — the ring view
changing only by the record of the own pass (`retry`); or a complete telegram was heard before the slot
time expired: nothing transmitted, pass over, ring view changed by witnessed tokens only (`heard`); or
the start state is `CheckTokenPass(third)` — stage 3 — with the slot time expired in silence and
exactly NS is removed (`removed`). -/
theorem pass_count_step (s : Station) (apps : Apps) (now : Int) (phy : Bool) (rx : Bytes) (c' : Ctx)
    (h : s.poll apps now phy rx = .ok c') (hin : sent s.st ≠ 0) : PassStep s now rx c' :=
  pass_step s apps now phy rx c' h hin

/-- The stage is the attempt number while the bus is watched: the ghost count of transmissions is tied
to the `Attempt` of the state. -/
theorem stage_is_attempt (att : Attempt) :
    sent (.checkTokenPass att) = att.ord ∧ (att.ord = 1 ↔ att = .first) ∧ (att.ord = 2 ↔ att = .second) ∧
    (att.ord = 3 ↔ att = .third) := by
  cases att <;> simp [sent, Attempt.ord]

/-- **`pass_count_run`** (claim (1), any run of polls inside one pass, any times, any bytes, any
applications).  Start in `CheckTokenPass(first)` — the first transmission is out.  Then the run
contains at most TWO further transmissions; each is exactly the token telegram from TS to the successor
registered at that moment (nothing else is ever handed to the PHY in the run); after `k` of them the
stage is `1 + k` — so the attempts advance strictly first → second → third, one step per
transmission; the parameters are unchanged and the ring view has changed only by recording the own
passes (no removal inside the run). -/
theorem pass_count_run {w w' : World} {ins : List PollIn} {txs : List (Nat × Bytes)}
    (h : SameRun w ins txs w') (hst : w.s.st = .checkTokenPass .first) :
    txs.length ≤ 2 ∧ sent w'.s.st = 1 + txs.length ∧
    (∀ e ∈ txs, e.2 = tokenTo w.s.p.address e.1) ∧
    (∀ ns, (∀ e ∈ txs, e.1 = ns) → ∀ e ∈ txs, e.2 = [SD4, UInt8.ofNat ns, UInt8.ofNat w.s.p.address]) ∧
    w'.s.p = w.s.p ∧ OwnEvo w.s.p.address w.s.ring w'.s.ring := by
  obtain ⟨h1, h2, h3, h4⟩ := passCount_run h
  have hle := passCount_le h
  rw [hst] at h1 hle
  refine ⟨by simp [sent, Attempt.ord] at hle; omega, by simpa [sent, Attempt.ord] using h1, h3, ?_, h2, h4⟩
  intro ns hns e he
  rw [h3 e he, hns e he]; rfl

/-- **`removal_needs_three`** (claim (2)).  After a run inside one pass that started in
`CheckTokenPass(first)`, consider ANY next poll.  Either the ring view evolves without any
`remove_station` (`RingEvo`: witnessed passes only), or — the removal — the run contained exactly two
repetitions, i.e. the token has been transmitted to this successor exactly THREE times (the entering
transmission and the two in `txs`, all token telegrams TS → NS), the state is `CheckTokenPass(third)`,
no new byte has become pending and the last registered bus activity lies more than a slot time back,
and exactly NS is removed.  A successor is never removed after fewer than three transmissions. -/
theorem removal_needs_three {w w1 w2 : World} {ins : List PollIn} {txs : List (Nat × Bytes)} {i : PollIn}
    {tx : Option Bytes} (hrun : SameRun w ins txs w1) (hst : w.s.st = .checkTokenPass .first)
    (hp : w1.pollTx i = some (w2, tx)) :
    RingEvo w1.s.p.address w1.s.ring w2.s.ring ∨
    (txs.length = 2 ∧ (∀ e ∈ txs, e.2 = tokenTo w.s.p.address e.1) ∧ w1.s.st = .checkTokenPass .third ∧
      ((w1.rx ++ i.arrived).length ≤ w1.s.pendingBytes ∧
        ∃ l, w1.s.lastBusActivity = some l ∧ l + (w1.s.p.slotTime : Nat) < i.now) ∧
      ∃ r0, w1.s.ring.removeStation w1.s.ring.ns = some r0 ∧
        (w2.s.ring = r0 ∨ w2.s.ring = r0.witness w1.s.p.address r0.ns)) := by
  obtain ⟨c, hc, hs, rfl⟩ := pollTx_inv hp
  rw [hs]
  rcases never_remove_heard _ _ _ _ _ _ hc with hr | ⟨-, h3, hsil, hrm⟩
  · exact .inl hr
  · obtain ⟨-, h1, h2, -⟩ := pass_count_run hrun hst
    rw [h3] at h1
    exact .inr ⟨by simp [sent, Attempt.ord] at h1; omega, h2, h3, hsil, hrm⟩

/-- **`pass_counting`** (whole histories).  From ANY state satisfying the station invariant that has
just entered `CheckTokenPass(first)`, and for EVERY list of further polls (any times, any arriving
bytes, any scripted applications): no poll panics, and the list splits into the maximal run `pre`
supervising this pass and a rest `post` such that
(1) in `pre` the token is repeated at most twice, nothing but the token telegram TS → NS is
    transmitted, and the stage is `1 +` the number of repetitions;
(2)/(3) `post` is empty (the history ends inside the pass), or its first poll ends the pass in one of
    exactly three ways: a complete telegram was heard before the slot time expired — nothing
    transmitted, ring view changed by witnessed tokens only, NO removal; or the station found itself
    alone after a repetition and keeps the token — no removal; or exactly two repetitions have been
    made (three transmissions in all), the station is in `CheckTokenPass(third)`, the slot time has
    expired in silence, and exactly NS is removed.
Qualification: the entering transmission itself is represented by the start state (stage 1), not by
a log entry.  Each entry of `txs` carries the NS registered when it was sent; that recording the own pass
leaves NS unchanged, so that all repetitions carry the same DA, is `repetitions_identical`. -/
theorem pass_counting (w : World) (hi : Inv w.s w.apps) (hst : w.s.st = .checkTokenPass .first) (ins : List PollIn) :
    ∃ pre post txs w1, ins = pre ++ post ∧ SameRun w pre txs w1 ∧
      txs.length ≤ 2 ∧ sent w1.s.st = 1 + txs.length ∧ (∀ e ∈ txs, e.2 = tokenTo w.s.p.address e.1) ∧
      OwnEvo w.s.p.address w.s.ring w1.s.ring ∧
      (post = [] ∨ ∃ i rest w2 tx, post = i :: rest ∧ w1.pollTx i = some (w2, tx) ∧
        PassEnd w1.s i.now (w1.rx ++ i.arrived) w2.s tx ∧
        (w1.s.st = .checkTokenPass .third → txs.length = 2)) := by
  obtain ⟨pre, post, txs, w1, e, hrun, -, hpost⟩ := sameRun_maximal ins w hi
  obtain ⟨h1, h2, h3, -, -, h6⟩ := pass_count_run hrun hst
  refine ⟨pre, post, txs, w1, e, hrun, h1, h2, h3, h6, ?_⟩
  rcases hpost with hp | hp | ⟨i, rest, w2, tx, e2, hp, -, hdrop⟩
  · exact .inl hp
  · omega
  · refine .inr ⟨i, rest, w2, tx, e2, hp, pass_end hp hdrop, ?_⟩
    intro h3'
    rw [h3'] at h2
    simp [sent, Attempt.ord] at h2; omega

/-- In `pass_counting` the removal exit (`PassEnd.removed`) requires `CheckTokenPass(third)`, hence
exactly two repetitions: spelled out. -/
theorem removed_after_three {w w1 : World} {ins : List PollIn} {txs : List (Nat × Bytes)}
    (hrun : SameRun w ins txs w1) (hst : w.s.st = .checkTokenPass .first)
    {now : Int} {rx : Bytes} {s' : Station} {tx : Option Bytes} (he : PassEnd w1.s now rx s' tx) :
    (∃ r0, w1.s.ring.removeStation w1.s.ring.ns = some r0 ∧ txs.length = 2 ∧ SlotExpired w1.s now rx ∧
        (s'.ring = r0 ∨ s'.ring = r0.witness w1.s.p.address r0.ns)) ∨
    (txs.length ≤ 2 ∧ ((∃ rx' calls ret, receiveAll rx = .done rx' calls ret ∧ calls ≠ [] ∧
        HeardEvo calls w1.s.ring s'.ring) ∨ s'.ring = w1.s.ring.witness w1.s.p.address w1.s.ring.ns)) := by
  obtain ⟨h1, h2, -⟩ := pass_count_run hrun hst
  rcases he with ⟨-, -, -, hr⟩ | ⟨-, -, hr, -⟩ | ⟨h3, hex, r0, hr0, hr⟩
  · exact .inr ⟨h1, .inl hr⟩
  · exact .inr ⟨h1, .inr hr⟩
  · rw [h3] at h2
    refine .inl ⟨r0, hr0, by simp [sent, Attempt.ord] at h2; omega, hex, ?_⟩
    rcases hr with ⟨-, hr, -⟩ | ⟨hr, -⟩
    · exact .inl hr
    · exact .inr hr

/-- Stage, transmitted bytes, registered NS and "is 9 still in the LAS" after each poll of a list. -/
def stageTrace (w : World) : List PollIn → List (Nat × Option Bytes × Nat × Bool)
  | [] => []
  | i :: rest => match w.pollTx i with
    | some (w1, tx) => (sent w1.s.st, tx, w1.s.ring.ns, w1.s.ring.isActive 9) :: stageTrace w1 rest
    | none => []

/-- TS 7 in a ring 3 → 7 → 9 (LAS valid), about to pass the token for the first time. -/
def passRing3 : TokenRing := (({ (TokenRing.new 7) with las := .valid }).witness 9 3).witness 3 7

def passDemo : World :=
  { s := { demo.s with ring := passRing3, st := .passToken false .first, lastBusActivity := some 0 }, apps := [], rx := [] }

set_option maxRecDepth 100000 in
/-- Silent successor: the token `DC 09 07` goes out exactly three times (stages 1, 2, 3), and only the
poll after the third silent slot removes 9 from the LAS and passes to the next station, 3. -/
example : stageTrace passDemo [⟨1000, false, []⟩, ⟨1100, false, []⟩, ⟨1500, false, []⟩, ⟨1600, false, []⟩,
      ⟨2000, false, []⟩, ⟨2500, false, []⟩] =
    [(1, some [0xDC, 9, 7], 9, true), (1, none, 9, true), (2, some [0xDC, 9, 7], 9, true), (2, none, 9, true),
     (3, some [0xDC, 9, 7], 9, true), (1, some [0xDC, 3, 7], 3, false)] := by decide +kernel

/-- **`activity_only_delays_removal`** — claim (3) in the form "if bus activity is registered during
the run, no removal happens in that run" is FALSE of the model (as of `active.rs`): a stray byte `55`
registered at t = 1600 restarts the slot timer (the poll at 2000 does not expire), but it is not a
telegram; the supervision goes on, the third transmission happens at 2100 and 9 is removed at 3000 —
still after exactly three transmissions.  What does hold: the poll that registers activity does not
expire (`activity_blocks_expiry`), and a complete telegram heard ends the pass without removal. -/
theorem activity_only_delays_removal :
    stageTrace passDemo [⟨1000, false, []⟩, ⟨1100, false, []⟩, ⟨1500, false, []⟩, ⟨1600, false, [0x55]⟩,
      ⟨2000, false, []⟩, ⟨2100, false, []⟩, ⟨2500, false, []⟩, ⟨3000, false, []⟩] =
    [(1, some [0xDC, 9, 7], 9, true), (1, none, 9, true), (2, some [0xDC, 9, 7], 9, true), (2, none, 9, true),
     (2, none, 9, true), (3, some [0xDC, 9, 7], 9, true), (3, none, 9, true), (1, some [0xDC, 3, 7], 3, false)] := by decide +kernel

/-- A complete telegram heard (token 9 → 11) ends the pass after one transmission: no repetition, 9
stays in the LAS. -/
example : stageTrace passDemo [⟨1000, false, []⟩, ⟨1100, false, [0xDC, 11, 9]⟩, ⟨1500, false, []⟩] =
    [(1, some [0xDC, 9, 7], 9, true), (0, none, 9, true), (0, none, 9, true)] := by decide +kernel

/-- Non-vacuity of `pass_counting` / `pass_count_run` / `removal_needs_three`: a state satisfying the
station invariant that has just entered `CheckTokenPass(first)` (the state `passDemo` is in after its
first poll, up to the time-stamps). -/
def checkDemo : World :=
  { s := { demo.s with ring := passRing3, st := .checkTokenPass .first, lastBusActivity := some 1066 }, apps := [], rx := [] }

theorem checkDemo_inv : Inv checkDemo.s checkDemo.apps where
  addr := by decide
  hsa := by decide
  ring := ⟨by decide, by decide⟩
  off := fun h => absurd h (by decide)
  gap := fun cur h => by cases h; decide
  await1 := fun a h => by cases h
  await2 := fun a h => by cases h
  app := fun h => absurd h (by decide)
  appWait := fun a d h => by cases h
  scripts := fun s hs => by cases hs
  noPassive := fun h => by cases h

example := pass_counting checkDemo checkDemo_inv rfl
  [⟨1100, false, []⟩, ⟨1500, false, []⟩, ⟨1600, false, []⟩, ⟨2000, false, []⟩, ⟨2500, false, []⟩]

set_option maxRecDepth 100000 in
/-- … and from it the silent history makes exactly the two repetitions and then removes 9. -/
example : stageTrace checkDemo [⟨1100, false, []⟩, ⟨1500, false, []⟩, ⟨1600, false, []⟩, ⟨2000, false, []⟩,
      ⟨2500, false, []⟩] =
    [(1, none, 9, true), (2, some [0xDC, 9, 7], 9, true), (2, none, 9, true),
     (3, some [0xDC, 9, 7], 9, true), (1, some [0xDC, 3, 7], 3, false)] := by decide +kernel

/-- **`repetitions_identical`** (the "identical telegram" part of claim (1)).  If the ring view at the
start of the run is coherent — NS is the successor its LAS dictates (`NsCoherent`; true of every ring
view that came out of `update_next_previous`) and `ring.ts = TS` — then recording the own pass never
moves NS, so in a run inside one pass that starts in `CheckTokenPass(first)` EVERY transmission is the
same three bytes `SD4, NS, TS` with NS the successor registered at the start, and NS is still the
registered successor at the end of the run. -/
theorem repetitions_identical {w w' : World} {ins : List PollIn} {txs : List (Nat × Bytes)}
    (h : SameRun w ins txs w') (hst : w.s.st = .checkTokenPass .first)
    (hts : w.s.ring.ts = w.s.p.address) (hlt : w.s.p.address < 128) (hc : NsCoherent w.s.ring) :
    txs.length ≤ 2 ∧
    (∀ e ∈ txs, e = (w.s.ring.ns, [SD4, UInt8.ofNat w.s.ring.ns, UInt8.ofNat w.s.p.address])) ∧
    w'.s.ring.ns = w.s.ring.ns ∧ NsCoherent w'.s.ring := by
  obtain ⟨h1, -, h3, -⟩ := pass_count_run h hst
  obtain ⟨k1, k2, k3, -⟩ := sameRun_ns h hts hc
  refine ⟨h1, ?_, k2, k3⟩
  intro e he
  have e1 := k1 e he
  have e2 := h3 e he
  obtain ⟨n, b⟩ := e
  simp only at e1 e2
  subst e1; subst e2; rfl

/-- Non-vacuity: the ring view of `checkDemo` is coherent. -/
theorem checkDemo_coherent : checkDemo.s.ring.ts = checkDemo.s.p.address ∧ checkDemo.s.p.address < 128 ∧
    NsCoherent checkDemo.s.ring := ⟨by decide +kernel, by decide, by unfold NsCoherent; decide +kernel⟩

/-- **`first_transmission_enters`** — how a pass is entered from `PassToken` (after a GAP poll, after
the removal of the previous successor, or while the synchronisation pause was awaited): a poll that
starts in `PassToken(g, att)` and ends in a supervising state has transmitted exactly the token
telegram TS → NS in this poll, recorded the own pass, and supervises with the SAME attempt number —
stage 0 → 1 for `att = first`: the start state `CheckTokenPass(first)` of `pass_count_run` stands for
one transmission of that telegram.  (For entries in the same poll as the end of a token hold — `UseToken` /
`AwaitDataResponse` via `passNow` — or after a GAP poll without reply — `AwaitStatusResponse` via
`transition_pass_token` + `do_pass_token` — the transmitted bytes are not exposed by `UseTail` /
`StatusPost`; not covered here.) -/
theorem first_transmission_enters (s : Station) (apps : Apps) (now : Int) (phy : Bool) (rx : Bytes) (c' : Ctx)
    (h : s.poll apps now phy rx = .ok c') (g : Bool) (att : Attempt) (hst : s.st = .passToken g att)
    (att' : Attempt) (hc : c'.s.st = .checkTokenPass att') :
    att' = att ∧ c'.tx = some (tokenTo s.p.address s.ring.ns) ∧
    c'.s.ring = s.ring.witness s.p.address s.ring.ns := by
  rcases passTok_poll s apps now phy rx c' h g att hst with ⟨h1, -, -⟩ | ⟨-, ⟨a, h1⟩, -⟩ | ⟨h1, h2, h3⟩
  · rw [h1] at hc; cases hc
  · rw [h1] at hc; cases hc
  · rcases h2 with h2 | h2
    · rw [h2] at hc; cases hc
    · rw [h2] at hc; cases hc
      exact ⟨rfl, h3, h1⟩

end PV.C11
