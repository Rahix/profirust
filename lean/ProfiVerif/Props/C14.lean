/-
C14 — DP cycles visit every peripheral once and events are accounted exactly.

The property theorems and their example histories, over the histories of `Lemmas/Dp.lean` (callbacks under the FDL contract
C15, with ghost observations) and the ghost invariant `Inv14` of `Lemmas/Dp14.lean`.  All statements are about
`Model/Dp/{Peripheral,Master}.lean`, tied to `src/dp/{master,peripheral,peripheral_set}.rs` by the `dp` correspondence.
Slots are an arbitrary `List (Option Peripheral)` (sparse fixed arrays and vectors alike), 0..256 slots, any number of them
occupied.

Ghost observations used here: `produced` (peripheral events the callbacks produced, oldest first),
`taken` (events handed out by `take_last_events`), `collected` (sticky: `take_last_events` was called
between any two callbacks that report events — "the application collects events after every poll"),
`lc` per slot (life-cycle automaton `lcStep` run over the events taken for the slot:
0 off, 1 online, 2 configured).
-/
import ProfiVerif.Lemmas.Dp14
import ProfiVerif.Lemmas.Dp14Turns

namespace PV.C14
open PV PV.Dp

/-- Every state a contract history reaches — with `reset_address()` at any point — satisfies the
invariants the step theorems assume. -/
theorem reachable {fp : FdlParams} (hfp : FpOk fp) {slots : List (Option Peripheral)}
    (hinit : InitOk fp slots) (gr : Bool) (ops : List Op) :
    ∀ {g : G}, grun fp (G.init slots gr) ops = .ok g → Inv fp g ∧ Inv14 g := by
  intro g h
  exact (grun_ind hfp (P := Inv14) (fun op hI h4 hs => inv14_step hfp hI h4 op hs)
    ops _ (inv_init hinit gr) (inv14_init hinit gr)).2.2 g h

/-- `turn_ends`: on every history the contract allows, for any number of peripherals *including
zero*, every `transmit_telegram` returns (the loop needs at most `slots.length + 1` iterations) and
nothing panics. -/
theorem turn_ends {fp : FdlParams} (hfp : FpOk fp) {slots : List (Option Peripheral)}
    (hinit : InitOk fp slots) (gr : Bool) (ops : List Op) :
    grun fp (G.init slots gr) ops ≠ .hang ∧ grun fp (G.init slots gr) ops ≠ .panic :=
  ⟨(inv_run hfp ops _ (inv_init hinit gr)).2.1, (inv_run hfp ops _ (inv_init hinit gr)).1⟩

/-- Step form of `turn_ends`: in every state satisfying the invariant a poll neither spins nor panics. -/
theorem turn_ends_step {fp : FdlParams} (hfp : FpOk fp) {g : G} (hI : Inv fp g) (now : Int) (hp : Bool) :
    gstep fp g (.tx now hp) ≠ .hang ∧ gstep fp g (.tx now hp) ≠ .panic :=
  ⟨(gstep_ok hfp hI _).2, (gstep_ok hfp hI _).1⟩

/-- F4: a master without any peripheral ends its turn at once: no telegram, `cycle_completed` set. -/
theorem empty_master_turn {fp : FdlParams} (hfp : FpOk fp) {g g' : G} (hI : Inv fp g)
    (hnone : ∀ (i : Nat) (p : Peripheral), g.m.slots[i]? ≠ some (some p))
    {now : Int} {hp : Bool} (h : gstep fp g (.tx now hp) = .ok g') :
    (∃ pdu, g'.o = .gc (gcHeader fp) pdu) ∨
      (g'.o = .idle ∧ g'.out = none ∧ (g.m.cycle ≠ .completed → g'.m.lastEvents.cycleCompleted = true)) := by
  cases tx_formV hfp hI h with
  | gc => exact .inl ⟨_, rfl⟩
  | idle m' vs hE =>
    refine .inr ⟨rfl, rfl, fun hcy => ?_⟩
    cases hE with
    | completed hc => exact absurd hc hcy
    | empty => rfl
    | last index o p _ _ _ _ _ hc => exact absurd (curSlot_spec hc).2.2.1 (hnone o p)
  | send index o p _ _ _ _ _ _ _ _ hc => exact absurd (curSlot_spec hc).2.2.1 (hnone o p)
  | off index o p _ _ _ _ _ hc => exact absurd (curSlot_spec hc).2.2.1 (hnone o p)

/-- `global_control`: a poll sends the global-control broadcast exactly when `high_prio_only` is No
and at least `50·Tsl` elapsed since the last one (or none was sent since `enter_operate`).  It is the
SDN broadcast to 127, DSAP 58 / SSAP 62, PDU `00 00` (Operate), expects no reply, and never advances
the cycle: slots and cycle index are untouched. -/
theorem global_control {fp : FdlParams} (hfp : FpOk fp) {g g' : G} (hI : Inv fp g)
    {now : Int} {hp : Bool} (h : gstep fp g (.tx now hp) = .ok g') :
    ((∃ hd pdu, g'.o = .gc hd pdu) ↔
      (hp = false ∧ (match g.m.lastGc with
        | none => True
        | some t => (now - t).natAbs ≥ 50 * fp.slotUs))) ∧
    (∀ hd pdu, g'.o = .gc hd pdu →
      hd = { da := 127, sa := fp.address, dsap := some 58, ssap := some 62, fc := .request .inactive .sdnLow } ∧
      pdu = [0x00, 0x00] ∧ g'.out = none ∧ g'.m.slots = g.m.slots ∧ g'.m.cycle = g.m.cycle ∧
      g'.m.lastGc = some now ∧ hd.serialize pdu = .ok (frameSpec hd pdu)) := by
  have hto : timeOk g now = true := by
    cases hto : timeOk g now with
    | true => rfl
    | false => simp [gstep, hto] at h
  have hdue' : gcDue fp now g.m.lastGc = some true ↔
      (match g.m.lastGc with | none => True | some t => (now - t).natAbs ≥ 50 * fp.slotUs) := by
    cases hl : g.m.lastGc with
    | none => simp [gcDue]
    | some t =>
      rw [gcDue_ok hfp (timeOk_bound hto) (fun t' e => by cases e; exact hI.gcT t hl)]
      simp [Nat.mul_comm]
  have hnot : (hp = true ∨ gcDue fp now g.m.lastGc = some false) →
      ¬ (hp = false ∧ (match g.m.lastGc with | none => True | some t => (now - t).natAbs ≥ 50 * fp.slotUs)) := by
    rintro (hh | hh) ⟨h1, h2⟩
    · rw [hh] at h1; cases h1
    · rw [hdue'.mpr h2] at hh; cases hh
  cases tx_form hfp hI h with
  | gc hp0 hg1 =>
    refine ⟨⟨fun _ => ⟨hp0, hdue'.mp hg1⟩, fun _ => ⟨_, _, rfl⟩⟩, ?_⟩
    intro hd pdu ho
    simp only [Out.gc.injEq] at ho
    obtain ⟨rfl, rfl⟩ := ho
    exact ⟨rfl, rfl, rfl, rfl, rfl, rfl, gcHeader_serialize fp _ rfl⟩
  | idle m' _ _ _ hh =>
    exact ⟨⟨fun ⟨_, _, ho⟩ => (by cases ho), fun hc => absurd hc (hnot hh)⟩, fun _ _ ho => (by cases ho)⟩
  | send m1 i p p' hd pdu _ _ _ _ hh =>
    exact ⟨⟨fun ⟨_, _, ho⟩ => (by cases ho), fun hc => absurd hc (hnot hh)⟩, fun _ _ ho => (by cases ho)⟩
  | off m1 index i p _ _ _ _ _ hh =>
    exact ⟨⟨fun ⟨_, _, ho⟩ => (by cases ho), fun hc => absurd hc (hnot hh)⟩, fun _ _ ho => (by cases ho)⟩

/-- `events_exact`: if the application collects the events after every poll, the events handed out
by `take_last_events` plus the one still waiting are exactly the peripheral events the callbacks
produced, in order — none lost, none duplicated. -/
theorem events_exact {g : G} (h4 : Inv14 g) (hc : g.collected = true) :
    g.produced = g.taken ++ g.m.lastEvents.peripheral.toList := h4.exact hc

/-- `take_last_events` hands the event set out once: afterwards it is empty. -/
theorem take_clears {fp : FdlParams} {g g' : G} (h : gstep fp g .take = .ok g') :
    g'.o = .taken g.m.lastEvents ∧ g'.m.lastEvents = {} ∧
      g'.taken = g.taken ++ g.m.lastEvents.peripheral.toList := by
  simp only [gstep, Master.takeLastEvents, Res3.ok.injEq] at h
  subst h; exact ⟨rfl, rfl, rfl⟩

/-- At most one peripheral event per callback: every callback *sets* the event set (it never merges
into an uncollected one), so with collection after every poll nothing is overwritten. -/
theorem one_event_per_callback {fp : FdlParams} (hfp : FpOk fp) {g g' : G} (hI : Inv fp g) (op : Op)
    (h : gstep fp g op = .ok g') :
    g'.produced = g.produced ∨ ∃ he, g'.produced = g.produced ++ [he] ∧ g'.m.lastEvents.peripheral = some he := by
  cases step_form hfp hI h with
  | tx hform =>
    cases hform with
    | gc => left; rfl
    | idle => left; rfl
    | send => left; rfl
    | off m1 index i p => right; exact ⟨_, rfl, afterDecline_event m1 index i p _ .offline⟩
  | delivered hdel =>
    obtain ⟨index, i, p, p', ev, _, _, _, _, _, _, rfl⟩ := hdel
    cases ev with
    | none => left; simp
    | some e => right; exact ⟨_, rfl, rfl⟩
  | stale hst =>
    obtain ⟨_, _, _, _, _, _, _, rfl⟩ := hst
    left; rfl
  | timeout => left; rfl
  | take => left; rfl
  | user => left; rfl

/-- `lifecycle`, the events: with collection after every poll, every event `take_last_events` hands out for an
occupied slot is accepted by the life-cycle automaton of its peripheral (Online only while off;
Configured, DataExchanged, Diagnostics only after Online / Configured; Offline, ParameterError,
ConfigError only while live) — unless it is a stale event: one that was produced for an
incarnation of the peripheral which `reset_address()` has replaced since (`staleEv`; such an event is
handed out once, by the next `take_last_events`, and is not counted). -/
theorem lifecycle_event {g : G} (h4 : Inv14 g) (hc : g.collected = true) (hs : g.staleEv = false)
    {he : HEvent} (hev : g.m.lastEvents.peripheral = some he)
    {p : Peripheral} (hp : g.m.slots[he.index]? = some (some p)) :
    ∃ v, lcStep (g.sg he.index).lc he.ev = some v := by
  obtain ⟨v, hv, _⟩ := h4.lc hc he.index p hp
  rw [lcNow_fresh hs] at hv
  simp only [lcEff, hev, if_true] at hv
  exact ⟨v, hv⟩

/-- `lifecycle`, the accessors: once the events are collected (nothing waiting), `is_live()` holds exactly when the
life-cycle state reached by the events taken so far is not 0, and `is_running()` only in state 2 (not conversely:
`PreDataExchange` is state 2 as well and not running). -/
theorem lifecycle_accessors {g : G} (h4 : Inv14 g) (hc : g.collected = true) (hd : g.dirty = false)
    {i : Nat} {p : Peripheral} (hp : g.m.slots[i]? = some (some p)) :
    (p.isLive = true ↔ (g.sg i).lc ≠ 0) ∧ (p.isRunning = true → (g.sg i).lc = 2) ∧ (g.sg i).lc ≤ 2 := by
  obtain ⟨v, hv, hok⟩ := h4.lc hc i p hp
  rw [lcNow_none (h4.clean hd)] at hv
  simp only [Option.some.injEq] at hv
  subst hv
  refine ⟨?_, ?_, hok.le⟩
  · simp only [Peripheral.isLive, bne_iff_ne, ne_eq]
    exact not_congr hok.off
  · intro hr
    simp only [Peripheral.isRunning, beq_iff_eq] at hr
    exact hok.dx (Or.inr hr)

/-! ### Turn order

The cycle index (`cycle_state`) designates the peripheral whose turn it is.  `transmit_telegram` is
only ever invoked on the peripheral the index designates (`visit_eq`); the theorems below say
how the index moves: within one poll through consecutive occupied slots (`turn_order_poll`), at the
end of a poll / on a reply to the *next* occupied slot or — exactly when none follows — back to the
start together with the `cycle_completed` report (`cycle_completed_poll`, `cycle_completed_reply`,
`next_is_next_occupied`).  So between two `cycle_completed` reports the index passes every occupied
slot once, in slot order: `turn_order` / `cycle_completed_once` below state that for whole histories
(bookkeeping `Turns` / `trun` of `Lemmas/Dp14Turns.lean`). -/

/-- `turn_order` within one poll: starting with the cycle index at the occupied slot `o`, the loop
invokes `Peripheral::transmit_telegram` on exactly the occupied slots from `o` up to the slot `e`
that ends the loop — ascending, none skipped, none twice (`vs` are those that declined and were
passed, `e` the last); the peripheral in `e` decides the outcome: a telegram (index stays at `e`: its
turn continues with the reply / retransmissions), or no telegram with the index moving on. -/
theorem turn_order_poll {fp : FdlParams} (hfp : FpOk fp) {m : Master} (hM : MInv fp m) {index o : Nat} {p : Peripheral}
    (hcy : m.cycle = .dx index) (hc : curSlot m.slots index = some (o, p)) :
    ∃ m1 vs index1 e pe, ReachV fp m m1 vs ∧ m1.cycle = .dx index1 ∧ curSlot m1.slots index1 = some (e, pe) ∧
      vs ++ [e] = occIn m.slots o (e + 1) ∧ (∀ j, occupied m1.slots j = occupied m.slots j) ∧
      (match pe.transmit fp m1.op with
       | .send p' h pdu =>
         Master.txLoop fp (m.slots.length + 1) m =
           .send { m1 with slots := m1.slots.set e (some p'), lastEvents := {} } h pdu
       | .decline p' ev =>
         Master.txLoop fp (m.slots.length + 1) m = .none (afterDecline m1 index1 e pe p' ev) ∧
         (ev = none → nextSlot m1.slots index1 = none)
       | .panic => False) :=
  have ⟨m1, index1, e, pe, hP, _, hend⟩ := loop_spec hfp hM hcy hc
  have ⟨vs, hr, hvse⟩ := hP.reach
  ⟨m1, vs, index1, e, pe, hr, hP.cyc, hP.cur, hvse, hP.occ, by
    rcases hend with ⟨p', h, pdu, ht, -, hl⟩ | ⟨-, ht, hl⟩ | ⟨ht, -, hn, hl⟩ <;> rw [ht]
    · exact hl
    · exact ⟨hl, by intro h; cases h⟩
    · exact ⟨hl, fun _ => hn⟩⟩

/-- `cycle_completed_once`, poll side: when a poll ends without telegram, `cycle_completed` is reported
exactly when no occupied slot follows the last peripheral visited (the index then wraps to 0);
otherwise the index moves to the next occupied slot and nothing is reported. -/
theorem cycle_completed_poll (m1 : Master) (index1 e : Nat) (pe p' : Peripheral) (ev : Option PEvent)
    (hend : ev = none → nextSlot m1.slots index1 = none) :
    ((afterDecline m1 index1 e pe p' ev).lastEvents.cycleCompleted = true ↔ nextSlot m1.slots index1 = none) ∧
    (nextSlot m1.slots index1 = none → (afterDecline m1 index1 e pe p' ev).cycle = .dx 0) ∧
    (∀ n, nextSlot m1.slots index1 = some n → (afterDecline m1 index1 e pe p' ev).cycle = .dx n) :=
  afterDecline_cycle m1 index1 e pe p' ev hend

/-- `cycle_completed_once`, reply side: a reply ends the turn of the addressed peripheral; the index
moves to the next occupied slot, or — exactly when none follows — the cycle is completed and reported. -/
theorem cycle_completed_reply {fp : FdlParams} {g g' : G} (hI : Inv fp g)
    {a : UInt8} {t : Telegram} (h : gstep fp g (.reply a t) = .ok g') :
    -- a stale reply (`reset_address()` while the request was in flight) moves nothing
    (g'.m = g.m ∧ g'.o = .ignored) ∨
    ∃ index i p, g.m.cycle = .dx index ∧ curSlot g.m.slots index = some (i, p) ∧ p.address = a ∧
      (g'.m.lastEvents.cycleCompleted = true ↔ nextSlot g.m.slots index = none) ∧
      (nextSlot g.m.slots index = none → g'.m.cycle = .completed) ∧
      (∀ n, nextSlot g.m.slots index = some n → g'.m.cycle = .dx n) := by
  rcases reply_cases hI h with ⟨index, i, p, p', ev, _, hcy, hc, hpa, _, _, rfl⟩ | ⟨_, _, _, _, _, _, _, rfl⟩
  · exact .inr ⟨index, i, p, hcy, hc, hpa, afterReply_cycle g.m index i p p' ev⟩
  · exact .inl ⟨rfl, rfl⟩

/-- The slot the index moves to is the *next* occupied one (nothing occupied in between), and
"none follows" means no later slot is occupied. -/
theorem next_is_next_occupied {slots : List (Option Peripheral)} {index i : Nat} {p : Peripheral}
    (hc : curSlot slots index = some (i, p)) :
    (∀ n, nextSlot slots index = some n →
      i < n ∧ occupied slots n = true ∧ ∀ k, i < k → k < n → occupied slots k = false) ∧
    (nextSlot slots index = none → ∀ k, i < k → occupied slots k = false) :=
  ⟨fun _ hn => nextSlot_is_next hc hn, fun hn => nextSlot_none_last hc hn⟩


/-! ### Turn order over whole histories

`Lemmas/Dp14Turns.lean`: a *visit* is one invocation of `Peripheral::transmit_telegram` by the loop of
the master's `transmit_telegram` (`visits` lists the slots of one call, mirroring the loop); a *turn*
is a maximal run of consecutive visits of the same slot within a pass (a request and its
retransmissions); a *pass* ends with a callback that reports `cycle_completed` (`reported`).  `trun`
runs a history like `grun` and keeps the turns of the current pass and the completed passes. -/

/-- The bookkeeping run exists for every contract history (it only adds observations). -/
theorem turns_total (fp : FdlParams) (slots : List (Option Peripheral)) (gr : Bool) (ops : List Op) {g : G}
    (h : grun fp (G.init slots gr) ops = .ok g) : ∃ t, trun fp (G.init slots gr) {} ops = .ok (g, t) :=
  trun_of_grun fp ops _ _ g h

/-- **`turn_order`** (whole histories).  After every history the FDL contract allows — any replies and
time-outs, polls at any time (also while a request is outstanding), user calls incl.
`reset_address()` at any point, any number of peripherals in arbitrary sparse storage:

* every completed pass (the turns between two consecutive `cycle_completed` reports, and before the
  first) consists of exactly the occupied slots, each once, in ascending slot order;
* the occupied slots never change;
* the current pass is the ascending list of the occupied slots before the slot `o` under the cycle
  index, followed by `o` itself once its turn has begun (certainly while its request is outstanding);
  it is empty right after a report. -/
theorem turn_order {fp : FdlParams} (hfp : FpOk fp) {slots : List (Option Peripheral)} (hinit : InitOk fp slots)
    (gr : Bool) (ops : List Op) {g : G} {t : Turns} (h : trun fp (G.init slots gr) {} ops = .ok (g, t)) :
    (∀ P ∈ t.done, P.reverse = occAll slots) ∧ occAll g.m.slots = occAll slots ∧
    (g.m.cycle = .completed → t.pass = []) ∧
    (∀ index, g.m.cycle = .dx index → curSlot g.m.slots index = none → t.pass = []) ∧
    (∀ index o p, g.m.cycle = .dx index → curSlot g.m.slots index = some (o, p) →
      (t.pass.reverse = occIn g.m.slots 0 o ∨ t.pass.reverse = occIn g.m.slots 0 (o + 1)) ∧
      (g.out.isSome = true → t.pass.reverse = occIn g.m.slots 0 (o + 1))) := by
  have hT := tinv_run hfp ops _ _ g t (inv_init hinit gr) (tinv_init slots gr) h
  refine ⟨?_, hT.occ, hT.open_.compl, hT.open_.none_, ?_⟩
  · intro P hP
    rw [hT.done P hP, List.reverse_reverse, hT.occ]
  · intro index o p hcy hc
    obtain ⟨h1, h2⟩ := hT.open_.some_ index o p hcy hc
    refine ⟨?_, fun ho => by rw [h2 ho, List.reverse_reverse]⟩
    rcases h1 with h1 | h1
    · left; rw [h1, List.reverse_reverse]
    · right; rw [h1, List.reverse_reverse]

/-- **`cycle_completed_once`** (whole histories).  There are exactly as many completed passes as
`cycle_completed` reports (a pass is closed by a report and by nothing else), and in every completed
pass every occupied slot has exactly one turn and no other slot has any: between two consecutive
reports each configured peripheral gets its turn once. -/
theorem cycle_completed_once {fp : FdlParams} (hfp : FpOk fp) {slots : List (Option Peripheral)} (hinit : InitOk fp slots)
    (gr : Bool) (ops : List Op) {g : G} {t : Turns} (h : trun fp (G.init slots gr) {} ops = .ok (g, t)) :
    t.done.length = reports fp (G.init slots gr) ops ∧
    ∀ P ∈ t.done, ∀ j, P.count j = if occupied slots j = true then 1 else 0 := by
  refine ⟨by simpa using done_length fp ops _ _ g t h, ?_⟩
  intro P hP j
  have := (turn_order hfp hinit gr ops h).1 P hP
  rw [← List.count_reverse, this, count_occAll]


/-- The example bring-up collects after every poll: `collected` holds, the taken events are
Online, Configured, the life-cycle state is 2; an empty master reports a completed cycle at once. -/
def exCheck : Bool :=
  (match grun Ex.fp (G.init Ex.slots false) Ex.bringUp with
   | .ok g => g.collected && !g.dirty && (g.sg 1).lc == 2 && g.produced == g.taken &&
       g.taken == [{ index := 1, address := 7, ev := .online }, { index := 1, address := 7, ev := .configured }]
   | _ => false) &&
  (match grun Ex.fp (G.init [none, none, none] false) [.tx 1000 false, .tx 2000 false] with
   | .ok g => g.m.lastEvents.cycleCompleted && g.o == .idle
   | _ => false) &&
  (match grun Ex.fp (G.init [] true) [.tx 1000 true] with
   | .ok g => g.m.lastEvents.cycleCompleted && g.o == .idle
   | _ => false)

example : exCheck = true := by decide +kernel

/-- Turn bookkeeping on concrete histories: one peripheral in slot 1 of `[none, some _]` — the bring-up
history completes several passes, each consisting of slot 1 alone; three peripherals in sparse storage,
none answering: every pass is `[0, 2, 3]` ascending (stored newest first). -/
def turnsCheck : Bool :=
  (match trun Ex.fp (G.init Ex.slots false) {} Ex.bringUp with
   | .ok (_, t) => t.done.length ≥ 4 && t.done.all (· == [1]) && t.done.length == reports Ex.fp (G.init Ex.slots false) Ex.bringUp
   | _ => false) &&
  (match trun Ex.fp (G.init [some Ex.p7, none, some Ex.p7, some Ex.p7] false) {}
      [.tx 1000 false, .tx 2000 false, .timeout 7, .tx 3000 false, .timeout 7, .tx 4000 false, .timeout 7,
       .tx 5000 false, .tx 6000 false, .tx 7000 false] with
   | .ok (_, t) => t.done.length ≥ 1 && t.done.all (· == [3, 2, 0])
   | _ => false)

example : turnsCheck = true := by decide +kernel

/-- `reset_address()` while the peripheral's event is still uncollected: the stale Online event of the
old incarnation is handed out by the next `take_last_events` but not counted (`staleEv`); the fresh
peripheral at the new address then comes Online as usual and the life-cycle automaton accepts its
events — `Inv14` (from `reachable`) holds throughout. -/
def staleCheck : Bool :=
  let diag9 : Telegram := .data ⟨2, 9, some 62, some 60, .response .slave .dataLow⟩ [0x02, 0x05, 0, 2, 0x80, 0xb1]
  let pre : List Op := [.tx 1000 false, .take, .tx 2000 false, .take, .reply 7 (Ex.diagReply 0x02 0x05), .resetAddr 1 9]
  (match grun Ex.fp (G.init Ex.slots false) pre with
   | .ok g => g.staleEv && g.collected && g.m.lastEvents.peripheral.isSome && (g.sg 1).lc == 0
   | _ => false) &&
  (match grun Ex.fp (G.init Ex.slots false) (pre ++ [.take]) with
   | .ok g => !g.staleEv && g.collected && (g.sg 1).lc == 0 &&
       g.taken == [{ index := 1, address := 7, ev := .online }]
   | _ => false) &&
  (match grun Ex.fp (G.init Ex.slots false) (pre ++ [.take, .tx 3000 false, .take, .tx 4000 false, .take, .reply 9 diag9, .take]) with
   | .ok g => !g.staleEv && g.collected && (g.sg 1).lc == 1 && g.produced == g.taken &&
       g.taken == [{ index := 1, address := 7, ev := .online }, { index := 1, address := 9, ev := .online }]
   | _ => false)

example : staleCheck = true := by decide +kernel

end PV.C14
