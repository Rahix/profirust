/-
C14 for the composed system FDL ∘ DP (`Model/Stack.lean`).  As in `Props/C03Stack.lean` (see there, also for why this is
a separate file): every master call of a composed run is a step from a state reached by a contract history
(`Stack.station_log_is_contract_history`), so `stack_reachable` transfers all step theorems of `Props/C14.lean`; the
headline clauses are restated.
-/
import ProfiVerif.Props.C14
import ProfiVerif.Lemmas.StackEx

namespace PV.C14
open PV PV.Dp

theorem stack_reachable {fp : FdlParams} (hfp : FpOk fp) (p : Params)
    (haddr : fp.address.toNat = p.address) {slots : List (Option Peripheral)} (hinit : InitOk fp slots) (gr : Bool)
    (calls : List Stack.Call) {t0 : Int} (ht0 : -(2:Int)^62 < t0) (ht : Stack.TimesOk t0 calls)
    {k' : Stack.State} {l : List Stack.MCall} (h : Stack.run fp (Stack.init p slots gr) calls = .ok (k', l))
    {pre post : List Stack.MCall} {x : Stack.MCall} (hl : l = pre ++ x :: post) :
    ∃ g g', grun fp (G.init slots gr) (pre.map Stack.toOp) = .ok g ∧ gstep fp g (Stack.toOp x) = .ok g' ∧
      Dp.Inv fp g ∧ Inv14 g := by
  obtain ⟨g, g', e1, e2⟩ := Stack.stack_step hfp p haddr hinit gr calls ht0 ht h hl
  obtain ⟨hI, hr⟩ := reachable hfp hinit gr _ e1
  exact ⟨g, g', e1, e2, hI, hr⟩

/-- **`turn_ends` for the composed stack**: in no run of station ∘ master — any parameters
`ParametersBuilder` produces, any peripherals including none, any bytes on the wire, any user calls
between polls — does a `transmit_telegram` callback of the station fail to return or panic. -/
theorem stack_turn_ends {fp : FdlParams} (hfp : FpOk fp) (p : Params) (h1 : p.address < p.hsa) (h2 : p.hsa ≤ 126)
    (haddr : fp.address.toNat = p.address) {slots : List (Option Peripheral)} (hinit : InitOk fp slots) (gr : Bool)
    (calls : List Stack.Call) {t0 : Int} (ht0 : -(2:Int)^62 < t0) (ht : Stack.TimesOk t0 calls) :
    Stack.run fp (Stack.init p slots gr) calls ≠ .masterHang ∧ Stack.run fp (Stack.init p slots gr) calls ≠ .masterPanic :=
  ⟨(Stack.stack_never_panics hfp p h1 h2 haddr hinit gr calls ht0 ht).2.2.1,
   (Stack.stack_never_panics hfp p h1 h2 haddr hinit gr calls ht0 ht).2.1⟩



/-- **`turn_order` / `cycle_completed_once` for the composed stack**: in every run of station ∘ master,
between two consecutive `cycle_completed` reports every occupied slot gets exactly one turn, in
ascending slot order, and there is exactly one report per pass. -/
theorem stack_turn_order {fp : FdlParams} (hfp : FpOk fp) (p : Params)
    (haddr : fp.address.toNat = p.address) {slots : List (Option Peripheral)} (hinit : InitOk fp slots) (gr : Bool)
    (calls : List Stack.Call) {t0 : Int} (ht0 : -(2:Int)^62 < t0) (ht : Stack.TimesOk t0 calls)
    {k' : Stack.State} {l : List Stack.MCall} (h : Stack.run fp (Stack.init p slots gr) calls = .ok (k', l)) :
    ∃ g t, trun fp (G.init slots gr) {} (l.map Stack.toOp) = .ok (g, t) ∧ g.m = k'.m ∧
      (∀ P ∈ t.done, P.reverse = occAll slots) ∧
      t.done.length = reports fp (G.init slots gr) (l.map Stack.toOp) ∧
      ∀ P ∈ t.done, ∀ j, P.count j = if occupied slots j = true then 1 else 0 := by
  obtain ⟨g, hg, hm, -⟩ := Stack.station_log_is_contract_history hfp p haddr hinit gr calls ht0 ht h
  obtain ⟨t, ht'⟩ := turns_total fp slots gr _ hg
  obtain ⟨h1, h2⟩ := cycle_completed_once hfp hinit gr _ ht'
  exact ⟨g, t, ht', hm, (turn_order hfp hinit gr _ ht').1, h1, h2⟩

/-- The concrete composed run `Stack.Ex.calls` is regular and makes `transmit_telegram` callbacks. -/
example : Stack.Ex.runHas (fun _ op _ => match op with | .tx _ _ => true | _ => false) = true := by
  have h := Stack.Ex.run_has
  simp only [Bool.and_eq_true] at h
  -- the predicate above is `Stack.Ex.asksMaster` written out: the fifth conjunct of `run_has`
  exact h.1.2

end PV.C14
