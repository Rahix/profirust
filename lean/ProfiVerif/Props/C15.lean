/-
C15 — Applications get matched replies, one at a time, in fair round-robin (station level).
First the rules as theorems about single handlers of `Model/Station.lean`, for every input and every application
script; then, and for the larger part, about whole polls, whole token visits and every history of API calls from a
fresh station: matched answers in the callback log, the order in which applications are asked, how a visit ends.
-/
import ProfiVerif.Lemmas.StationTrace
import ProfiVerif.Lemmas.AppOrder
import ProfiVerif.Lemmas.AppVisit
import ProfiVerif.Lemmas.AppFrame
import ProfiVerif.Lemmas.Contract

namespace PV.C15
open PV

/-- Which telegrams the FDL layer admits as the reply to a request sent to `addr`:
a short confirmation, or a *response* data telegram from `addr` to this station. -/
def ValidReply (ts addr : Nat) : Telegram → Bool
  | .token .. => false
  | .sc => true
  | .data h _ => decide (h.sa.toNat = addr) && decide (h.da.toNat = ts) &&
      (match h.fc with | .response .. => true | _ => false)

theorem validReply_eq (ts a : Nat) (t : Telegram) : ValidReply ts a t = validReplyB ts a t := by
  cases t <;> rfl

/-- Clauses `reply_wellformed` and `reply_xor_timeout` of C15 (DESIGN §6), reply branch: when a telegram is
received while a reply from `addr` is awaited, it is delivered — to the application that sent the request, for
that address, exactly once — iff it is a valid reply; the station then continues its token visit.
Anything else (token, request, foreign source/destination) is delivered to nobody and sends the
station to `ActiveIdle`. -/
theorem reply_delivery (c : Ctx) (now : Int) (addr : Nat) (d : UseData) (hst : c.s.st = .awaitData addr d)
    (happ : c.s.nextApp < c.apps.length)
    (rx' : Bytes) (t : Telegram) (flag : Bool) (rest : List (Telegram × Bool)) (ret : Bool)
    (hrx : receiveTelegram c.rx = .done rx' ((t, flag) :: rest) ret) :
    doAwaitDataResponse c now =
      if ValidReply c.s.p.address addr t then
        .ok { c with rx := rx', s := { (markRx c.s now) with st := .useToken d true },
                     calls := c.calls ++ [.reply c.s.nextApp addr t] }
      else
        .ok { c with rx := rx', s := { (markRx c.s now) with st := .activeIdle none none 0 } } := by
  rw [validReply_eq]
  cases hv : validReplyB c.s.p.address addr t with
  | true => exact (doAwaitDataResponse_step now hst).unique (.reply happ hrx hv)
  | false => exact (doAwaitDataResponse_step now hst).unique (.backOff happ hrx hv)

/-- Clause `reply_xor_timeout` of C15 (DESIGN §6), time-out branch: with nothing received and the slot time
expired, exactly one `handle_timeout` goes to the requesting application, and the token visit continues. -/
theorem timeout_delivery (c : Ctx) (now : Int) (addr : Nat) (d : UseData) (hst : c.s.st = .awaitData addr d)
    (happ : c.s.nextApp < c.apps.length) (rx' : Bytes) (ret : Bool)
    (hrx : receiveTelegram c.rx = .done rx' [] ret) (hex : (checkSlotExpired c.s now).2 = true) :
    doAwaitDataResponse c now =
      doUseToken { c with rx := rx', s := { (checkSlotExpired c.s now).1 with st := .useToken d true },
                          calls := c.calls ++ [.timeout c.s.nextApp addr] } now := by
  rw [StationGap.slot_stamped]
  exact (doAwaitDataResponse_step now hst).unique (.timeout happ hrx hex rfl)

/-- … and while neither a telegram nor the time-out has arrived, nothing is delivered at all. -/
theorem still_waiting (c : Ctx) (now : Int) (addr : Nat) (d : UseData) (hst : c.s.st = .awaitData addr d)
    (happ : c.s.nextApp < c.apps.length) (rx' : Bytes) (ret : Bool)
    (hrx : receiveTelegram c.rx = .done rx' [] ret) (hex : (checkSlotExpired c.s now).2 = false) :
    doAwaitDataResponse c now = .ok { c with rx := rx', s := (checkSlotExpired c.s now).1 } := by
  rw [StationGap.slot_stamped]
  exact (doAwaitDataResponse_step now hst).unique (.waits happ hrx (by simp [StationGap.SlotExpired, hex]))

/-- "Never while a reply is outstanding" (the poll-level theorem is `ask_only_with_token` below): asking an
application that answers with a request expecting a reply puts the station into `AwaitDataResponse` for exactly
the addressed station (so it is not asked again before the reply or the time-out), and hands the telegram to the
PHY. -/
theorem ask_then_await (c : Ctx) (now : Int) (hp : Bool) (d : UseData) (fcd : Bool) (hst : c.s.st = .useToken d fcd)
    (script : List AppAnswer) (hs : c.apps[c.s.nextApp]? = some script)
    (h : Header) (pdu : Bytes) (hans : script.headD .decline = .send h pdu) (bytes : Bytes)
    (hser : h.serialize pdu = .ok bytes) (addr : UInt8) (hexp : expectsReplyOf h = some addr) (htx : c.tx = none) :
    appTransmit c now hp =
      (.ok { c with apps := c.apps.set c.s.nextApp script.tail,
                    calls := c.calls ++ [.transmit c.s.nextApp hp (.send h pdu)],
                    tx := some bytes,
                    s := markTx { c.s with st := .awaitData addr.toNat d } now bytes.length }, true) := by
  have := (appTransmit_step c now hp).unique (.send hs hans hser (.await hexp hst) htx)
  simpa only [answered] using this

/-- An application that declines ends its turn: nothing is transmitted. -/
theorem decline_ends_turn (c : Ctx) (now : Int) (hp : Bool) (script : List AppAnswer)
    (hs : c.apps[c.s.nextApp]? = some script) (hans : script.headD .decline = .decline) :
    appTransmit c now hp =
      (.ok { c with apps := c.apps.set c.s.nextApp script.tail,
                    calls := c.calls ++ [.transmit c.s.nextApp hp .decline] }, false) :=
  (appTransmit_step c now hp).unique (.decline hs hans)

/-- `no_app_no_call`: without applications nobody is asked. -/
theorem no_app_no_call (c : Ctx) (now : Int) (hp : Bool) (h0 : c.apps.length = 0) :
    appsTransmit now hp c.apps.length c = (.ok c, false) := by
  rw [h0]; rfl

/-- Clause `round_robin` of C15 (DESIGN §6), one iteration of the loop (whole visits: `ask_order`,
`visit_ends_fair` below): after an application declined, the next one asked is its cyclic successor; the loop
stops when it comes back to the first application asked in this token visit. -/
theorem round_robin_step (c : Ctx) (now : Int) (hp : Bool) (k : Nat) (c1 : Ctx)
    (hd : appTransmit c now hp = (.ok c1, false)) (d : UseData) (fcd : Bool) (hst : c1.s.st = .useToken d fcd) :
    appsTransmit now hp (k + 1) c =
      let first := d.firstApp.getD c1.s.nextApp
      let next := (c1.s.nextApp + 1) % c1.apps.length
      let c2 := upd c1 fun s => { s with st := .useToken { d with firstApp := some first } fcd, nextApp := next }
      if next = first then (.ok c2, false) else appsTransmit now hp k c2 := by
  simp only [appsTransmit, hd, hst]


/-! ## Lift to whole polls (`Station.poll`, any start state, any arriving bytes, any time, any
application scripts) and to arbitrary API-call sequences

The theorems about one poll are conditional on the poll returning regularly (`.ok c'`) and need no
hypothesis on the start state at all; that the poll does return regularly from every state satisfying
the station invariant is C05 (`pollInner_good`, `poll_never_panics`).  The `_trace` forms combine
both: they speak about every step of every API-call sequence from a fresh station. -/

open C05

/-- **`ask_only_with_token`** (one whole poll).  If a poll makes a `transmit_telegram` callback, then
the station was online and, at the start of that poll, either in `UseToken`, or in
`AwaitDataResponse` — and in the latter case the first callback of the poll is the time-out of the
outstanding request (the token visit continues in the same poll).  These two are the only start states:
a poll starting in Offline, ListenToken, ActiveIdle (even if it accepts the token in this poll),
ClaimToken, PassToken, CheckTokenPass or AwaitStatusResponse never asks an application. -/
theorem ask_only_with_token (s : Station) (apps : Apps) (now : Int) (phy : Bool) (rx : Bytes) (c' : Ctx)
    (h : s.poll apps now phy rx = .ok c') (i : Nat) (hp : Bool) (ans : AppAnswer)
    (hr : AppCall.transmit i hp ans ∈ c'.calls) :
    s.online = true ∧ ((∃ d fcd, s.st = .useToken d fcd) ∨
      (∃ a d, s.st = .awaitData a d ∧ c'.calls.head? = some (.timeout s.nextApp a))) := by
  rcases poll_calls s apps now phy rx c' h with ⟨hc, -⟩ | ⟨hon, hu, -, -⟩ | ⟨hon, a, d, hst, hcase⟩
  · rw [hc] at hr; cases hr
  · exact ⟨hon, .inl hu⟩
  · refine ⟨hon, .inr ⟨a, d, hst, ?_⟩⟩
    rcases hcase with ⟨t, -, hc, -⟩ | ⟨new, hc, -, -⟩
    · rw [hc] at hr; simp at hr
    · rw [hc]; rfl

/-- **`one_outstanding`** (one whole poll).  A poll that starts in `AwaitDataResponse` makes no callback
at all, or delivers exactly the admitted reply (to the requesting application, for the awaited
address) and nothing else, or delivers the time-out first and only then asks applications again.  So
no application is asked while the reply is still outstanding. -/
theorem one_outstanding (s : Station) (apps : Apps) (now : Int) (phy : Bool) (rx : Bytes) (c' : Ctx)
    (h : s.poll apps now phy rx = .ok c') (a : Nat) (d : UseData) (hst : s.st = .awaitData a d) :
    c'.calls = [] ∨
    (∃ t, ValidReply s.p.address a t = true ∧ c'.calls = [.reply s.nextApp a t] ∧ c'.s.st = .useToken d true) ∨
    (∃ new, c'.calls = .timeout s.nextApp a :: new ∧ ∀ r ∈ new, ∃ i hp ans, r = AppCall.transmit i hp ans) := by
  rcases poll_calls s apps now phy rx c' h with ⟨hc, -⟩ | ⟨-, ⟨d', fcd, hu⟩, -, -⟩ | ⟨-, a', d', hst', hcase⟩
  · exact .inl hc
  · rw [hst] at hu; cases hu
  · rw [hst] at hst'; cases hst'
    rcases hcase with ⟨t, hv, hc, hs⟩ | ⟨new, hc, har, -⟩
    · exact .inr (.inl ⟨t, by rw [validReply_eq]; exact hv, hc, hs⟩)
    · exact .inr (.inr ⟨new, hc, har⟩)

/-- … in particular: as long as neither the reply nor the time-out is delivered, nobody is asked. -/
theorem no_ask_while_waiting (s : Station) (apps : Apps) (now : Int) (phy : Bool) (rx : Bytes) (c' : Ctx)
    (h : s.poll apps now phy rx = .ok c') (a : Nat) (d : UseData) (hst : s.st = .awaitData a d)
    (hno : ∀ r ∈ c'.calls, ∃ i hp ans, r = AppCall.transmit i hp ans) : c'.calls = [] := by
  rcases one_outstanding s apps now phy rx c' h a d hst with hc | ⟨t, -, hc, -⟩ | ⟨new, hc, -⟩
  · exact hc
  · obtain ⟨i, hp, ans, he⟩ := hno (.reply s.nextApp a t) (by rw [hc]; simp); cases he
  · obtain ⟨i, hp, ans, he⟩ := hno (.timeout s.nextApp a) (by rw [hc]; simp); cases he

/-- **`reply_or_timeout_once`, per poll** (`answer_only_when_awaited`).  A `receive_reply` /
`handle_timeout` callback occurs only in a poll that starts in `AwaitDataResponse`, goes to the
application whose request is outstanding, names the awaited address, is the first callback of that
poll, is the only reply/time-out of that poll, and a delivered reply passed the admission filter.
Unsolicited replies are never delivered. -/
theorem answer_only_when_awaited (s : Station) (apps : Apps) (now : Int) (phy : Bool) (rx : Bytes) (c' : Ctx)
    (h : s.poll apps now phy rx = .ok c') (r : AppCall) (hr : r ∈ c'.calls) (i a : Nat)
    (hk : (∃ t, r = .reply i a t) ∨ r = .timeout i a) :
    s.online = true ∧ (∃ d, s.st = .awaitData a d) ∧ i = s.nextApp ∧ c'.calls.head? = some r ∧
    (∀ r' ∈ c'.calls.tail, ∃ i' hp ans, r' = AppCall.transmit i' hp ans) ∧
    (∀ t, r = .reply i a t → ValidReply s.p.address a t = true) := by
  rcases poll_calls s apps now phy rx c' h with ⟨hc, -⟩ | ⟨-, -, har, -⟩ | ⟨hon, a', d', hst', hcase⟩
  · rw [hc] at hr; cases hr
  · obtain ⟨i', hp, ans, he⟩ := har r hr
    rcases hk with ⟨t, hk⟩ | hk <;> rw [hk] at he <;> cases he
  · rcases hcase with ⟨t, hv, hc, hs⟩ | ⟨new, hc, har, -⟩
    · rw [hc] at hr
      simp only [List.mem_singleton] at hr
      rcases hk with ⟨t', hk⟩ | hk
      · rw [hk] at hr; cases hr
        refine ⟨hon, ⟨d', hst'⟩, rfl, by rw [hc, hk]; rfl, by rw [hc]; simp, ?_⟩
        intro t'' he; rw [hk] at he; cases he; rw [validReply_eq]; exact hv
      · rw [hk] at hr; cases hr
    · rw [hc] at hr
      rcases List.mem_cons.mp hr with hr | hr
      · rcases hk with ⟨t', hk⟩ | hk
        · rw [hk] at hr; cases hr
        · rw [hk] at hr; cases hr
          refine ⟨hon, ⟨d', hst'⟩, rfl, by rw [hc, hk]; rfl, by rw [hc]; exact har, ?_⟩
          intro t he; rw [hk] at he; cases he
      · obtain ⟨i', hp, ans, he⟩ := har r hr
        rcases hk with ⟨t, hk⟩ | hk <;> rw [hk] at he <;> cases he

/-- What may follow `prev` (the previous callback of the whole history, if any) in the call log:
`transmit_telegram` callbacks are unrestricted here (see `ask_only_with_token`); a reply or a time-out
must answer the IMMEDIATELY preceding callback, which must be a request of the same application that
expects a reply from exactly that address — and a reply must be admissible. -/
def Answers (ts : Nat) (prev : Option AppCall) : AppCall → Prop
  | .transmit .. => True
  | .reply i a t => ValidReply ts a t = true ∧ ∃ hp hd pdu a8,
      prev = some (.transmit i hp (.send hd pdu)) ∧ expectsReplyOf hd = some a8 ∧ a8.toNat = a
  | .timeout i a => ∃ hp hd pdu a8,
      prev = some (.transmit i hp (.send hd pdu)) ∧ expectsReplyOf hd = some a8 ∧ a8.toNat = a

/-- Every callback of the log is admissible after its predecessor. -/
def Matched (ts : Nat) (log : List AppCall) : Prop :=
  ∀ pre r post, log = pre ++ r :: post → Answers ts pre.getLast? r

theorem matched_nil (ts : Nat) : Matched ts [] := by
  intro pre r post h; simp at h

theorem matched_snoc {ts : Nat} {log : List AppCall} {r : AppCall} (hm : Matched ts log)
    (hr : Answers ts log.getLast? r) : Matched ts (log ++ [r]) := by
  intro pre x post he
  rcases List.append_eq_append_iff.mp he with ⟨as, h1, h2⟩ | ⟨bs, h1, h2⟩
  · cases as with
    | nil => simp at h1 h2; obtain ⟨hx, -⟩ := h2; subst h1; subst hx; exact hr
    | cons y ys =>
      exfalso
      have := congrArg List.length h2
      simp at this
  · cases bs with
    | nil =>
      simp at h1 h2
      obtain ⟨hx, -⟩ := h2
      subst h1; subst hx; exact hr
    | cons y ys =>
      simp at h2
      obtain ⟨hx, hp⟩ := h2
      subst hx
      exact hm pre x ys h1

open Contract in
/-- A callback the contract automaton allows answers the last callback of a log that ends as the automaton's
state says. -/
theorem step_answers {ts : Nat} {o o' : Option (Nat × Nat)} {log : List AppCall} {r : AppCall} (hl : Last log o)
    (hs : step ts o r = some o') : Answers ts log.getLast? r := by
  cases r with
  | transmit i hp ans => trivial
  | reply i a t =>
    obtain ⟨ho, hv, -⟩ := step_reply_inv hs
    obtain ⟨pre, hp, hd, pdu, a8, e1, e2, e3⟩ := hl i a ho
    exact ⟨by rw [validReply_eq]; exact hv, hp, hd, pdu, a8, by rw [e1, List.getLast?_concat], e2, e3⟩
  | timeout i a =>
    obtain ⟨ho, -⟩ := step_timeout_inv hs
    obtain ⟨pre, hp, hd, pdu, a8, e1, e2, e3⟩ := hl i a ho
    exact ⟨hp, hd, pdu, a8, by rw [e1, List.getLast?_concat], e2, e3⟩

open Contract in
/-- Whatever the contract automaton accepts keeps the log matched. -/
theorem run_matched {ts : Nat} : ∀ (new log : List AppCall) (o o' : Option (Nat × Nat)), Matched ts log → Last log o →
    run ts o new = some o' → Matched ts (log ++ new) ∧ Last (log ++ new) o' := by
  intro new
  induction new with
  | nil => intro log o o' hm hl h; cases h; simpa using ⟨hm, hl⟩
  | cons c rest ih =>
    intro log o o' hm hl h
    obtain ⟨o1, hs, hr⟩ := run_cons_inv h
    have := ih (log ++ [c]) o1 o' (matched_snoc hm (step_answers hl hs)) (step_last log hs) hr
    simpa using this

/-- The history invariant behind `reply_or_timeout_once`: the log so far is matched, and it ends as the state `o`
of the contract automaton says, in which the request the station awaits the reply to is outstanding. -/
def LogInv (ts : Nat) (w : World) (log : List AppCall) : Prop :=
  w.s.p.address = ts ∧ Matched ts log ∧
    ∃ o, Contract.Last log o ∧ ∀ a, w.s.awaited = some a → o = some (w.s.nextApp, a)

theorem logInv_step {ts : Nat} {w w' : World} {log l : List AppCall} (a : ApiCall) (hi : LogInv ts w log)
    (hs : w.stepLog a = some (w', l)) : LogInv ts w' (log ++ l) := by
  obtain ⟨hts, hm, o, hl, ho⟩ := hi
  cases a with
  | setOnline =>
    cases hs
    exact ⟨hts, by simpa using hm, o, by simpa using hl, ho⟩
  | setOffline =>
    cases hs
    exact ⟨hts, by simpa using hm, o, by simpa using hl, fun a ha => nomatch ha⟩
  | poll now phy arrived =>
    obtain ⟨c, hc, rfl, rfl⟩ := stepLog_poll hs
    obtain ⟨o', hr, ho'⟩ := poll_contract _ _ _ _ _ _ hc ho
    obtain ⟨hm', hl'⟩ := run_matched _ _ _ _ hm hl (hts ▸ hr)
    exact ⟨hts ▸ congrArg Params.address (poll_frame _ _ _ _ _ _ hc).1, hm', o', hl', ho'⟩

theorem logInv_run {ts : Nat} (calls : List ApiCall) (w w' : World) (log l : List AppCall) (hi : LogInv ts w log)
    (h : w.runLog calls = some (w', l)) : LogInv ts w' (log ++ l) :=
  runLog_lift (LogInv ts) (fun _ _ => True) (fun _ a _ _ _ _ _ hi hs => ⟨logInv_step a hi hs, trivial⟩)
    calls w w' log l trivial hi h

/-- `reply_or_timeout_once` without any assumption on parameters or scripts, conditional on the run being regular. -/
theorem reply_or_timeout_once' (p : Params) (apps : Apps) (calls : List ApiCall) (w : World) (log : List AppCall)
    (hr : World.runLog { s := Station.new p, apps := apps, rx := [] } calls = some (w, log)) :
    Matched p.address log := by
  have h0 : LogInv p.address { s := Station.new p, apps := apps, rx := [] } [] :=
    ⟨rfl, matched_nil _, none, Contract.last_none _, fun a ha => nomatch ha⟩
  have := logInv_run calls _ w [] log h0 hr
  simpa using this.2.1

/-- **`reply_or_timeout_once`** (whole histories).  For every parameter set, every set of applications
and EVERY sequence of `poll` / `set_online` / `set_offline` calls (any bytes, times, PHY flags) from a
fresh station: the run does not panic, and in its complete application call log every reply and every
time-out is immediately preceded by a `transmit_telegram` callback of the same application whose
telegram expects a reply from exactly that address (and a reply is admissible).  Hence each request
gets at most one of reply / time-out (`at_most_one_answer`), never both, never twice, and nothing is
delivered to an application that has no request outstanding. -/
theorem reply_or_timeout_once (p : Params) (apps : Apps) (h1 : p.address < p.hsa) (h2 : p.hsa ≤ 126)
    (hs : ScriptsOk apps) (calls : List ApiCall) :
    ∃ w log, World.runLog { s := Station.new p, apps := apps, rx := [] } calls = some (w, log) ∧
      Matched p.address log := by
  obtain ⟨w, log, hr, -⟩ := runLog_total calls { s := Station.new p, apps := apps, rx := [] } (inv_init p apps h1 h2 hs)
  exact ⟨w, log, hr, reply_or_timeout_once' p apps calls w log hr⟩

/-- Is `r` a reply or time-out for application `i`? -/
def IsAnswerFor (i : Nat) : AppCall → Prop
  | .reply j _ _ => j = i
  | .timeout j _ => j = i
  | .transmit .. => False

/-- **At most one of reply / time-out per request**: in a matched log, between a `transmit_telegram`
callback of application `i` and the next `transmit_telegram` callback of the same application, only
the record directly after the request can be a reply or time-out for `i` — so there is at most one. -/
theorem at_most_one_answer (ts : Nat) (log : List AppCall) (hm : Matched ts log)
    (pre mid post : List AppCall) (i : Nat) (hp : Bool) (ans : AppAnswer)
    (hlog : log = pre ++ .transmit i hp ans :: (mid ++ post))
    (hno : ∀ hp' ans', AppCall.transmit i hp' ans' ∉ mid) :
    ∀ (m1 m2 : List AppCall) (r : AppCall), mid = m1 ++ r :: m2 → IsAnswerFor i r → m1 = [] := by
  intro m1 m2 r hmid hr
  have := hm (pre ++ .transmit i hp ans :: m1) r (m2 ++ post) (by rw [hlog, hmid]; simp)
  rcases List.eq_nil_or_concat m1 with h0 | ⟨m1', b, h0⟩
  · exact h0
  · exfalso
    rw [h0] at this
    have hl : (pre ++ AppCall.transmit i hp ans :: m1'.concat b).getLast? = some b := by
      have e : pre ++ AppCall.transmit i hp ans :: m1'.concat b = (pre ++ AppCall.transmit i hp ans :: m1') ++ [b] := by simp
      rw [e, List.getLast?_concat]
    rw [hl] at this
    have hb : b ∈ mid := by rw [hmid, h0]; simp
    cases r with
    | transmit => exact hr
    | reply j a t =>
      obtain ⟨-, hp', hd, pdu, a8, e, -, -⟩ := this
      cases e
      cases hr
      exact hno _ _ hb
    | timeout j a =>
      obtain ⟨hp', hd, pdu, a8, e, -, -⟩ := this
      cases e
      cases hr
      exact hno _ _ hb

/-- `ask_only_with_token` and `answer_only_when_awaited` at every step of every history: whatever call
sequence `pre` was made before, the next call `a` does not panic and its callbacks obey both rules with
respect to the state `w` the station is in at that moment. -/
theorem callbacks_trace (p : Params) (apps : Apps) (h1 : p.address < p.hsa) (h2 : p.hsa ≤ 126)
    (hs : ScriptsOk apps) (pre : List ApiCall) (a : ApiCall) :
    ∃ w w' l, World.run { s := Station.new p, apps := apps, rx := [] } pre = some w ∧ w.stepLog a = some (w', l) ∧
      (∀ i hp ans, AppCall.transmit i hp ans ∈ l →
        w.s.online = true ∧ ((∃ d fcd, w.s.st = .useToken d fcd) ∨
          (∃ x d, w.s.st = .awaitData x d ∧ l.head? = some (.timeout w.s.nextApp x)))) ∧
      (∀ r ∈ l, ∀ i x, ((∃ t, r = .reply i x t) ∨ r = .timeout i x) →
        w.s.online = true ∧ (∃ d, w.s.st = .awaitData x d) ∧ i = w.s.nextApp ∧ l.head? = some r) := by
  obtain ⟨w, w', l, hw, -, hl⟩ := reach_step p apps h1 h2 hs pre a
  refine ⟨w, w', l, hw, hl, ?_, ?_⟩
  · intro i hp ans hmem
    cases a with
    | poll now phy arrived =>
      obtain ⟨c, hc, rfl, rfl⟩ := stepLog_poll hl
      exact ask_only_with_token _ _ _ _ _ _ hc i hp ans hmem
    | setOnline => cases hl; cases hmem
    | setOffline => cases hl; cases hmem
  · intro r hmem i x hk
    cases a with
    | poll now phy arrived =>
      obtain ⟨c, hc, rfl, rfl⟩ := stepLog_poll hl
      obtain ⟨e1, e2, e3, e4, -, -⟩ := answer_only_when_awaited _ _ _ _ _ _ hc r hmem i x hk
      exact ⟨e1, e2, e3, e4⟩
    | setOnline => cases hl; cases hmem
    | setOffline => cases hl; cases hmem


/-- A station (TS 7) awaiting a reply from station 9 to a request of application 0, whose script
continues with another request. -/
def awaitingStation : Station :=
  { (Station.new demoParams) with online := true, st := .awaitData 9 ⟨0, none⟩, lastBusActivity := some 0, endTokenHoldTime := 100000 }
def awaitingApps : Apps := [[.send (fdlStatusRequestHeader 9 7) []]]

theorem awaiting_inv : Inv awaitingStation awaitingApps := by
  refine ⟨by decide, by decide, TokenRing.new_ok 7 (by decide), (fun h => by cases h), ?_, ?_, ?_, ?_, ?_, ?_, (by simp [awaitingStation])⟩
  · intro cur hc; simp [awaitingStation, Station.new, demoParams] at hc ⊢; omega
  · intro a ha; simp [awaitingStation] at ha
  · intro a ha; simp [awaitingStation] at ha
  · intro _; decide
  · intro a d _; decide
  · intro sc hsc ans hans hd pdu he
    simp [awaitingApps] at hsc; subst hsc
    simp at hans; subst hans
    cases he
    decide

theorem awaiting_eval : (match awaitingStation.poll awaitingApps 1000 false [] with
    | .ok c => (c.s.st, c.calls)
    | .panic _ => (.offline, [])) =
    (.awaitData 9 ⟨0, none⟩, [.timeout 0 9, .transmit 0 false (.send (fdlStatusRequestHeader 9 7) [])]) := by decide +kernel

/-- **Witness against the over-strong reading of `one_outstanding`**: "a poll that starts and ends in
`AwaitDataResponse` asks nobody" is FALSE of the model (and of `do_await_data_response`, which calls
`do_use_token` right after `handle_timeout`): from a state satisfying the invariant, one poll delivers
the time-out of the outstanding request, asks the application again in the same poll, transmits its new
request and ends in `AwaitDataResponse` again.  What does hold is `one_outstanding`: the time-out is
delivered BEFORE anybody is asked. -/
theorem ask_after_timeout_same_poll :
    ∃ (s : Station) (apps : Apps) (c' : Ctx), Inv s apps ∧ s.st = .awaitData 9 ⟨0, none⟩ ∧
      s.poll apps 1000 false [] = .ok c' ∧ c'.s.st = .awaitData 9 ⟨0, none⟩ ∧
      c'.calls = [.timeout 0 9, .transmit 0 false (.send (fdlStatusRequestHeader 9 7) [])] := by
  have he := awaiting_eval
  cases hp : awaitingStation.poll awaitingApps 1000 false [] with
  | panic site => rw [hp] at he; simp at he
  | ok c =>
    rw [hp] at he
    simp only [Prod.mk.injEq] at he
    exact ⟨awaitingStation, awaitingApps, c, awaiting_inv, rfl, hp, he.1, he.2⟩

/-- Non-vacuity of the per-poll theorems: the witness poll satisfies their hypotheses (a
`transmit_telegram` callback and a time-out occur), and their conclusions can be read off. -/
example : ∃ (s : Station) (apps : Apps) (c' : Ctx), s.poll apps 1000 false [] = .ok c' ∧
    AppCall.transmit 0 false (.send (fdlStatusRequestHeader 9 7) []) ∈ c'.calls ∧ AppCall.timeout 0 9 ∈ c'.calls := by
  obtain ⟨s, apps, c', -, -, hp, -, hc⟩ := ask_after_timeout_same_poll
  exact ⟨s, apps, c', hp, by rw [hc]; simp, by rw [hc]; simp⟩

/-- Non-vacuity of the history theorem: a concrete call sequence. -/
example : ∃ w log, World.runLog { s := Station.new demoParams, apps := [[.decline]], rx := [] }
    [.setOnline, .poll 100 false [0xDC, 7, 3], .poll 100000 false [], .setOffline] = some (w, log) ∧ Matched 7 log :=
  reply_or_timeout_once _ _ (by decide) (by decide)
    (by intro s hs a ha h pdu he; simp at hs; subst hs; simp at ha; subst ha; cases he) _


/-! ## Scheduling order over whole token visits (`ask_order`)

The TRUE rule of `apps_transmit_telegram` / `schedule_next_application` (src/fdl/active.rs) is:

* after application `i` DECLINED, the next callback of the token visit is `transmit_telegram` of
  `(i+1) % n`;
* after application `i` SENT a telegram, `next_application` STAYS at `i`: the next callback is its
  reply / time-out (if the telegram expected a reply), and the next `transmit_telegram` goes to `i`
  AGAIN (not to `(i+1) % n`) — an application keeps the turn until it declines;
* `set_offline` resets the turn to application 0 (`*self = Self::new(..)`), so the rule is stated per
  token visit (and per poll at every step of every history). -/

/-- A call sequence that stays within one token hold: at the start of every call the station is in
`UseToken` or `AwaitDataResponse`, and nobody calls `set_offline`. -/
def VisitRun : World → List ApiCall → Prop
  | _, [] => True
  | w, a :: rest => AppHolding w.s ∧ a ≠ .setOffline ∧ ∀ w1 l, w.stepLog a = some (w1, l) → VisitRun w1 rest

/-- `ask_order`, one API call: from a state holding the token, the callbacks of the call follow the
turn from `next_application` before to `next_application` after. -/
theorem ask_order_step (w w' : World) (a : ApiCall) (l : List AppCall) (hh : AppHolding w.s) (ha : a ≠ .setOffline)
    (hs : w.stepLog a = some (w', l)) :
    walk w.apps.length w.s.nextApp l = some w'.s.nextApp ∧ w'.apps.length = w.apps.length := by
  cases a with
  | setOnline => cases hs; exact ⟨rfl, rfl⟩
  | setOffline => exact absurd rfl ha
  | poll now phy arrived =>
    obtain ⟨c, hc, rfl, rfl⟩ := stepLog_poll hs
    exact poll_walk _ _ _ _ _ _ hh hc

/-- **`ask_order`** (whole token visit, any start state holding the token, any polls / bytes / times /
scripts): the complete callback log of the visit follows the turn. -/
theorem ask_order_walk (calls : List ApiCall) (w w' : World) (log : List AppCall) (hv : VisitRun w calls)
    (h : w.runLog calls = some (w', log)) :
    walk w.apps.length w.s.nextApp log = some w'.s.nextApp ∧ w'.apps.length = w.apps.length := by
  have := runLog_lift
    (fun w1 lg => walk w.apps.length w.s.nextApp lg = some w1.s.nextApp ∧ w1.apps.length = w.apps.length) VisitRun
    (fun w1 a rest w2 l lg hg hi hs => by
      obtain ⟨hh, ha, hrest⟩ := hg
      obtain ⟨hw, hl⟩ := ask_order_step w1 w2 a l hh ha hs
      rw [hi.2] at hw
      exact ⟨⟨by rw [walk_append _ _ _ _ _ hi.1]; exact hw, hl.trans hi.2⟩, hrest w2 l hs⟩)
    calls w w' [] log hv ⟨rfl, rfl⟩ h
  simpa using this

/-- Reading of `walk`: any two ADJACENT callbacks `r1, r2` of a log that follows the turn satisfy
`r2.app = nextIdx n r1`, and the first callback goes to the application whose turn it is. -/
theorem walk_adjacent (n : Nat) : ∀ (log : List AppCall) (j k : Nat), walk n j log = some k →
    (∀ r post, log = r :: post → r.app = j) ∧
    (∀ pre r1 r2 post, log = pre ++ r1 :: r2 :: post → r2.app = nextIdx n r1) := by
  intro log
  induction log with
  | nil =>
    intro j k _
    exact ⟨(by intro r post h; cases h), (by intro pre r1 r2 post h; simp at h)⟩
  | cons x rest ih =>
    intro j k h
    simp only [walk] at h
    by_cases hx : x.app = j
    · rw [if_pos hx] at h
      obtain ⟨ih1, ih2⟩ := ih _ k h
      refine ⟨(by intro r post he; cases he; exact hx), ?_⟩
      intro pre r1 r2 post he
      cases pre with
      | nil =>
        simp only [List.nil_append, List.cons.injEq] at he
        obtain ⟨e1, e2⟩ := he
        subst e1
        exact ih1 r2 post e2
      | cons y ys =>
        simp only [List.cons_append, List.cons.injEq] at he
        exact ih2 ys r1 r2 post he.2
    · rw [if_neg hx] at h; cases h

/-- **`ask_order`** in callback-log form.  Within one token visit (`VisitRun`), for every two adjacent
callbacks of the visit's complete log:
(a) after `transmit_telegram` of application `i` that DECLINED, the next callback is for `(i+1) % n`;
(b) after `transmit_telegram` of application `i` that SENT, the next callback (its reply, its time-out,
    or the next ask) is for `i` itself;
(c) after a reply / time-out delivered to `i`, the next callback is for `i` (it is asked again);
and the first callback of the visit goes to `next_application`. -/
theorem ask_order (calls : List ApiCall) (w w' : World) (log : List AppCall) (hv : VisitRun w calls)
    (hr : w.runLog calls = some (w', log)) :
    (∀ r post, log = r :: post → r.app = w.s.nextApp) ∧
    (∀ pre i hp r post, log = pre ++ .transmit i hp .decline :: r :: post → r.app = (i + 1) % w.apps.length) ∧
    (∀ pre i hp hd pdu r post, log = pre ++ .transmit i hp (.send hd pdu) :: r :: post → r.app = i) ∧
    (∀ pre i x t r post, log = pre ++ .reply i x t :: r :: post → r.app = i) ∧
    (∀ pre i x r post, log = pre ++ .timeout i x :: r :: post → r.app = i) := by
  obtain ⟨h1, h2⟩ := walk_adjacent _ log _ _ (ask_order_walk calls w w' log hv hr).1
  exact ⟨h1, fun pre i hp r post he => h2 pre _ r post he, fun pre i hp hd pdu r post he => h2 pre _ r post he,
    fun pre i x t r post he => h2 pre _ r post he, fun pre i x r post he => h2 pre _ r post he⟩

/-- `ask_order` at every step of every history from a fresh station (lifted with the C05 invariant as in
`callbacks_trace`): whatever call sequence `pre` was made before, the next call does not panic; if the
station holds the token its callbacks follow the turn, and otherwise (the call not being a poll in
`UseToken` / `AwaitDataResponse`) it makes no callback at all. -/
theorem ask_order_trace (p : Params) (apps : Apps) (h1 : p.address < p.hsa) (h2 : p.hsa ≤ 126)
    (hs : ScriptsOk apps) (pre : List ApiCall) (a : ApiCall) :
    ∃ w w' l, World.run { s := Station.new p, apps := apps, rx := [] } pre = some w ∧ w.stepLog a = some (w', l) ∧
      (AppHolding w.s → a ≠ .setOffline → walk w.apps.length w.s.nextApp l = some w'.s.nextApp) ∧
      (¬ AppHolding w.s → l = []) := by
  obtain ⟨w, w', l, hw, -, hl⟩ := reach_step p apps h1 h2 hs pre a
  refine ⟨w, w', l, hw, hl, fun hh ha => (ask_order_step w w' a l hh ha hl).1, ?_⟩
  intro hn
  cases a with
  | setOnline => cases hl; rfl
  | setOffline => cases hl; rfl
  | poll now phy arrived =>
    obtain ⟨c, hc, rfl, rfl⟩ := stepLog_poll hl
    exact poll_quiet _ _ _ _ _ _ hn hc

/-- The over-strong reading "after a SENT telegram the next ask goes to `(i+1) % n`" is FALSE of the
model and of the source: `nextIdx` of a sent telegram is the sender itself.  Concrete witness: the poll of
`ask_after_timeout_same_poll` (one application would not show it, so see `order_eval` below for three). -/
theorem sender_keeps_turn (n i : Nat) (hp : Bool) (hd : Header) (pdu : Bytes) :
    nextIdx n (.transmit i hp (.send hd pdu)) = i := rfl


def holdingB (s : Station) : Bool :=
  match s.st with
  | .useToken .. | .awaitData .. => true
  | _ => false

theorem holding_of_b {s : Station} (h : holdingB s = true) : AppHolding s := by
  unfold holdingB at h
  cases hst : s.st <;> rw [hst] at h <;> simp at h
  · exact .inl ⟨_, _, hst⟩
  · exact .inr ⟨_, _, hst⟩

/-- A station (TS 7) that has just received the token, turn at application 0 of three: application 0 has
nothing to send, application 1 has one request for station 9 (and then nothing), application 2 nothing. -/
def orderStation : Station :=
  { (Station.new demoParams) with online := true, st := .useToken ⟨0, none⟩ false, lastBusActivity := some 0, endTokenHoldTime := 1000000 }
def orderApps : Apps := [[], [.send (fdlStatusRequestHeader 9 7) []], []]
def orderWorld : World := ⟨orderStation, orderApps, []⟩
def orderCalls : List ApiCall := [.poll 1000 false [], .poll 100000 false []]
def orderLog : List AppCall :=
  [.transmit 0 false .decline, .transmit 1 false (.send (fdlStatusRequestHeader 9 7) []), .timeout 1 9,
   .transmit 1 false .decline, .transmit 2 false .decline]

theorem order_inv : Inv orderStation orderApps := by
  refine ⟨by decide, by decide, TokenRing.new_ok 7 (by decide), (fun h => by cases h), ?_, ?_, ?_, ?_, ?_, ?_, (by simp [orderStation])⟩
  · intro cur hc; simp [orderStation, Station.new, demoParams] at hc ⊢; omega
  · intro a ha; simp [orderStation] at ha
  · intro a ha; simp [orderStation] at ha
  · intro _; decide
  · intro a d h; simp [orderStation] at h
  · intro sc hsc ans hans hd pdu he
    simp [orderApps] at hsc
    rcases hsc with rfl | rfl | rfl
    · simp at hans
    · simp at hans; subst hans; cases he; decide
    · simp at hans

/-- The whole visit, evaluated: application 0 declines, application 1 sends, its time-out is delivered,
application 1 is asked AGAIN (the sender keeps the turn) and declines, application 2 declines, and the
turn is back at application 0 = `first_app`: the cycle is complete and the station passes on (here: sends
the pending GAP poll first) — although application 0 was NOT asked again after the last sent telegram. -/
theorem order_eval : (match orderWorld.runLog orderCalls with
    | some (w, log) => (log, w.s.nextApp, w.s.st)
    | none => ([], 99, .offline)) = (orderLog, 0, .awaitStatus 8) := by decide +kernel

theorem order_mid : (match orderWorld.stepLog (.poll 1000 false []) with
    | some (w, _) => holdingB w.s
    | none => false) = true := by decide +kernel

theorem order_visit : VisitRun orderWorld orderCalls := by
  refine ⟨.inl ⟨_, _, rfl⟩, (by intro h; cases h), ?_⟩
  intro w1 l h
  have hm := order_mid
  rw [h] at hm
  exact ⟨holding_of_b hm, (by intro h; cases h), fun _ _ _ => trivial⟩

/-- Non-vacuity of `ask_order`: its hypotheses hold for the witness visit (a state satisfying the
station invariant `order_inv`), the log is the five callbacks above, and the conclusions can be read
off: e.g. the callback after the decline of application 0 goes to application 1, the callbacks after the
request of application 1 (time-out, next ask) go to application 1. -/
theorem order_witness : ∃ w' , orderWorld.runLog orderCalls = some (w', orderLog) ∧ VisitRun orderWorld orderCalls ∧
    Inv orderWorld.s orderWorld.apps ∧ walk 3 0 orderLog = some 0 := by
  have he := order_eval
  cases hr : orderWorld.runLog orderCalls with
  | none => rw [hr] at he; simp at he
  | some x =>
    obtain ⟨w', log⟩ := x
    rw [hr] at he
    simp only [Prod.mk.injEq] at he
    refine ⟨w', by rw [he.1], order_visit, order_inv, by decide⟩

example : ∀ r post pre, orderLog = pre ++ .transmit 0 false .decline :: r :: post → r.app = 1 := by
  obtain ⟨w', hr, hv, -, -⟩ := order_witness
  intro r post pre he
  exact (ask_order orderCalls orderWorld w' orderLog hv hr).2.1 pre 0 false r post he

/-- Against the phrasing "the visit ends only if every application was asked once SINCE THE LAST SENT
TELEGRAM and all declined": in the witness visit the token hold ends (the station leaves `UseToken` for
the GAP poll / token pass, the hold time being far from over) although application 0 was not asked
after the telegram sent by application 1.  The true rule is per VISIT: `first_app` is remembered across
sent telegrams, and the hold ends when the turn comes back to it (`visit_ends_fair` below). -/
theorem visit_end_not_since_last_send :
    ∃ w' pre post hd pdu, orderWorld.runLog orderCalls = some (w', pre ++ .transmit 1 false (.send hd pdu) :: post) ∧
      ¬ AppHolding w'.s ∧ (∀ hp ans, AppCall.transmit 0 hp ans ∉ post) ∧ (100000 : Int) < orderStation.endTokenHoldTime := by
  have he := order_eval
  cases hr : orderWorld.runLog orderCalls with
  | none => rw [hr] at he; simp at he
  | some x =>
    obtain ⟨w', log⟩ := x
    rw [hr] at he
    simp only [Prod.mk.injEq] at he
    refine ⟨w', [.transmit 0 false .decline], [.timeout 1 9, .transmit 1 false .decline, .transmit 2 false .decline],
      _, _, by rw [he.1]; rfl, ?_, (by intro hp ans h; simp at h), by decide⟩
    rintro (⟨d, fcd, h⟩ | ⟨a, d, h⟩) <;> rw [he.2.2] at h <;> cases h


/-! ## Fairness within one token visit (`no_double_decline`, `visit_ends_fair`)

The TRUE rules of `apps_transmit_telegram` / `schedule_next_application` / `do_use_token` are per token VISIT, because
`first_app` lives in the visit's `UseTokenData` and survives sent telegrams:

* an application that declined is not asked again in the same visit AT ALL — not even after another
  application sent in between (stronger than the expected rule);
* the token hold is ended by `do_use_token` only if the hold time is over, or there are no applications,
  or EVERY application has declined exactly once in this visit (not "since the last sent telegram":
  refuted by `visit_end_not_since_last_send`). -/


/-- **`no_double_decline`** (one whole token visit, any polls / bytes / times / scripts).  From the start
of a visit (`first_app = None`, as after every token receipt / claim) and as long as the token hold
continues: an application that declined is not asked again in this visit — whether or not another
application sent a telegram in between — and in particular nobody declines twice. -/
theorem no_double_decline (calls : List ApiCall) (w w' : World) (log : List AppCall) (d : UseData)
    (hd : visitData w.s = some d) (hfirst : d.firstApp = none) (hrun : HoldRun w calls)
    (hr : w.runLog calls = some (w', log)) :
    (∀ pre i hp post, log = pre ++ .transmit i hp .decline :: post → ∀ hp' ans, AppCall.transmit i hp' ans ∉ post) ∧
    (declinesOf log).Nodup := by
  have hi : VInv w.apps.length w.s [] := ⟨d, hd, by rw [hfirst]; rfl⟩
  obtain ⟨hf, -, d', -, hv⟩ := visit_run calls w w' log [] hi hrun hr
  refine ⟨fun pre i hp post he => askFresh_decline pre [] log post i hp hf he, ?_⟩
  simpa using vturn_nodup hv

/-- **`visit_ends_fair`** (one whole token visit).  From the start of a visit, after any polls during
which the hold continued, a poll that does NOT continue the hold either backs off to `ActiveIdle` (an
inadmissible telegram arrived instead of the awaited reply — the token is not passed), or the hold time
is over (`now ≥ end_token_hold_time` as `do_use_token` computes it), or there are no applications, or
every application has declined in this visit — each exactly once. -/
theorem visit_ends_fair (calls : List ApiCall) (w w1 w2 : World) (log l : List AppCall) (d : UseData)
    (now : Int) (phy : Bool) (arr : Bytes)
    (hd : visitData w.s = some d) (hfirst : d.firstApp = none) (hrun : HoldRun w calls)
    (hr : w.runLog calls = some (w1, log)) (hs : w1.stepLog (.poll now phy arr) = some (w2, l))
    (hend : ¬ Continues w1 w2 l) :
    w2.s.st = .activeIdle none none 0 ∨
    (∃ d1, visitData w1.s = some d1 ∧ ¬ now < (holdUpdate w1.s d1).endTokenHoldTime) ∨
    w.apps.length = 0 ∨
    ((∀ i, i < w.apps.length → i ∈ declinesOf (log ++ l)) ∧ (declinesOf (log ++ l)).Nodup) := by
  have hi : VInv w.apps.length w.s [] := ⟨d, hd, by rw [hfirst]; rfl⟩
  obtain ⟨-, hlen, hinv⟩ := visit_run calls w w1 log [] hi hrun hr
  obtain ⟨-, -, -, hfin⟩ := visit_step w1 w2 now phy arr l _ hinv hs
  rcases hfin hend with h | h | h | ⟨f, hf, he⟩
  · exact .inl h
  · exact .inr (.inl h)
  · exact .inr (.inr (.inl (by rw [← hlen]; exact h)))
  · right; right; right
    rw [hlen] at hf he
    simp only [List.nil_append] at he
    rw [declinesOf_append, he]
    exact ⟨fun i hi => cyc_full _ f i hf hi, cyc_nodup _ f hf _ (Nat.le_refl _)⟩

/-- `no_double_decline` / `visit_ends_fair` for every history from a fresh station (lifted with the C05
invariant): after ANY call sequence `pre`, any further calls `calls` and one more call `a` do not panic;
and if `pre` ended at the start of a token visit and the hold continued during `calls` (polls), the
visit's log `log` obeys `no_double_decline`, and if `a` is a poll that ends the hold, it does so for one
of the four reasons of `visit_ends_fair`. -/
theorem visit_trace (p : Params) (apps : Apps) (h1 : p.address < p.hsa) (h2 : p.hsa ≤ 126)
    (hs : ScriptsOk apps) (pre calls : List ApiCall) (a : ApiCall) :
    ∃ w w1 log w2 l, World.run { s := Station.new p, apps := apps, rx := [] } pre = some w ∧
      w.runLog calls = some (w1, log) ∧ w1.stepLog a = some (w2, l) ∧
      (∀ d, visitData w.s = some d → d.firstApp = none → HoldRun w calls →
        ((∀ pre' i hp post, log = pre' ++ .transmit i hp .decline :: post → ∀ hp' ans, AppCall.transmit i hp' ans ∉ post) ∧
         (declinesOf log).Nodup) ∧
        (∀ now phy arr, a = .poll now phy arr → ¬ Continues w1 w2 l →
          w2.s.st = .activeIdle none none 0 ∨
          (∃ d1, visitData w1.s = some d1 ∧ ¬ now < (holdUpdate w1.s d1).endTokenHoldTime) ∨
          w.apps.length = 0 ∨
          ((∀ i, i < w.apps.length → i ∈ declinesOf (log ++ l)) ∧ (declinesOf (log ++ l)).Nodup))) := by
  obtain ⟨w, hw, hi⟩ := poll_never_panics p apps h1 h2 hs pre
  obtain ⟨w1, log, hr, hi1⟩ := runLog_total calls w hi
  obtain ⟨w2, hw2, -, -⟩ := inv_step w1 a hi1
  obtain ⟨l, hl⟩ := stepLog_of_step hw2
  refine ⟨w, w1, log, w2, l, hw, hr, hl, ?_⟩
  intro d hd hfirst hrun
  refine ⟨no_double_decline calls w w1 log d hd hfirst hrun hr, ?_⟩
  intro now phy arr ha hend
  subst ha
  exact visit_ends_fair calls w w1 w2 log l d now phy arr hd hfirst hrun hr hl hend


def continuesB (w : World) : Bool :=
  match w.s.st with
  | .useToken _ true | .awaitData .. => true
  | _ => false

theorem continues_of_b {w w' : World} {l : List AppCall} (h : continuesB w' = true) : Continues w w' l := by
  unfold continuesB at h
  cases hst : w'.s.st with
  | useToken d fcd =>
    cases fcd with
    | true => exact .inl ⟨d, hst⟩
    | false => rw [hst] at h; cases h
  | awaitData a d => exact .inr (.inl ⟨a, d, hst⟩)
  | offline => rw [hst] at h; cases h
  | passiveIdle => rw [hst] at h; cases h
  | listenToken a b => rw [hst] at h; cases h
  | activeIdle a b c => rw [hst] at h; cases h
  | claimToken a => rw [hst] at h; cases h
  | passToken a b => rw [hst] at h; cases h
  | checkTokenPass a => rw [hst] at h; cases h
  | awaitStatus a => rw [hst] at h; cases h

/-- First poll: hold continues (application 1 sent); second poll: ends in `AwaitStatusResponse` with
callbacks, all three applications having declined once. -/
def orderCheck : Bool :=
  match orderWorld.stepLog (.poll 1000 false []) with
  | some (w1, log) =>
    (match w1.stepLog (.poll 100000 false []) with
     | some (w2, l) => decide (w2.s.st = .awaitStatus 8) && decide (declinesOf (log ++ l) = [0, 1, 2]) &&
         continuesB w1 && decide (l ≠ [])
     | none => false)
  | none => false

theorem orderCheck_true : orderCheck = true := by decide +kernel

/-- The hypotheses of `visit_ends_fair` are satisfiable from a state satisfying the station invariant at
the start of a visit: the hold continues over the first poll and is ended by the second one — far before
the hold time is over, with three applications, without back-off — so the last disjunct applies: all
three applications declined, each once (`declinesOf = [0, 1, 2]`). -/
theorem visit_witness : ∃ w1 log w2 l, Inv orderWorld.s orderWorld.apps ∧
    visitData orderWorld.s = some ⟨0, none⟩ ∧ HoldRun orderWorld [.poll 1000 false []] ∧
    orderWorld.runLog [.poll 1000 false []] = some (w1, log) ∧ w1.stepLog (.poll 100000 false []) = some (w2, l) ∧
    ¬ Continues w1 w2 l ∧ w2.s.st = .awaitStatus 8 ∧ declinesOf (log ++ l) = [0, 1, 2] := by
  have hc := orderCheck_true
  unfold orderCheck at hc
  cases h1 : orderWorld.stepLog (.poll 1000 false []) with
  | none => rw [h1] at hc; simp at hc
  | some x =>
    obtain ⟨w1, log⟩ := x
    rw [h1] at hc
    simp only at hc
    cases h2 : w1.stepLog (.poll 100000 false []) with
    | none => rw [h2] at hc; simp at hc
    | some y =>
      obtain ⟨w2, l⟩ := y
      rw [h2] at hc
      simp only [Bool.and_eq_true, decide_eq_true_eq] at hc
      obtain ⟨⟨⟨hst, hdl⟩, hcb⟩, hne⟩ := hc
      refine ⟨w1, log, w2, l, order_inv, rfl, ?_, ?_, h2, ?_, hst, hdl⟩
      · refine ⟨⟨_, _, _, rfl⟩, ?_⟩
        intro w1' l' h'
        rw [h1] at h'; cases h'
        exact ⟨continues_of_b hcb, trivial⟩
      · simp only [World.runLog, h1, List.append_nil]
      · rintro (⟨d, h⟩ | ⟨a, d, h⟩ | ⟨-, h⟩)
        · rw [hst] at h; cases h
        · rw [hst] at h; cases h
        · exact hne h

example : ∃ (w1 w2 : World) (log l : List AppCall),
    (∀ i, i < 3 → i ∈ declinesOf (log ++ l)) ∧ (declinesOf (log ++ l)).Nodup := by
  obtain ⟨w1, log, w2, l, -, hd, hrun, hr, hs, hend, hst, hdl⟩ := visit_witness
  refine ⟨w1, w2, log, l, ?_⟩
  rcases visit_ends_fair _ orderWorld w1 w2 log l ⟨0, none⟩ 100000 false [] hd rfl hrun hr hs hend with h | h | h | h
  · rw [hst] at h; cases h
  · rw [hdl]; decide
  · cases h
  · exact h


/-! ## Scheduling order over whole histories (`ask_order_history`)

No handler but the application loop moves `next_application` — except the station reset.  That reset
(`*self = Self::new(..)`) happens in `set_offline` AND inside a poll, in the duplicate-address detection
of `do_listen_token`; it puts the turn back to application 0.  Hence the rule for the complete callback
log of ANY history carries the alternative "or application 0". -/

/-- **`ask_order`** (whole histories).  For every parameter set, every set of applications and EVERY
sequence of `poll` / `set_online` / `set_offline` calls from a fresh station: the run does not panic, the
first callback goes to application 0, and for any two adjacent callbacks `r1, r2` of the complete log —
however many polls, token visits, lost tokens, ring re-entries lie between them — `r2` goes to the
application whose turn it is after `r1` (`(i+1) % n` after a decline of `i`; `i` itself after a telegram
sent by / a reply or time-out delivered to `i`), or to application 0 (station reset in between). -/
theorem ask_order_history (p : Params) (apps : Apps) (h1 : p.address < p.hsa) (h2 : p.hsa ≤ 126)
    (hs : ScriptsOk apps) (calls : List ApiCall) :
    ∃ w log, World.runLog { s := Station.new p, apps := apps, rx := [] } calls = some (w, log) ∧
      (∀ r post, log = r :: post → r.app = 0) ∧
      (∀ pre r1 r2 post, log = pre ++ r1 :: r2 :: post → r2.app = nextIdx apps.length r1 ∨ r2.app = 0) := by
  obtain ⟨w, log, hr, -⟩ := runLog_total calls { s := Station.new p, apps := apps, rx := [] } (inv_init p apps h1 h2 hs)
  obtain ⟨ha1, ha2⟩ := walkR_adjacent _ log _ _ (turn_run calls _ w log hr).1
  refine ⟨w, log, hr, ?_, ha2⟩
  intro r post he
  rcases ha1 r post he with h | h <;> exact h

/-- The same for an arbitrary start state, conditional on the run being regular; with the turn at the end. -/
theorem ask_order_history' (calls : List ApiCall) (w w' : World) (log : List AppCall)
    (hr : w.runLog calls = some (w', log)) :
    walkR w.apps.length w.s.nextApp log w'.s.nextApp ∧
    (∀ pre r1 r2 post, log = pre ++ r1 :: r2 :: post → r2.app = nextIdx w.apps.length r1 ∨ r2.app = 0) :=
  ⟨(turn_run calls w w' log hr).1, (walkR_adjacent _ log _ _ (turn_run calls w w' log hr).1).2⟩

/-- Non-vacuity of `ask_order_history`: the witness visit continued by `set_offline`, going online again
and a poll; five callbacks, adjacent ones obey the rule. -/
example : ∃ w, World.runLog orderWorld (orderCalls ++ [.setOffline, .setOnline, .poll 200000 false []]) = some (w, orderLog) ∧
    w.s.nextApp = 0 := by
  have : (match World.runLog orderWorld (orderCalls ++ [.setOffline, .setOnline, .poll 200000 false []]) with
      | some (w, log) => (log, w.s.nextApp)
      | none => ([], 99)) = (orderLog, 0) := by
    decide +kernel
  cases hr : World.runLog orderWorld (orderCalls ++ [.setOffline, .setOnline, .poll 200000 false []]) with
  | none => rw [hr] at this; simp at this
  | some x =>
    obtain ⟨w, log⟩ := x
    rw [hr] at this
    simp only [Prod.mk.injEq] at this
    exact ⟨w, by rw [this.1], this.2⟩

end PV.C15
