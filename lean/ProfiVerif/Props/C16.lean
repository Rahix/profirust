/-
C16 — The receive path reassembles the byte stream independent of chunking.
Model: `Model/PhyRx.lean` (generic `ProfibusPhy` helpers over a byte buffer).  The last section is about
`Model/Simulator.lean`: what the receivers of the simulator bus see is a growing prefix of the stream,
i.e. a chunking of it.
-/
import ProfiVerif.Lemmas.PhyRx
import ProfiVerif.Model.Simulator

namespace PV.C16
open PV

/-- `receive_all_telegrams` terminates (≤ one iteration per buffered byte) and never panics, for
every buffer content. -/
theorem receiveAll_total (fuel : Nat) (b : Bytes) (acc : List (Telegram × Bool)) (hf : b.length < fuel) :
    ∃ b' calls ret, receiveAllFuel fuel b acc = .done b' calls ret :=
  let ⟨calls, b', ret, _, h⟩ := receiveAllFuel_drain fuel b acc hf; ⟨b', acc ++ calls, ret, h⟩

theorem receiveAll_never_hangs (b : Bytes) : receiveAll b ≠ .hang ∧ receiveAll b ≠ .panic :=
  PV.receiveAll_never_hangs b

theorem receiveTelegram_total (b : Bytes) : ∃ b' calls ret, receiveTelegram b = .done b' calls ret :=
  PV.receiveTelegram_total b

/-- One `receive_all_telegrams` call on a buffer holding a prefix of a stream of valid telegrams `ts`
(`pending` = the bytes that have not arrived yet): it delivers exactly the telegrams that are
complete, in order, each once; keeps the incomplete tail untouched; a callback is flagged
`is_last` only if nothing is buffered behind it; and it returns `Some` iff it delivered something
and emptied the buffer. -/
theorem receiveAll_stream (ts : List Telegram) (b pending : Bytes)
    (hs : b ++ pending = streamOf ts) (hv : ∀ t ∈ ts, t.Valid) :
    ∃ d ts' b' ret, receiveAll b = .done b' d ret ∧
      ts = d.map Prod.fst ++ ts' ∧ b' ++ pending = streamOf ts' ∧
      (∀ t, ts'.head? = some t → b'.length < t.wire.length) ∧
      (∀ x ∈ d, x.2 = true → b' = []) ∧ (ret = true ↔ (d ≠ [] ∧ b' = [])) :=
  PV.receiveAll_stream ts b pending hs hv

/-- `receive_telegram` on the same kind of buffer delivers the first telegram iff it is complete. -/
theorem receiveTelegram_stream (t : Telegram) (rest : List Telegram) (b pending : Bytes)
    (hs : b ++ pending = streamOf (t :: rest)) (hv : t.Valid) :
    (b.length < t.wire.length → receiveTelegram b = .done b [] false) ∧
    (t.wire.length ≤ b.length → ∃ b2, receiveTelegram b = .done b2 [(t, b2 == [])] true ∧
        b2 ++ pending = streamOf rest) :=
  PV.receiveTelegram_stream t rest b pending hs hv

/-- **Reassembly.** Bytes of a sequence of valid telegrams arrive in arbitrary chunks, interleaved
arbitrarily with `receive_all_telegrams` and `receive_telegram` calls: nothing panics, the telegrams delivered so far are a
prefix of the sequence, in order, each once, and the buffer plus the bytes still to come are exactly
the wire bytes of the remaining telegrams (no byte of an incomplete telegram is lost or duplicated). -/
theorem reassembly_invariant (ops : List RxOp) :
    ∀ (ts : List Telegram) (b : Bytes), b ++ arrivals ops = streamOf ts → (∀ t ∈ ts, t.Valid) →
    ∃ b' d ts', runRx b ops = some (b', d) ∧ ts = d.map Prod.fst ++ ts' ∧ b' = streamOf ts' := by
  induction ops with
  | nil =>
    intro ts b hs _
    exact ⟨b, [], ts, rfl, by simp, by simpa [arrivals] using hs⟩
  | cons op ops ih =>
    intro ts b hs hv
    cases op with
    | recvAll =>
      obtain ⟨d, ts1, b1, ret, hr, hts, hb1, -, -, -⟩ :=
        receiveAll_stream ts b (arrivals ops) (by simpa [arrivals] using hs) hv
      have hv1 : ∀ t ∈ ts1, t.Valid := fun t ht => hv t (by rw [hts]; simp [ht])
      obtain ⟨b', d', ts', hrun, hts', hb'⟩ := ih ts1 b1 hb1 hv1
      refine ⟨b', d ++ d', ts', ?_, by rw [hts, hts']; simp, hb'⟩
      simp [runRx, stepRx, hr, hrun]
    | arrive c =>
      obtain ⟨b', d', ts', hrun, hts', hb'⟩ := ih ts (b ++ c) (by simpa [arrivals, List.append_assoc] using hs) hv
      exact ⟨b', d', ts', by simp [runRx, stepRx, hrun], hts', hb'⟩
    | recvOne =>
      have hs1 : b ++ arrivals ops = streamOf ts := by simpa [arrivals] using hs
      cases ts with
      | nil =>
        have hb : b = [] := by simp [streamOf] at hs1; exact hs1.1
        subst hb
        obtain ⟨b', d', ts', hrun, hts', hb'⟩ := ih [] [] hs1 hv
        refine ⟨b', d', ts', ?_, hts', hb'⟩
        simp [runRx, stepRx, receiveTelegram_nil, hrun]
      | cons t rest =>
        have hvt : t.Valid := hv t (by simp)
        have ⟨hA, hB⟩ := receiveTelegram_stream t rest b (arrivals ops) hs1 hvt
        by_cases hlt : b.length < t.wire.length
        · obtain ⟨b', d', ts', hrun, hts', hb'⟩ := ih (t :: rest) b hs1 hv
          refine ⟨b', d', ts', ?_, hts', hb'⟩
          simp [runRx, stepRx, hA hlt, hrun]
        · obtain ⟨b2, hr, hb2⟩ := hB (by omega)
          obtain ⟨b', d', ts', hrun, hts', hb'⟩ := ih rest b2 hb2 (fun x hx => hv x (by simp [hx]))
          refine ⟨b', (t, b2 == []) :: d', ts', ?_, by simp [hts'], hb'⟩
          simp [runRx, stepRx, hr, hrun]

theorem runRx_append (l1 l2 : List RxOp) (b : Bytes) :
    runRx b (l1 ++ l2) =
      match runRx b l1 with
      | none => none
      | some (b1, d1) =>
        match runRx b1 l2 with
        | none => none
        | some (b2, d2) => some (b2, d1 ++ d2) := by
  induction l1 generalizing b with
  | nil =>
    simp only [List.nil_append, runRx]
    cases runRx b l2 with
    | none => rfl
    | some p => obtain ⟨b2, d2⟩ := p; simp
  | cons op l1 ih =>
    simp only [List.cons_append, runRx]
    cases stepRx b op with
    | none => rfl
    | some p =>
      obtain ⟨b0, d0⟩ := p
      simp only [ih]
      cases runRx b0 l1 with
      | none => rfl
      | some q =>
        obtain ⟨b1, d1⟩ := q
        simp only
        cases runRx b1 l2 with
        | none => rfl
        | some r => obtain ⟨b2, d2⟩ := r; simp

/-- … and one more `receive_all_telegrams` after the last byte has arrived hands over everything:
the callbacks, over all calls, are exactly `ts`, and the buffer is empty. -/
theorem reassembly (ops : List RxOp)
    (ts : List Telegram) (hs : arrivals ops = streamOf ts) (hv : ∀ t ∈ ts, t.Valid) :
    ∃ d, runRx [] (ops ++ [.recvAll]) = some ([], d) ∧ d.map Prod.fst = ts := by
  obtain ⟨b1, d1, ts1, hrun, hts, hb1⟩ := reassembly_invariant ops ts [] (by simpa using hs) hv
  have hv1 : ∀ t ∈ ts1, t.Valid := fun t ht => hv t (by rw [hts]; simp [ht])
  obtain ⟨d2, ts2, b2, ret, hr, hts2, hb2, hinc, -, -⟩ :=
    receiveAll_stream ts1 b1 [] (by simpa using hb1) hv1
  have hts2nil : ts2 = [] := by
    cases ts2 with
    | nil => rfl
    | cons t r =>
      have := hinc t rfl
      have e : b2 = t.wire ++ streamOf r := by simpa [streamOf] using hb2
      rw [e, List.length_append] at this; omega
  subst hts2nil
  have hb2nil : b2 = [] := by simpa [streamOf] using hb2
  subst hb2nil
  refine ⟨d1 ++ d2, ?_, ?_⟩
  · rw [runRx_append, hrun]
    simp [runRx, stepRx, hr]
  · rw [hts, hts2]; simp

/-- **Resynchronisation.** Undecodable data is discarded completely (nothing is delivered, the buffer
is emptied), and a valid telegram that then arrives on its own is received correctly. -/
theorem resync (garbage : Bytes) (hg : deserialize garbage = .reject) (t : Telegram) (hv : t.Valid) :
    receiveAll garbage = .done [] [] false ∧ receiveTelegram garbage = .done [] [] false ∧
    runRx garbage [.recvAll, .arrive t.wire, .recvAll] = some ([], [(t, true)]) := by
  have h1 := receiveAll_of_reject hg
  refine ⟨h1, by simp [receiveTelegram, hg], ?_⟩
  have hdec : deserialize t.wire = .accept t t.wire.length := by
    have := decode_wire t hv []
    rwa [List.append_nil] at this
  have h2 := receiveAll_of_accept hdec
  simp [runRx, stepRx, h1, h2]

/-! ### Simulator PHY: timed byte availability (`SimulatorBus::current_cursor`)

What the receivers of the simulator bus can see is always a prefix of the transmitted stream, grows
monotonically with bus time, never shows a character before its 11 bit times are over and shows the
whole telegram from the moment its last character is over — at every baud rate.  So the arrivals over
the simulator are a chunking of the stream, the situation `reassembly` is about. -/

open Sim

theorem le_visibleChars_iff (rate e len k : Nat) :
    k ≤ visibleChars rate e len ↔ k ≤ len ∧ 11 * k ≤ timeToBits rate e := by
  unfold visibleChars
  rw [Nat.le_min, Nat.le_div_iff_mul_le (by decide), Nat.mul_comm k 11]
  exact And.comm

/-- More time, at least as many visible characters. -/
theorem sim_visible_mono (rate e e' len : Nat) (h : e ≤ e') :
    visibleChars rate e len ≤ visibleChars rate e' len := by
  have := (le_visibleChars_iff rate e len _).mp (Nat.le_refl _)
  refine (le_visibleChars_iff rate e' len _).mpr ⟨this.1, Nat.le_trans this.2 ?_⟩
  exact Nat.div_le_div_right (Nat.mul_le_mul_right rate h)

/-- No character is visible before its 11 bit times have passed. -/
theorem sim_not_early (rate e len : Nat) : visibleChars rate e len * 11 ≤ timeToBits rate e := by
  have := ((le_visibleChars_iff rate e len _).mp (Nat.le_refl _)).2
  omega

/-- The whole telegram is visible exactly from the moment `11 · len` bit times have passed. -/
theorem sim_complete_iff (rate e len : Nat) :
    visibleChars rate e len = len ↔ 11 * len ≤ timeToBits rate e := by
  have h1 := le_visibleChars_iff rate e len len
  have h2 : visibleChars rate e len ≤ len := Nat.min_le_right _ _
  constructor
  · intro h; exact (h1.mp (by omega)).2
  · intro h; have := h1.mpr ⟨Nat.le_refl _, h⟩; omega

theorem sim_visible_prefix (b : Bus) : ∃ rest, b.visible ++ rest = b.done ++ b.cur := by
  refine ⟨b.cur.drop (visibleChars b.rate b.elapsed b.cur.length), ?_⟩
  unfold Bus.visible
  rw [List.append_assoc, List.take_append_drop]

theorem sim_cursor_eq (b : Bus) : b.cursor = b.visible.length := by
  unfold Bus.cursor Bus.visible
  rw [List.length_append, List.length_take]
  have : visibleChars b.rate b.elapsed b.cur.length ≤ b.cur.length := Nat.min_le_right _ _
  omega

/-- Advancing bus time only extends what is visible: the earlier visible bytes stay a prefix. -/
theorem sim_advance_extends (b : Bus) (us : Nat) : ∃ more, (b.advance us).visible = b.visible ++ more := by
  have hm := sim_visible_mono b.rate b.elapsed (b.elapsed + us) b.cur.length (Nat.le_add_right _ _)
  refine ⟨(b.cur.take (visibleChars b.rate (b.elapsed + us) b.cur.length)).drop (visibleChars b.rate b.elapsed b.cur.length), ?_⟩
  unfold Bus.visible Bus.advance
  simp only
  rw [List.append_assoc]
  congr 1
  have : b.cur.take (visibleChars b.rate b.elapsed b.cur.length) =
      (b.cur.take (visibleChars b.rate (b.elapsed + us) b.cur.length)).take (visibleChars b.rate b.elapsed b.cur.length) := by
    rw [List.take_take, Nat.min_eq_left hm]
  rw [this, List.take_append_drop]

example : visibleChars 1500000 22 6 = 3 ∧ visibleChars 19200 572 3 = 0 ∧ visibleChars 19200 573 3 = 1 := by decide

end PV.C16
