/-
C17 — Diagnostics are decoded correctly and block iteration is total.

Property theorems only; helper lemmas are in `Lemmas/Diag.lean`.  All statements are about
`Model/Diag.lean`, which the `diag` correspondence ties to `src/dp/diagnostics.rs`,
`Peripheral::handle_diagnostics_response` and `DpScanner::parse_diag_response`.

The right-hand sides (`Spec.*`, `WellFormed`, `Malformed`) are written in `Nat` arithmetic over the
bytes and never mention the cursor, the shifts or the masks of the code.
-/
import ProfiVerif.Lemmas.Diag

namespace PV.C17
open PV PV.Diag

/-- For every PDU of at least six bytes the decoded fields equal the bytes of the reply:
`flags` = LE16(pdu[0..2]) with exactly bit 10 (the permanent bit) cleared, `ident` = BE16(pdu[4..6]),
`master_address` = `pdu[3]` unless that is 255.  No index panics. -/
theorem diag_header (pdu : Bytes) (h6 : 6 ≤ pdu.length) :
    ∃ d, decodeInfo pdu = .accept d ∧
      d.flags.toNat = Spec.flagsNat pdu ∧
      d.ident.toNat = Spec.identNat pdu ∧
      d.master = Spec.masterOf pdu := by
  refine ⟨infoOf pdu, ?_, ?_, ?_, rfl⟩
  · rw [decodeInfo_spec]
    have : ¬ pdu.length < 6 := by omega
    simp [this, infoOf]
  · exact flags_toNat _ _
  · simp only [infoOf, be16_toNat, Spec.identNat]

/-- Bit-wise form of the flags equation: bit `i` of the reported flags is bit `i` of the
little-endian word of the first two bytes, except bit 10 which is always clear. -/
theorem diag_flags_bits (pdu : Bytes) (i : Nat) :
    (infoOf pdu).flags.toNat.testBit i =
      (decide (i ≠ 10) && ((pdu.getD 0 0).toNat + 256 * (pdu.getD 1 0).toNat).testBit i) := by
  have hlt : (pdu.getD 0 0).toNat + 256 * (pdu.getD 1 0).toNat < 2 ^ 16 := by
    have h0 := (pdu.getD 0 0).toNat_lt
    have h1 := (pdu.getD 1 0).toNat_lt
    omega
  simp only [infoOf, UInt16.toNat_and, le16_toNat, Nat.testBit_and]
  have hm : (~~~PERMANENT_BIT).toNat = 64511 := by decide
  rw [hm, Bool.and_comm]
  by_cases hi : i < 16
  · have : ∀ j < 16, Nat.testBit 64511 j = decide (j ≠ 10) := by decide
    rw [this i hi]
  · have hp : 2 ^ 16 ≤ 2 ^ i := Nat.pow_le_pow_right (by decide) (by omega)
    rw [Nat.testBit_lt_two_pow (Nat.lt_of_lt_of_le hlt hp)]
    simp

/-- Which replies are diagnostics replies: exactly the data telegrams DSAP 62 ← SSAP 60 with at
least six bytes.  Everything else (short PDU, wrong SAP, token, short confirmation) is rejected;
`.rejected` carries no state, i.e. `diag`, `ext_diag` are left as they were.  No reply makes the
handler panic (including the `{:?}` formatting of the stored blocks in its debug log line). -/
theorem diag_rejects (s : PState) (hv : s.ext.Valid) (t : Telegram) :
    (Spec.accepts t = false → handle s t = .rejected) ∧
    (Spec.accepts t = true → ∃ s', handle s t = .accepted s') ∧
    handle s t ≠ .panic := by
  rw [handle_spec s hv t]
  cases t with
  | token da sa => simp [Spec.accepts]
  | sc => simp [Spec.accepts]
  | data h pdu =>
    by_cases ha : Spec.accepts (.data h pdu) = true
    · simp [ha]
    · simp [ha]

/-- The same acceptance condition and header decoding for the scanner (`DpScanEvent`): a found /
re-queried peripheral is reported with exactly the ident number and master address of the bytes. -/
theorem scan_event (known : Bool) (addr : UInt8) (t : Telegram) :
    scanReply known addr t =
      if Spec.accepts t then
        match t with
        | .data _ pdu =>
          .event (some (if known then .requery addr (infoOf pdu).ident (Spec.masterOf pdu)
                        else .found addr (infoOf pdu).ident (Spec.masterOf pdu))) true
        | _ => .event none known
      else .event none known := by
  cases t with
  | token da sa => simp [scanReply, parseReply, Spec.accepts]
  | sc => simp [scanReply, parseReply, Spec.accepts]
  | data h pdu =>
    unfold scanReply parseReply
    simp only [Spec.accepts, SAP_MASTER_MS0, SAP_SLAVE_DIAGNOSIS, decodeInfo_spec]
    -- both sides test the same three conditions (and `known`): case by case; `omega` only between `¬ len < 6` and `6 ≤ len`
    by_cases hd : h.dsap = some 62 <;> by_cases hs : h.ssap = some 60 <;>
      by_cases hl : pdu.length < 6 <;> cases known <;>
      simp [hd, hs, hl, infoOf, Spec.masterOf, Nat.not_le.mpr, Nat.le_of_not_lt] <;> omega

/-- `fill` stores iff a buffer exists and the data fit; then the raw buffer is exactly the data.
Otherwise *nothing* changes (content and length of the previous reply are kept). The capacity never
changes and the invariant `length ≤ capacity` is preserved. -/
theorem fill_iff (e : ExtDiag) (hv : e.Valid) (src : Bytes) :
    ((e.fill src).2 = true ↔ 0 < e.buf.length ∧ src.length ≤ e.buf.length) ∧
    ((e.fill src).2 = true → (e.fill src).1.raw = .some src) ∧
    ((e.fill src).2 = false → (e.fill src).1 = e) ∧
    (e.fill src).1.Valid ∧ (e.fill src).1.buf.length = e.buf.length := by
  refine ⟨?_, fill_raw src, ?_, fill_valid hv src⟩
  · rw [fill_spec]; split <;> simp_all
  · rw [fill_spec]; split <;> simp_all

/-- What an accepted reply leaves in the peripheral: the decoded header, and as extended
diagnostics `pdu[6..]` iff EXT_DIAG (bit 3 of byte 0) is set, a buffer exists and the data fit it —
otherwise the previously stored extended diagnostics, unchanged. -/
theorem handle_stores (s : PState) (hv : s.ext.Valid) (h : Header) (pdu : Bytes)
    (ha : Spec.accepts (.data h pdu) = true) :
    ∃ s', handle s (.data h pdu) = .accepted s' ∧
      s'.info = some (infoOf pdu) ∧
      s'.ext.Valid ∧ s'.ext.buf.length = s.ext.buf.length ∧
      s'.ext.raw =
        (if s.ext.buf.length = 0 then .none
         else if Spec.stores s.ext.buf.length pdu then .some (pdu.drop 6) else s.ext.raw) := by
  rw [handle_spec s hv, ha]
  refine ⟨_, rfl, rfl, ?_⟩
  by_cases he : Spec.extFlag pdu = true
  · have hf := fill_valid hv (pdu.drop 6)
    refine ⟨by simpa only [he, if_true] using hf.1, by simpa only [he, if_true] using hf.2, ?_⟩
    simp only [he, if_true, fill_raw_eq hv, Spec.stores, List.length_drop, decide_eq_true_eq]
    by_cases h0 : s.ext.buf.length = 0
    · simp [h0]
    · have hpos : 0 < s.ext.buf.length := by omega
      simp [h0, hpos]
  · have he' : Spec.extFlag pdu = false := by simpa using he
    simp only [he', Bool.false_eq_true, if_false]
    refine ⟨hv, trivial, ?_⟩
    have hst : Spec.stores s.ext.buf.length pdu = false := by simp [Spec.stores, he']
    rw [raw_of_valid hv]; simp [hst]

/-- Iterating the blocks of *any* byte string terminates (`length + 1` calls of `next` suffice — no
`.hang`) without panicking, and yields at most `length` blocks. -/
theorem blocks_total (rb : Bytes) :
    ∃ bs, iterBlocks (.some rb) = .ok bs ∧ bs.length ≤ rb.length :=
  ⟨Spec.parse rb, iterBlocks_spec rb, parse_length_le rb⟩

/-- Any larger step bound (the harness uses 1000) observes the same result. -/
theorem blocks_fuel (fuel : Nat) (rb : Bytes) (h : rb.length < fuel) :
    collect fuel (.some rb) 0 = iterBlocks (.some rb) := collect_fuel fuel rb h

/-- A single `next` call never panics, with or without an attached buffer and whatever the cursor,
and once it has returned `None` it keeps returning `None` (the iterator is fused). -/
theorem next_total (raw : Raw) (hr : raw ≠ .panic) (c : Nat) :
    next raw c ≠ .panic ∧
    (∀ c', next raw c = .done c' → next raw c' = .done c') := by
  cases raw with
  | panic => exact absurd rfl hr
  | none =>
    refine ⟨by simp [next], ?_⟩
    intro c' h
    simp only [next] at h ⊢
  | some rb =>
    by_cases hc : c < rb.length
    · rw [next_spec rb c hc]
      cases Spec.blockLen (rb.drop c) with
      | none =>
        refine ⟨by simp, ?_⟩
        intro c' h
        cases h
        exact next_done rb _ (Nat.le_refl _)
      | some n => exact ⟨by simp, by intro c' h; cases h⟩
    · rw [next_done rb c (by omega)]
      refine ⟨by simp, ?_⟩
      intro c' h
      cases h
      exact next_done rb c (by omega)

/-- Without a diagnostics buffer (the default) there is nothing to iterate: `next` returns `None`
at once (repaired finding C17-N1: before /repo b0f2752 the `unwrap()` panicked here). -/
theorem blocks_nobuf : iterBlocks .none = .ok [] ∧ ∀ c, next .none c = .done c :=
  ⟨by decide, fun _ => rfl⟩

/-- For *every* state of `ExtendedDiagnostics` a peripheral can be in (invariant `Valid`), with or
without a buffer: iteration terminates without panic and yields the specification's blocks of the
stored bytes (none without a buffer), and `{:?}` formatting is total. -/
theorem blocks_total_full (e : ExtDiag) (hv : e.Valid) :
    e.blocks = .ok (if e.isAvailable then Spec.parse (e.buf.take e.length) else []) ∧
    e.debugFails = false := by
  refine ⟨?_, debugFails_of_valid hv⟩
  unfold ExtDiag.blocks
  rw [raw_of_valid hv]
  by_cases h0 : e.buf.length = 0
  · have ha : e.isAvailable = false := by simp [ExtDiag.isAvailable, h0]
    simp only [h0, if_true, ha, Bool.false_eq_true, if_false]
    exact blocks_nobuf.1
  · have ha : e.isAvailable = true := by simp [ExtDiag.isAvailable]; omega
    simp [h0, ha, iterBlocks_spec]

/-- The yielded blocks are exactly those of the independent recursive specification … -/
theorem blocks_spec (rb : Bytes) : iterBlocks (.some rb) = .ok (Spec.parse rb) := iterBlocks_spec rb

/-- … whose recursion (free of fuel) is: split off the well-formed block at the head, stop at the end
of the string or at a malformed head. -/
theorem parse_unfold (bs : Bytes) :
    Spec.parse bs =
      match Spec.blockLen bs with
      | none => []
      | some n => Spec.decode (bs.take n) :: Spec.parse (bs.drop n) := PV.Diag.parse_unfold bs

/-- Tiling: the raw spans of the yielded blocks are consecutive, non-overlapping slices of the buffer
starting at offset 0 (their concatenation is a prefix of it), each span is one well-formed block and
is decoded on its own bytes only, and iteration stops exactly where the string ends or where the
next block is malformed (reserved type, zero length, or cut off). -/
theorem blocks_tiling (rb : Bytes) :
    ∃ (spans : List Bytes) (rest : Bytes),
      rb = spans.flatten ++ rest ∧
      (∀ s ∈ spans, WellFormed s) ∧
      (rest = [] ∨ Malformed rest) ∧
      iterBlocks (.some rb) = .ok (spans.map Spec.decode) := by
  obtain ⟨spans, rest, e, hw, hr, hp⟩ := parse_tiling rb
  exact ⟨spans, rest, e, hw, hr, by rw [iterBlocks_spec, hp]⟩

/-- The tiling is unique: *every* decomposition of the buffer into well-formed blocks followed by
nothing or a malformed block gives the yielded blocks; and "malformed" really means that no prefix
of the remainder is a well-formed block ("first malformed block"). -/
theorem blocks_tiling_unique (spans : List Bytes) (rest : Bytes)
    (hw : ∀ s ∈ spans, WellFormed s) (hr : rest = [] ∨ Malformed rest) :
    iterBlocks (.some (spans.flatten ++ rest)) = .ok (spans.map Spec.decode) ∧
    (∀ s tl, rest = s ++ tl → ¬ WellFormed s) := by
  refine ⟨by rw [iterBlocks_spec, tiling_unique spans rest hw hr], ?_⟩
  intro s tl e hs
  rcases hr with rfl | hm
  · obtain ⟨h, t, rfl, _⟩ := hs
    simp at e
  · exact malformed_no_prefix hm e hs

/-! ### Decoding per block type (at an absolute cursor position inside the buffer) -/

/-- Identifier block: header `01nnnnnn`, `n = hdr & 0x3f ≥ 1`, payload = bytes `1..n` of the block
(absolute `c+1 .. c+n`), cursor advances by `n`. -/
theorem decode_identifier (rb : Bytes) (c : Nat) (hc : c < rb.length)
    (hty : (rb.getD c 0).toNat / 64 = 1) (hn : 0 < (rb.getD c 0).toNat % 64)
    (hfit : c + (rb.getD c 0).toNat % 64 ≤ rb.length) :
    next (.some rb) c =
      .yield (.identifier ((rb.drop (c + 1)).take ((rb.getD c 0).toNat % 64 - 1)))
        (c + (rb.getD c 0).toNat % 64) := by
  rw [next_spec rb c hc, drop_cons rb c hc]
  have hl : (rb.drop (c + 1)).length = rb.length - (c + 1) := List.length_drop
  generalize rb.getD c 0 = h at *
  generalize rb.drop (c + 1) = tl at *
  obtain ⟨k, hk⟩ : ∃ k, h.toNat % 64 = k + 1 := ⟨h.toNat % 64 - 1, by omega⟩
  have hle : k + 1 ≤ tl.length + 1 := by omega
  simp [Spec.blockLen, hty, hk, hle, specDecode_identifier _ _ hty]

/-- Device block: header `00nnnnnn`, same layout, payload = the raw bytes. -/
theorem decode_device (rb : Bytes) (c : Nat) (hc : c < rb.length)
    (hty : (rb.getD c 0).toNat / 64 = 0) (hn : 0 < (rb.getD c 0).toNat % 64)
    (hfit : c + (rb.getD c 0).toNat % 64 ≤ rb.length) :
    next (.some rb) c =
      .yield (.device ((rb.drop (c + 1)).take ((rb.getD c 0).toNat % 64 - 1)))
        (c + (rb.getD c 0).toNat % 64) := by
  rw [next_spec rb c hc, drop_cons rb c hc]
  have hl : (rb.drop (c + 1)).length = rb.length - (c + 1) := List.length_drop
  generalize rb.getD c 0 = h at *
  generalize rb.drop (c + 1) = tl at *
  obtain ⟨k, hk⟩ : ∃ k, h.toNat % 64 = k + 1 := ⟨h.toNat % 64 - 1, by omega⟩
  have hle : k + 1 ≤ tl.length + 1 := by omega
  simp [Spec.blockLen, hty, hk, hle, specDecode_device _ _ hty]

/-- Channel block: header `10mmmmmm`, always three bytes: module = low six bits of byte 0, channel
= low six bits of byte 1, input / output = bits 6 / 7 of byte 1, data type = bits 5..7 of byte 2
(0 and 7 → invalid), error = bits 0..4 of byte 2 (1..9 named, 16..31 vendor, rest reserved). -/
theorem decode_channel (rb : Bytes) (c : Nat) (hty : (rb.getD c 0).toNat / 64 = 2)
    (hfit : c + 3 ≤ rb.length) :
    next (.some rb) c =
      .yield (.channel {
        module := UInt8.ofNat ((rb.getD c 0).toNat % 64),
        channel := UInt8.ofNat ((rb.getD (c + 1) 0).toNat % 64),
        input := (rb.getD (c + 1) 0).toNat / 64 % 2 = 1,
        output := (rb.getD (c + 1) 0).toNat / 128 = 1,
        dtype := Spec.dataTypeTable.getD ((rb.getD (c + 2) 0).toNat / 32) .invalid,
        error := Spec.errorOf ((rb.getD (c + 2) 0).toNat % 32) }) (c + 3) := by
  rw [next_spec rb c (by omega)]
  obtain ⟨h, b1, b2, tl, hd⟩ : ∃ h b1 b2 tl, rb.drop c = h :: b1 :: b2 :: tl := by
    have hlen : (rb.drop c).length = rb.length - c := List.length_drop
    match hx : rb.drop c with
    | [] => rw [hx] at hlen; simp at hlen; omega
    | [_] => rw [hx] at hlen; simp at hlen; omega
    | [_, _] => rw [hx] at hlen; simp at hlen; omega
    | h :: b1 :: b2 :: tl => exact ⟨h, b1, b2, tl, rfl⟩
  have g : ∀ i, rb.getD (c + i) 0 = (rb.drop c).getD i 0 := by
    intro i; simp [List.getD_eq_getElem?_getD]
  have g0 := g 0
  have g1 := g 1
  have g2 := g 2
  rw [hd] at g0 g1 g2
  simp only [Nat.add_zero, List.getD_cons_zero, List.getD_cons_succ] at g0 g1 g2
  rw [g0] at hty ⊢
  rw [g1, g2, hd]
  simp [Spec.blockLen, hty, Spec.decode]

/-- The set bits of an identifier block as rendered (`iter_ones`): ascending, and `i` is listed iff
bit `i % 8` of payload byte `i / 8` is set. -/
theorem identifier_bits (bits : Bytes) :
    (ones bits).Pairwise (· < ·) ∧
    ∀ i, i ∈ ones bits ↔ i < 8 * bits.length ∧ (bits.getD (i / 8) 0).toNat / 2 ^ (i % 8) % 2 = 1 := by
  rw [ones_spec]
  unfold Spec.ones
  refine ⟨List.Pairwise.filter _ List.pairwise_lt_range, ?_⟩
  intro i
  simp [List.mem_filter, List.mem_range]

/-! ### Non-vacuity -/

-- the repository's own test vector: identifier, channel and device block
example : iterBlocks (.some [0x44, 0x00, 0x01, 0x00, 0x88, 0x41, 0x21, 0x04, 0x10, 0x20, 0x30]) =
    .ok [.identifier [0x00, 0x01, 0x00],
         .channel ⟨8, 1, true, false, .bit, .shortCircuit⟩,
         .device [0x10, 0x20, 0x30]] := by decide
example : ones [0x00, 0x01, 0x00] = [8] := by decide
-- F5 witnesses: zero-length headers stop the iteration (directly and behind a valid block)
example : iterBlocks (.some [0x00]) = .ok [] ∧ iterBlocks (.some [0x40]) = .ok [] ∧
    iterBlocks (.some [0x02, 0xaa, 0x00, 0x02, 0xbb]) = .ok [.device [0xaa]] := by decide
-- hypotheses of the tiling theorems are met by a string with two blocks and a cut-off remainder
example : WellFormed [0x42, 0x81] ∧ WellFormed [0x81, 0x42, 0x21] ∧ Malformed [0x05, 0x01] :=
  ⟨⟨0x42, [0x81], rfl, Or.inr (by decide)⟩, ⟨0x81, [0x42, 0x21], rfl, Or.inl (by decide)⟩,
   ⟨0x05, [0x01], rfl, Or.inr (Or.inr (Or.inr (by decide)))⟩⟩
-- header: permanent bit removed, ident big-endian, master 255 = none; ext. data stored / not stored
example : decodeInfo [0x08, 0x0c, 0x00, 0xff, 0x12, 0x34] = .accept ⟨0x0808, 0x1234, none⟩ := by decide
example : Spec.flagsNat [0x08, 0x0c, 0x00, 0xff, 0x12, 0x34] = 0x0808 ∧
    Spec.identNat [0x08, 0x0c, 0x00, 0xff, 0x12, 0x34] = 0x1234 := by decide
example : (PState.init 4).ext.Valid ∧
    Spec.accepts (.data goodHeader [0x08, 0x0c, 0x00, 0x03, 0x12, 0x34, 0x02, 0x55]) = true ∧
    Spec.stores 4 [0x08, 0x0c, 0x00, 0x03, 0x12, 0x34, 0x02, 0x55] = true ∧
    Spec.stores 1 [0x08, 0x0c, 0x00, 0x03, 0x12, 0x34, 0x02, 0x55] = false := by
  refine ⟨valid_ofSize 4, by decide, by decide, by decide⟩
example : handle (PState.init 4) (.data goodHeader [0x08, 0x0c, 0x00, 0x03, 0x12, 0x34, 0x02, 0x55]) =
    .accepted ⟨some ⟨0x0808, 0x1234, some 3⟩, ⟨[0x02, 0x55, 0, 0], 2⟩⟩ := by decide
example : (ExtDiag.ofSize 0).Valid ∧ (ExtDiag.ofSize 0).isAvailable = false ∧
    (ExtDiag.ofSize 0).blocks = .ok [] := ⟨valid_ofSize 0, by decide, by decide⟩
example : handle (PState.init 4) .sc = .rejected ∧
    handle (PState.init 4) (.data goodHeader [0x08, 0x0c, 0x00, 0x03, 0x12]) = .rejected := by decide
example : decide (3 < [0x00, 0x43, 0x01, 0x02].length) = true ∧
    ([0x00, 0x43, 0x01, 0x02].getD 1 (0 : UInt8)).toNat / 64 = 1 := by decide

end PV.C17
