/-
C18 — Live list and DP scanner converge to the stations actually on the bus.

The property theorems and the few steps between them; definitions (`App`, `Op`, `Ghost`, `gstep`, `grun`)
and the invariants are in `Lemmas/Apps.lean`.  All statements are about `Model/LiveList.lean` / `Model/Scanner.lean`, which the
`apps` correspondence ties to `src/fdl/live_list.rs` and `src/dp/scan.rs`.

A *history* is a list of operations `tx | reply a t | timeout a | take` run from the initial state by
`grun`, which has the contract of the FDL station (property C15) built in: `reply a t` / `timeout a`
are only possible while a reply from `a` is outstanding (i.e. `a` is the address the application's
last `transmit_telegram` asked a reply from, and no callback has been delivered for it yet), and `t`
must be a short confirmation or a response telegram with SA = `a`, DA = own address.  Anything else
is `refused` (the theorems then say nothing); `tx` and `take` are possible at any time.  `grun`
returns the final model state together with ghost observations of the whole history (see `Ghost`).
Every theorem quantifies over *all* histories (`∀ ops`), all own addresses and all populations `R`.
-/
import ProfiVerif.Lemmas.Apps
import ProfiVerif.Lemmas.Codec

namespace PV.C18
open PV PV.Apps

variable {ε : Type}

/-- No history the contract allows makes either application panic (generic form). -/
theorem no_panic {A : App ε} (hS : A.Spec) (own : Nat) (R : Nat → Bool) (ops : List Op) :
    grun A own R Ghost.init ops ≠ .panic :=
  (inv_run hS own R ops Ghost.init (inv_init A R)).1

theorem livelist_no_panic (own : Nat) (R : Nat → Bool) (ops : List Op) :
    grun llApp own R Ghost.init ops ≠ .panic := no_panic llApp_spec own R ops

theorem scanner_no_panic (own : Nat) (R : Nat → Bool) (ops : List Op) :
    grun scApp own R Ghost.init ops ≠ .panic := no_panic scApp_spec own R ops

/-- Outside the contract: the callbacks panic exactly when the address handed in does not index the
128-bit station array (`.get(addr).unwrap()`), whatever the telegram is. -/
theorem callback_panics_iff {A : App ε} (hS : A.Spec) (s : Sweep ε) (hl : s.stations.length = 128) (a : Nat)
    (t : Telegram) : (A.reply s a t = .panic ↔ 128 ≤ a) ∧ (s.handleTimeout A.lost a = .panic ↔ 128 ≤ a) := by
  by_cases ha : a < 128
  · have hold : s.stations[a]? = some s.stations[a] := by simp [hl, ha]
    obtain ⟨e, he, _⟩ := hS.reply_ok s a t _ hold
    rw [he, timeout_ok A.lost s a _ hold]
    exact ⟨⟨fun h => (by cases h), fun h => (by omega)⟩, ⟨fun h => (by cases h), fun h => (by omega)⟩⟩
  · have hn : s.stations[a]? = none := by simp; omega
    rw [hS.reply_panic s a t hn, timeout_panic A.lost s a hn]
    exact ⟨⟨fun _ => (by omega), fun _ => rfl⟩, ⟨fun _ => (by omega), fun _ => rfl⟩⟩

theorem livelist_callback_panics_iff (s : Sweep StationEvent) (hl : s.stations.length = 128) (a : Nat) (t : Telegram) :
    (LiveList.receiveReply s a t = .panic ↔ 128 ≤ a) ∧ (LiveList.handleTimeout s a = .panic ↔ 128 ≤ a) :=
  callback_panics_iff llApp_spec s hl a t

theorem scanner_callback_panics_iff (s : Sweep DpScanEvent) (hl : s.stations.length = 128) (a : Nat) (t : Telegram) :
    (Scanner.receiveReply s a t = .panic ↔ 128 ≤ a) ∧ (Scanner.handleTimeout s a = .panic ↔ 128 ≤ a) :=
  callback_panics_iff scApp_spec s hl a t

/-- The request either application builds is addressed to the cursor, comes from the own address,
serialises without panic to the PROFIBUS frame layout, and asks for a reply from its DA. -/
theorem request_serializes (own : UInt8) (s : Sweep StationEvent) (s2 : Sweep DpScanEvent) :
    (∀ s' h pdu, LiveList.transmit own s = (s', some (h, pdu)) →
      h = fdlStatusRequestHeader (UInt8.ofNat s.cursor) own ∧ pdu = [] ∧
      h.serialize pdu = .ok (frameSpec h pdu) ∧ expectsReplyOf h = some h.da) ∧
    (∀ s' h pdu, Scanner.transmit own s2 = (s', some (h, pdu)) →
      h = Scanner.diagRequestHeader (UInt8.ofNat s2.cursor) own ∧ pdu = [] ∧
      h.serialize pdu = .ok (frameSpec h pdu) ∧ expectsReplyOf h = some h.da) := by
  constructor
  · intro s' h pdu ht
    unfold LiveList.transmit Sweep.transmit at ht
    by_cases hd : s.done = true
    · simp [hd] at ht
    · simp [hd] at ht
      obtain ⟨_, rfl, rfl⟩ := ht
      refine ⟨rfl, rfl, serialize_ok _ _ (by simp [Header.lengthByte, Header.saps, fdlStatusRequestHeader]), rfl⟩
  · intro s' h pdu ht
    unfold Scanner.transmit Sweep.transmit at ht
    by_cases hd : s2.done = true
    · simp [hd] at ht
    · simp [hd] at ht
      obtain ⟨_, rfl, rfl⟩ := ht
      refine ⟨rfl, rfl, serialize_ok _ _ (by simp [Header.lengthByte, Header.saps, Scanner.diagRequestHeader, SAP_SLAVE_DIAGNOSIS, SAP_MASTER_MS0]), rfl⟩

/-- After any history: the address the next `transmit_telegram` probes is the cursor, is ≤ 125, the
call leaves the state unchanged, and it relates to the previous probe `p` as follows — the very
first probe is address 0; if the callback for `p` was delivered the next probe is `(p + 1) % 126`;
if it was not (the station lost the token before a reply or timeout) `p` is probed again.
No address is skipped — in particular not the own address. -/
theorem probe_range {A : App ε} (hS : A.Spec) (own : Nat) (R : Nat → Bool) (ops : List Op) (g : Ghost ε)
    (h : grun A own R Ghost.init ops = .ok g) (q : Nat) (hq : g.s.transmit.2 = some q) :
    q ≤ 125 ∧ q = g.s.cursor ∧ g.s.transmit.1 = g.s ∧
    (match g.lastProbe with
     | none => q = 0
     | some (p, answered) => p ≤ 125 ∧ q = if answered then (p + 1) % 126 else p) := by
  have hI := ((inv_run hS own R ops Ghost.init (inv_init A R)).2 g h).st
  unfold Sweep.transmit at hq ⊢
  by_cases hd : g.s.done = true
  · simp [hd] at hq
  · have hd' : g.s.done = false := by simpa using hd
    simp only [hd', Bool.false_eq_true, if_false, Option.some.injEq] at hq ⊢
    subst hq
    have hc := hI.cur
    refine ⟨hc, by trivial, by trivial, ?_⟩
    cases hl : g.lastProbe with
    | none =>
      have := hI.lp_none hl
      have := hI.cur_n hd'
      simp only; omega
    | some pa =>
      obtain ⟨p, ans⟩ := pa
      cases ans with
      | false =>
        have := (hI.lp_open p hl).1
        simp only [Bool.false_eq_true, if_false]; omega
      | true =>
        have h3 := hI.lp_ans p hl
        by_cases hid : g.idle = true
        · have := h3.2.1 hid
          simp only [if_true]; omega
        · have hid' : g.idle = false := by simpa using hid
          have := (h3.2.2 hid').2
          rw [hd'] at this; cases this

/-- One probe per visit: `transmit_telegram` declines (returns `None`, ending the visit and advancing
the cursor by one modulo 126) exactly when the callback of the last probe has been delivered and it
has not been called since; and a callback can only ever be delivered for the last probe, once
(`out` is the contract automaton: it is `some a` only directly after a probe of `a`). -/
theorem one_probe_per_visit {A : App ε} (hS : A.Spec) (own : Nat) (R : Nat → Bool) (ops : List Op) (g : Ghost ε)
    (h : grun A own R Ghost.init ops = .ok g) :
    (g.s.transmit.2 = none ↔ ∃ p, g.lastProbe = some (p, true) ∧ g.idle = false) ∧
    (g.s.transmit.2 = none → g.s.transmit.1.cursor = (g.s.cursor + 1) % 126 ∧ g.s.transmit.1.done = false ∧
      g.s.transmit.1.stations = g.s.stations ∧ g.s.transmit.1.pending = g.s.pending) ∧
    (∀ a, g.out = some a → g.lastProbe = some (a, false)) := by
  have hI := ((inv_run hS own R ops Ghost.init (inv_init A R)).2 g h).st
  refine ⟨?_, ?_, hI.out_p⟩
  · unfold Sweep.transmit
    by_cases hd : g.s.done = true
    · simp only [hd, if_true, true_iff]
      cases hl : g.lastProbe with
      | none => have := (hI.lp_none hl).2.1; rw [hd] at this; cases this
      | some pa =>
        obtain ⟨p, ans⟩ := pa
        cases ans with
        | false => have := (hI.lp_open p hl).2.1; rw [hd] at this; cases this
        | true =>
          refine ⟨p, rfl, ?_⟩
          by_cases hid : g.idle = true
          · have := ((hI.lp_ans p hl).2.1 hid).2.1; rw [hd] at this; cases this
          · simpa using hid
    · have hd' : g.s.done = false := by simpa using hd
      simp only [hd', Bool.false_eq_true, if_false, reduceCtorEq, false_iff]
      rintro ⟨p, hl, hid⟩
      have := ((hI.lp_ans p hl).2.2 hid).2
      rw [hd'] at this; cases this
  · unfold Sweep.transmit
    by_cases hd : g.s.done = true
    · have := hI.cur
      simp only [hd, if_true, true_implies]
      refine ⟨?_, by trivial, by trivial, by trivial⟩
      split <;> omega
    · simp [hd]

theorem range128 : List.range 128 = List.range 126 ++ [126, 127] := by decide

/-- Generic convergence: `g.stable` counts how many of the most recent callbacks agreed with the
population `R` (a callback for `a` agrees iff it is an accepted reply when `R a`, and a timeout or a
non-accepted reply when `¬ R a`; a lost reply of a member of `R` therefore resets the count).  Once
the last 126 callbacks — one complete sweep, hence a fortiori "two full address sweeps" — agree, and
the bit after every reply was `accepts` of it (`noStale`; always true for both applications, see
`bit_eq_noStale`), the
station set is exactly `R` restricted to 0..125, whatever happened before. -/
theorem list_tracks {A : App ε} (hS : A.Spec) (own : Nat) (R : Nat → Bool) (ops : List Op) (g : Ghost ε)
    (h : grun A own R Ghost.init ops = .ok g) (hst : 126 ≤ g.stable) (hns : g.noStale = true) :
    g.s.stationList = (List.range 126).filter R := by
  have hI := (inv_run hS own R ops Ghost.init (inv_init A R)).2 g h
  unfold Sweep.stationList
  rw [hI.st.len, range128, List.filter_append]
  have e1 := hI.st.bits_hi 126 (by omega)
  have e2 := hI.st.bits_hi 127 (by omega)
  have h2 : List.filter (fun a => g.s.stations.getD a false) [126, 127] = [] := by
    simp only [List.filter, e1, e2]
  rw [h2, List.append_nil]
  apply List.filter_congr
  intro w hw
  have hw' : w < 126 := by simpa using hw
  have hsn := hI.tr.stable_le
  have hage := hI.tr.age_some w (by omega) (by omega)
  cases ha : g.age w with
  | none => exact absurd ha hage
  | some j =>
    have hj := hI.tr.age_form w j ha
    have hb := hI.tr.fresh w j ha (by omega)
    rw [hI.tr.bit hns w, hb]
    cases R w <;> rfl

/-- The two sticky flags about replies only move at a `reply` step (a time-out counts as a good,
non-stale callback). -/
theorem gstep_sticky {A : App ε} {own : Nat} {R : Nat → Bool} {g g' : Ghost ε} {op : Op}
    (hs : gstep A own R g op = .ok g') :
    (g'.noStale = g.noStale ∧ g'.goodReplies = g.goodReplies) ∨
    ∃ a t, op = .reply a t ∧
      g'.noStale = (g.noStale && (A.bit (g.s.stations.getD a false) t == A.accepts t)) ∧
      g'.goodReplies = (g.goodReplies && A.good t) := by
  cases op with
  | tx => simp only [gstep] at hs; split at hs <;> (cases hs; exact .inl ⟨rfl, rfl⟩)
  | take => simp only [gstep] at hs; cases hs; exact .inl ⟨rfl, rfl⟩
  | reply a t =>
    simp only [gstep] at hs
    split at hs
    · cases hs
    · split at hs
      · cases hs
      · cases hs; exact .inr ⟨a, t, rfl, rfl, rfl⟩
  | timeout a =>
    simp only [gstep] at hs
    split at hs
    · cases hs
    · split at hs
      · cases hs
      · cases hs; exact .inl ⟨by simp [Ghost.afterCallback], by simp [Ghost.afterCallback]⟩

/-- In both applications the station bit after a reply is `accepts` of that reply (live list: always
set; scanner since c0f8a92: set iff the reply is a well-formed diagnostics response), so `noStale`
holds after every history. -/
theorem bit_eq_noStale {A : App ε} (hacc : ∀ old t, A.bit old t = A.accepts t) (own : Nat) (R : Nat → Bool)
    (ops : List Op) : ∀ (g0 g : Ghost ε), g0.noStale = true → grun A own R g0 ops = .ok g → g.noStale = true := by
  refine grun_preserves (fun g => g.noStale = true) ?_ ops
  intro g op g' h0 hs
  rcases gstep_sticky hs with ⟨e, -⟩ | ⟨a, t, -, e, -⟩
  · rw [e]; exact h0
  · rw [e, h0, hacc]; simp

/-- Live list: for every history and every own address, once the last 126 callbacks agree with the
population `pop` of *other* stations (members answered with any reply, all other addresses — among
them the own address, which is probed like any other but cannot answer — timed out),
`iter_stations()` yields exactly `pop \ {own}` within 0..125, ascending. -/
theorem livelist_list_tracks (own : Nat) (pop : Nat → Bool) (ops : List Op) (g : Ghost StationEvent)
    (h : grun llApp own (fun a => pop a && (a != own)) Ghost.init ops = .ok g) (hst : 126 ≤ g.stable) :
    LiveList.stations g.s = (List.range 126).filter (fun a => pop a && (a != own)) :=
  list_tracks llApp_spec own _ ops g h hst
    (bit_eq_noStale (fun _ _ => rfl) own _ ops Ghost.init g rfl h)

/-- DP scanner (full statement, no extra hypothesis since the repair c0f8a92): for every history and
every own address, once the last 126 callbacks agree with `R` — the addresses in `R` answered with a
well-formed diagnostics response, every other address timed out *or answered with anything else* —
the scanner's station set is exactly `R` within 0..125. -/
theorem scanner_list_tracks_full (own : Nat) (R : Nat → Bool) (ops : List Op) (g : Ghost DpScanEvent)
    (h : grun scApp own R Ghost.init ops = .ok g) (hst : 126 ≤ g.stable) :
    Scanner.stations g.s = (List.range 126).filter R :=
  list_tracks scApp_spec own R ops g h hst
    (bit_eq_noStale (fun _ _ => rfl) own R ops Ghost.init g rfl h)

/-- Evaluate a (decidable) predicate on the outcome of a history; `false` if it panicked / was refused. -/
def holds (r : Res (Ghost ε)) (p : Ghost ε → Bool) : Bool :=
  match r with
  | .ok g => p g
  | _ => false

theorem holds_ok {r : Res (Ghost ε)} {p : Ghost ε → Bool} (h : holds r p = true) : ∃ g, r = .ok g ∧ p g = true := by
  cases r with
  | ok g => exact ⟨g, rfl, h⟩
  | panic => cases h
  | refused => cases h

/-- One visit of address `a`: probe, callback (`some t` = reply, `none` = timeout), collect, end of visit. -/
def visitOps (a : Nat) (r : Option Telegram) : List Op :=
  [.tx, (match r with | some t => .reply a t | none => .timeout a), .take, .tx]

def sweepOps (env : Nat → Option Telegram) : List Op :=
  (List.range 126).flatMap fun a => visitOps a (env a)

/-- A well-formed diagnostics response of address `a` to station `own` (ident 0x1234, master 2). -/
def diagReply (a own : UInt8) : Telegram :=
  .data { da := own, sa := a, dsap := SAP_MASTER_MS0, ssap := SAP_SLAVE_DIAGNOSIS, fc := .response .slave .dataLow }
    [0x02, 0x05, 0x00, 0x02, 0x12, 0x34]

/-- The history that witnessed the former finding `K_C18_scanner_stale`: address 0 is found as a DP
peripheral, every other address is silent; from the next sweep on address 0 answers with a short
confirmation (it is no DP peripheral any more, but something still answers). -/
def staleOps : List Op :=
  sweepOps (fun a => if a = 0 then some (diagReply 0 2) else none) ++ visitOps 0 (some .sc)

/-- Regression of the repaired behaviour (c0f8a92): the scanner reports peripheral 0 lost and forgets it. -/
theorem stale_peripheral_is_lost :
    holds (grun scApp 2 (fun _ => false) Ghost.init staleOps)
      (fun g => decide (126 ≤ g.stable) && decide (Scanner.stations g.s = []) && decide (g.evs 0 = [false, true])) = true := by
  decide +kernel

theorem pendFor_short (A : App ε) (w : Nat) (s : Sweep ε) : pendFor A w s = [] ∨ ∃ b, pendFor A w s = [b] := by
  unfold pendFor
  split
  · split
    · exact Or.inr ⟨_, rfl⟩
    · exact Or.inl rfl
  · exact Or.inl rfl

/-- Events report exactly the changes of the station bit: if `take_last_event` was called between any
two callbacks (`collected`) and every reply was one of the stated population (`goodReplies`; for the
live list: a response telegram, not a short confirmation), then for every address `w` the sequence
of Discovered/Found (`true`) and Lost (`false`) events taken so far, plus the one still pending, *is*
the sequence of changes of the station bit of `w` (one event per change, none without a change,
`Requery` events not counted), and the current bit is the last change. -/
theorem events_track_changes {A : App ε} (hS : A.Spec) (own : Nat) (R : Nat → Bool) (ops : List Op) (g : Ghost ε)
    (h : grun A own R Ghost.init ops = .ok g) (hc : g.collected = true) (hg : g.goodReplies = true) (w : Nat) :
    pendFor A w g.s ++ g.evs w = g.chg w ∧ g.s.stations.getD w false = (g.chg w).headD false := by
  have hI := (inv_run hS own R ops Ghost.init (inv_init A R)).2 g h
  exact ⟨hI.ev.log hc hg w, hI.ev.head w⟩

/-- … and therefore, per address, Discovered/Found and Lost strictly alternate, starting with
Discovered/Found (`alt` of the newest-first list: neighbours differ, the oldest is `true`). -/
theorem events_alternate {A : App ε} (hS : A.Spec) (own : Nat) (R : Nat → Bool) (ops : List Op) (g : Ghost ε)
    (h : grun A own R Ghost.init ops = .ok g) (hc : g.collected = true) (hg : g.goodReplies = true) (w : Nat) :
    alt (g.evs w) = true ∧ alt (pendFor A w g.s ++ g.evs w) = true := by
  have hI := (inv_run hS own R ops Ghost.init (inv_init A R)).2 g h
  have h1 := hI.ev.log hc hg w
  have h2 := hI.ev.altc w
  rw [← h1] at h2
  refine ⟨?_, h2⟩
  rcases pendFor_short A w g.s with h0 | ⟨b, hb⟩
  · rw [h0] at h2; exact h2
  · rw [hb] at h2; exact alt_tail b _ h2

theorem livelist_events_alternate (own : Nat) (R : Nat → Bool) (ops : List Op) (g : Ghost StationEvent)
    (h : grun llApp own R Ghost.init ops = .ok g) (hc : g.collected = true) (hg : g.goodReplies = true) (w : Nat) :
    alt (g.evs w) = true ∧ pendFor llApp w g.s ++ g.evs w = g.chg w :=
  ⟨(events_alternate llApp_spec own R ops g h hc hg w).1, (events_track_changes llApp_spec own R ops g h hc hg w).1⟩

/-- For the scanner every reply is `good` (the hypothesis is only needed for the live list). -/
theorem good_all {A : App ε} (hgood : ∀ t, A.good t = true) (own : Nat) (R : Nat → Bool)
    (ops : List Op) : ∀ (g0 g : Ghost ε), g0.goodReplies = true → grun A own R g0 ops = .ok g → g.goodReplies = true := by
  refine grun_preserves (fun g => g.goodReplies = true) ?_ ops
  intro g op g' h0 hs
  rcases gstep_sticky hs with ⟨-, e⟩ | ⟨a, t, -, -, e⟩
  · rw [e]; exact h0
  · rw [e, h0, hgood]; rfl

theorem scanner_events_alternate (own : Nat) (R : Nat → Bool) (ops : List Op) (g : Ghost DpScanEvent)
    (h : grun scApp own R Ghost.init ops = .ok g) (hc : g.collected = true) (w : Nat) :
    alt (g.evs w) = true ∧ pendFor scApp w g.s ++ g.evs w = g.chg w :=
  have hg := good_all (A := scApp) (fun _ => rfl) own R ops Ghost.init g rfl h
  ⟨(events_alternate scApp_spec own R ops g h hc hg w).1, (events_track_changes scApp_spec own R ops g h hc hg w).1⟩

/-- What a scanner event says: for a reply `t` from an address `a < 128`, the pending event is
`PeripheralFound` (address unknown) / `PeripheralRequery` (known) carrying
ident = BE16(pdu[4..6]) and the master address pdu[3] (255 = none) exactly when `t` is a data telegram
with DSAP 62, SSAP 60 and at least 6 PDU bytes; otherwise a known peripheral is forgotten with a
`PeripheralLost` event, and for an unknown address nothing happens. -/
theorem scanner_reply_event (s : Sweep DpScanEvent) (a : Nat) (t : Telegram) (known : Bool) (hk : s.stations[a]? = some known) :
    (∀ h pdu, t = .data h pdu → h.dsap = some 62 → h.ssap = some 60 → 6 ≤ pdu.length →
      let desc : DpDesc := ⟨a, (pdu.getD 4 0).toNat * 256 + (pdu.getD 5 0).toNat,
                            if pdu.getD 3 0 = 255 then none else some (pdu.getD 3 0).toNat⟩
      Scanner.receiveReply s a t =
        .ok { s with done := true, pending := some (if known then .requery desc else .found desc), stations := s.stations.set a true }) ∧
    ((∀ h pdu, t = .data h pdu → ¬ (h.dsap = some 62 ∧ h.ssap = some 60 ∧ 6 ≤ pdu.length)) →
      Scanner.receiveReply s a t =
        .ok { s with done := true, pending := if known then some (.lost a) else none, stations := s.stations.set a false }) := by
  constructor
  · intro h pdu ht hd hs hl
    subst ht
    have hp : parseDiagResponse (.data h pdu) = .ok (some ⟨(pdu.getD 4 0).toNat * 256 + (pdu.getD 5 0).toNat,
        if pdu.getD 3 0 = 255 then none else some (pdu.getD 3 0).toNat⟩) := by
      unfold parseDiagResponse
      simp only [hd, hs, SAP_MASTER_MS0, SAP_SLAVE_DIAGNOSIS, ne_eq, not_true_eq_false, if_false]
      rw [if_neg (by omega), if_neg (by omega)]
    cases known with
    | true => simp [Scanner.receiveReply, hk, hp, set_self _ _ _ hk]
    | false => simp [Scanner.receiveReply, hk, hp]
  · intro hno
    have hp : parseDiagResponse t = .ok none := by
      cases t with
      | data h pdu =>
        have := hno h pdu rfl
        unfold parseDiagResponse
        simp only [SAP_MASTER_MS0, SAP_SLAVE_DIAGNOSIS]
        by_cases h1 : h.dsap = some 62
        · by_cases h2 : h.ssap = some 60
          · have : pdu.length < 6 := by
              rcases Nat.lt_or_ge pdu.length 6 with h3 | h3
              · exact h3
              · exact absurd ⟨h1, h2, h3⟩ this
            simp [h1, h2, this]
          · simp [h1, h2]
        · simp [h1]
      | token _ _ => rfl
      | sc => rfl
    cases known with
    | true => simp [Scanner.receiveReply, hk, hp]
    | false => simp [Scanner.receiveReply, hk, hp, set_self _ _ _ hk]

/-- Why `goodReplies` is needed for the live list: a short confirmation as "reply" to the status
request sets the bit without a `Discovered` event (the history is allowed by the contract). -/
theorem livelist_sc_sets_bit_silently :
    holds (grun llApp 2 (fun _ => false) Ghost.init [.tx, .reply 0 .sc, .take]) (fun g =>
      LiveList.stations g.s = [0] ∧ g.evs 0 = [] ∧ g.chg 0 = [true] ∧ g.collected = true ∧ g.goodReplies = false) = true := by
  decide +kernel

def statusReply (a own : UInt8) : Telegram := .data (fdlStatusResponseHeader own a .slave .ok) []

/-- Stations 3 and 125 answer during two sweeps, then 3 disappears for a sweep: the hypotheses of
`livelist_list_tracks` / `events_alternate` hold (`stable ≥ 126`, `collected`, `goodReplies`) and the
conclusions are the expected concrete values. -/
example :
    let env1 : Nat → Option Telegram := fun a => if a = 3 ∨ a = 125 then some (statusReply (UInt8.ofNat a) 7) else none
    let env2 : Nat → Option Telegram := fun a => if a = 125 then some (statusReply 125 7) else none
    holds (grun llApp 7 (fun a => (a == 125) && (a != 7)) Ghost.init (sweepOps env1 ++ sweepOps env1 ++ sweepOps env2)) (fun g =>
      126 ≤ g.stable ∧ g.collected = true ∧ g.goodReplies = true ∧
      LiveList.stations g.s = [125] ∧ g.evs 3 = [false, true] ∧ g.evs 125 = [true] ∧ g.evs 7 = []) = true := by
  decide +kernel

/-- The scanner finds peripheral 0 (ident 0x1234, master 2) and re-queries it on the next sweep. -/
example :
    let env : Nat → Option Telegram := fun a => if a = 0 then some (diagReply 0 2) else none
    holds (grun scApp 2 (fun a => a == 0) Ghost.init (sweepOps env ++ [.tx, .reply 0 (diagReply 0 2)])) (fun g =>
      126 ≤ g.stable ∧ g.noStale = true ∧ g.collected = true ∧ Scanner.stations g.s = [0] ∧
      g.s.pending = some (.requery ⟨0, 0x1234, some 2⟩) ∧ g.evs 0 = [true]) = true := by
  decide +kernel

/-- The contract is not vacuous the other way either: a reply from an address that was not probed is refused. -/
example : (match grun llApp 2 (fun _ => false) Ghost.init [.tx, .reply 5 (statusReply 5 2)] with
    | .refused => true | _ => false) = true := by decide +kernel

/-- Cursor wrap: after probing 125 the next probe is 0 (never 126). -/
example : holds (grun llApp 2 (fun _ => false) Ghost.init (sweepOps fun _ => none)) (fun g =>
    g.lastProbe = some (125, true) ∧ g.s.transmit.2 = some 0) = true := by decide +kernel

end PV.C18
