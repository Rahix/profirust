/-
C18 for the composed systems FDL ∘ LiveList and FDL ∘ DpScanner (`Lemmas/StackApps.lean`).

The theorems of `Props/C18.lean` are stated for histories the FDL contract (C15) allows.  For the
station model with the live-list / DP-scanner model as its only application the contract is a theorem
(`StackApps.apps_log_is_contract_history`), and every run is regular (`StackApps.apps_run_total`): so
the clauses of C18 hold of the composed systems with no assumption about the FDL layer.
-/
import ProfiVerif.Props.C18
import ProfiVerif.Lemmas.StackApps
import ProfiVerif.Lemmas.StackEx

namespace PV.C18
open PV PV.Apps

/-- The composition asks the application models themselves: the answer handed to the station is the
telegram `LiveList.transmit` / `Scanner.transmit` builds, and the state moves as they say. -/
theorem stack_answer_is_transmit (own : UInt8) (a : Sweep StationEvent) (b : Sweep DpScanEvent) :
    (StackApps.answer fdlStatusRequestHeader own a =
        (match (LiveList.transmit own a).2 with | some (h, pdu) => .send h pdu | none => .decline) ∧
      (LiveList.transmit own a).1 = a.transmit.1) ∧
    (StackApps.answer Scanner.diagRequestHeader own b =
        (match (Scanner.transmit own b).2 with | some (h, pdu) => .send h pdu | none => .decline) ∧
      (Scanner.transmit own b).1 = b.transmit.1) := by
  constructor
  · unfold StackApps.answer LiveList.transmit
    rcases Sweep.transmit a with ⟨s1, o⟩
    cases o <;> exact ⟨rfl, rfl⟩
  · unfold StackApps.answer Scanner.transmit
    rcases Sweep.transmit b with ⟨s1, o⟩
    cases o <;> exact ⟨rfl, rfl⟩

/-- **No panic, composed**: station ∘ live list and station ∘ scanner run regularly for every parameter
set `ParametersBuilder` produces and every sequence of polls (any bytes, PHY flags, times),
`set_online` / `set_offline` and `take_last_event` calls — neither the station nor the application
reaches a panic site — and the callbacks made form a contract history ending in the application's state. -/
theorem stack_livelist_total (R : Nat → Bool) (p : Params) (h1 : p.address < p.hsa) (h2 : p.hsa ≤ 126)
    (calls : List StackApps.Call) :
    ∃ k' l g, StackApps.run llApp fdlStatusRequestHeader (StackApps.init p) calls = .ok (k', l) ∧
      grun llApp p.address R Ghost.init l = .ok g ∧ g.s = k'.a :=
  let ⟨k', l, g, hr, hg, hs, _⟩ := StackApps.apps_run_total llApp_spec StackApps.llHdr_ok R p h1 h2 calls
  ⟨k', l, g, hr, hg, hs⟩

theorem stack_scanner_total (R : Nat → Bool) (p : Params) (h1 : p.address < p.hsa) (h2 : p.hsa ≤ 126)
    (calls : List StackApps.Call) :
    ∃ k' l g, StackApps.run scApp Scanner.diagRequestHeader (StackApps.init p) calls = .ok (k', l) ∧
      grun scApp p.address R Ghost.init l = .ok g ∧ g.s = k'.a :=
  let ⟨k', l, g, hr, hg, hs, _⟩ := StackApps.apps_run_total scApp_spec StackApps.scHdr_ok R p h1 h2 calls
  ⟨k', l, g, hr, hg, hs⟩

/-- **`list_tracks`, composed (live list)**: in any run of station ∘ live list, once the last 126
callbacks the station made agree with the population `pop` of other stations, `iter_stations()` of the
live list yields exactly `pop \ {own}` within 0..125. -/
theorem stack_livelist_list_tracks (pop : Nat → Bool) (p : Params) (h1 : p.address < p.hsa) (h2 : p.hsa ≤ 126)
    (calls : List StackApps.Call) :
    ∃ k' l g, StackApps.run llApp fdlStatusRequestHeader (StackApps.init p) calls = .ok (k', l) ∧
      grun llApp p.address (fun a => pop a && (a != p.address)) Ghost.init l = .ok g ∧
      (126 ≤ g.stable → LiveList.stations k'.a = (List.range 126).filter (fun a => pop a && (a != p.address))) := by
  obtain ⟨k', l, g, hr, hg, hs⟩ := stack_livelist_total (fun a => pop a && (a != p.address)) p h1 h2 calls
  exact ⟨k', l, g, hr, hg, fun hst => by rw [← hs]; exact livelist_list_tracks p.address pop l g hg hst⟩

theorem stack_scanner_list_tracks (R : Nat → Bool) (p : Params) (h1 : p.address < p.hsa) (h2 : p.hsa ≤ 126)
    (calls : List StackApps.Call) :
    ∃ k' l g, StackApps.run scApp Scanner.diagRequestHeader (StackApps.init p) calls = .ok (k', l) ∧
      grun scApp p.address R Ghost.init l = .ok g ∧
      (126 ≤ g.stable → Scanner.stations k'.a = (List.range 126).filter R) := by
  obtain ⟨k', l, g, hr, hg, hs⟩ := stack_scanner_total R p h1 h2 calls
  exact ⟨k', l, g, hr, hg, fun hst => by rw [← hs]; exact scanner_list_tracks_full p.address R l g hg hst⟩

/-- **`events_alternate`, composed**: with events collected after every callback (and, for the live
list, responders that answer status requests with a response telegram), Discovered/Found and Lost
alternate per address in every run of the composed system. -/
theorem stack_events_alternate {ε : Type} {A : App ε} (hS : A.Spec) {hdr : UInt8 → UInt8 → Header}
    (hh : StackApps.HdrOk hdr) (R : Nat → Bool) (p : Params) (h1 : p.address < p.hsa) (h2 : p.hsa ≤ 126)
    (calls : List StackApps.Call) :
    ∃ k' l g, StackApps.run A hdr (StackApps.init p) calls = .ok (k', l) ∧ grun A p.address R Ghost.init l = .ok g ∧
      (g.collected = true → g.goodReplies = true → ∀ w, alt (g.evs w) = true ∧ alt (pendFor A w k'.a ++ g.evs w) = true) := by
  obtain ⟨k', l, g, hr, hg, hs, _⟩ := StackApps.apps_run_total hS hh R p h1 h2 calls
  exact ⟨k', l, g, hr, hg, fun hc hgd w => by rw [← hs]; exact events_alternate hS p.address R l g hg hc hgd w⟩

/-- Composed, the range part of `probe_range`: after every run the cursor (the address probed next) is
≤ 125 and the station array still has its 128 bits. -/
theorem stack_probe_le {ε : Type} {A : App ε} (hS : A.Spec) {hdr : UInt8 → UInt8 → Header}
    (hh : StackApps.HdrOk hdr) (p : Params) (h1 : p.address < p.hsa) (h2 : p.hsa ≤ 126)
    (calls : List StackApps.Call) :
    ∃ k' l, StackApps.run A hdr (StackApps.init p) calls = .ok (k', l) ∧ k'.a.cursor ≤ 125 ∧ k'.a.stations.length = 128 := by
  obtain ⟨k', l, g, hr, _, hs, hI⟩ := StackApps.apps_run_total hS hh (fun _ => false) p h1 h2 calls
  exact ⟨k', l, hr, by rw [← hs]; exact hI.st.cur, by rw [← hs]; exact hI.st.len⟩

/-! ### Non-vacuity: station 2 claims the token on a silent bus, the live list probes address 0
(answered), the user takes the event, address 1 is probed and times out — and in the same poll the
live list is asked again, in its state AFTER the time-out (it declines and moves its cursor to 2). -/

def sStatus0 : Bytes := [16, 2, 0, 0, 2, 22]

def sCalls : List StackApps.Call :=
  [.setOnline, .poll 0 false [], .poll 100000 false [], .poll 101000 false [], .poll 102000 false [],
   .poll 103000 false [], .poll 104000 false [], .poll 105000 false [], .poll 106000 false [], .poll 107000 false [],
   .poll 108000 false sStatus0, .take, .poll 109000 false [], .poll 110000 false [], .poll 111000 false [],
   .poll 112000 false [], .poll 113000 false []]

/-- Kind and address of an operation (for comparing logs). -/
def opCode : Apps.Op → List Nat
  | .tx => [0]
  | .reply a _ => [1, a]
  | .timeout a => [2, a]
  | .take => [3]

def sCheck : Bool :=
  match StackApps.run llApp fdlStatusRequestHeader (StackApps.init Stack.Ex.params) sCalls with
  | .ok (k, l) =>
    l.map opCode == [[0], [1, 0], [3], [0], [0], [2, 1], [0], [0]] &&
    LiveList.stations k.a == [0] && k.a.cursor == 2
  | _ => false

example : sCheck = true := by decide +kernel

end PV.C18
