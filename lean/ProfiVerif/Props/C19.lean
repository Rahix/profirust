/-
C19 — The GSD parser never panics and reproduces what the file says.

Property theorems only; helper lemmas are in `Lemmas/Gsd*.lean` and `Lemmas/Peg*.lean`.  The interpretation
and lexical theorems are about `Model/Gsd/Interp.lean` (typed AST → description | error | panic); the
grammar- and text-level theorems are about `parse = interp ∘ toAst ∘ PEG`, where the PEG interpreter of
`Model/Gsd/Peg.lean` (a hand-written, unverified model of pest's semantics) runs the grammar generated
from gsd.pest (`Model/Gsd/Grammar.lean`).  The `gsd` correspondence ties `parse` to
`gsd_parser::parser::parse_with_warnings`.
-/
import ProfiVerif.Lemmas.GsdFaithful5
import ProfiVerif.Lemmas.PegAst
import ProfiVerif.Lemmas.PegTextDescAll
import ProfiVerif.Lemmas.PegTextCheck

namespace PV.C19
open PV.Gsd

/-- **The interpretation never panics.**  For **every** AST — any statement list, any setting key with
any value kind (string where a number is expected and vice versa, number lists, family identifiers),
with or without `(index)`, any number token text (floats, negative, overflowing, empty), any data type
identifier, dangling `Ext_User_Prm_Data_Ref`, unknown `Prm_Text_Ref`, slots without modules — the
interpretation returns a description or an error value.  (A setting that lacks its `(index)` is an error
value in parser.rs as of /repo 1c3df29, finding F13-gsd-unindexed; the model mirrors that.) -/
theorem interp_no_panic (ast : Ast) : interp ast ≠ .panic := by
  unfold interp
  exact Res.safe_bind' (safe_run _ _) fun st => safe_finish st

/-- `Unit_Diag_Bit=1` (a setting that needs an `(index)` but has none, the witness of finding
F13-gsd-unindexed) is the error "missing value after the index in parentheses" … -/
theorem interp_unindexed_is_error :
    interp [.setting { key := "Unit_Diag_Bit".toList, index := none, value := .num (.dec "1".toList) }] =
      .err .missing := by
  have h1 : "1".toList = ['1'] := String.toList_ofList
  rw [interp, run, doStmt_special (kind_of 47 rfl rfl) rfl, h1]
  rfl

/-- … because a setting without `(index)` has no second argument.  (The eight keys that read one —
at top level and inside a module — ask for it after parsing the first as a number, so the number
error comes first if that fails.) -/
theorem second_missing (s : Setting) (h : s.index = none) : s.second = .err .missing := by
  simp [Setting.second, h]

/-! ### The description is reproduced -/

/-- **Faithfulness of the interpretation layer.**  For every description `d` in the domain of the
canonical printer (`Desc.WF`: integer fields within their Rust types, strings that survive
string-literal unquoting, distinct map keys, slots that name the first module carrying their
reference number, compact stations with `max_modules = 1`, station-wide parameter block of legacy
*or* extended shape) the AST `astOf d` — all identification data, flags, speeds and response times,
one `PrmText`/`ExtUserPrmData` block per referenced parameter definition, the station-wide
parameter block, the modules with config bytes / reference / info text / parameter block, the
slots, the unit-diagnostic bits and areas — is interpreted to exactly `d` (field by field: the
result *is* `d`), including the post-processing of legacy prm data and of compact stations. -/
theorem interp_faithful (d : Desc) (h : d.WF) : ∃ ws, interp (astOf d) = .ok (d, ws) :=
  ⟨warnsOf d, interp_astOf_ws d h⟩

/-! ### Lexical layer -/

/-- Decimal number token of any natural number under `parse_number::<T>` (`max` = largest value of
`T`): the value; a range error if it does not fit `T`; the digit error if it does not fit `u32`. -/
theorem lex_decimal (max n : Nat) :
    parseTok max (decTok n) =
      if n < 4294967296 then (if n ≤ max then .ok n else .err .range) else .err .digit :=
  parseTok_decTok max n

/-- The same for a hexadecimal token `0x…`. -/
theorem lex_hex (max n : Nat) :
    parseTok max (.hex (hexText n)) =
      if n < 4294967296 then (if n ≤ max then .ok n else .err .range) else .err .digit :=
  parseTok_hexTok max n

/-- Leading zeros do not change the value of a digit string (either radix). -/
theorem lex_leading_zero (r : Nat) (s : Str) : digitsVal r ('0' :: s) 0 = digitsVal r s 0 :=
  digitsVal_leading_zero r s

/-- A negative decimal token is never an unsigned number (it is an error, not a panic). -/
theorem lex_negative_unsigned (max : Nat) (s : Str) : parseTok max (.dec ('-' :: s)) = .err .digit := by
  simp [parseTok, u32_dec_minus]

/-- Signed decimal tokens (`parse_signed_number`): the value if it fits `i64`, otherwise the error. -/
theorem lex_signed (z : Int) :
    parseSignedTok (intTok z) = if I64 z then .ok z else .err .sdigit := by
  by_cases h : I64 z
  · simp [h, parseSignedTok_intTok h]
  · simp [h, parseSignedTok_overflow h]

/-- String literal: backslash-free text interrupted at arbitrary places by `\` LF or `\` CR LF line
continuations unquotes to the text without the continuations. -/
theorem lex_string_continuations (ps : List Piece) (h : ∀ p ∈ ps, p.ok) :
    parseStr (.str (quote (piecesText ps))) = .ok (piecesContent ps) := by
  simp only [parseStr]; rw [unquote_pieces ps h]

/-- Strings in which no backslash stands directly in front of a line break are reproduced exactly. -/
theorem lex_string_plain (s : Str) (h1 : NoOcc ['\\', '\r', '\n'] s) (h2 : NoOcc ['\\', '\n'] s) :
    parseStr (.str (quote s)) = .ok s :=
  parseStr_quote (clean_of_noOcc s h1 h2)

/-- Keyword case: a setting acts through the ASCII-lower-cased key only (top level, inside a module,
data type names). -/
theorem lex_key_case (st : St) (s : Setting) (key' : Str) (h : lower key' = lower s.key) :
    doSetting st { s with key := key' } = doSetting st s :=
  doSetting_key_case st s key' h

theorem lex_key_case_module (st : St) (acc : ModAcc) (s : Setting) (key' : Str) (h : lower key' = lower s.key) :
    moduleSetting st acc { s with key := key' } = moduleSetting st acc s :=
  moduleSetting_key_case st acc s key' h

theorem lex_type_case (a b : Str) (h : lower a = lower b) : dataTypeOfName a = dataTypeOfName b :=
  dataTypeOfName_case a b h

/-! ### The grammar layer -/

/-- **The parser model never panics, end to end.**  For **every** input text the model
`parse = interp ∘ toAst ∘ PEG(gsd.pest)` of `gsd_parser::parser::parse_with_warnings` answers a
description, an error value or (see `parse_fuel_full`) "out of fuel" — never `panic`:
every pair tree the PEG interpreter builds for the grammar *generated from gsd.pest* has the shape
`toAst` (i.e. the `match pair.as_rule()` / `.next().unwrap()` / `assert!` / `unreachable!()` code of
parser.rs) expects, and the interpretation of the resulting AST never panics (`interp_no_panic`).

Proof: `Peg.eval_prod` (for an arbitrary grammar, whatever `eval` produces for an expression is in the
tree language `Prod` of that expression), `Peg.acc_checked` (a kernel-evaluated decision procedure,
sound by `Peg.postE_sound`: the child words of every rule of the generated grammar lie in the regular
language `Peg.acc r` that `toAst` digests — re-evaluated whenever Grammar.lean is regenerated), and
`Peg.toAst_total` (`toAst` is total on such trees). -/
theorem parse_no_panic_full (text : Str) : parse text ≠ some .panic := by
  unfold parse
  split
  · simp
  · simp
  · next tree htree =>
    obtain ⟨hr, hok⟩ := Peg.parseGsd_ok Peg.acc_checked Peg.gsd_not_silent htree
    obtain ⟨ast, hast⟩ := Peg.toAst_total hok hr
    rw [hast]
    simp only [ne_eq, Option.some.injEq]
    exact interp_no_panic ast

/-- Non-vacuity: a text that goes through the PEG, `toAst` and the interpretation. -/
example : (match parse "#Profibus_DP\nVendor_Name = \"x\" ; c\nModule = \"m\" 0x10, 2\n7\nEndModule\n".toList with
    | some (.ok (d, _)) => d.vendor == ['x'] && d.availableModules.length == 1
    | _ => false) = true := by
  decide +kernel

/-- The static recursion depth of the generated grammar is defined (no recursive rule, no repetition
with a possibly empty body — the conditions pest's own validator imposes) and at most 1000; evaluated
by the kernel, re-evaluated whenever Grammar.lean is regenerated. -/
theorem fuel_checked : Peg.fuelCheck 1000 = true := by decide +kernel

/-- **The PEG interpreter never runs out of fuel**: for **every** text the bound `3·len + 1000` used by
`parse` suffices (`Peg.noFuelAt`, for an arbitrary grammar: `eval` needs at most
`depth e + remaining length` levels of recursion, because every level either descends in the
expression / rule nesting or is an iteration of a repetition whose body consumes input). -/
theorem parse_fuel_full (text : Str) : parse text ≠ none := by
  unfold parse
  split
  · next h => exact (Peg.parseGsd_fuel fuel_checked text h).elim
  · simp
  · split <;> simp

/-- **C19 (the parser never panics), for the model**: for every text the parser model returns a description (with
warnings) or an error value. -/
theorem parse_total (text : Str) :
    (∃ d ws, parse text = some (.ok (d, ws))) ∨ (∃ e, parse text = some (.err e)) := by
  have h1 := parse_no_panic_full text
  have h2 := parse_fuel_full text
  cases h : parse text with
  | none => exact (h2 h).elim
  | some r =>
    cases r with
    | ok v => exact .inl ⟨v.1, v.2, rfl⟩
    | err e => exact .inr ⟨e, rfl⟩
    | panic => exact (h1 h).elim

/-! ### Text level (partial) -/

/-- **Text-level faithfulness, settings sub-language.**  For every non-empty list of *canonical*
settings — key an identifier (letters, digits, `_`, `.`) that no block keyword (`PrmText`, `Module`,
`SlotDefinition`, …) clashes with, optional `(index)`, value a decimal number, a string literal without
inner quotation mark, or a list of at least two decimal numbers — the model parser, run on the text
`#Profibus_DP` + one line `key[(idx)]=value` per setting, answers exactly the interpretation of those
settings: the whole chain text → PEG (generated grammar: `any_text`, `start`, implicit skipping,
the nine block alternatives of `statement` failing, `setting`, `setting_value` with its look-aheads,
`number_list`, `NEWLINE+`, `EOI`) → pair tree → `toAst` → `interp` is proved, for all such texts. -/
theorem text_faithful_settings_partial (s : Setting) (ss : List Setting) (h : ∀ x ∈ s :: ss, Peg.LineCanon x) :
    parse (Peg.fileText ((s :: ss).map Peg.settingItem)) = some (interp ((s :: ss).map Stmt.setting)) :=
  Peg.parse_file fuel_checked s ss h

/-- **The scalar part of every description is reproduced from its text**: identification data,
sizes, feature flags, supported speeds and response times (the 42 settings of `scalarStmts`), written
one per line after `#Profibus_DP`, are parsed — text to description — to the description holding
exactly these values (all other fields as after `Default::default()`), followed by the
post-processing `finish` (legacy prm data, `Max_Module` default, compact-station rule). -/
theorem text_faithful_scalars_partial (d : Desc) (h : ScalarsOk d) (hq : Peg.ScalarsNoQuote d) :
    parse (Peg.scalarText d) =
      some (finish { gsd := scalarsOf d, maxModulesSeen := true, modularSeen := true }) := by
  rw [Peg.parse_scalarText fuel_checked d hq]
  simp only [interp, run_scalars d h]
  rfl

/-- **Text-level faithfulness, all interpreted statement kinds, canonical rendering.**  For every
non-empty list of canonical statements — settings as above, `PrmText … EndPrmText` blocks,
`ExtUserPrmData … EndExtUserPrmData` blocks (data type `Bit(n)` / `BitArea(a-b)` / identifier, default,
optional range or value set, optional `Prm_Text_Ref` / `Changeable` / `Visible` lines),
`Module … EndModule` blocks (name, configuration bytes, optional reference line, setting lines),
`SlotDefinition … EndSlotDefinition` with `Slot(n)="…" d a-b | v1,v2,…` lines and
`Unit_Diag_Area … Unit_Diag_Area_End` blocks — the model parser, run on the canonical text `renderAst`
(`#Profibus_DP`, one statement per line / block, single blanks between tokens that would merge,
LF line ends), answers exactly the interpretation of that statement list. -/
theorem text_faithful_partial (st : Stmt) (rest : Ast) (h : ∀ x ∈ st :: rest, Peg.StmtCanon x) :
    parse (Peg.renderAst (st :: rest)) = some (interp (st :: rest)) :=
  Peg.parse_renderAst fuel_checked st rest h

/-- **`parse (render d) = d` for the canonical rendering**: for every description `d` of the
printer's domain (`Desc.WF`, as in `interp_faithful`) that the canonical text can express
(`Peg.DescCanon`: no quotation mark inside strings, parameter byte lists of at least two bytes,
non-empty module configurations, slot module sets, text tables, enumerations and area value tables),
parsing the canonical text of `d` — text → PEG → pair tree → `toAst` → `interp` — returns exactly `d`. -/
theorem text_faithful_desc_partial (d : Desc) (h : d.WF) (hc : Peg.DescCanon d) :
    ∃ ws, parse (Peg.renderAst (astOf d)) = some (.ok (d, ws)) := by
  obtain ⟨ws, hws⟩ := interp_faithful d h
  refine ⟨ws, ?_⟩
  have hcan := Peg.astOf_canon d hc
  obtain ⟨st, rest, hast⟩ : ∃ st rest, astOf d = st :: rest := ⟨_, _, rfl⟩
  rw [hast] at hcan hws ⊢
  rw [text_faithful_partial st rest hcan, hws]

/-- Hypotheses are satisfiable, and the text is the expected one. -/
def exampleSetting : Setting :=
  { key := "Ext_User_Prm_Data_Const".toList, index := some (.dec ("0".toList)),
    value := .list [.dec ("1".toList), .dec ("-2".toList), .dec ("30".toList)] }

example : Peg.LineCanon exampleSetting :=
  Peg.stmtCanon_of_B (st := .setting exampleSetting) (by decide +kernel)

example : Peg.fileText ([exampleSetting, { key := "Vendor_Name".toList, index := none, value := .str ("\"x y\"".toList) }].map Peg.settingItem) =
    "#Profibus_DP\nExt_User_Prm_Data_Const(0)=1,-2,30\nVendor_Name=\"x y\"\n".toList := by
  -- the literals as character lists first: the trap at `printerKeys_kind`
  unfold exampleSetting
  repeat rw [String.toList_ofList]
  rfl

/-! ### Non-vacuity -/

/-- A description with every kind of content that satisfies `Desc.WF`. -/
def exampleDesc : Desc :=
  { gsdRevision := 3, vendor := "profirust".toList, identNumber := 0x1337, modularStation := true, maxModules := 4,
    speeds := { b9600 := true, b12000000 := true },
    availableModules := [
      { name := "m 1".toList, infoText := some "info".toList, config := [0x30, 0xFF], reference := some 7,
        prm := { length := 3, dataConst := [(0, [5, 0, 0])],
                 dataRef := [(1, { name := "p".toList, dataType := .bitArea 1 2, defaultValue := -5,
                                   constraint := .enum [1, -2], textRef := some [("on".toList, 1), ("off".toList, 0)],
                                   changeable := true, visible := false })] } }],
    slots := [{ name := "slot".toList, number := 1, default := 0, allowed := [0] }],
    userPrmData := { length := 2, dataConst := [(0, [1, 2])] },
    diagBits := [(0, { text := "bad".toList, help := some "help".toList })],
    diagAreas := [{ first := 0, last := 7, values := [(1, "one".toList)] }] }

example : exampleDesc.WF where
  scalars := by constructor <;> decide
  compact := by decide
  defsCount := by decide
  prm := ⟨by decide, by decide, by intro r hr; cases hr⟩
  prmShape := by decide
  modules := by
    intro m hm
    simp only [exampleDesc, List.mem_singleton] at hm
    subst hm
    refine ⟨by decide, by intro t ht; cases ht; decide, by decide, by decide, ⟨by decide, by decide, ?_⟩⟩
    intro r hr
    simp only [List.mem_singleton] at hr
    subst hr
    refine ⟨by decide, ⟨by decide, by decide, by decide, by decide, ?_⟩⟩
    intro m hm
    cases hm
    exact ⟨by decide, by decide⟩
  slots := by
    intro s hs
    simp only [exampleDesc, List.mem_singleton] at hs
    subst hs
    exact ⟨by decide, by decide, ⟨_, 7, rfl, rfl, by decide, rfl⟩, by
      intro i hi
      simp only [List.mem_singleton] at hi
      subst hi
      exact ⟨_, 7, rfl, rfl, by decide, rfl⟩⟩
  bits := ⟨by decide, by
    intro b hb
    simp only [exampleDesc, List.mem_singleton] at hb
    subst hb
    exact ⟨by decide, by decide, by intro h hh; cases hh; decide⟩⟩
  notBits := ⟨by decide, by intro b hb; cases hb⟩
  areas := by
    intro a ha
    simp only [exampleDesc, List.mem_singleton] at ha
    subst ha
    exact ⟨by decide, by decide, by decide, by decide⟩

/-- `exampleDesc` (every kind of content) satisfies the additional hypothesis. -/
example : Peg.DescCanon exampleDesc where
  scalars := by constructor <;> decide
  defs := by
    intro f hf
    simp only [allDefs, moduleDefs, exampleDesc, List.map_nil, List.nil_append, List.flatMap_cons, List.flatMap_nil,
      List.map_cons, List.append_nil, List.mem_singleton] at hf
    subst hf
    exact ⟨by decide, by intro vs hvs; cases hvs; decide,
      by intro m hm; cases hm; exact ⟨by decide, by decide⟩⟩
  prm := by decide
  modules := by
    intro m hm
    simp only [exampleDesc, List.mem_singleton] at hm
    subst hm
    exact ⟨by decide, by decide, by intro t ht; cases ht; decide, by decide⟩
  slots := by decide
  bits := by
    intro b hb
    simp only [exampleDesc, List.mem_singleton] at hb
    subst hb
    exact ⟨by decide, by intro t ht; cases ht; decide⟩
  notBits := by intro b hb; cases hb
  areas := by
    intro a ha
    simp only [exampleDesc, List.mem_singleton] at ha
    subst ha
    exact ⟨by decide, by decide⟩

end PV.C19
