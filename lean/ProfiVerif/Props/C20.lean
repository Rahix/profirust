/-
C20 — Parameter blocks are packed bit-exactly from the GSD definitions.

Property theorems only; helper lemmas are in `Lemmas/Prm.lean`.  The statements relate

* the model of the code, `Model/Gsd/Prm.lean` (`Builder.new`, `setPrm`, `setPrmFromText`,
  `asBytes`, `writeValue`; tied to `gsd-parser/src/lib.rs` by the `prm` correspondence), to
* the independent specification, `Model/Gsd/PrmSpec.lean` (`prmSpec`, `specInit`, `specCall`,
  `specRun`, and the oracle's `judgeCall` / `judgeNew`).

Open finding **K2**: a `BitArea(first,last)` write stores `value << first` and thereby clears the
other bits of its byte.  The model mirrors the code, so the full property (`C20_full`) is *false*
for it (`C20_full_fails`); what holds instead is proved at full strength:
exactness for every non-`BitArea` write and for every `BitArea` write onto a byte with no bit set
outside the field (`set_prm_exact`, `set_prm_exact_partial`), the exact description of what the
code does otherwise (`bitarea_actual`), rejection (`rejects_leave_unchanged`), panic freedom
(`*_panics_iff`, `set_never_panics`) and the lift to arbitrary call histories (`run_*`).
All theorems quantify over all layouts, blocks, values (all of `Int`, hence all of `i64`) and
call lists; nothing is bounded.
-/
import ProfiVerif.Lemmas.Prm

namespace PV.C20
open PV PV.Prm

/-! ## What the specification says (the meaning of `prmSpec`, independent of the code) -/

theorem spec_length (blk : Bytes) (off : Nat) (t : DataType) (v : Int)
    (h : off + t.size ≤ blk.length) : (prmSpec blk off t v).length = blk.length :=
  prmWrite_length false blk off t v h

/-- Every byte outside `off .. off + size` keeps its value. -/
theorem spec_outside (blk : Bytes) (off : Nat) (t : DataType) (v : Int) (i : Nat)
    (h : off + t.size ≤ blk.length) (hi : i < off ∨ off + t.size ≤ i) :
    (prmSpec blk off t v)[i]? = blk[i]? :=
  prmWrite_outside false blk off t v i h hi

/-- U8/U16/U32/S8/S16/S32: byte `j` of the field is digit `size-1-j` of the value (big-endian). -/
theorem spec_field_bytes (blk : Bytes) (off : Nat) (t : DataType) (v : Int) (j : Nat)
    (ht : t.isByteType = true) (h : off + t.size ≤ blk.length) (hj : j < t.size) :
    (prmSpec blk off t v)[off + j]? = some (beByte t.size j v) := by
  have himg : fieldImage false (blk.getD off 0) t v = beImage t.size v := by
    cases t <;> first | rfl | exact absurd ht (by simp [DataType.isByteType])
  rw [prmSpec, prmWrite_eq _ _ _ _ _ h, himg,
    overlay_inside blk off _ j (by rw [beImage_length]; exact h) (by rw [beImage_length]; exact hj),
    beImage, List.getElem?_map, List.getElem?_range hj]
  rfl

/-- … and those digits are two's complement: bit `i` of byte `j` of an `n`-byte image is bit
`8·(n-1-j) + i` of the (signed) value. -/
theorem spec_be_bits (n j : Nat) (v : Int) (i : Nat) (hi : i < 8) :
    bitOf (beByte n j v) i = intBit v (8 * (n - 1 - j) + i) :=
  beByte_bit n j v i hi

/-- `BitArea(f,l)`: bits `f..l` of the byte become the value, every other bit keeps its value. -/
theorem spec_field_bits (blk : Bytes) (off f l : Nat) (v : Int) (i : Nat)
    (hoff : off < blk.length) (hfl : f ≤ l) (hl : l ≤ 7) (h0 : 0 ≤ v) (hi : i < 8) :
    bitOf ((prmSpec blk off (.bitArea f l) v).getD off 0) i =
      if f ≤ i ∧ i ≤ l then intBit v (i - f) else bitOf (blk.getD off 0) i := by
  simp only [prmSpec, prmWrite, Bool.false_eq_true, if_false, List.getD_eq_getElem?_getD,
    List.getElem?_set_self hoff, Option.getD_some]
  rw [maskedWrite_bit _ f l v i hfl hi, intBit_nonneg v h0]

/-- `Bit(b)` is the one-bit field `b..b`. -/
theorem spec_bit_bits (blk : Bytes) (off b : Nat) (v : Int) (i : Nat)
    (hoff : off < blk.length) (hb : b ≤ 7) (h0 : 0 ≤ v) (hi : i < 8) :
    bitOf ((prmSpec blk off (.bit b) v).getD off 0) i =
      if i = b then intBit v 0 else bitOf (blk.getD off 0) i := by
  simp only [prmSpec, prmWrite, List.getD_eq_getElem?_getD, List.getElem?_set_self hoff,
    Option.getD_some]
  rw [maskedWrite_bit _ b b v i (Nat.le_refl _) hi, intBit_nonneg v h0]
  by_cases h : i = b
  · subst h; simp
  · have : ¬ (b ≤ i ∧ i ≤ b) := by omega
    simp [h, this]

/-! ## (a) Accepted calls: exactly the field changes, to exactly the encoding of the value -/

/-- Any accepted call (`set_prm` or `set_prm_from_text`) on a parameter that is not a `BitArea`:
the new block is `prmSpec` of the old one — all layouts, all blocks satisfying the builder's
invariant, all values. -/
theorem call_exact (b : Builder) (c : Call) (off : Nat) (d : PrmDef) (v : Int) (hI : Inv b)
    (ht : target b.desc c = .ok (off, d, v)) (hnb : d.dataType.isBitArea = false)
    (hc : d.constraint.holds v = true) (hd : d.dataType.holds v = true) :
    b.call c = .ok { b with prm := prmSpec b.prm off d.dataType v } := by
  rw [call_eq b c hI]
  simp [callWith, ht, hc, hd, outcomeOf, prmSpec, prmWrite_clobber_irrelevant _ _ _ _ hnb]

/-- `set_prm` on a non-`BitArea` parameter with a value inside constraint and data type. -/
theorem set_prm_exact (b : Builder) (name : String) (v : Int) (off : Nat) (d : PrmDef) (hI : Inv b)
    (hg : b.desc.getPrm name = some (off, d)) (hnb : d.dataType.isBitArea = false)
    (hc : d.constraint.holds v = true) (hd : d.dataType.holds v = true) :
    b.setPrm name v = .ok { b with prm := prmSpec b.prm off d.dataType v } :=
  call_exact b (.set name v) off d v hI (by simp [target, hg]) hnb hc hd

/-- `set_prm_from_text` is `set_prm` with the value the text stands for. -/
theorem set_prm_from_text_eq (b : Builder) (name text : String) (off : Nat) (d : PrmDef)
    (m : List (String × Int)) (kv : String × Int)
    (hg : b.desc.getPrm name = some (off, d)) (hm : d.texts = some m)
    (hf : m.find? (fun kv => kv.1 == text) = some kv) :
    b.setPrmFromText name text = b.setPrm name kv.2 := by
  simp [Builder.setPrmFromText, Builder.setPrm, hg, PrmDef.valueFromText, hm, lookup_eq_find, hf]

/-! ## (b) Rejected calls: the specific error, block unchanged -/

/-- Unknown name; value outside the declared range / enumeration; value outside the data type
(incl. `Bit(b)` with `b > 7`, `BitArea(f,l)` with `l < f` or `l > 7`); text on a parameter without
texts; unknown text — each returns its own error.  (An `.err` outcome carries no new builder: the
block is unchanged, see `err_unchanged`.) -/
theorem rejects_leave_unchanged (b : Builder) (name : String) (hI : Inv b) :
    (b.desc.getPrm name = none →
      ∀ v text, b.setPrm name v = .err .prmNotFound ∧ b.setPrmFromText name text = .err .prmNotFound) ∧
    (∀ off d, b.desc.getPrm name = some (off, d) →
      (∀ v, d.constraint.holds v = false → b.setPrm name v = .err .valueConstraint) ∧
      (∀ v, d.constraint.holds v = true → d.dataType.holds v = false → b.setPrm name v = .err .valueRange) ∧
      (d.texts = none → ∀ text, b.setPrmFromText name text = .err .prmWithoutTexts) ∧
      (∀ m text, d.texts = some m → m.find? (fun kv => kv.1 == text) = none →
        b.setPrmFromText name text = .err .prmTextNotFound)) := by
  refine ⟨fun hg v text => ?_, fun off d hg => ⟨fun v hc => ?_, fun v hc hd => ?_, fun hm text => ?_,
    fun m text hm hf => ?_⟩⟩
  · simp [Builder.setPrm, Builder.setPrmFromText, hg]
  · have := call_eq b (.set name v) hI
    simpa [Builder.call, callWith, target, hg, hc, outcomeOf] using this
  · have := call_eq b (.set name v) hI
    simpa [Builder.call, callWith, target, hg, hc, hd, outcomeOf] using this
  · simp [Builder.setPrmFromText, hg, PrmDef.valueFromText, hm]
  · simp [Builder.setPrmFromText, hg, PrmDef.valueFromText, hm, lookup_eq_find, hf]

/-- A rejected call leaves the builder as it was. -/
theorem err_unchanged (b : Builder) (c : Call) (e : SetErr) (h : b.call c = .err e) :
    b.after c = some b := by
  simp [Builder.after, h]

/-- Every call is either accepted or rejected exactly as the specification demands — the error
kinds coincide for all layouts and values (K2 only concerns the bytes of an accepted write). -/
theorem call_result_kind (b : Builder) (c : Call) (hI : Inv b) :
    (∀ e, specCall b.desc b.prm c = .error e → b.call c = .err e) ∧
    (∀ w, specCall b.desc b.prm c = .ok w → ∃ b', b.call c = .ok b' ∧ b'.desc = b.desc ∧
      b'.prm.length = b.prm.length) := by
  rw [call_eq b c hI]
  constructor
  · intro e he
    unfold specCall callWith at he
    unfold callWith
    cases ht : target b.desc c with
    | error e' => simp only [ht] at he ⊢; cases he; rfl
    | ok r =>
      obtain ⟨off, d, v⟩ := r
      simp only [ht] at he ⊢
      by_cases hc : d.constraint.holds v <;> by_cases hd : d.dataType.holds v <;>
        simp [hc, hd] at he ⊢ <;> subst he <;> rfl
  · intro w hw
    obtain ⟨off, d, v, ht, hc, hd, _⟩ := callWith_ok_inv _ _ _ _ _ hw
    refine ⟨{ b with prm := prmWrite true b.prm off d.dataType v }, ?_, rfl, ?_⟩
    · simp [callWith, ht, hc, hd, outcomeOf]
    · exact prmWrite_length _ _ _ _ _ (hI _ (target_mem _ _ _ _ _ ht))

/-! ## (c) Panics -/

/-- `write_value_to_slice` (public) panics exactly when the slice is shorter than the field and the
write gets as far as touching it: always for the byte types (the slice is indexed before the range
check), for `Bit`/`BitArea` only when the value is accepted. -/
theorem write_value_panics_iff (t : DataType) (v : Int) (s : Bytes) :
    writeValue t v s = .panic ↔ s.length < t.size ∧ (t.isByteType = true ∨ t.holds v = true) :=
  writeValue_panic_iff t v s

/-- `PrmBuilder::new` panics exactly on layouts where some `offset + size` leaves the `usize`
range (2^64) before a default is rejected: a constant, or a reference all of whose predecessors
have defaults of their data type.  These are the only layouts the real code panics on. -/
theorem new_panics_iff (L : Layout) :
    Builder.new L = .panic ↔
      (∃ c ∈ L.consts, usizeLimit ≤ c.1 + c.2.length) ∨
      (∃ pre r post, L.refs = pre ++ r :: post ∧ usizeLimit ≤ r.1 + r.2.dataType.size ∧
        ∀ q ∈ pre, q.2.dataType.holds q.2.default = true) := by
  rw [new_panic_iff, refsPanic_iff]

/-- No panic for any well-formed layout (every `offset + size < 2^64`): `new` returns the block
the code-as-is builds, or the range error when a default is not a value of its data type. -/
theorem new_no_panic (L : Layout) (hwf : wellFormed L = true) :
    Builder.new L = match actualInit L with
      | none => .rangeErr
      | some blk => .ok { desc := L, prm := blk } :=
  new_eq L hwf

/-- `new` establishes the invariant "every referenced parameter lies inside the block" — for every
layout, whatever `UserPrmData::length` says, offsets at and beyond the constants included. -/
theorem new_establishes_inv (L : Layout) (b : Builder) (h : Builder.new L = .ok b) :
    b.desc = L ∧ Inv b :=
  inv_of_new L b h

/-- `set_prm` / `set_prm_from_text` never panic on a builder that `new` returned — any layout, any
name, any value, any text. -/
theorem set_never_panics (L : Layout) (b : Builder) (h : Builder.new L = .ok b) (c : Call) :
    b.call c ≠ .panic := by
  rw [call_eq b c (inv_of_new L b h).2]
  cases callWith true b.desc b.prm c <;> simp [outcomeOf]

/-! ## (d) `BitArea` — open finding K2 -/

/-- What the code really does on an accepted `BitArea(f,l)` write: the byte becomes the value
placed at bit `f`; every other bit of that byte is cleared; all other bytes are unchanged. -/
theorem bitarea_actual (b : Builder) (c : Call) (off f l : Nat) (d : PrmDef) (v : Int) (hI : Inv b)
    (ht : target b.desc c = .ok (off, d, v)) (hdt : d.dataType = .bitArea f l)
    (hc : d.constraint.holds v = true) (hd : d.dataType.holds v = true) :
    b.call c = .ok { b with prm := b.prm.set off (placed f v) } ∧
    (∀ i, i < 8 → bitOf (placed f v) i = (decide (f ≤ i) && v.toNat.testBit (i - f))) := by
  have hd' : (DataType.bitArea f l).holds v = true := by rw [← hdt]; exact hd
  constructor
  · rw [call_eq b c hI]
    simp [callWith, ht, hc, hd', outcomeOf, hdt, prmWrite]
  · exact fun i hi => placed_bit f v i hi

/-- K2-exclusion, for any accepted call (`set_prm` or `set_prm_from_text`): on a byte with no bit set
outside `f..l` the `BitArea` write is exact, too. -/
theorem set_prm_exact_partial (b : Builder) (c : Call) (off f l : Nat) (d : PrmDef) (v : Int)
    (hI : Inv b) (ht : target b.desc c = .ok (off, d, v)) (hdt : d.dataType = .bitArea f l)
    (hc : d.constraint.holds v = true) (hd : d.dataType.holds v = true)
    (hk2 : b.prm.getD off 0 &&& ~~~ fieldMask f l = 0) :
    b.call c = .ok { b with prm := prmSpec b.prm off d.dataType v } := by
  have hfit := hI _ (target_mem _ _ _ _ _ ht)
  have hoff : off < b.prm.length := by simp only [hdt, DataType.size] at hfit; omega
  rw [call_eq b c hI]
  have hd' : (DataType.bitArea f l).holds v = true := by rw [← hdt]; exact hd
  have := (bitArea_write_eq_iff b.prm off f l v hoff hd').mpr hk2
  simp [callWith, ht, hc, hd', outcomeOf, hdt, prmSpec, this]

/-- Conversely, outside that hypothesis the write is *not* exact: the exact class of K2. -/
theorem bitarea_deviates_iff (b : Builder) (c : Call) (off : Nat) (d : PrmDef) (v : Int)
    (hI : Inv b) (ht : target b.desc c = .ok (off, d, v))
    (hc : d.constraint.holds v = true) (hd : d.dataType.holds v = true) :
    b.call c ≠ .ok { b with prm := prmSpec b.prm off d.dataType v } ↔ k2Call b.desc b.prm c = true := by
  have hfit := hI _ (target_mem _ _ _ _ _ ht)
  have hiff := actual_eq_spec_iff b.desc b.prm c off d v ht hc hd hfit
  rw [call_eq b c hI]
  have h1 : callWith true b.desc b.prm c = .ok (prmWrite true b.prm off d.dataType v) := by
    simp [callWith, ht, hc, hd]
  simp only [h1, outcomeOf, prmSpec, ne_eq, SetOutcome.ok.injEq, Builder.mk.injEq, true_and]
  rw [hiff]
  simp

/-- The mock.gsd layout (`gsd-parser/tests/data/mock.gsd`): a `Bit(0)` and a `BitArea(1-2)` sharing
byte 5 over constants. -/
def mockLayout : Layout :=
  { length := 10
    consts := [(0, [0, 0, 0, 0, 0, 0, 0, 0, 0, 0, 0, 0xff])]
    refs := [
      (5, { name := "Peripheral Setting", dataType := .bit 0, default := 0, constraint := .minMax 0 1,
            texts := some [("FALSE", 0), ("TRUE", 1)] }),
      (5, { name := "Peripheral Setting 2", dataType := .bitArea 1 2, default := 0,
            constraint := .minMax 0 3,
            texts := some [("Value 1", 0), ("Value 2", 1), ("Value 3", 2), ("Value 4", 3)] })] }

/-- The calls of `tests/regress.rs` on it. -/
def mockCalls : List Call :=
  [.setText "Peripheral Setting" "TRUE", .setText "Peripheral Setting 2" "Value 2"]

/-- Concrete witness (the shipped snapshot `regress__mock-PRM.snap`): after setting the bit and then
the bit area, byte 5 is `2` where bit-exact packing gives `3`. -/
theorem bitarea_counterexample :
    ∃ b0, Builder.new mockLayout = .ok b0 ∧
      (b0.run mockCalls).map Builder.asBytes = some [0, 0, 0, 0, 0, 2, 0, 0, 0, 0, 0, 0xff] ∧
      specRun mockLayout b0.prm mockCalls = [0, 0, 0, 0, 0, 3, 0, 0, 0, 0, 0, 0xff] :=
  ⟨⟨mockLayout, [0, 0, 0, 0, 0, 0, 0, 0, 0, 0, 0, 0xff]⟩, by decide +kernel, by decide +kernel, by decide +kernel⟩

/-! ## (e) Histories -/

/-- For every layout and every list of calls on a builder returned by `new`: no call panics, the
block length never changes, every byte no referenced parameter covers keeps its initial value, and
the block is the fold of the code's per-call behaviour over the accepted calls (`runWith true`: each writes as `prmActual`). -/
theorem run_invariant (L : Layout) (b0 : Builder) (h : Builder.new L = .ok b0) (cs : List Call) :
    ∃ b, b0.run cs = some b ∧ b.desc = L ∧ b.prm.length = b0.prm.length ∧
      (∀ i, untouched L i → b.prm[i]? = b0.prm[i]?) ∧
      b.prm = runWith true L b0.prm cs := by
  obtain ⟨hd, hI⟩ := inv_of_new L b0 h
  refine ⟨_, run_eq b0 cs hI, hd, ?_, ?_, by rw [hd]⟩
  · exact runWith_length true b0.desc b0.prm cs hI.fits
  · intro i hi
    exact runWith_outside true b0.desc b0.prm cs i hI.fits (by rw [hd]; exact hi)

/-- K2-exclusion at the level of layouts: without `BitArea` parameters the builder is bit-exact
from construction through every history of calls. -/
theorem run_exact (L : Layout) (hwf : wellFormed L = true) (hnb : L.hasBitArea = false)
    (cs : List Call) :
    (specInit L = none ∧ Builder.new L = .rangeErr) ∨
    (∃ blk, specInit L = some blk ∧ Builder.new L = .ok ⟨L, blk⟩ ∧
      (⟨L, blk⟩ : Builder).run cs = some ⟨L, specRun L blk cs⟩) := by
  have hn := new_eq L hwf
  rw [actualInit_eq_specInit L hnb] at hn
  cases hs : specInit L with
  | none => left; simp only [hs] at hn; exact ⟨rfl, hn⟩
  | some blk =>
    right
    simp only [hs] at hn
    refine ⟨blk, rfl, hn, ?_⟩
    rw [run_eq _ cs (inv_of_new L _ hn).2, runWith_noBitArea L blk cs hnb]

/-- The model passes the oracle's judgement of every call, in every reachable state, with verdict
`k2` exactly on the K2 class and `pass` otherwise — never `fail`. -/
theorem oracle_sound_call (L : Layout) (b0 b : Builder) (cs : List Call) (c : Call)
    (h : Builder.new L = .ok b0) (hr : b0.run cs = some b) :
    judgeCall b.desc b.prm c (obsOf b (b.call c)) = if k2Call b.desc b.prm c then .k2 else .pass := by
  obtain ⟨hd, hI⟩ := inv_of_new L b0 h
  have := run_eq b0 cs hI
  rw [hr] at this
  have hb : b = { b0 with prm := runWith true b0.desc b0.prm cs } := Option.some.inj this
  have hI' : Inv b := by
    rw [hb]; intro r hr'
    simp only [runWith_length true b0.desc b0.prm cs hI.fits]
    exact hI r hr'
  exact judgeCall_model b c hI'

/-- … and of `new`. -/
theorem oracle_sound_new (L : Layout) :
    judgeNew L (newObsOf (Builder.new L)) =
      if wellFormed L && decide (actualInit L ≠ specInit L) then .k2 else .pass :=
  judgeNew_model L

/-! ## The full property, and why it is not a theorem -/

/-- C20 as stated, for the model of the code as it is. -/
def C20_full : Prop :=
  ∀ (L : Layout) (b0 : Builder) (cs : List Call), wellFormed L = true → Builder.new L = .ok b0 →
    specInit L = some b0.prm ∧ b0.run cs = some ⟨L, specRun L b0.prm cs⟩

/-- It fails (K2), by the mock.gsd witness. -/
theorem C20_full_fails : ¬ C20_full := by
  intro hfull
  obtain ⟨b0, hn, hr, hs⟩ := bitarea_counterexample
  have := (hfull mockLayout b0 mockCalls (by decide +kernel) hn).2
  rw [this, hs] at hr
  revert hr
  decide

/-! ### Non-vacuity -/

/-- A layout with every data type, overlapping bit fields, a constraint, texts, an offset beyond the
constants. -/
def demoLayout : Layout :=
  { length := 4
    consts := [(0, [0xff, 0xff, 0xff, 0xff, 0xff, 0xff])]
    refs := [
      (0, { name := "s16", dataType := .s16, default := -2, constraint := .minMax (-32768) 32767, texts := none }),
      (2, { name := "bit", dataType := .bit 7, default := 0, constraint := .unconstrained,
            texts := some [("off", 0), ("on", 1)] }),
      (2, { name := "area", dataType := .bitArea 0 0, default := 1, constraint := .enum [0, 1], texts := none }),
      (7, { name := "u32", dataType := .u32, default := 4294967295, constraint := .unconstrained, texts := none })] }

def demoBuilder : Builder := ⟨demoLayout, [0xff, 0xfe, 1, 0xff, 0xff, 0xff, 0, 0xff, 0xff, 0xff, 0xff]⟩

-- `new` accepts it (the BitArea default already clobbers byte 2: `01`, the specification says `7f`)
example : Builder.new demoLayout = .ok demoBuilder := by decide +kernel
example : specInit demoLayout = some [0xff, 0xfe, 0x7f, 0xff, 0xff, 0xff, 0, 0xff, 0xff, 0xff, 0xff] := by
  decide +kernel
example : wellFormed demoLayout = true ∧ Inv demoBuilder := by
  refine ⟨by decide +kernel, (inv_of_new demoLayout demoBuilder (by decide +kernel)).2⟩
-- (a) hypotheses of `set_prm_exact` / `call_exact`: Signed16 := -32768, block = `80 00 …`
example : demoLayout.getPrm "s16" = some (0, demoLayout.refs[0]!.2) ∧
    (DataType.s16).holds (-32768) = true ∧
    prmSpec demoBuilder.prm 0 .s16 (-32768) = [0x80, 0, 1, 0xff, 0xff, 0xff, 0, 0xff, 0xff, 0xff, 0xff] := by
  decide +kernel
example : demoBuilder.setPrm "s16" (-32768) =
    .ok ⟨demoLayout, [0x80, 0, 1, 0xff, 0xff, 0xff, 0, 0xff, 0xff, 0xff, 0xff]⟩ := by decide +kernel
-- (b) each rejection occurs
example : demoBuilder.setPrm "nosuch" 0 = .err .prmNotFound ∧
    demoBuilder.setPrm "area" 2 = .err .valueConstraint ∧
    demoBuilder.setPrm "s16" 40000 = .err .valueConstraint ∧
    demoBuilder.setPrm "u32" 4294967296 = .err .valueRange ∧
    demoBuilder.setPrmFromText "s16" "on" = .err .prmWithoutTexts ∧
    demoBuilder.setPrmFromText "bit" "maybe" = .err .prmTextNotFound ∧
    demoBuilder.setPrmFromText "bit" "on" = demoBuilder.setPrm "bit" 1 := by decide +kernel
-- (c) panics: a short slice; an offset at the end of the usize range; no panic otherwise
example : writeValue .u16 (-1) [0xa5] = .panic ∧ writeValue (.bit 0) 2 [] = .rangeErr ∧
    writeValue (.bit 0) 1 [] = .panic := by decide +kernel
example : Builder.new { length := 0, consts := [], refs := [(2 ^ 64 - 1,
    { name := "p", dataType := .u8, default := 0, constraint := .unconstrained, texts := none })] } = .panic := by
  decide +kernel
-- (d) K2: hypotheses of `bitarea_actual` hold with a bit set outside the field; of
-- `set_prm_exact_partial` on a clean byte
example : demoLayout.getPrm "area" = some (2, demoLayout.refs[2]!.2) ∧
    k2Call demoLayout [0xff, 0xfe, 0x80, 0xff, 0xff, 0xff, 0, 0xff, 0xff, 0xff, 0xff] (.set "area" 0) = true ∧
    k2Call demoLayout demoBuilder.prm (.set "area" 0) = false := by decide +kernel
-- (e) a history
example : (demoBuilder.run [.set "s16" 1, .setText "bit" "on", .set "area" 1, .set "u32" 7, .set "u32" (-1)]).map
    Builder.asBytes = some [0, 1, 1, 0xff, 0xff, 0xff, 0, 0, 0, 0, 7] := by decide +kernel
example : untouched demoLayout 3 ∧ untouched demoLayout 6 ∧ ¬ untouched demoLayout 2 := by
  refine ⟨?_, ?_, ?_⟩
  · intro r hr; simp [demoLayout] at hr; rcases hr with rfl | rfl | rfl | rfl <;> simp [DataType.size]
  · intro r hr; simp [demoLayout] at hr; rcases hr with rfl | rfl | rfl | rfl <;> simp [DataType.size]
  · intro h
    have := h (2, demoLayout.refs[1]!.2) (by decide +kernel)
    simp [demoLayout, DataType.size] at this
-- the specification itself on concrete bytes: bits 2..4 of a5 := 5 gives b5, every other bit kept;
-- Signed32 -2 is ff ff ff fe; bit 15 of -32768 is set, bit 14 is not
example : prmSpec [0xa5] 0 (.bitArea 2 4) 5 = [0xb5] ∧ prmActual [0xa5] 0 (.bitArea 2 4) 5 = [0x14] ∧
    prmSpec [1, 2, 3, 4, 5] 1 .s32 (-2) = [1, 0xff, 0xff, 0xff, 0xfe] ∧
    intBit (-32768) 15 = true ∧ intBit (-32768) 14 = false ∧ bitOf 0xb5 4 = true := by decide +kernel
-- `bitarea_deviates_iff` / `oracle_sound_call`: both verdicts occur
example : judgeCall demoLayout demoBuilder.prm (.set "area" 0) (.ok [0xff, 0xfe, 0, 0xff, 0xff, 0xff, 0, 0xff, 0xff, 0xff, 0xff]) = .pass ∧
    judgeCall demoLayout [0xff, 0xfe, 0x81, 0xff, 0xff, 0xff, 0, 0xff, 0xff, 0xff, 0xff] (.set "area" 0)
      (.ok [0xff, 0xfe, 0, 0xff, 0xff, 0xff, 0, 0xff, 0xff, 0xff, 0xff]) = .k2 ∧
    judgeCall demoLayout [0xff, 0xfe, 0x81, 0xff, 0xff, 0xff, 0, 0xff, 0xff, 0xff, 0xff] (.set "area" 0)
      (.ok [0xff, 0xfe, 0x81, 0xff, 0xff, 0xff, 0, 0xff, 0xff, 0xff, 0xff]) = .fail "block differs from prmSpec" ∧
    judgeNew demoLayout (.ok demoBuilder.prm) = .k2 := by decide +kernel
-- `run_exact`: a layout without BitArea
example : wellFormed { demoLayout with refs := demoLayout.refs.take 2 } = true ∧
    Layout.hasBitArea { demoLayout with refs := demoLayout.refs.take 2 } = false := by decide +kernel

end PV.C20
